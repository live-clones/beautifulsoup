import BSModel.Proofs.Search
import BSModel.Proofs.SearchHeap
import BSModel.Model.Css
import BSModel.Props.C01
import BSModel.Gen.Search
import BSModel.Gen.SearchGlue
import BSModel.Gen.SearchAliases
/-! # C10 — searches return exactly the matches of their axis; find = first, limit = prefix

Property theorems only. `findAllImpl` is the code-mirror of `PageElement._find_all` (fast paths, the repaired
no-criteria branch, the `SoupStrainer` path with `ElementFilter.find_all`'s limit loop); `sat`/`findAllSpec` is the
documented meaning. All statements hold for **every** list of elements `ax` (hence for the seven axes of every
tree and start element), every query and every oracle (regular expressions and user functions are arbitrary
predicates).

The refinement theorems are stated for every *sound* variant `v` of the code (`Variant.Sound`: repairs (a) and (b) of
Model/Search.lean are in force) and every query the variant *covers* (`Variant.Covers v q`):
* /repo HEAD (`Variant.repaired`) covers the queries in which every given criterion yields a match rule
  (`Query.AllYield`; otherwise: known finding `C10-empty-list-combined`, `empty_list_combined_witness`) and `attrs`
  is a dict or a truthy value (`Query.AttrsArgOK`; otherwise: `C10-falsy-attrs-ignored`, `falsy_attrs_witness`);
* /repo HEAD plus the two **proposed, unapplied** patches `fixes/proposed/C10-*.diff` (`Variant.proposed`) covers
  **every** query (`covers_proposed`): with the patches the hypotheses on the query disappear
  (`findAll_eq_spec_proposed`, `limit_prefix_proposed`, `find_first_proposed`).
Other hypotheses, and why:
* `k ≥ 1` — `limit=0` is a known finding (`limit_zero_witness`);
* `Elem.WFPrefix` — namespace prefixes are non-empty and colon-free on colon-free local names (the plain-name fast
  path and the `SoupStrainer` path differ on `Tag("b:c", prefix="a")` queried as `"a:b:c"`, and on `prefix=""`). -/
namespace BS.Props.C10
open BS.Search

/-! ## sample data for the non-vacuity examples -/

def s (x : String) : PStr := BS.ofS x

/-- `<[document]><a id="x" class="u v"><p:b>hi</p:b></a><b class="u">yo</b>zz</[document]>` -/
def sampleRoot : Node :=
  .tag 0 (s "[document]") none [] [
    .tag 1 (s "a") none [(s "id", .one (s "x")), (s "class", .many [s "u", s "v"])] [
      .tag 2 (s "b") (some (s "p")) [] [.text 3 (s "hi") 0]],
    .tag 4 (s "b") none [(s "class", .many [s "u"])] [.text 5 (s "yo") 0],
    .text 6 (s "zz") 0]

/-- an oracle: regex 0 = "contains `u`", function 0 on tags = "id is even" (other functions: never), on strings = "is not None" -/
def sampleO : Oracle :=
  { re := fun _ x => x.contains 117
    fnTag := fun f i => f == 0 && i % 2 == 0
    fnStr := fun _ x => x.isSome }

def ids (l : List Elem) : List Nat := l.map (·.id)

def sampleAx : List Elem := axis sampleRoot 0 .descendants

/-- the sample axis satisfies the prefix hypothesis (tag 2 carries the prefix `p`) -/
example : ∀ e ∈ sampleAx, e.WFPrefix := by decide +kernel

/-! ## the queries a variant covers -/

/-- what a variant of the code needs of a query for the refinement theorems -/
def _root_.BS.Search.Variant.Covers (v : Variant) (q : Query) : Prop :=
  (v.deadCheck = true ∨ q.AllYield) ∧ (v.attrsDict = true ∨ q.AttrsArgOK)

/-- /repo HEAD covers exactly the queries outside the two known findings -/
theorem covers_repaired (q : Query) : Variant.repaired.Covers q ↔ (q.AllYield ∧ q.AttrsArgOK) := by
  simp [Variant.Covers, Variant.repaired]

theorem covers_proposed (q : Query) : Variant.proposed.Covers q := ⟨Or.inl rfl, Or.inl rfl⟩

theorem covers_famQuery (v : Variant) (f : Family) (q : Query) (h : v.Covers q) : v.Covers (famQuery f q) := by
  unfold famQuery
  split
  · obtain ⟨h1, h2⟩ := h
    refine ⟨?_, ?_⟩
    · rcases h1 with h1 | h1
      · exact Or.inl h1
      · exact Or.inr ⟨h1.name, h1.attrs, Or.inl rfl⟩
    · exact h2
  · exact h

/-- The string literals the model hard-wires are those of the live code (generated by `translate/parts_c10.py`
    from behavioural probes of `SoupStrainer`/`Tag.__getattr__` on every run). -/
theorem gen_constants_agree :
    BS.Gen.Search.classKwTarget = classKey ∧ BS.Gen.Search.sugarTarget = classKey
    ∧ BS.Gen.Search.rootTagName = s "[document]"
    ∧ BS.Gen.Search.getattrMentionsTagSuffix = true ∧ BS.Gen.Search.getattrGuardsContents = true := by decide +kernel

/-! ## forwarding glue (whole generated table) -/

theorem forwarders_checked :
    BS.Gen.Search.c10Forwarders.map (·.name) = forwardedNames
    ∧ BS.Gen.Search.c10Forwarders.all (fun f => checkForward f.name f.callee f.calleeParams f.args f.kwargs f.starKw) = true
    ∧ BS.Gen.Search.c10PluralSigsAgree = true := by decide +kernel

/-- **forwarding_glue.** For **every** wrapper in the table read from the live source — the six singular and six plural
    `find_*` methods, `_find_one`, `Tag.__call__`, `Tag.select`, `Tag.select_one` — the forwarding call
    targets the documented method, passes `**kwargs` on, binds no parameter twice, and each parameter that matters for the
    search receives exactly the documented value: `name`/`attrs`/`string` their namesakes, `limit` the caller's limit (plural)
    or the constant 1 (singular), `recursive` the caller's, `generator` the axis of the family (`self.next_elements`, …,
    `self.parents`, and `self.descendants`/`self.children` by `recursive`), `find_parents` passes `string=None`, `_find_one`
    calls the plural method it was given. This is what `findOneFam`, `callImpl`, `famQuery`, `axis`/`axisH` and
    `BS.Css.dispatch` take for granted. -/
theorem forwarding_glue :
    ∀ f ∈ BS.Gen.Search.c10Forwarders, ∃ sp, forwardSpec f.name = some sp ∧ f.callee = sp.callee ∧ f.starKw = true
      ∧ ((bindArgs f.calleeParams f.args f.kwargs).map (·.1)).Nodup
      ∧ ∀ kv ∈ sp.binding, (bindArgs f.calleeParams f.args f.kwargs).lookup kv.1 = some kv.2 := by
  intro f hf
  have hall := List.all_eq_true.mp forwarders_checked.2.1 f hf
  unfold checkForward at hall
  cases hsp : forwardSpec f.name with
  | none => simp [hsp] at hall
  | some sp =>
    simp only [hsp, Bool.and_eq_true, beq_iff_eq, decide_eq_true_eq, List.all_eq_true] at hall
    obtain ⟨⟨⟨⟨hcallee, hstar⟩, _⟩, hnodup⟩, hbind⟩ := hall
    exact ⟨sp, rfl, hcallee, hstar, hnodup, fun kv hkv => hbind kv hkv⟩

/-- non-vacuity: the table has all sixteen wrappers; e.g. `find` binds `limit` to the constant 1 -/
example : BS.Gen.Search.c10Forwarders.length = 16
    ∧ (forwardSpec "find").map (·.binding.lookup "limit") = some (some "c:1") := by decide +kernel

/-! ## deprecated aliases (whole generated table) -/

/-- the generated alias table is the documented renaming table, entry by entry (each alias sits under its own old name and
    calls the documented replacement) -/
theorem aliases_checked :
    BS.Gen.Search.c10Aliases.map (fun a => (a.1, a.2.2)) = aliasSpec
    ∧ BS.Gen.Search.c10Aliases.all (fun a => a.1 == a.2.1) = true := by decide +kernel

/-- **alias_is_same_search.** Every deprecated alias of the live code — `findAll`, `findChildren`, `findChild`, `findAllNext`,
    `findNext`, `findNextSibling(s)`, `fetchNextSiblings`, `findAllPrevious`, `fetchAllPrevious`, `findPrevious`,
    `findPreviousSibling(s)`, `fetchPreviousSiblings`, `findParent(s)`, `fetchParents` — calls a canonical search method, and a
    search through the alias is the search through that method: same family, same plural/singular form, hence (by the
    theorems below) exactly the matches of that axis in axis order. -/
theorem alias_is_same_search :
    ∀ a ∈ BS.Gen.Search.c10Aliases, (methodKind a.2.2).isSome = true ∧ methodOf a.1 = methodKind a.2.2
      ∧ ∀ O v root start recursive q limit,
          findByName O v root start a.1 recursive q limit = findByName O v root start a.2.2 recursive q limit := by
  have h : BS.Gen.Search.c10Aliases.all (fun a => (methodKind a.2.2).isSome && decide (methodOf a.1 = methodKind a.2.2)
      && decide (methodOf a.2.2 = methodKind a.2.2)) = true := by decide +kernel
  intro a ha
  have := List.all_eq_true.mp h a ha
  simp only [Bool.and_eq_true, decide_eq_true_eq] at this
  obtain ⟨⟨h1, h2⟩, h3⟩ := this
  refine ⟨h1, h2, ?_⟩
  intro O v root start recursive q limit
  simp only [findByName, h2, h3]

example : BS.Gen.Search.c10Aliases.length = 17 ∧ methodOf "fetchPreviousSiblings" = some ⟨true, some .previousSiblings⟩
    ∧ (findByName sampleO .repaired sampleRoot 6 "fetchPreviousSiblings" true (nameOnly (.atom (.bool true))) none).map
        (fun r => ids r.1) = some [4, 1] := by decide +kernel

/-! ## fast paths -/

/-- **fast_eq_general.** Each fast path of `_find_all` (`name is True`, and a plain `str` name incl. `prefix:name`
    strings) returns exactly what the `SoupStrainer` path returns — results *and* calls — for every element list
    with well-formed prefixes, whichever repairs are in force. -/
theorem fast_eq_general (O : Oracle) (v : Variant) (c : Crit)
    (hc : c = .atom (.bool true) ∨ ∃ n, c = .atom (.str n))
    (ax : List Elem) (hw : ∀ e ∈ ax, e.WFPrefix) :
    findAllImpl O v (nameOnly c) none ax = generalPath O v (nameOnly c) none ax := by
  rcases hc with rfl | ⟨n, rfl⟩ <;> exact findAllImpl_nameOnly O v _ rfl ax hw

/-- non-vacuity: the prefixed query `p:b` takes the fast path and finds the prefixed tag 2 only -/
example : ids (findAllImpl sampleO .repaired (nameOnly (.atom (.str (s "p:b")))) none sampleAx).1 = [2]
    ∧ ids (findAllImpl sampleO .repaired (nameOnly (.atom (.str (s "b")))) none sampleAx).1 = [2, 4] := by decide +kernel

/-! ## refinement: code = documented meaning -/

/-- **findAll_eq_spec.** Without a limit, `_find_all` returns exactly the elements of its axis that satisfy the
    documented meaning of the query, in axis order — for every sound variant of the code and every query it covers
    (any mix of name / attrs dict / class sugar / kwargs / `string=` criteria of every kind), whichever internal
    path runs. -/
theorem findAll_eq_spec (O : Oracle) (v : Variant) (hv : v.Sound) (q : Query) (hc : v.Covers q) (ax : List Elem)
    (hw : ∀ e ∈ ax, e.WFPrefix) :
    (findAllImpl O v q none ax).1 = findAllSpec O q ax :=
  findAllImpl_eq_spec O v hv q hc.1 hc.2 none (by simp) ax (fun _ => hw)

/-- a query mixing every kind: name list (str | regex | nested list), class_ through kwargs, attrs dict with `True` -/
def sampleQ : Query :=
  { name := .list [.atom (.str (s "zz")), .atom (.regex 0), .nested, .atom (.str (s "a")), .atom (.str (s "b"))]
    attrs := .dict [(s "class", .atom (.bool true))]
    kwargs := [(s "class_", .atom (.str (s "u")))] }

/-- non-vacuity: /repo HEAD covers `sampleQ` -/
theorem sampleQ_covered : Variant.repaired.Covers sampleQ :=
  (covers_repaired sampleQ).mpr ⟨⟨Or.inr (by decide), by decide, Or.inl (by decide)⟩, trivial⟩

/-- non-vacuity: `sampleQ` selects tags 1 and 4 (the multi-valued class matches value by value) -/
example : ids (findAllImpl sampleO .repaired sampleQ none sampleAx).1 = [1, 4]
    ∧ ids (findAllSpec sampleO sampleQ sampleAx) = [1, 4] := by decide +kernel

/-- **findAll_eq_spec_proposed.** With the two proposed patches the refinement holds for **every** query, incl. empty
    lists next to other criteria and falsy `attrs`. -/
theorem findAll_eq_spec_proposed (O : Oracle) (q : Query) (ax : List Elem) (hw : ∀ e ∈ ax, e.WFPrefix) :
    (findAllImpl O .proposed q none ax).1 = findAllSpec O q ax :=
  findAll_eq_spec O .proposed Variant.proposed_sound q (covers_proposed q) ax hw

/-- **findAll_eq_spec for the seven families**: `find_all` (recursive or not), `find_all_next`,
    `find_all_previous`, `find_next_siblings`, `find_previous_siblings`, `find_parents` from any start element of
    any tree return exactly the matches of their axis, in axis order. -/
theorem findAll_eq_spec_families (O : Oracle) (v : Variant) (hv : v.Sound) (root : Node) (start : Nat) (f : Family)
    (q : Query) (hc : v.Covers q) (hw : ∀ e ∈ axis root start f, e.WFPrefix) :
    (findAllFam O v root start f q none).1 = (axis root start f).filter (sat O (famQuery f q)) :=
  findAll_eq_spec O v hv (famQuery f q) (covers_famQuery v f q hc) (axis root start f) hw

example : ids (findAllFam sampleO .repaired sampleRoot 3 .parents (nameOnly (.atom (.bool true))) none).1 = [2, 1, 0]
    ∧ ids (findAllFam sampleO .repaired sampleRoot 1 .nextElements { string := .atom (.bool true) } none).1 = [3, 5, 6]
    ∧ ids (findAllFam sampleO .repaired sampleRoot 6 .previousSiblings (nameOnly (.atom (.regex 0))) none).1 = []
    ∧ ids (findAllFam sampleO .repaired sampleRoot 6 .previousElements (nameOnly (.atom (.str (s "b")))) none).1 = [4, 2]
    := by decide +kernel

/-- **sole_empty_criterion_nothing.** A name criterion that offers no alternative (`find_all([])`, a list of nested
    lists — the self-referential list of the repo test) as the *sole* criterion finds nothing, with or without a
    limit, in every sound variant — and that is what "any of nothing" means. -/
theorem sole_empty_criterion_nothing (O : Oracle) (v : Variant) (hv : v.Sound) (c : Crit) (hn : c.isNone = false)
    (hy : c.noAlternative = true) (limit : Option Nat) (ax : List Elem) :
    (findAllImpl O v (nameOnly c) limit ax).1 = [] ∧ findAllSpec O (nameOnly c) ax = [] := by
  have hu : (nameOnly c).unsatisfiable = true := by simp [Query.unsatisfiable, nameOnly, Query.attrPairs, hn, hy]
  have hr : makeRules c = [] := by simpa [hy] using isEmpty_noAlternative c
  rw [findAllImpl_unsat O v (nameOnly c) (Or.inr trivial) hu]
  exact ⟨general_nil O v _ limit ax (matchElem_no_rules O v _ hr rfl rfl), findAllSpec_unsat O _ hu ax⟩

example : (Crit.list [.nested, .atom .none]).isNone = false ∧ (Crit.list [.nested, .atom .none]).noAlternative = true := by
  decide +kernel

/-- **unsatisfiable_criterion_nothing_proposed.** With the proposed `matches_nothing` patch a criterion that offers no
    alternative finds nothing also when it is combined with any other criteria, with or without a limit. -/
theorem unsatisfiable_criterion_nothing_proposed (O : Oracle) (q : Query) (hu : q.unsatisfiable = true)
    (limit : Option Nat) (ax : List Elem) :
    (findAllImpl O .proposed q limit ax).1 = [] ∧ findAllSpec O q ax = [] := by
  rw [findAllImpl_unsat O .proposed q (Or.inl rfl) hu]
  exact ⟨general_nil O .proposed q limit ax (dead_no_calls O .proposed rfl q hu), findAllSpec_unsat O q hu ax⟩

example : ({ name := .atom (.str (s "b")), kwargs := [(s "id", .list [.nested, .atom .none])] } : Query).unsatisfiable = true := by
  decide +kernel

/-- **strainer_object_eq_spec.** A `SoupStrainer` built from a query with at least one criterion and used as an object — given
    as the `name` argument of any `find_*` method, or through its own `find_all(generator, limit)` / `find(generator)` — finds
    exactly the elements of the generator that satisfy the documented meaning of that query, in generator order; `limit = k ≥ 1`
    the first `k`; `find` the first or `None`. (No shortcut of `_find_all` applies on this route, so neither the prefix hypothesis
    nor `Query.AttrsArgOK` is needed.) -/
theorem strainer_object_eq_spec (O : Oracle) (v : Variant) (hv : v.Sound) (q : Query)
    (hd : v.deadCheck = true ∨ q.AllYield) (hnc : q.noCriteria = false) (ax : List Elem) :
    (findAllStrainer O v q none ax).1 = findAllSpec O q ax
    ∧ (∀ k, k ≥ 1 → (findAllStrainer O v q (some k) ax).1 = (findAllSpec O q ax).take k)
    ∧ findStrainer O v q ax = (findAllSpec O q ax).head? := by
  have h := general_eq_spec O v hv.retry q none ax hd hnc
  exact ⟨h, general_eq_spec_pos O v hv.retry q ax hd hnc, by rw [findStrainer, h]⟩

example : ids (findAllStrainer sampleO .repaired sampleQ none sampleAx).1 = [1, 4]
    ∧ (findStrainer sampleO .repaired sampleQ sampleAx).map (·.id) = some 1 ∧ sampleQ.noCriteria = false := by decide +kernel

/-! ## no criteria = every tag -/

/-- **no_criteria_all_tags.** A search without any criterion returns every tag of its axis — all of them without a
    limit, the first `k` with `limit = k ≥ 1` (false of bs4 4.13.0 as shipped: `unrepaired_no_criteria_witness`). -/
theorem no_criteria_all_tags (O : Oracle) (v : Variant) (hv : v.Sound) (ax : List Elem) (limit : Option Nat) :
    (findAllImpl O v {} limit ax).1 =
      match limit with
      | none => ax.filter (·.isTag)
      | some 0 => ax.filter (·.isTag)
      | some (k + 1) => (ax.filter (·.isTag)).take (k + 1) := by
  rw [findAllImpl_paths O v {} (Or.inr trivial), hv.noCrit]
  cases limit with
  | none => rfl
  | some k => cases k <;> rfl

/-- … and the singular methods (`find()`, `find_next()`, `find_parent()`, …) return the first tag of the axis. -/
theorem no_criteria_first_tag (O : Oracle) (v : Variant) (hv : v.Sound) (root : Node) (start : Nat) (f : Family) :
    (findOneFam O v root start f {}).1 = ((axis root start f).filter (·.isTag)).head? := by
  have h := no_criteria_all_tags O v hv (axis root start f) (some 1)
  have hf : famQuery f {} = ({} : Query) := by unfold famQuery; split <;> rfl
  simp only [findOneFam, findAllFam, hf, h]
  cases (axis root start f).filter (·.isTag) <;> simp

example : ids (findAllImpl sampleO .repaired {} (some 2) sampleAx).1 = [1, 2]
    ∧ (findOneFam sampleO .repaired sampleRoot 3 .parents {}).1.map (·.id) = some 2 := by decide +kernel

/-! ## limit = prefix, find = first -/

/-- **limit_is_spec_prefix.** With `limit = k ≥ 1` the result is the first `k` elements, in axis order, of the
    elements satisfying the documented meaning (no prefix hypothesis needed: a limit forces the `SoupStrainer`
    path). -/
theorem limit_is_spec_prefix (O : Oracle) (v : Variant) (hv : v.Sound) (q : Query) (hc : v.Covers q) (ax : List Elem)
    (k : Nat) (hk : k ≥ 1) :
    (findAllImpl O v q (some k) ax).1 = (findAllSpec O q ax).take k :=
  findAllImpl_eq_spec O v hv q hc.1 hc.2 (some k) (by simp; omega) ax (fun h => by cases h)

/-- **limit_prefix.** `limit = k ≥ 1` returns the first `k` elements of the unlimited result (although the two
    calls may run through different code paths: fast path without a limit, `SoupStrainer` path with one). -/
theorem limit_prefix (O : Oracle) (v : Variant) (hv : v.Sound) (q : Query) (hc : v.Covers q) (ax : List Elem)
    (k : Nat) (hk : k ≥ 1) (hw : ∀ e ∈ ax, e.WFPrefix) :
    (findAllImpl O v q (some k) ax).1 = ((findAllImpl O v q none ax).1).take k := by
  rw [limit_is_spec_prefix O v hv q hc ax k hk, findAll_eq_spec O v hv q hc ax hw]

/-- **limit_prefix_proposed.** With the two proposed patches: for every query. -/
theorem limit_prefix_proposed (O : Oracle) (q : Query) (ax : List Elem) (k : Nat) (hk : k ≥ 1)
    (hw : ∀ e ∈ ax, e.WFPrefix) :
    (findAllImpl O .proposed q (some k) ax).1 = ((findAllImpl O .proposed q none ax).1).take k :=
  limit_prefix O .proposed Variant.proposed_sound q (covers_proposed q) ax k hk hw

example : ids (findAllImpl sampleO .repaired (nameOnly (.atom (.str (s "b")))) (some 1) sampleAx).1 = [2]
    ∧ ids (findAllImpl sampleO .repaired (nameOnly (.atom (.str (s "b")))) none sampleAx).1 = [2, 4] := by decide +kernel

/-- **find_first_spec.** Every singular method returns the first element of its axis that satisfies the documented
    meaning of the query, or `None` — for every family, tree and start element. -/
theorem find_first_spec (O : Oracle) (v : Variant) (hv : v.Sound) (root : Node) (start : Nat) (f : Family) (q : Query)
    (hc : v.Covers q) :
    (findOneFam O v root start f q).1 = ((axis root start f).filter (sat O (famQuery f q))).head? :=
  findOne_eq_spec O v hv (famQuery f q) (covers_famQuery v f q hc).1 (covers_famQuery v f q hc).2 (axis root start f)

/-- **find_first.** Every singular method (`find`, `find_next`, `find_previous`, `find_next_sibling`,
    `find_previous_sibling`, `find_parent`) returns the first element of the corresponding plural method's
    unlimited result, or `None` when that is empty. -/
theorem find_first (O : Oracle) (v : Variant) (hv : v.Sound) (root : Node) (start : Nat) (f : Family) (q : Query)
    (hc : v.Covers q) (hw : ∀ e ∈ axis root start f, e.WFPrefix) :
    (findOneFam O v root start f q).1 = (findAllFam O v root start f q none).1.head? := by
  rw [find_first_spec O v hv root start f q hc, findAll_eq_spec_families O v hv root start f q hc hw]

/-- **find_first_proposed.** With the two proposed patches: for every query. -/
theorem find_first_proposed (O : Oracle) (root : Node) (start : Nat) (f : Family) (q : Query)
    (hw : ∀ e ∈ axis root start f, e.WFPrefix) :
    (findOneFam O .proposed root start f q).1 = (findAllFam O .proposed root start f q none).1.head? :=
  find_first O .proposed Variant.proposed_sound root start f q (covers_proposed q) hw

example : (findOneFam sampleO .repaired sampleRoot 0 .descendants sampleQ).1.map (·.id) = some 1
    ∧ (findOneFam sampleO .repaired sampleRoot 5 .parents (nameOnly (.atom (.str (s "a"))))).1 = none := by decide +kernel

/-! ## shorthands -/

/-- **call_is_find_all.** `tag(name, attrs, recursive, string, limit, **kwargs)` is `tag.find_all` with the same
    arguments: the matches of the descendants (or, with `recursive=False`, children) axis, cut at the limit. -/
theorem call_is_find_all (O : Oracle) (v : Variant) (hv : v.Sound) (root : Node) (start : Nat) (q : Query)
    (hc : v.Covers q) (recursive : Bool) (k : Nat) (hk : k ≥ 1)
    (hw : ∀ e ∈ axis root start (if recursive then .descendants else .children), e.WFPrefix) :
    callImpl O v root start q recursive none
        = findAllFam O v root start (if recursive then .descendants else .children) q none
    ∧ (callImpl O v root start q recursive none).1
        = (axis root start (if recursive then .descendants else .children)).filter (sat O q)
    ∧ (callImpl O v root start q recursive (some k)).1
        = ((axis root start (if recursive then .descendants else .children)).filter (sat O q)).take k := by
  have hf : famQuery (if recursive then Family.descendants else Family.children) q = q :=
    famQuery_of_ne _ q (by cases recursive <;> simp)
  refine ⟨rfl, ?_, ?_⟩ <;> simp only [callImpl, findAllFam, hf]
  · exact findAll_eq_spec O v hv q hc _ hw
  · exact limit_is_spec_prefix O v hv q hc _ k hk

example : ids (callImpl sampleO .repaired sampleRoot 0 sampleQ false none).1 = [1, 4]
    ∧ ids (callImpl sampleO .repaired sampleRoot 1 (nameOnly (.atom (.bool true))) true (some 5)).1 = [2] := by decide +kernel

theorem covers_nameOnly_str (v : Variant) (nm : PStr) : v.Covers (nameOnly (.atom (.str nm))) :=
  ⟨Or.inr ((allYield_iff_not_dead _).mpr rfl), Or.inr trivial⟩

/-- **getattr_is_find.** For an attribute name that does not start with `__`, is not `contents` and is not a
    BS3-style `…Tag` alias, `tag.NAME` is `tag.find("NAME")`: the first descendant tag satisfying the name
    criterion (`None` if there is none) — including names that start with a single underscore. -/
theorem getattr_is_find (O : Oracle) (root : Node) (start : Nat) (nm : PStr)
    (h1 : startsWith nm dunder = false) (h2 : nm ≠ contentsName)
    (h3 : (decide (nm.length > 3) && endsWith nm tagSuffix) = false) :
    getattrImpl O .repaired root start nm
      = .ok (findOneFam O .repaired root start .descendants (nameOnly (.atom (.str nm)))).1
    ∧ getattrImpl O .repaired root start nm
      = .ok ((axis root start .descendants).filter (sat O (nameOnly (.atom (.str nm))))).head? := by
  have h := find_first_spec O .repaired Variant.repaired_sound root start .descendants (nameOnly (.atom (.str nm)))
    (covers_nameOnly_str _ nm)
  rw [famQuery_of_ne _ _ (by simp)] at h
  have h2' : (nm != contentsName) = true := by simpa using h2
  have hg : getattrImpl O .repaired root start nm
      = .ok (findOneFam O .repaired root start .descendants (nameOnly (.atom (.str nm)))).1 := by
    simp only [getattrImpl, h3, Bool.false_eq_true, if_false, h1, Bool.not_false, h2', Bool.and_self, if_true]
    rfl
  exact ⟨hg, by rw [hg, h]⟩

/-- the deprecated BS3 spelling `tag.NAMETag` is `tag.find("NAME")` (element.py `__getattr__`, first branch) -/
theorem getattr_tag_suffix (O : Oracle) (root : Node) (start : Nat) (nm : PStr)
    (h3 : (decide (nm.length > 3) && endsWith nm tagSuffix) = true) :
    getattrImpl O .repaired root start nm
      = .ok ((axis root start .descendants).filter
          (sat O (nameOnly (.atom (.str (nm.take (nm.length - 3))))))).head? := by
  have h := find_first_spec O .repaired Variant.repaired_sound root start .descendants
    (nameOnly (.atom (.str (nm.take (nm.length - 3))))) (covers_nameOnly_str _ _)
  rw [famQuery_of_ne _ _ (by simp)] at h
  simp only [getattrImpl, h3, if_true]
  exact congrArg GetAttr.ok h

/-- names starting with `__` are refused with `AttributeError` (element.py `__getattr__`, last branch); `h3`: `__xTag` takes the first branch -/
theorem getattr_dunder (O : Oracle) (v : Variant) (root : Node) (start : Nat) (nm : PStr)
    (h1 : startsWith nm dunder = true) (h3 : endsWith nm tagSuffix = false) :
    getattrImpl O v root start nm = .attributeError := by
  simp [getattrImpl, h1, h3]

example : getattrImpl sampleO .repaired sampleRoot 0 (s "b") = .ok (some (sampleAx.getD 1 default))
    ∧ getattrImpl sampleO .repaired sampleRoot 0 (s "_b") = .ok none
    ∧ getattrImpl sampleO .repaired sampleRoot 0 (s "__len") = .attributeError
    ∧ getattrImpl sampleO .repaired sampleRoot 0 (s "bTag") = getattrImpl sampleO .repaired sampleRoot 0 (s "b")
    ∧ startsWith (s "_b") dunder = false ∧ (decide ((s "bTag").length > 3) && endsWith (s "bTag") tagSuffix) = true := by
  decide +kernel

/-! ## a function as the name criterion -/

/-- **fn_called_once_with_tag.** A function given as the name criterion (alone or with other criteria) is called
    exactly once per candidate tag of the axis, in axis order, each time with the `Tag` itself — never with a string,
    never for a `NavigableString` (false of 4.13.0 as shipped for prefixed tags:
    `unrepaired_fn_called_twice_witness`). Holds for /repo HEAD for every query, and with the proposed
    `matches_nothing` patch for every satisfiable query (an unsatisfiable one has no candidates:
    `unsatisfiable_no_calls_proposed`). -/
theorem fn_called_once_with_tag (O : Oracle) (v : Variant) (hv : v.Sound) (q : Query) (i : Nat)
    (hn : q.name = .atom (.fn i)) (hu : v.deadCheck = false ∨ q.unsatisfiable = false) (ax : List Elem) :
    (findAllImpl O v q none ax).2 = nameFnCallsSpec i ax := by
  rw [findAllImpl_no_shortcut O v q none ax (by rw [hn]; rfl), general_fn_calls O v hv.retry q i hn hu]

/-- **fn_calls_limit_prefix.** With any limit (and so for the singular methods) the calls made to a name function are a
    prefix of the once-per-tag sequence of the unlimited search: the search stops early, it never calls the function
    twice for a tag, out of order, or with anything but the `Tag`. -/
theorem fn_calls_limit_prefix (O : Oracle) (v : Variant) (hv : v.Sound) (q : Query) (i : Nat)
    (hn : q.name = .atom (.fn i)) (hu : v.deadCheck = false ∨ q.unsatisfiable = false) (limit : Option Nat)
    (ax : List Elem) :
    (findAllImpl O v q limit ax).2 <+: nameFnCallsSpec i ax := by
  have hg : ∀ l, findAllImpl O v q l ax = generalPath O v q l ax :=
    fun l => findAllImpl_no_shortcut O v q l ax (by rw [hn]; rfl)
  rw [← fn_called_once_with_tag O v hv q i hn hu ax, hg, hg]
  exact filterLoop_snd_prefix _ limit ax 0 0

example : (findAllImpl sampleO .repaired (nameOnly (.atom (.fn 0))) (some 1) sampleAx).2 = [.tag 0 1, .tag 0 2]
    ∧ nameFnCallsSpec 0 sampleAx = [.tag 0 1, .tag 0 2, .tag 0 4] := by decide +kernel

theorem unsatisfiable_no_calls_proposed (O : Oracle) (q : Query) (i : Nat) (hn : q.name = .atom (.fn i))
    (hu : q.unsatisfiable = true) (ax : List Elem) :
    (findAllImpl O .proposed q none ax).2 = [] := by
  rw [findAllImpl_no_shortcut O .proposed q none ax (by rw [hn]; rfl), generalPath, filterLoop_none_snd]
  simp [dead_no_calls O .proposed rfl q hu]

example : (findAllImpl sampleO .repaired { name := .atom (.fn 0), kwargs := [(s "id", .atom (.bool true))] } none sampleAx).2
    = [.tag 0 1, .tag 0 2, .tag 0 4]
    ∧ (findAllImpl sampleO .proposed { name := .atom (.fn 0), kwargs := [(s "id", .list [])] } none sampleAx).2 = []
    ∧ ({ name := .atom (.fn 0), kwargs := [(s "id", .list [])] } : Query).unsatisfiable = true := by decide +kernel

/-! ## CSS -/

/-- **css_agrees.** On the fragment both can express, CSS selection (`cssSpec`: soupsieve's reading of a type,
    `.class`, `#id`, `[a]`, `[a=v]` selector — the soupsieve engine is a parameter of the dispatch model and is
    recorded by the harness) selects exactly what the corresponding `find_all` query means, for every element
    list. `Simple.Comparable`: selector names are colon-free, class tokens non-empty and space-free, `class` is
    list-valued, `id` and the attribute of `[a=v]` are plain strings; `[a]` needs nothing. Descendant and child
    combinators are `find_all` inside `find_all` and are compared by the harness. -/
theorem css_agrees (O : Oracle) (sel : Simple) (ax : List Elem) (h : ∀ e ∈ ax, sel.Comparable e) :
    cssSpec sel ax = findAllSpec O sel.toQuery ax := by
  unfold cssSpec findAllSpec
  apply List.filter_congr
  intro e he
  exact css_elem O sel e (h e he)

example : ids (cssSpec (.cls (s "u")) sampleAx) = [1, 4] ∧ ids (findAllSpec sampleO (Simple.toQuery (.cls (s "u"))) sampleAx) = [1, 4]
    ∧ ids (cssSpec (.ident (s "x")) sampleAx) = [1] ∧ ids (cssSpec (.hasAttr (s "class")) sampleAx) = [1, 4]
    ∧ (∀ e ∈ sampleAx, (Simple.cls (s "u")).Comparable e) := by
  refine ⟨by decide +kernel, by decide +kernel, by decide +kernel, by decide +kernel, ?_⟩
  intro e he
  have hall : ∀ e ∈ sampleAx, (match getAttr e classKey with | some (.one _) => false | _ => true) = true := by decide +kernel
  refine ⟨by decide, by decide, ?_⟩
  intro x hx
  have := hall e he
  rw [hx] at this
  exact absurd this (by simp)

/-! ## the CSS proxy: from `Tag.select` to soupsieve and back to `find_all` -/

section CssDispatch
open BS.Css

/-- **select_dispatch.** What `Tag.select`, `Tag.select_one` and the `Tag.css` methods hand to soupsieve:
    * `Tag.select` is `tag.css.select`, `Tag.select_one` is `tag.css.select_one` (same call, same wrapping);
    * `limit=None`, `limit=0` and no limit are the same call (`if limit is None: limit = 0`);
    * namespaces: the caller's mapping if given; otherwise the prefixes of the tag's document for a selector string, and
      `None` for a precompiled selector (its namespaces are compiled in);
    * `select` and `filter` results are wrapped into a `ResultSet`, the others are returned as they come;
    * start tag, flags (default 0) and other keyword arguments are forwarded unchanged. -/
theorem select_dispatch (t : Nat) (a : Args) :
    dispatch .tagSelect t a = dispatch .cssSelect t a
    ∧ dispatch .tagSelectOne t a = dispatch .cssSelectOne t a
    ∧ dispatch .cssSelect t { a with limit := .none } = dispatch .cssSelect t { a with limit := .n 0 }
    ∧ dispatch .cssSelect t { a with limit := .unset } = dispatch .cssSelect t { a with limit := .n 0 }
    ∧ (∀ e : Entry, (dispatch e t a).1.ns =
        match a.ns, a.sel with
        | .given i, _ => .given i
        | .none, .compiled _ => .none
        | .none, .str _ => .tagNamespaces)
    ∧ (∀ e : Entry, (dispatch e t a).2 = (e = .tagSelect ∨ e = .cssSelect ∨ e = .cssFilter : Bool))
    ∧ (∀ e : Entry, (dispatch e t a).1.sel = a.sel ∧ (dispatch e t a).1.flags = a.flags.getD 0
        ∧ (dispatch e t a).1.extra = a.extra ∧ (e ≠ .cssCompile → (dispatch e t a).1.tag = some t)) := by
  refine ⟨rfl, rfl, rfl, rfl, ?_, ?_, ?_⟩
  · intro e; cases e <;> rfl
  · intro e; cases e <;> rfl
  · intro e
    -- `.cssCompile` has no start tag
    cases e <;> first | exact ⟨rfl, rfl, rfl, fun _ => rfl⟩ | exact ⟨rfl, rfl, rfl, fun h => absurd rfl h⟩

example : (dispatch .tagSelect 7 { sel := .str 0 }).1 = ⟨.select, .str 0, some 7, .tagNamespaces, .n 0, 0, false⟩
    ∧ (dispatch .cssIselect 7 { sel := .compiled 1, limit := .none, flags := some 4 }).1
      = ⟨.iselect, .compiled 1, some 7, .none, .none, 4, false⟩ := by decide +kernel

/-- What the correspondence validates of soupsieve on the fragment both can express (the engine is recorded, not
    modelled): for a selector string that denotes the simple selector `σ i`, `select` returns the descendants of the
    start tag for which the selector holds, in document order, all of them for limit 0 and the first `k` otherwise, and
    `select_one` the first of them — whatever namespaces, flags and extra arguments are passed. -/
structure EngineSpec (E : Engine) (σ : Nat → Option Simple) (root : Node) : Prop where
  select : ∀ i sel t ns k flags extra, σ i = some sel →
    E ⟨.select, .str i, some t, ns, .n k, flags, extra⟩ =
      if k = 0 then (cssSpec sel (axis root t .descendants)).map (·.id)
      else ((cssSpec sel (axis root t .descendants)).map (·.id)).take k
  selectOne : ∀ i sel t ns flags extra, σ i = some sel →
    E ⟨.selectOne, .str i, some t, ns, .notTaken, flags, extra⟩ =
      ((cssSpec sel (axis root t .descendants)).map (·.id)).take 1

theorem covers_toQuery (v : Variant) (sel : Simple) : v.Covers sel.toQuery :=
  ⟨Or.inr ((allYield_iff_not_dead _).mpr (by cases sel <;> rfl)), Or.inr (by cases sel <;> exact trivial)⟩

/-- **css_select_eq_find_all.** Through the real dispatch and an engine that satisfies `EngineSpec`:
    `tag.select(sel)` (no limit / `limit=0` / `limit=None`) is `tag.find_all(q)`, `tag.select(sel, limit=k)` is
    `tag.find_all(q, limit=k)` for `k ≥ 1`, and `tag.select_one(sel)` is `tag.find(q)`, where `q` is the `find_all` form of
    the simple selector (`Simple.toQuery`: type, `.class`, `#id`, `[a]`, `[a=v]`) — for every tree, start tag, namespaces,
    flags and extra keyword arguments. -/
theorem css_select_eq_find_all (O : Oracle) (v : Variant) (hv : v.Sound) (E : Engine) (σ : Nat → Option Simple)
    (root : Node) (hE : EngineSpec E σ root) (i : Nat) (sel : Simple) (hσ : σ i = some sel) (t : Nat) (a : Args)
    (ha : a.sel = .str i)
    (hcmp : ∀ e ∈ axis root t .descendants, sel.Comparable e ∧ e.WFPrefix) :
    (selectLimit a.limit = 0 →
        tagSelect E t a = ids (findAllFam O v root t .descendants sel.toQuery none).1)
    ∧ (∀ k, k ≥ 1 → selectLimit a.limit = k →
        tagSelect E t a = ids (findAllFam O v root t .descendants sel.toQuery (some k)).1)
    ∧ tagSelectOne E t a = (findOneFam O v root t .descendants sel.toQuery).1.map (·.id) := by
  have hc := covers_toQuery v sel
  have hcss := css_agrees O sel (axis root t .descendants) (fun e he => (hcmp e he).1)
  have hfq : famQuery .descendants sel.toQuery = sel.toQuery := famQuery_of_ne _ _ (by simp)
  refine ⟨fun h0 => ?_, fun k hk hl => ?_, ?_⟩
  · simp only [tagSelect, dispatch, ha, h0, hE.select i sel t _ 0 _ _ hσ, if_true, hcss, findAllFam, hfq,
      findAll_eq_spec O v hv _ hc _ (fun e he => (hcmp e he).2)]
    rfl
  · have hk0 : k ≠ 0 := by omega
    simp only [tagSelect, dispatch, ha, hl, hE.select i sel t _ k _ _ hσ, hk0, if_false, hcss, findAllFam, hfq,
      limit_is_spec_prefix O v hv _ hc _ k hk, ids, List.map_take]
  · simp only [tagSelectOne, dispatch, ha, hE.selectOne i sel t _ _ _ hσ, hcss, findOneFam, findAllFam, hfq,
      findOne_eq_spec O v hv _ hc.1 hc.2]
    simp [List.head?_take]

/-- non-vacuity: an engine that implements the simple selectors over the sample tree satisfies `EngineSpec` -/
def sampleSigma : Nat → Option Simple
  | 0 => some (.cls (s "u"))
  | 1 => some (.type (s "b"))
  | _ => none

def sampleEngine : Engine := fun c =>
  match c.sel, c.tag with
  | .str i, some t =>
    match sampleSigma i with
    | some sel =>
      let all := (cssSpec sel (axis sampleRoot t .descendants)).map (·.id)
      match c.fn, c.limit with
      | .select, .n 0 => all
      | .select, .n k => all.take k
      | .selectOne, _ => all.take 1
      | _, _ => []
    | none => []
  | _, _ => []

example : EngineSpec sampleEngine sampleSigma sampleRoot := by
  constructor
  · intro i sel t ns k flags extra h
    cases k with
    | zero => simp [sampleEngine, h]
    | succ k => simp [sampleEngine, h]
  · intro i sel t ns flags extra h
    simp [sampleEngine, h]

example : tagSelect sampleEngine 0 { sel := .str 0 } = [1, 4]
    ∧ tagSelect sampleEngine 0 { sel := .str 1, limit := .n 1 } = [2]
    ∧ tagSelectOne sampleEngine 0 { sel := .str 1, ns := .given 3, flags := some 2 } = some 2 := by decide +kernel

end CssDispatch

/-! ## the same theorems on the pointer heap: the real generators of the `find_*` methods

`findAllH`/`findOneH` (`Model/SearchHeap.lean`) run `_find_all` on what the generators of element.py yield — the
pointer chases `next_elements`, `previous_elements`, `next_siblings`, `previous_siblings`, `parents`,
`Tag.descendants` (with `_last_descendant`) and `contents` of `Model/Heap.lean`. `WF h w` is C01's invariant; C01
proves it for the heap after every parse and every edit history (`history_consistent`, `parsed_then_edited_consistent`), so these theorems hold in every state
a program can reach. `docOrder h r` is the recursive pre-order over `contents` — the independent traversal. -/

section HeapLevel
open BS.Heap BS.SearchHeap

/-- **heap_findAll_exact.** On a well-formed heap every plural `find_*` method succeeds (its generator never fails
    or runs out of fuel) and returns exactly the elements its generator yields that satisfy the documented meaning of
    the query, in generator order; with `limit = k ≥ 1` the first `k` of them; the singular method the first or `None`. -/
theorem heap_findAll_exact (O : Oracle) (v : Variant) (hv : v.Sound) {h : Heap} {w : Wit} (hwf : WF h w) (L : Labels)
    (hL : L.WF) (x : Nat) (f : Family) (q : Query) (hc : v.Covers q) :
    ∃ ids, axisH h x f = .ok ids ∧
      (∃ calls, findAllH O v h L x f q none = .ok ((ids.map (view h L)).filter (sat O (famQuery f q)), calls)) ∧
      (∀ k, k ≥ 1 → ∃ calls, findAllH O v h L x f q (some k)
          = .ok (((ids.map (view h L)).filter (sat O (famQuery f q))).take k, calls)) ∧
      (∃ calls, findOneH O v h L x f q = .ok (((ids.map (view h L)).filter (sat O (famQuery f q))).head?, calls)) := by
  obtain ⟨ids, hax⟩ := axisH_ok hwf x f
  have hcf := covers_famQuery v f q hc
  -- the calls are whatever the run makes; only the results are claimed
  have key : ∀ {α : Type} (p : α × List Call) (a : α), p.1 = a → ∃ calls, (Except.ok p : Except Err _) = .ok (a, calls) :=
    fun p a h => ⟨p.2, by rw [← h]⟩
  refine ⟨ids, hax, ?_, fun k hk => ?_, ?_⟩ <;> simp only [findOneH, findAllH, hax]
  · exact key _ _ (findAll_eq_spec O v hv _ hcf _ (map_view_wf h L hL ids))
  · exact key _ _ (limit_is_spec_prefix O v hv _ hcf _ k hk)
  · exact key _ _ (findOne_eq_spec O v hv _ hcf.1 hcf.2 _)

/-- **heap_axes.** What the generators yield on a well-formed heap, as slices of the `.contents` pre-order:
    descendants = the pre-order of the start element without itself; following / preceding elements = what comes after /
    before it in the pre-order of its tree (nothing follows a `BeautifulSoup` root that stands outside the chain, and such
    a root does not precede anything); following / preceding siblings = the rest of the parent's `contents` after / before
    it (nearest first); parents = the chain of `parent` links. -/
theorem heap_axes {h : Heap} {w : Wit} (hwf : WF h w) (x : Nat) :
    axisH h x .descendants = .ok (docOrder h x).tail
    ∧ axisH h x .children = .ok (h.kids x)
    ∧ (w.unl x = false → axisH h x .nextElements = .ok ((docOrder h (w.tree x)).drop (w.pos x + 1)))
    ∧ (w.unl x = true → axisH h x .nextElements = .ok [])
    ∧ (w.unl (w.tree x) = false →
        axisH h x .previousElements = .ok ((docOrder h (w.tree x)).take (w.pos x)).reverse)
    ∧ (w.unl (w.tree x) = true →
        axisH h x .previousElements = .ok (((docOrder h (w.tree x)).take (w.pos x)).drop 1).reverse)
    ∧ (∀ p, h.parent x = some p →
        axisH h x .nextSiblings = .ok ((h.kids p).drop ((h.kids p).idxOf x + 1))
        ∧ axisH h x .previousSiblings = .ok ((h.kids p).take ((h.kids p).idxOf x)).reverse
        ∧ axisH h x .parents = .ok (p :: parents h p))
    ∧ (h.parent x = none →
        axisH h x .nextSiblings = .ok [] ∧ axisH h x .previousSiblings = .ok [] ∧ axisH h x .parents = .ok []) := by
  simp only [axisH, Except.ok.injEq]
  refine ⟨descendants_eq hwf x, trivial, (nextElements_eq hwf x).1, (nextElements_eq hwf x).2,
    (previousElements_eq hwf x).1, (previousElements_eq hwf x).2,
    fun p hp => ⟨nextSiblings_eq hwf hp rfl, previousSiblings_eq hwf hp rfl, parents_cons hwf hp⟩, fun hp => ?_⟩
  obtain ⟨_, _, hnext, hprev⟩ := siblings_root hwf hp
  exact ⟨hnext, hprev, parents_root hp⟩

/-- **heap_find_all_descendants.** `tag.find_all(q)` = the matches of the pre-order below `tag`, in document order
    (the generator order is the `.contents` recursion — C01 — and the filter is exact — `findAll_eq_spec`). -/
theorem heap_find_all_descendants (O : Oracle) (v : Variant) (hv : v.Sound) {h : Heap} {w : Wit} (hwf : WF h w)
    (L : Labels) (hL : L.WF) (x : Nat) (q : Query) (hc : v.Covers q) :
    ∃ calls, findAllH O v h L x .descendants q none
      = .ok ((((docOrder h x).tail).map (view h L)).filter (sat O q), calls) := by
  refine ⟨(findAllImpl O v q none (((docOrder h x).tail).map (view h L))).2, ?_⟩
  simp only [findAllH, (heap_axes hwf x).1]
  exact congrArg Except.ok (Prod.ext (findAll_eq_spec O v hv q hc _ (map_view_wf h L hL _)) rfl)

/-- **recursive_false_sublist.** `find_all(q, recursive=False)` searches `contents`; what it returns is a sublist
    (same elements, same relative order) of what `find_all(q)` returns. -/
theorem recursive_false_sublist (O : Oracle) (v : Variant) (hv : v.Sound) {h : Heap} {w : Wit} (hwf : WF h w)
    (L : Labels) (hL : L.WF) (x : Nat) (q : Query) (hc : v.Covers q) :
    ∃ rc cc rd cd, findAllH O v h L x .children q none = .ok (rc, cc)
      ∧ findAllH O v h L x .descendants q none = .ok (rd, cd)
      ∧ rc = ((h.kids x).map (view h L)).filter (sat O q)
      ∧ rc.Sublist rd := by
  obtain ⟨cd, h2⟩ := heap_find_all_descendants O v hv hwf L hL x q hc
  have h1 := findAll_eq_spec O v hv q hc _ (map_view_wf h L hL (h.kids x))
  refine ⟨(findAllImpl O v q none ((h.kids x).map (view h L))).1, _, _, cd, rfl, h2, h1, ?_⟩
  rw [h1]
  exact List.Sublist.filter _ (List.Sublist.map _ (kids_sublist_descendants hwf x))

/-- a well-formed heap for the examples: `soup0 ─ a1 ─ (s2 "hi", b3)`, `soup0` linked into the chain -/
def sampleHeap : Heap :=
  { parent := fun n => if n = 1 then some 0 else if n = 2 ∨ n = 3 then some 1 else none
    ps := fun n => if n = 3 then some 2 else none
    ns := fun n => if n = 2 then some 3 else none
    pe := fun n => if n = 1 then some 0 else if n = 2 then some 1 else if n = 3 then some 2 else none
    ne := fun n => if n = 0 then some 1 else if n = 1 then some 2 else if n = 2 then some 3 else none
    kids := fun n => if n = 0 then [1] else if n = 1 then [2, 3] else []
    kind := fun n => if n = 0 then .soup else if n = 1 ∨ n = 3 then .tag else .str
    val := fun n => if n = 2 then s "hi" else []
    next := 4, cap := 8 }

def sampleLabels : Labels :=
  { name := fun n => if n = 0 then s "[document]" else if n = 1 then s "a" else s "b"
    pfx := fun n => if n = 3 then some (s "p") else none
    attrs := fun _ => [] }

example : (findAllH sampleO .repaired sampleHeap sampleLabels 0 .descendants (nameOnly (.atom (.bool true))) none).toOption.map
      (fun r => ids r.1) = some [1, 3]
    ∧ (findAllH sampleO .repaired sampleHeap sampleLabels 3 .previousElements { string := .atom (.str (s "hi")) } none).toOption.map
      (fun r => ids r.1) = some [2]
    ∧ (findOneH sampleO .repaired sampleHeap sampleLabels 3 .parents (nameOnly (.atom (.str (s "a"))))).toOption.map
      (fun r => r.1.map (·.id)) = some (some 1)
    ∧ (findAllH sampleO .repaired sampleHeap sampleLabels 1 .children (nameOnly (.atom (.str (s "p:b")))) none).toOption.map
      (fun r => ids r.1) = some [3] := by decide +kernel

/-- **search_after_any_history.** Start from any number of freshly constructed objects, run **any** finite history of
    editing calls (C01's fourteen operations; the run stops at the first failing call); in the heap that results, every
    `find_*` method from every element, for every covered query, succeeds and returns exactly the matches of its
    generator, in generator order (and `limit`/singular forms the prefix/first) — by C01's `history_consistent` the
    heap is well-formed, and then `heap_findAll_exact` applies. -/
theorem search_after_any_history (O : Oracle) (v : Variant) (hv : v.Sound) (kinds : List Kind) (ops : List Op)
    (hk : ∀ op ∈ ops, op.kindsOK) (h : Heap) (hrun : run (Heap.init kinds) ops = .ok h)
    (L : Labels) (hL : L.WF) (x : Nat) (f : Family) (q : Query) (hc : v.Covers q) :
    ∃ ids, axisH h x f = .ok ids ∧
      (∃ calls, findAllH O v h L x f q none = .ok ((ids.map (view h L)).filter (sat O (famQuery f q)), calls)) ∧
      (∀ k, k ≥ 1 → ∃ calls, findAllH O v h L x f q (some k)
          = .ok (((ids.map (view h L)).filter (sat O (famQuery f q))).take k, calls)) ∧
      (∃ calls, findOneH O v h L x f q = .ok (((ids.map (view h L)).filter (sat O (famQuery f q))).head?, calls)) := by
  obtain ⟨⟨w, hwf⟩, _⟩ := BS.Props.C01.history_consistent ops (Heap.init kinds) h
    (BS.Props.C01.init_consistent kinds) hk hrun
  exact heap_findAll_exact O v hv hwf L hL x f q hc

/-- **search_after_parse_and_edits.** The same for a document as the parser links it (any list of parser actions —
    C01's `Model/ParseLink.lean`), followed by any finite history of editing calls: every search is exact. This is the
    quantifier "parsed, edited" of the property; the labels `L` (names, prefixes, attributes incl. multi-valued ones) are
    arbitrary up to `Labels.WF`. -/
theorem search_after_parse_and_edits (O : Oracle) (v : Variant) (hv : v.Sound) (acts : List BS.ParseLink.Act)
    (ops : List Op) (hk : ∀ op ∈ ops, op.kindsOK) (h : Heap)
    (hrun : run (BS.ParseLink.prun BS.ParseLink.PSt.init acts).heap ops = .ok h)
    (L : Labels) (hL : L.WF) (x : Nat) (f : Family) (q : Query) (hc : v.Covers q) :
    ∃ ids, axisH h x f = .ok ids ∧
      (∃ calls, findAllH O v h L x f q none = .ok ((ids.map (view h L)).filter (sat O (famQuery f q)), calls)) ∧
      (∀ k, k ≥ 1 → ∃ calls, findAllH O v h L x f q (some k)
          = .ok (((ids.map (view h L)).filter (sat O (famQuery f q))).take k, calls)) ∧
      (∃ calls, findOneH O v h L x f q = .ok (((ids.map (view h L)).filter (sat O (famQuery f q))).head?, calls)) := by
  obtain ⟨⟨w, hwf⟩, _⟩ := BS.Props.C01.parsed_then_edited_consistent acts ops h hrun hk
  exact heap_findAll_exact O v hv hwf L hL x f q hc

example : sampleLabels.WF := by
  intro n
  simp only [sampleLabels]
  by_cases h3 : n = 3
  · subst h3
    simp only [if_true]
    exact ⟨by decide, by decide, by decide⟩
  · simp [h3]

/-- non-vacuity: a real history (`soup0.append(a1); a1.append(s3); soup0.insert(0, b2, "…"); s3.wrap(b2)`), then
    searches on the heap it leaves -/
def historyHeap : Except Err Heap :=
  run (Heap.init [.soup, .tag, .tag, .str, .str])
    [.append 0 (.node 1), .append 1 (.node 3), .insert 0 0 [.node 2, .plain [9]], .wrap 3 2]

example : historyHeap.isOk = true
    ∧ (historyHeap.toOption.map fun h =>
        (findAllH sampleO .repaired h sampleLabels 0 .descendants (nameOnly (.atom (.bool true))) none).toOption.map
          (fun r => ids r.1)) = some (some [1, 2])
    ∧ (historyHeap.toOption.map fun h =>
        (findOneH sampleO .repaired h sampleLabels 3 .parents (nameOnly (.atom (.str (s "a"))))).toOption.map
          (fun r => r.1.map (·.id))) = some (some (some 1)) := by decide +kernel

end HeapLevel

/-! ## witnesses: bs4 4.13.0 as shipped, the behaviour before each repair, and the known findings -/

/-- 4.13.0 as shipped (defect a): with no criteria, `find_all(limit=2)` and `find()` return nothing although the
    unlimited call returns every tag. Repaired by `fixes/C10-no-criteria-limit.diff`. -/
theorem unrepaired_no_criteria_witness :
    ids (findAllImpl sampleO .unrepaired {} none sampleAx).1 = [1, 2, 4]
    ∧ (findAllImpl sampleO .unrepaired {} (some 2) sampleAx).1 = []
    ∧ (findOneFam sampleO .unrepaired sampleRoot 0 .descendants {}).1 = none := by decide +kernel

/-- 4.13.0 as shipped (defect b): for the prefixed tag 2 the name function is called a second time, with the
    string `p:b`. Repaired by `fixes/C10-name-function-once.diff`. -/
theorem unrepaired_fn_called_twice_witness :
    (findAllImpl sampleO .unrepaired (nameOnly (.atom (.fn 1))) none sampleAx).2
      = [.tag 1 1, .tag 1 2, .str 1 (s "p:b"), .tag 1 4] := by decide +kernel

/-- Known finding `C10-limit-zero` (pinned by the repo test `test_find_all_limit`): `limit=0` returns everything on
    the fast path and one element on the `SoupStrainer` path — neither is "the first 0". -/
theorem limit_zero_witness :
    ids (findAllImpl sampleO .repaired (nameOnly (.atom (.str (s "b")))) (some 0) sampleAx).1 = [2, 4]
    ∧ ids (findAllImpl sampleO .repaired { name := .atom (.str (s "b")), kwargs := [(s "id", .atom (.bool false))] }
        (some 0) sampleAx).1 = [2] := by decide +kernel

/-- Known finding `C10-empty-list-combined` (/repo HEAD): `id=[]` alone matches nothing, but next to another
    criterion it is silently dropped — against "any of nothing"; with the proposed patch it matches nothing. -/
theorem empty_list_combined_witness :
    (findAllImpl sampleO .repaired { kwargs := [(s "id", .list [])] } none sampleAx).1 = []
    ∧ ids (findAllImpl sampleO .repaired { name := .atom (.str (s "b")), kwargs := [(s "id", .list [])] } none sampleAx).1 = [2, 4]
    ∧ (findAllImpl sampleO .proposed { name := .atom (.str (s "b")), kwargs := [(s "id", .list [])] } none sampleAx).1 = []
    ∧ findAllSpec sampleO { name := .atom (.str (s "b")), kwargs := [(s "id", .list [])] } sampleAx = [] := by decide +kernel

/-- Known finding `C10-falsy-attrs-ignored` (/repo HEAD): `find_all("b", None)` (attrs = None, sugar for class) takes the
    fast path and ignores the class criterion, `find_all("b", None, limit=5)` honours it (class absent) — limit is not
    a prefix; with the proposed patch both honour it. -/
theorem falsy_attrs_witness :
    let q : Query := { name := .atom (.str (s "b")), attrs := .sugar (.atom .none) }
    ids (findAllImpl sampleO .repaired q none sampleAx).1 = [2, 4]
    ∧ ids (findAllImpl sampleO .repaired q (some 5) sampleAx).1 = [2]
    ∧ ids (findAllImpl sampleO .proposed q none sampleAx).1 = [2]
    ∧ ids (findAllSpec sampleO q sampleAx) = [2] := by
  decide +kernel

/-- Before repair (f) (`attributeMatchOld`, 4.13.0 as shipped): `<b class="">` holds `class == []`, which neither
    `class_=True` nor `class_=False` matched although `[class]` selects it; repaired
    (`fixes/C10-empty-multivalued-attr.diff`): `True` and `""` find it. -/
theorem empty_multivalued_witness :
    let e : Elem := ⟨1, true, s "b", none, [(s "class", .many [])], none⟩
    attributeMatchOld sampleO (getAttr e (s "class")) [.present true] = false
    ∧ attributeMatchOld sampleO (getAttr e (s "class")) [.present false] = false
    ∧ cssSpec (.hasAttr (s "class")) [e] = [e]
    ∧ (findAllImpl sampleO .repaired (Simple.toQuery (.hasAttr (s "class"))) none [e]).1 = [e]
    ∧ (findAllImpl sampleO .repaired { attrs := .dict [(s "class", .atom (.bool false))] } none [e]).1 = []
    ∧ (findAllImpl sampleO .repaired { kwargs := [(s "class_", .atom (.str []))] } none [e]).1 = [e] := by decide +kernel

/-- The prefix hypothesis is needed: `Tag("b:c", prefix="a")` is found by the `SoupStrainer` path for the query
    `"a:b:c"` but not by the plain-name fast path. -/
theorem wfprefix_needed_witness :
    let e : Elem := ⟨1, true, s "b:c", some (s "a"), [], none⟩
    (findAllImpl sampleO .repaired (nameOnly (.atom (.str (s "a:b:c")))) none [e]).1 = []
    ∧ (generalPath sampleO .repaired (nameOnly (.atom (.str (s "a:b:c")))) none [e]).1 = [e] := by decide +kernel

end BS.Props.C10
