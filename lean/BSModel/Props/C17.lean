import BSModel.Proofs.Attrs
/-! # C17 — attribute values: multi-valued split/join, coercion rules, duplicate policy

Property theorems only. Predicates of the statements: `BSModel/Proofs/Attrs.lean`; operations: the code-mirror `BSModel/Model/Attrs.lean`
(`splitWs` = `nonwhitespace_re.findall`, `replaceCdataList` = `_replace_cdata_list_attribute_values`,
`htmlSet`/`xmlSet` = the two `__setitem__`s, `startTagLoop` = the attribute loop of `handle_starttag`,
`tagInit` = the attribute part of `Tag.__init__`); the tables are generated from the live code. -/
namespace BS.Props.C17
open BS.Attrs

/-! ## splitting and joining -/

/-- The pattern the code compiles is `\S+`, and the characters it refuses are exactly the regex engine's `\s` class
    for `str` patterns (both generated from the live objects). -/
theorem pattern_and_class :
    BS.Gen.c17NonwhitespacePattern = [92, 83, 43] ∧ BS.Gen.c17NotTokenChars = BS.Gen.c17ReWhitespace := by decide +kernel

/-- every kind of whitespace the property speaks of: the ASCII ones, the C0 separators FS/GS/RS/US, NEL, NBSP and the
    Unicode spaces split; ZERO WIDTH SPACE, MONGOLIAN VOWEL SEPARATOR, BOM, NUL and ordinary characters do not -/
theorem whitespace_class :
    (∀ c ∈ [9, 10, 11, 12, 13, 32, 28, 29, 30, 31, 0x85, 0xA0, 0x1680, 0x2000, 0x2001, 0x2002, 0x2003, 0x2004, 0x2005,
        0x2006, 0x2007, 0x2008, 0x2009, 0x200A, 0x2028, 0x2029, 0x202F, 0x205F, 0x3000], isWs c = true) ∧
    (∀ c ∈ [0, 8, 14, 27, 33, 65, 97, 0x7F, 0x84, 0x86, 0x9F, 0xA1, 0x180E, 0x200B, 0x200C, 0x200D, 0x2060, 0xFEFF],
        isWs c = false) := by decide +kernel

/-- **split_tokens.** For every amount and kind of whitespace: a string made of optional leading whitespace and tokens
    (non-empty, whitespace-free), each followed by a non-empty whitespace separator (the last one may have none), splits
    into exactly those tokens. -/
theorem split_tokens (lead : PStr) (items : List (PStr × PStr)) (hl : AllWs lead) (hg : GoodItems items) :
    splitWs (lead ++ glue items) = items.map (·.1) :=
  splitWs_lead_glue lead items hl hg

example : splitWs (ofS "\t x \n yz ") = [ofS "x", ofS "yz"] := by decide_pstr
example : GoodItems [([120], [0xA0, 10, 32]), ([121, 122], [])] := by
  simp [GoodItems, Tok, AllWs]; decide

/-- … and every string whatsoever is of that form, so `split_tokens` determines the result for all inputs: the tokens
    are the maximal whitespace-free runs. -/
theorem every_string_decomposes (s : PStr) :
    ∃ lead items, AllWs lead ∧ GoodItems items ∧ s = lead ++ glue items := decompose s

/-- the two together: whatever decomposition of `s` one looks at, its tokens are the result -/
theorem split_is_the_maximal_runs (s lead : PStr) (items : List (PStr × PStr)) (hl : AllWs lead)
    (hg : GoodItems items) (hs : s = lead ++ glue items) : splitWs s = items.map (·.1) := by
  subst hs; exact split_tokens lead items hl hg

/-- every token is non-empty and free of whitespace -/
theorem split_token_shape (s : PStr) : ∀ t ∈ splitWs s, Tok t :=
  splitWs_shape s

/-- nothing but whitespace is dropped, nothing is reordered -/
theorem split_keeps_nonwhitespace (s : PStr) : (splitWs s).flatten = s.filter (fun c => !isWs c) := by
  simpa [splitWs] using splitGo_flatten s []

example : (splitWs (ofS " a  b ")).flatten = ofS "ab" := by decide_pstr

/-- joining whitespace-free non-empty tokens by single spaces and splitting again gives the tokens back -/
theorem split_join_tokens (toks : List PStr) (h : ∀ t ∈ toks, Tok t) : splitWs (joinSp toks) = toks :=
  splitWs_joinSp_toks toks h

/-- **split_join_stable.** Writing a parsed multi-valued attribute back and parsing it again is stable. -/
theorem split_join_stable (s : PStr) : splitWs (joinSp (splitWs s)) = splitWs s :=
  split_join_tokens _ (split_token_shape s)

example : joinSp (splitWs (ofS " a \n\t b c ")) = ofS "a b c" := by decide_pstr

/-- written back with single spaces: a list value renders as its elements separated by exactly one U+0020 -/
theorem render_list_single_spaces (md cls : Nat) (a b : PStr) (rest : List PStr) :
    renderVal md (.list cls []) = .text [] ∧ renderVal md (.list cls [a]) = .text a ∧
    renderVal md (.list cls (a :: b :: rest)) = .text (a ++ 32 :: joinSp (b :: rest)) := by
  simp [renderVal, joinSp]

/-! ## which attributes are split -/

/-- **multi_valued_iff_table.** An attribute of an element is treated as multi-valued iff the configured map lists it
    under `*` or under the lower-cased element name. -/
theorem multi_valued_iff_table (m : CdataMap) (lower : PStr → PStr) (tag attr : PStr) :
    isMulti m lower tag attr = true ↔
      (∃ set, m.lookup star = some set ∧ attr ∈ set) ∨ (∃ set, m.lookup (lower tag) = some set ∧ attr ∈ set) :=
  isMulti_iff m lower tag attr

/-- element names are compared case-insensitively (through `str.lower`) -/
theorem multi_valued_case_insensitive (m : CdataMap) (lower : PStr → PStr) (tag tag' attr : PStr)
    (h : lower tag = lower tag') : isMulti m lower tag attr = isMulti m lower tag' attr := by
  simp [isMulti, h]

/-- the entries the documentation names are in the table the live builder uses (generated), for any spelling of the
    element name; entries are listed as (element, attribute) -/
theorem default_table_documented :
    ∀ p ∈ [("a", "rel"), ("a", "rev"), ("link", "rel"), ("link", "rev"), ("td", "headers"), ("th", "headers"),
           ("form", "accept-charset"), ("object", "archive"), ("area", "rel"), ("icon", "sizes"),
           ("iframe", "sandbox"), ("output", "for"),
           ("A", "rel"), ("LINK", "rev"), ("TD", "headers"), ("Th", "headers"), ("FORM", "accept-charset"),
           ("linK", "rel"),   -- KELVIN SIGN lower-cases to `k`
           ("p", "class"), ("td", "class"), ("x-y", "accesskey"), ("DIV", "dropzone")],
      isMulti BS.Gen.c17DefaultCdataListAttributes pyLower (ofS p.1) (ofS p.2) = true := by
  rw [pyLower_eq]
  simp only [List.mem_cons, List.not_mem_nil, or_false, forall_eq_or_imp, forall_eq]
  decide_pstr

/-- `class`, `accesskey` and `dropzone` are multi-valued on *every* element, whatever its name -/
theorem universal_entries (lower : PStr → PStr) (tag : PStr) :
    isMulti BS.Gen.c17DefaultCdataListAttributes lower tag (ofS "class") = true ∧
    isMulti BS.Gen.c17DefaultCdataListAttributes lower tag (ofS "accesskey") = true ∧
    isMulti BS.Gen.c17DefaultCdataListAttributes lower tag (ofS "dropzone") = true := by
  have h : BS.Gen.c17DefaultCdataListAttributes.lookup star
      = some [ofS "accesskey", ofS "class", ofS "dropzone"] := by decide_pstr
  simp only [isMulti, h]
  refine ⟨?_, ?_, ?_⟩ <;> simp <;> decide

/-- … and neighbours of the table are not: tag-specific entries do not leak to other elements, attribute names are
    case-sensitive, `id`/`href`/`style` are single-valued -/
theorem default_table_neighbours :
    ∀ p ∈ [("p", "rel"), ("td", "rel"), ("div", "headers"), ("tr", "headers"), ("a", "headers"), ("a", "id"),
           ("a", "href"), ("p", "style"), ("a", "REL"), ("p", "CLASS"), ("input", "accept-charset"), ("img", "sizes"),
           ("link", "sizes"), ("label", "for"), ("*", "rel"), ("a", "*"), ("", "rel"), ("a", "")],
      isMulti BS.Gen.c17DefaultCdataListAttributes pyLower (ofS p.1) (ofS p.2) = false := by
  rw [pyLower_eq]
  simp only [List.mem_cons, List.not_mem_nil, or_false, forall_eq_or_imp, forall_eq]
  decide_pstr

/-- the keys of the default table are their own lower-case form, so the lower-cased lookup can reach each of them -/
theorem default_table_keys_lowercase :
    ∀ e ∈ BS.Gen.c17DefaultCdataListAttributes, pyLower e.1 = e.1 := by
  rw [pyLower_eq]; decide +kernel

/-- `str.lower()` of the model is the per-code-point lookup in the generated table (sorted, so the early-exit lookup is
    the plain lookup) -/
theorem lower_is_table_lookup (c : Nat) :
    lowerCp c = match BS.Gen.c17LowerMap.lookup c with
      | some l => l
      | none => [c] := by
  have h : sortedKeys lowerMapR = true := by decide +kernel
  rw [lowerCp_eq, lowerMap_eq]
  simp only [lookupSorted_eq_lookup _ c h]
  cases List.lookup c lowerMapR <;> rfl

example : pyLower (ofS "TD") = ofS "td" ∧ pyLower [0x212A] = ofS "k" ∧ pyLower [0x130] = [105, 0x307] := by
  rw [pyLower_eq]; decide_pstr

/-- Refinement: over a dictionary (distinct keys, the plain `AttributeDict` the parser uses by default) the in-place
    loop of `_replace_cdata_list_attribute_values` computes the documented replacement — for the default table, a
    custom map, `{}` or `None` alike. -/
theorem replace_refines_spec (md : Nat) (m : Option CdataMap) (lower : PStr → PStr) (lc : Nat) (tag : PStr)
    (d : Items) (hnd : (keys d).Nodup) :
    replaceCdataList md m lower lc .plain tag d = .ok (replaceSpec m lower lc tag d) :=
  replaceCdataList_fixed md m lower lc .plain tag d hnd fun _ _ => isFixed_plain md _

/-- … and for every dictionary class (`HTMLAttributeDict`, `XMLAttributeDict`) when the values are strings or lists, as
    they are when the dictionary comes from a parser. -/
theorem replace_refines_spec_any_class (md : Nat) (m : Option CdataMap) (lower : PStr → PStr) (lc : Nat)
    (cls : DictClass) (tag : PStr) (d : Items) (hnd : (keys d).Nodup) (hd : ∀ p ∈ d, StrOrList p.2) :
    replaceCdataList md m lower lc cls tag d = .ok (replaceSpec m lower lc tag d) :=
  replaceCdataList_fixed md m lower lc cls tag d hnd fun p hp =>
    isFixed_strOrList md cls _ (strOrList_splitVal lc _ (hd p hp))

/-- **custom_map_exact.** Under any map `m` (the default table or a custom one) the set of attributes, their order and
    every value not covered stay as they were, and a covered string value is replaced by the list of its tokens, in the
    builder's list class. -/
theorem custom_map_exact (m : CdataMap) (lower : PStr → PStr) (lc : Nat) (tag : PStr) (d : Items) :
    keys (replaceSpec (some m) lower lc tag d) = keys d ∧
    ∀ k, dictGet (replaceSpec (some m) lower lc tag d) k =
      (dictGet d k).map (fun v => if isMulti m lower tag k then splitVal lc v else v) :=
  ⟨keys_map_upd d _ _, dictGet_map_upd d _ _⟩

/-- a string value becomes a list exactly when the map covers the attribute -/
theorem split_iff_covered (m : CdataMap) (lower : PStr → PStr) (lc : Nat) (tag : PStr) (d : Items) (k s : PStr)
    (h : dictGet d k = some (.str s)) :
    (dictGet (replaceSpec (some m) lower lc tag d) k = some (.list lc (splitWs s)) ↔ isMulti m lower tag k = true) ∧
    (dictGet (replaceSpec (some m) lower lc tag d) k = some (.str s) ↔ isMulti m lower tag k = false) := by
  rw [(custom_map_exact m lower lc tag d).2 k, h]
  cases isMulti m lower tag k <;> simp [splitVal]

/-- **others_verbatim.** An attribute the map does not cover keeps its value, whatever it is. -/
theorem others_verbatim (m : CdataMap) (lower : PStr → PStr) (lc : Nat) (tag : PStr) (d : Items) (k : PStr)
    (h : isMulti m lower tag k = false) :
    dictGet (replaceSpec (some m) lower lc tag d) k = dictGet d k := by
  rw [(custom_map_exact m lower lc tag d).2 k, h]; simp

/-- a value that is already a list (a copied tag, html5lib's second pass) is left alone even when covered -/
theorem list_values_kept (m : CdataMap) (lower : PStr → PStr) (lc c : Nat) (tag : PStr) (d : Items) (k : PStr)
    (l : List PStr) (h : dictGet d k = some (.list c l)) :
    dictGet (replaceSpec (some m) lower lc tag d) k = some (.list c l) := by
  rw [(custom_map_exact m lower lc tag d).2 k, h]
  cases isMulti m lower tag k <;> simp [splitVal]

/-- **none_disables.** With `multi_valued_attributes=None` (or `{}`) nothing is split, for every dictionary class. -/
theorem none_disables (md : Nat) (lower : PStr → PStr) (lc : Nat) (cls : DictClass) (tag : PStr) (d : Items) :
    replaceCdataList md none lower lc cls tag d = .ok d ∧
    replaceCdataList md (some []) lower lc cls tag d = .ok d := by
  simp [replaceCdataList]

example : replaceCdataList 0 (some BS.Gen.c17DefaultCdataListAttributes) pyLower 1 .plain (ofS "TD")
    [(ofS "headers", .str (ofS "a  b")), (ofS "id", .str (ofS "a  b")), (ofS "class", .str [])]
    = .ok [(ofS "headers", .list 1 [ofS "a", ofS "b"]), (ofS "id", .str (ofS "a  b")), (ofS "class", .list 1 [])] := by
  decide_pstr

/-! ## coercions of the attribute containers -/

/-- `str()` of a number is its decimal numeral: digits only, no leading zero, denoting the number; a minus sign in
    front for negatives; `0` is `"0"`. -/
theorem int_str_is_the_numeral (n : Nat) :
    decVal (natStr n) = n ∧ (∀ c ∈ natStr n, 48 ≤ c ∧ c ≤ 57) ∧
    (n ≠ 0 → ∃ c rest, natStr n = c :: rest ∧ c ≠ 48) ∧
    intStr (Int.ofNat n) = natStr n ∧ intStr (Int.negSucc n) = 45 :: natStr (n + 1) ∧ intStr 0 = [48] :=
  have h := natDigits_spec (n + 1) n (by omega)
  ⟨h.1, h.2.1, h.2.2, rfl, rfl, by decide⟩

example : intStr (-120) = ofS "-120" := by decide_pstr

/-- **html_coercion** (total): assigning *any* value through the HTML container either raises `ValueError` — exactly
    for an int beyond the interpreter's digit limit — or leaves the key holding the documented coercion of the value
    (`htmlStored`: numbers **including 0, 0.0 and negatives** → their `str`; `True` → the key's own unqualified name;
    `False`/`None` → absent; strings, lists, other objects → themselves), every other key untouched and the key order
    that of a `dict` (kept in place, appended when new, removed when dropped). -/
theorem html_coercion (md : Nat) (d : Items) (k : Key) (v : PyVal) :
    (htmlSet md d k v = .valueError ↔ tooBig md v) ∧
    ∀ d', htmlSet md d k v = .ok d' →
      dictGet d' k.str = htmlStored k v ∧ (∀ k', k' ≠ k.str → dictGet d' k' = dictGet d k') ∧
      keys d' = match htmlStored k v with
        | none => (keys d).filter (fun x => !(x == k.str))
        | some _ => if dictHas d k.str then keys d else keys d ++ [k.str] := by
  obtain ⟨herr, hok⟩ := htmlSet_spec md d k v
  refine ⟨herr, fun d' hd => ?_⟩
  rw [hok d' hd]
  cases htmlStored k v with
  | none => exact ⟨by rw [dictGet_dictDel, if_pos rfl], fun k' h => by rw [dictGet_dictDel, if_neg h], keys_dictDel _ _⟩
  | some w => exact ⟨by rw [dictGet_dictSet, if_pos rfl], fun k' h => by rw [dictGet_dictSet, if_neg h], keys_dictSet _ _ _⟩

/-- 4300 = `BS.Gen.c17IntMaxStrDigits`, CPython's default digit limit -/
example : htmlSet 4300 [] (.plain (ofS "k")) (.int 0) = .ok [(ofS "k", .str (ofS "0"))] := by decide_pstr
example : htmlSet 4300 [(ofS "k", .str [])] (.plain (ofS "k")) (.float (ofS "0.0") true)
    = .ok [(ofS "k", .str (ofS "0.0"))] := by decide_pstr
example : htmlSet 4300 [] (mkNs (some (ofS "xml")) (some (ofS "lang"))) (.bool true)
    = .ok [(ofS "xml:lang", .str (ofS "lang"))] := by decide_pstr
example : htmlSet 4300 [(ofS "a", .str []), (ofS "k", .str []), (ofS "b", .str [])] (.plain (ofS "k")) (.bool false)
    = .ok [(ofS "a", .str []), (ofS "b", .str [])] := by decide_pstr
example : tooBig 2 (.int 100) := by simp only [tooBig]; decide

/-- the key-name rule for `True`: a plain key gives itself, a namespaced key its unqualified name (and the
    default-namespace key `xmlns`, whose name "has no value", gives `None`, i.e. a bare attribute) -/
theorem html_true_own_name (s p n : PStr) (hn : n ≠ []) :
    htmlStored (.plain s) (.bool true) = some (.str s) ∧
    htmlStored (mkNs (some p) (some n)) (.bool true) = some (.str n) ∧
    htmlStored (mkNs (some p) none) (.bool true) = some .none ∧
    htmlStored (mkNs (some p) (some [])) (.bool true) = some .none := by
  cases n with
  | nil => exact absurd rfl hn
  | cons c cs => simp [htmlStored, ownName, mkNs]

/-- **xml_coercion** (total): the XML container raises only for an int beyond the digit limit; otherwise the key holds
    `xmlStored v` (numbers incl. 0 → `str`; `None` → `""`; `True`/`False` kept as booleans; the rest unchanged), the key
    is never removed, other keys are untouched. -/
theorem xml_coercion (md : Nat) (d : Items) (k : Key) (v : PyVal) :
    (xmlSet md d k v = .valueError ↔ tooBig md v) ∧
    ∀ d', xmlSet md d k v = .ok d' →
      dictGet d' k.str = some (xmlStored v) ∧ (∀ k', k' ≠ k.str → dictGet d' k' = dictGet d k') ∧
      keys d' = if dictHas d k.str then keys d else keys d ++ [k.str] := by
  obtain ⟨herr, hok⟩ := xmlSet_spec md d k v
  refine ⟨herr, fun d' hd => ?_⟩
  rw [hok d' hd]
  exact ⟨by rw [dictGet_dictSet, if_pos rfl], fun k' h => by rw [dictGet_dictSet, if_neg h], keys_dictSet _ _ _⟩

example : xmlSet 4300 [] (.plain (ofS "k")) .none = .ok [(ofS "k", .str [])] := by decide_pstr
example : xmlSet 4300 [] (.plain (ofS "k")) (.bool false) = .ok [(ofS "k", .bool false)] := by decide_pstr
example : xmlSet 4300 [] (.plain (ofS "k")) (.int 0) = .ok [(ofS "k", .str (ofS "0"))] := by decide_pstr

/-- Invariant over every sequence of assignments: an HTML container never holds an int, a float or a bool
    (`HtmlStorable`); an XML container never holds an int, a float or `None` (`XmlStorable`). -/
theorem containers_hold_no_numbers (md : Nat) (sets : List (Key × PyVal)) (d0 d : Items) :
    ((∀ p ∈ d0, HtmlStorable p.2) → setMany md .html d0 sets = .ok d → ∀ p ∈ d, HtmlStorable p.2) ∧
    ((∀ p ∈ d0, XmlStorable p.2) → setMany md .xml d0 sets = .ok d → ∀ p ∈ d, XmlStorable p.2) := by
  constructor
  · refine setMany_forall md .html HtmlStorable (fun d k v d' h h0 p hp => ?_) sets d0 d
    rw [(htmlSet_spec md d k v).2 d' h] at hp
    cases hw : htmlStored k v with
    | none => rw [hw] at hp; exact h0 p (List.mem_filter.mp hp).1
    | some w =>
      rw [hw] at hp
      exact (mem_dictSet _ _ _ _ hp).elim (h0 p) fun h2 => h2 ▸ htmlStored_storable k v w hw
  · refine setMany_forall md .xml XmlStorable (fun d k v d' h h0 p hp => ?_) sets d0 d
    rw [(xmlSet_spec md d k v).2 d' h] at hp
    exact (mem_dictSet _ _ _ _ hp).elim (h0 p) fun h2 => h2 ▸ xmlStored_storable v

example : setMany 4300 .html [] [(.plain [107], .int 0), (.plain [108], .bool true), (.plain [107], .float [48, 46, 53] false)]
    = .ok [([107], .str [48, 46, 53]), ([108], .str [108])] := by decide

/-- The plain `AttributeDict` — the class html.parser-built tags hold unless the builder is told otherwise
    (`TreeBuilder.__init__` default, read by `BeautifulSoupHTMLParser.__init__`) — coerces nothing. -/
theorem plain_dict_no_coercion (md : Nat) (d : Items) (k : Key) (v : PyVal) :
    setItem md .plain d k v = .ok (dictSet d k.str v) := rfl

/-- Documentation of the defect in the unrepaired code (element.py:280, `value in (False, None)`): `0`, `0.0`, `-0.0`
    and `0j` are *removed* instead of stored, although the documented coercion stores `"0"`/`"0.0"`. -/
theorem old_membership_test_drops_zero :
    htmlSetOld 4300 [(ofS "k", .str (ofS "v"))] (.plain (ofS "k")) (.int 0) = .ok [] ∧
    htmlSetOld 4300 [] (.plain (ofS "k")) (.float (ofS "0.0") true) = .ok [] ∧
    htmlSetOld 4300 [] (.plain (ofS "k")) (.float (ofS "-0.0") true) = .ok [] ∧
    htmlSetOld 4300 [] (.plain (ofS "k")) (.other 7 true) = .ok [] ∧
    htmlStored (.plain (ofS "k")) (.int 0) = some (.str (ofS "0")) ∧
    htmlStored (.plain (ofS "k")) (.float (ofS "0.0") true) = some (.str (ofS "0.0")) := by
  decide_pstr

/-- … and that is the whole difference: on every value that is not a non-`False` object equal to `False`, the
    membership test and the identity test agree. -/
theorem old_agrees_elsewhere (md : Nat) (d : Items) (k : Key) (v : PyVal)
    (h : eqFalse v = false ∨ v = .bool false) : htmlSetOld md d k v = htmlSet md d k v := by
  rcases h with h | h
  · cases v <;> simp_all [htmlSetOld, eqFalse, htmlSet]
  · subst h; simp [htmlSetOld, eqFalse, htmlSet]

/-! ## duplicate attributes -/

/-- **dup_policy**, `replace` (the default, also `None`): over any attribute list of a start tag, each attribute ends up
    with the value of its *last* occurrence, at the position of its first occurrence. -/
theorem dup_policy_replace (md : Nat) (cls : DictClass) (attrs : List (PStr × Option PStr)) :
    ∃ d, startTagLoop md cls .replace attrs [] = .ok d ∧
      (∀ k, dictGet d k = (valsOf attrs k).getLast?.map .str) ∧
      keys d = dedupAcc [] (attrs.map (·.1)) := by
  obtain ⟨d, hloop, hget, hkeys, _⟩ := startTagLoop_enc_nil (encodes_replace md cls) attrs
  exact ⟨d, hloop, hget, hkeys⟩

/-- `ignore`: each attribute keeps the value of its *first* occurrence. -/
theorem dup_policy_ignore (md : Nat) (cls : DictClass) (attrs : List (PStr × Option PStr)) :
    ∃ d, startTagLoop md cls .ignore attrs [] = .ok d ∧
      (∀ k, dictGet d k = (valsOf attrs k).head?.map .str) ∧
      keys d = dedupAcc [] (attrs.map (·.1)) := by
  obtain ⟨d, hloop, hget, hkeys, _⟩ := startTagLoop_enc_nil (encodes_ignore md cls) attrs
  exact ⟨d, hloop, hget, hkeys⟩

/-- a callable decides for itself; for the documented accumulating handler an attribute given once keeps its string
    and an attribute given several times holds the list of *all* its values in source order. -/
theorem dup_policy_callable_accumulate (md : Nat) (cls : DictClass) (attrs : List (PStr × Option PStr)) :
    ∃ d, startTagLoop md cls (.callable accumulate) attrs [] = .ok d ∧
      (∀ k, dictGet d k = match valsOf attrs k with
        | [] => none
        | [v] => some (.str v)
        | vs => some (.list 0 vs)) ∧
      keys d = dedupAcc [] (attrs.map (·.1)) := by
  obtain ⟨d, hloop, hget, hkeys, _⟩ := startTagLoop_enc_nil (encodes_accumulate md cls) attrs
  exact ⟨d, hloop, hget, hkeys⟩

/-- the callable is consulted for repeated attributes only, with the dictionary so far, the key and the new value
    (`None` already turned into `""`); first occurrences are stored directly -/
theorem dup_policy_callable_called (md : Nat) (cls : DictClass) (f : Items → PStr → PStr → Items)
    (d : Items) (k : PStr) (v : Option PStr) (rest : List (PStr × Option PStr)) :
    startTagLoop md cls (.callable f) ((k, v) :: rest) d =
      if dictHas d k then startTagLoop md cls (.callable f) rest (f d k (rawVal v))
      else startTagLoop md cls (.callable f) rest (dictSet d k (.str (rawVal v))) := by
  by_cases h : dictHas d k = true
  · simp [startTagLoop, h, onDuplicate, Res.bind]
  · simp [startTagLoop, h, setItem_str, Res.bind]

/-- the surviving attributes are exactly the distinct names, in order of first appearance -/
theorem dup_keys_first_occurrence (ks : List PStr) :
    (dedupAcc [] ks).Nodup ∧ ∀ k, k ∈ dedupAcc [] ks ↔ k ∈ ks := by
  refine ⟨nodup_dedupAcc [] ks (by simp), fun k => ?_⟩
  rw [mem_dedupAcc]; simp

example : startTagLoop 0 .plain .replace [(ofS "a", some (ofS "1")), (ofS "b", none), (ofS "a", some (ofS "2")),
    (ofS "a", some (ofS "3"))] [] = .ok [(ofS "a", .str (ofS "3")), (ofS "b", .str [])] := by decide_pstr
example : startTagLoop 0 .plain .ignore [(ofS "a", some (ofS "1")), (ofS "b", none), (ofS "a", some (ofS "2"))] []
    = .ok [(ofS "a", .str (ofS "1")), (ofS "b", .str [])] := by decide_pstr
example : startTagLoop 0 .plain (.callable accumulate) [(ofS "a", some (ofS "1")), (ofS "a", none),
    (ofS "a", some (ofS "3"))] [] = .ok [(ofS "a", .list 0 [ofS "1", [], ofS "3"])] := by decide_pstr

/-! ## end to end: a start tag through html.parser -/

/-- For a builder with a non-empty multi-valued map `m`, **any** attribute dictionary class (`attribute_dict_class`),
    any list class and the `replace` policy, a start tag `<name k1=v1 k2=v2 …>` yields a tag whose dictionary is of that
    class and whose attribute `k` holds: nothing if `k` does not occur; the token list of its last value if `m` covers
    `(name.lower(), k)`; its last value verbatim otherwise — in order of first appearance. -/
theorem parsed_start_tag (md : Nat) (lower : PStr → PStr) (m : CdataMap) (hm : m ≠ []) (cls : DictClass) (lc : Nat) (x : Bool)
    (name : PStr) (attrs : List (PStr × Option PStr)) :
    ∃ t, parseStartTag md lower ⟨some m, cls, lc, x⟩ .replace name attrs = .ok t ∧ t.cls = cls ∧ t.listCls = lc ∧
      keys t.items = dedupAcc [] (attrs.map (·.1)) ∧
      ∀ k, dictGet t.items k = (valsOf attrs k).getLast?.map
        (fun s => if isMulti m lower name k then .list lc (splitWs s) else .str s) := by
  obtain ⟨t, hparse, hcls, hlc, hkeys, hget⟩ := parseStartTag_enc (encodes_replace md cls) lower m hm lc x name attrs
  refine ⟨t, hparse, hcls, hlc, hkeys, fun k => ?_⟩
  rw [hget k, encReplace, Option.map_map]; rfl

/-- … and with `multi_valued_attributes=None` every attribute holds its last value verbatim. -/
theorem parsed_start_tag_none (md : Nat) (lower : PStr → PStr) (cls : DictClass) (lc : Nat) (x : Bool) (name : PStr)
    (attrs : List (PStr × Option PStr)) :
    ∃ t, parseStartTag md lower ⟨none, cls, lc, x⟩ .replace name attrs = .ok t ∧ t.cls = cls ∧
      keys t.items = dedupAcc [] (attrs.map (·.1)) ∧
      ∀ k, dictGet t.items k = (valsOf attrs k).getLast?.map .str := by
  obtain ⟨d, hloop, hget, hkeys, hnd, hstr⟩ := startTagLoop_enc_nil (encodes_replace md cls) attrs
  refine ⟨⟨cls, lc, d, x⟩, ?_, rfl, hkeys, hget⟩
  simp only [parseStartTag, hloop, Res.bind, tagInit, truthyMap, Bool.false_eq_true, if_false]
  rw [copyInto_fixed md cls d [] (by simpa using hnd) fun p hp => isFixed_strOrList md cls _ (hstr p hp)]
  rfl

example : parseStartTag 0 pyLower ⟨some BS.Gen.c17DefaultCdataListAttributes, .html, 1, false⟩ .replace (ofS "a")
    [(ofS "rel", some (ofS "x")), (ofS "id", some (ofS "p q")), (ofS "rel", some (ofS " y\tz "))]
    = .ok ⟨.html, 1, [(ofS "rel", .list 1 [ofS "y", ofS "z"]), (ofS "id", .str (ofS "p q"))], false⟩ := by decide_pstr

/-! ## histories: every attribute owns its value

The documented meaning has no sharing between attributes: the state of a session is the list of tags made so far, each
with its own values. The code refines this only if it never hands the same list object to two attributes (the harness
checks object identity and replays in-place changes). -/

/-- Changing one attribute's list in place (`tag_i[k].append(…)`, `.remove`, `.clear`, `.sort`, `+=`, …) changes that
    value by the list operation and **nothing else**: every other attribute of every tag made so far — same document,
    another document of the same builder, `new_tag` results, copies — keeps its value; names, dictionary classes and key
    order stay. -/
theorem mutate_leaves_others_unchanged (md : Nat) (lower : PStr → PStr) (b : BuilderCfg) (st : Hist) (i : Nat)
    (k : PStr) (op : ListOp) :
    ∃ st', histStep md lower b st (.mutate i k op) = .ok st' ∧ st'.length = st.length ∧
      (∀ j k', (j ≠ i ∨ k' ≠ k) → attrAt st' j k' = attrAt st j k') ∧
      attrAt st' i k = (attrAt st i k).map (mutateValue op) ∧
      (∀ j : Nat, (st'[j]?).map (fun (p : PStr × TagAttrs) => (p.1, p.2.cls, p.2.listCls, keys p.2.items))
          = (st[j]?).map (fun (p : PStr × TagAttrs) => (p.1, p.2.cls, p.2.listCls, keys p.2.items))) := by
  refine ⟨_, rfl, length_modifyAt _ _ _, fun j k' h => ?_, ?_, fun j => ?_⟩
  · by_cases hj : j = i
    · subst hj
      exact attrAt_modifyAt_self st j (mutateTag · k op) k' id rfl fun t =>
        (dictGet_mutateTag t k k' op).trans (if_neg (h.resolve_left fun h => h rfl))
    · exact attrAt_modifyAt_ne st hj _ k'
  · exact attrAt_modifyAt_self st i (mutateTag · k op) k _ rfl fun t => (dictGet_mutateTag t k k op).trans (if_pos rfl)
  · rw [getElem?_modifyAt]
    split
    · cases st[j]? with
      | none => rfl
      | some p =>
        obtain ⟨h1, h2, h3⟩ := mutateTag_frame p.2 k op
        simp [h1, h2, h3]
    · rfl

example : histStep 0 pyLower ⟨some BS.Gen.c17DefaultCdataListAttributes, .plain, 1, false⟩
    [(ofS "p", ⟨.plain, 1, [(ofS "class", .list 1 [ofS "a", ofS "b"])], false⟩),
     (ofS "p", ⟨.plain, 1, [(ofS "class", .list 1 [ofS "a", ofS "b"])], false⟩)] (.mutate 0 (ofS "class") (.append (ofS "x")))
    = .ok [(ofS "p", ⟨.plain, 1, [(ofS "class", .list 1 [ofS "a", ofS "b", ofS "x"])], false⟩),
           (ofS "p", ⟨.plain, 1, [(ofS "class", .list 1 [ofS "a", ofS "b"])], false⟩)] := by decide_pstr

/-- Making another tag — a later start tag (same or later document), `new_tag`, a copy — leaves every tag made before
    exactly as it was. -/
theorem creation_leaves_earlier_tags_unchanged (md : Nat) (lower : PStr → PStr) (b : BuilderCfg) (st st' : Hist)
    (s : Step) (hs : (∃ n a, s = .parse n a) ∨ (∃ n d, s = .newTag n d) ∨ (∃ i, s = .copy i) ∨ (∃ i x, s = .ctor i x))
    (h : histStep md lower b st s = .ok st') : ∀ j, j < st.length → st'[j]? = st[j]? := by
  intro j hj
  have key : ∀ (r : Res TagAttrs) (n : PStr),
      (r.bind fun t => Res.ok (st ++ [(n, t)])) = .ok st' → st'[j]? = st[j]? := by
    rintro (t | _) n hr <;> cases hr
    exact List.getElem?_append_left hj
  rcases hs with ⟨n, a, rfl⟩ | ⟨n, d, rfl⟩ | ⟨i, rfl⟩ | ⟨i, x, rfl⟩ <;> rw [histStep] at h
  · exact key _ _ h
  · exact key _ _ h
  · split at h
    · exact key _ _ h
    · cases h; rfl
  · split at h
    · exact key _ _ h
    · cases h; rfl

/-- A start tag parsed *after* any history — earlier documents of the same builder, in-place changes to their lists —
    gets the same attributes as if it were the first thing the builder ever saw: the documented tokens of its own values. -/
theorem later_parse_independent_of_history (md : Nat) (lower : PStr → PStr) (m : CdataMap) (hm : m ≠ [])
    (cls : DictClass) (lc : Nat) (x : Bool) (st1 st2 : Hist) (name : PStr) (attrs : List (PStr × Option PStr)) :
    ∃ t, histStep md lower ⟨some m, cls, lc, x⟩ st1 (.parse name attrs) = .ok (st1 ++ [(name, t)]) ∧
         histStep md lower ⟨some m, cls, lc, x⟩ st2 (.parse name attrs) = .ok (st2 ++ [(name, t)]) ∧
         ∀ k, dictGet t.items k = (valsOf attrs k).getLast?.map
           (fun s => if isMulti m lower name k then .list lc (splitWs s) else .str s) := by
  obtain ⟨t, hparse, _, _, _, hget⟩ := parsed_start_tag md lower m hm cls lc x name attrs
  exact ⟨t, by simp [histStep, hparse, Res.bind], by simp [histStep, hparse, Res.bind], hget⟩

/-- the in-place operations are the list operations of Python (`sort` orders by code point, stably for equal strings) -/
theorem list_ops_examples :
    applyListOp (.append [120]) [[97], [98]] = [[97], [98], [120]] ∧
    applyListOp (.remove [97]) [[97], [98], [97]] = [[98], [97]] ∧
    applyListOp .clear [[97]] = [] ∧
    applyListOp .sort [[98], [97, 97], [97], [66]] = [[66], [97], [97, 97], [98]] ∧
    applyListOp (.iadd [[99], [100]]) [[97]] = [[97], [99], [100]] ∧
    applyListOp .reverse [[97], [98]] = [[98], [97]] ∧
    applyListOp .pop [[97], [98]] = [[97]] ∧
    applyListOp (.insert0 [120]) [[97]] = [[120], [97]] := by decide +kernel

/-! ## the whole table, not a sample -/

/-- **Every** entry of the generated default table is honoured, for every spelling of the element name that
    lower-cases to the entry's key, and the `*` entries on every element whatsoever. -/
theorem default_table_every_entry_honoured (lower : PStr → PStr) (tag a : PStr) (e : PStr × List PStr)
    (he : e ∈ BS.Gen.c17DefaultCdataListAttributes) (ha : a ∈ e.2) (hk : e.1 = star ∨ e.1 = lower tag) :
    isMulti BS.Gen.c17DefaultCdataListAttributes lower tag a = true :=
  isMulti_of_entry _ lower tag a (by decide +kernel) e he ha hk

/-- … and nothing else is: an attribute is multi-valued only through an entry of the table (any map). -/
theorem multi_valued_only_through_an_entry (m : CdataMap) (lower : PStr → PStr) (tag a : PStr)
    (h : isMulti m lower tag a = true) : ∃ e ∈ m, a ∈ e.2 ∧ (e.1 = star ∨ e.1 = lower tag) :=
  entry_of_isMulti m lower tag a h

example : ∃ e ∈ BS.Gen.c17DefaultCdataListAttributes, ofS "headers" ∈ e.2 ∧ (e.1 = star ∨ e.1 = pyLower (ofS "TH")) :=
  multi_valued_only_through_an_entry _ pyLower (ofS "TH") (ofS "headers") (by decide +kernel)

/-- the documented (element, attribute) pairs are all entries of the generated table (`*` = every element) -/
theorem documented_pairs_in_table :
    ∀ p ∈ [("*", "class"), ("*", "accesskey"), ("*", "dropzone"), ("a", "rel"), ("a", "rev"), ("link", "rel"),
           ("link", "rev"), ("td", "headers"), ("th", "headers"), ("form", "accept-charset"), ("object", "archive"),
           ("area", "rel"), ("icon", "sizes"), ("iframe", "sandbox"), ("output", "for")],
      ∃ e ∈ BS.Gen.c17DefaultCdataListAttributes, e.1 = ofS p.1 ∧ ofS p.2 ∈ e.2 := by decide +kernel

/-- On ASCII names `str.lower` is ASCII lower-casing (checked for all 128 code points against the generated table), so
    for every ASCII spelling of an element name the lookup is the one for its lower-case form. -/
theorem ascii_names_case_insensitive (m : CdataMap) (tag a : PStr) (h : ∀ c ∈ tag, c < 128) :
    isMulti m pyLower tag a = isMulti m pyLower (asciiLower tag) a :=
  multi_valued_case_insensitive m pyLower tag (asciiLower tag) a (pyLower_asciiLower tag h).symm

example : isMulti BS.Gen.c17DefaultCdataListAttributes pyLower (ofS "TaBlE") (ofS "class") = true := by decide_pstr

/-- No attribute name of the default table contains a colon, so a prefixed attribute (`svg:class`, `xlink:href`,
    `xml:lang`, any `NamespacedAttribute` with prefix and name) is never split under the default table — on any
    element; a `NamespacedAttribute` without prefix is its bare name and is treated like the plain key. -/
theorem prefixed_attributes_never_split (lower : PStr → PStr) (tag p n : PStr) (hp : p ≠ []) (hn : n ≠ []) :
    (mkNs (some p) (some n)).str = p ++ 58 :: n ∧
    isMulti BS.Gen.c17DefaultCdataListAttributes lower tag (mkNs (some p) (some n)).str = false ∧
    (mkNs none (some n)).str = n ∧ (mkNs (some []) (some n)).str = n := by
  obtain ⟨a, as, rfl⟩ := List.exists_cons_of_ne_nil hp
  obtain ⟨b, bs, rfl⟩ := List.exists_cons_of_ne_nil hn
  have hnocolon : ∀ e ∈ BS.Gen.c17DefaultCdataListAttributes, ∀ a ∈ e.2, a.contains 58 = false := by decide +kernel
  refine ⟨rfl, isMulti_false_of_not_listed _ lower tag _ fun e he hm => ?_, rfl, rfl⟩
  simpa [mkNs, Key.str] using hnocolon e he _ hm

example : isMulti BS.Gen.c17DefaultCdataListAttributes pyLower (ofS "svg:a") (ofS "rel") = false ∧
    isMulti BS.Gen.c17DefaultCdataListAttributes pyLower (ofS "svg:a") (ofS "class") = true := by decide_pstr

/-- A builder that defines no table of its own (the base `TreeBuilder` default, which XML builders use) splits nothing,
    in any dictionary class; the generated base table is empty. -/
theorem base_table_splits_nothing (md : Nat) (lower : PStr → PStr) (lc : Nat) (cls : DictClass) (tag : PStr) (d : Items) :
    BS.Gen.c17BaseCdataListAttributes = [] ∧
    replaceCdataList md (some BS.Gen.c17BaseCdataListAttributes) lower lc cls tag d = .ok d :=
  ⟨by decide, (none_disables md lower lc cls tag d).2⟩

/-! ## duplicate policy × splitting -/

/-- For **any** duplicate policy (callables included): if the policy's loop leaves a dictionary of strings and lists,
    the tag holds exactly `replaceSpec` of it — the policy decides the surviving value, the table decides the split,
    and a value the handler already turned into a list is left alone. -/
theorem parsed_start_tag_any_policy (md : Nat) (lower : PStr → PStr) (m : CdataMap) (hm : m ≠ []) (cls : DictClass)
    (lc : Nat) (x : Bool) (onDup : OnDup) (name : PStr) (attrs : List (PStr × Option PStr)) (d : Items)
    (hloop : startTagLoop md cls onDup attrs [] = .ok d) (hnd : (keys d).Nodup) (hd : ∀ p ∈ d, StrOrList p.2) :
    parseStartTag md lower ⟨some m, cls, lc, x⟩ onDup name attrs
      = .ok ⟨cls, lc, replaceSpec (some m) lower lc name d, x⟩ :=
  parseStartTag_of_loop md lower m hm cls lc x onDup name attrs d hloop hnd hd

/-- `ignore` × splitting: every attribute holds the tokens (if covered) or the text (if not) of its **first** value. -/
theorem parsed_start_tag_ignore (md : Nat) (lower : PStr → PStr) (m : CdataMap) (hm : m ≠ []) (cls : DictClass)
    (lc : Nat) (x : Bool) (name : PStr) (attrs : List (PStr × Option PStr)) :
    ∃ t, parseStartTag md lower ⟨some m, cls, lc, x⟩ .ignore name attrs = .ok t ∧
      keys t.items = dedupAcc [] (attrs.map (·.1)) ∧
      ∀ k, dictGet t.items k = (valsOf attrs k).head?.map
        (fun s => if isMulti m lower name k then .list lc (splitWs s) else .str s) := by
  obtain ⟨t, hparse, _, _, hkeys, hget⟩ := parseStartTag_enc (encodes_ignore md cls) lower m hm lc x name attrs
  refine ⟨t, hparse, hkeys, fun k => ?_⟩
  rw [hget k, encIgnore, Option.map_map]; rfl

/-- the accumulating handler × splitting: an attribute given once is split (if covered) as usual; an attribute given
    several times holds the plain list of its **raw** values — the raw values are not split again, even when the
    attribute is multi-valued (so `class="a b" class="c"` is stored as `["a b", "c"]`). -/
theorem parsed_start_tag_accumulate (md : Nat) (lower : PStr → PStr) (m : CdataMap) (hm : m ≠ []) (cls : DictClass)
    (lc : Nat) (x : Bool) (name : PStr) (attrs : List (PStr × Option PStr)) :
    ∃ t, parseStartTag md lower ⟨some m, cls, lc, x⟩ (.callable accumulate) name attrs = .ok t ∧
      keys t.items = dedupAcc [] (attrs.map (·.1)) ∧
      ∀ k, dictGet t.items k = match valsOf attrs k with
        | [] => none
        | [s] => some (if isMulti m lower name k then .list lc (splitWs s) else .str s)
        | vs => some (.list 0 vs) := by
  obtain ⟨t, hparse, _, _, hkeys, hget⟩ := parseStartTag_enc (encodes_accumulate md cls) lower m hm lc x name attrs
  refine ⟨t, hparse, hkeys, fun k => ?_⟩
  rw [hget k]
  match valsOf attrs k with
  | [] | [_] => rfl
  | _ :: _ :: _ => cases isMulti m lower name k <;> rfl

example : parseStartTag 0 pyLower ⟨some BS.Gen.c17DefaultCdataListAttributes, .plain, 1, false⟩ (.callable accumulate)
    (ofS "p") [(ofS "class", some (ofS "a b")), (ofS "id", some (ofS "x y")), (ofS "class", some (ofS "c"))]
    = .ok ⟨.plain, 1, [(ofS "class", .list 0 [ofS "a b", ofS "c"]), (ofS "id", .str (ofS "x y"))], false⟩ := by
  decide_pstr

/-! ## written back -/

/-- For **every** list of strings (tokens or not): joining by single spaces and splitting again gives the tokens of the
    elements, in order. For a list of tokens that is the list itself (`split_join_tokens`); for the accumulated raw values
    above it is the flattened token list. -/
theorem written_back_and_reread (l : List PStr) : splitWs (joinSp l) = l.flatMap splitWs :=
  splitWs_joinSp_flat l

example : splitWs (joinSp [ofS "a b", [], ofS " c"]) = [ofS "a", ofS "b", ofS "c"] := by decide_pstr

/-- `Formatter.attributes`: every attribute exactly once (a permutation of the dictionary), in key order, and — only
    with `empty_attributes_are_booleans` — a value equal to `""` turned into `None`; nothing else is touched. -/
theorem formatter_attributes_spec (e : Bool) (items : Items) :
    ((fmtAttributes e items).map (·.1)).Perm (keys items) ∧ SortedAdj (fmtAttributes e items) ∧
    ∀ p, p ∈ fmtAttributes e items ↔
      ∃ q ∈ items, p = (q.1, if e && q.2 == PyVal.str [] then PyVal.none else q.2) := by
  refine ⟨?_, sortItems_sorted _, mem_fmtAttributes e items⟩
  have := (sortItems_perm (items.map fun p => (p.1, if e && p.2 == PyVal.str [] then PyVal.none else p.2))).map (·.1)
  rwa [List.map_map] at this

/-- The registered formatters: `empty_attributes_are_booleans` is set for `html5` and `html5-4.12` and for no other
    (whole generated registry; rows: XML?, name, flag). -/
theorem registry_empty_attribute_flags :
    ∀ f ∈ BS.Gen.c17FormatterRegistry,
      f.2.2 = (f.1 == false && (f.2.1 == ofS "html5" || f.2.1 == ofS "html5-4.12")) := by decide_pstr

/-- One attribute, for every value: `None` → the bare key; a list or tuple → `key="…"` with the elements joined by
    single spaces; a string → itself; `True`/`False` → `True`/`False`; numbers → their `str`; then entity substitution and
    quoting. An empty string is a bare key exactly under `empty_attributes_are_booleans`. -/
theorem format_attribute_spec (md : Nat) (f : FmtCfg) (k : PStr) :
    formatAttr md f (k, .none) = .ok k ∧
    (∀ c l, formatAttr md f (k, .list c l) = .ok (k ++ 61 :: quotedAttributeValue (f.subst (joinSp l)))) ∧
    (∀ l, formatAttr md f (k, .tuple l) = .ok (k ++ 61 :: quotedAttributeValue (f.subst (joinSp l)))) ∧
    (∀ s, formatAttr md f (k, .str s) = .ok (k ++ 61 :: quotedAttributeValue (f.subst s))) ∧
    (∀ t z, formatAttr md f (k, .float t z) = .ok (k ++ 61 :: quotedAttributeValue (f.subst t))) ∧
    (∀ b, formatAttr md f (k, .bool b) = .ok (k ++ 61 :: quotedAttributeValue (f.subst (if b then trueStr else falseStr)))) ∧
    (∀ i, ¬ tooBig md (.int i) → formatAttr md f (k, .int i) = .ok (k ++ 61 :: quotedAttributeValue (f.subst (intStr i)))) ∧
    (∀ i, tooBig md (.int i) → formatAttr md f (k, .int i) = .valueError) ∧
    fmtAttributes true [(k, .str [])] = [(k, .none)] ∧ fmtAttributes false [(k, .str [])] = [(k, .str [])] := by
  refine ⟨rfl, fun _ _ => rfl, fun _ => rfl, fun _ => rfl, fun _ _ => rfl, fun _ => rfl, ?_, ?_, ?_, ?_⟩
  · intro i h
    simp only [tooBig] at h
    simp [formatAttr, renderVal, pyStrInt, h]
  · intro i h
    simp only [tooBig] at h
    simp [formatAttr, renderVal, pyStrInt, h]
  · simp [fmtAttributes, sortItems, insertItem]
  · simp [fmtAttributes, sortItems, insertItem]

/-- the quoting never lets the value end the attribute early: the result is the body between two equal quote
    characters, and that quote character does not occur in the body -/
theorem quoting_delimits (v : PStr) :
    ∃ q body, (q = 34 ∨ q = 39) ∧ quotedAttributeValue v = q :: body ++ [q] ∧ q ∉ body := quoted_delimits v

example : quotedAttributeValue (ofS "a\"b'c") = ofS "\"a&quot;b'c\"" ∧ quotedAttributeValue (ofS "a\"b") = ofS "'a\"b'" ∧
    quotedAttributeValue (ofS "it's") = ofS "\"it's\"" := by decide_pstr

/-- the attribute string: nothing for a tag without attributes, otherwise a blank followed by one entry per attribute
    separated by single blanks -/
theorem attribute_string_shape (md : Nat) (f : FmtCfg) (items : Items) (out : PStr)
    (h : attributeString md f items = .ok out) :
    (items = [] → out = []) ∧
    (items ≠ [] → ∃ l, l.length = items.length ∧ out = 32 :: joinSp l ∧
        formatAttrs md f (fmtAttributes f.emptyBool items) = .ok l) := by
  rw [attributeString] at h
  cases hl : formatAttrs md f (fmtAttributes f.emptyBool items) with
  | valueError => simp [hl, Res.bind] at h
  | ok l =>
    have hlen : l.length = items.length := by
      rw [(formatAttrs_ok md f _ l hl).1, ← List.length_map (·.1),
        (formatter_attributes_spec f.emptyBool items).1.length_eq, keys, List.length_map]
    rw [hl, Res.bind, Res.ok.injEq] at h
    subst h
    cases l with
    | nil => exact ⟨fun _ => rfl, fun hne => absurd (List.length_eq_zero_iff.mp hlen.symm) hne⟩
    | cons a as => exact ⟨fun he => by simp [he] at hlen, fun _ => ⟨_, hlen, rfl, rfl⟩⟩

example : attributeString 0 ⟨true, id, fun _ => []⟩
    [(ofS "id", .str []), (ofS "class", .list 1 [ofS "a", ofS "b"]), (ofS "checked", .none)]
    = .ok (ofS " checked class=\"a b\" id") := by decide_pstr

/-- Parsed, then written back (any dictionary class, any list class, replace policy, any formatter): every attribute of
    the start tag comes out once; a multi-valued one as `k="…"` with its tokens separated by single spaces (whatever
    whitespace the source had), any other one with its last value verbatim (before entity substitution and quoting);
    nothing raises. -/
theorem parsed_then_rendered (md : Nat) (lower : PStr → PStr) (m : CdataMap) (hm : m ≠ []) (cls : DictClass)
    (lc : Nat) (x : Bool) (name : PStr) (attrs : List (PStr × Option PStr)) (f : FmtCfg) :
    ∃ t, parseStartTag md lower ⟨some m, cls, lc, x⟩ .replace name attrs = .ok t ∧
      ∀ k v, dictGet t.items k = some v →
        ∃ s, (valsOf attrs k).getLast? = some s ∧
          formatAttr md f (k, v) = .ok (k ++ 61 :: quotedAttributeValue
            (f.subst (if isMulti m lower name k then joinSp (splitWs s) else s))) := by
  obtain ⟨t, hparse, _, _, _, hget⟩ := parsed_start_tag md lower m hm cls lc x name attrs
  refine ⟨t, hparse, fun k v hv => ?_⟩
  obtain ⟨s, hs, rfl⟩ := Option.map_eq_some_iff.mp ((hget k).symm.trans hv)
  exact ⟨s, hs, by cases isMulti m lower name k <;> rfl⟩

example : attributeString 0 ⟨false, id, fun _ => []⟩
    [(ofS "rel", .list 1 (splitWs (ofS " y\t\tz "))), (ofS "id", .str (ofS "p  q"))]
    = .ok (ofS " id=\"p  q\" rel=\"y z\"") := by decide_pstr

/-! ## reading and deleting -/

/-- `get_attribute_list` always gives a list: the stored list itself for a multi-valued attribute; `[value]` in the
    tag's list class for a string; an empty list of the tag's list class when the attribute is missing (no default) or
    holds `None`. -/
theorem get_attribute_list_spec (t : TagAttrs) (k : PStr) :
    (dictGet t.items k = none → getAttributeList t k .none = .strs t.listCls []) ∧
    (dictGet t.items k = some .none → getAttributeList t k .none = .strs t.listCls []) ∧
    (∀ c l, dictGet t.items k = some (.list c l) → getAttributeList t k .none = .strs c l) ∧
    (∀ s, dictGet t.items k = some (.str s) → getAttributeList t k .none = .strs t.listCls [s]) ∧
    (∀ c l, dictGet t.items k = none → getAttributeList t k (.list c l) = .strs c l) := by
  refine ⟨?_, ?_, ?_, ?_, ?_⟩ <;> intros <;> simp_all [getAttributeList, tagGet]

/-- on a parsed tag (any dictionary class, replace policy): the tokens of the last value for a multi-valued attribute,
    the one-element list of the last value otherwise, the empty list for an attribute that does not occur -/
theorem get_attribute_list_parsed (md : Nat) (lower : PStr → PStr) (m : CdataMap) (hm : m ≠ []) (cls : DictClass)
    (lc : Nat) (x : Bool) (name : PStr) (attrs : List (PStr × Option PStr)) :
    ∃ t, parseStartTag md lower ⟨some m, cls, lc, x⟩ .replace name attrs = .ok t ∧
      ∀ k, getAttributeList t k .none = match (valsOf attrs k).getLast? with
        | none => .strs lc []
        | some s => if isMulti m lower name k then .strs lc (splitWs s) else .strs lc [s] := by
  obtain ⟨t, hparse, _, hlc, _, hget⟩ := parsed_start_tag md lower m hm cls lc x name attrs
  refine ⟨t, hparse, fun k => ?_⟩
  simp only [getAttributeList, tagGet, hget k, hlc]
  cases (valsOf attrs k).getLast? with
  | none => rfl
  | some s => cases isMulti m lower name k <;> rfl

/-- `del tag[k]`: the attribute is gone, nothing else changes (value or order), deleting a missing attribute or
    deleting twice is harmless. -/
theorem del_spec (t : TagAttrs) (k : PStr) :
    hasAttr (tagDel t k) k = false ∧ (∀ d, tagGet (tagDel t k) k d = d) ∧
    (∀ k' d, k' ≠ k → tagGet (tagDel t k) k' d = tagGet t k' d ∧ hasAttr (tagDel t k) k' = hasAttr t k') ∧
    keys (tagDel t k).items = (keys t.items).filter (fun x => !(x == k)) ∧
    tagDel (tagDel t k) k = tagDel t k ∧ (hasAttr t k = false → tagDel t k = t) := by
  refine ⟨by simp [hasAttr_tagDel], fun d => by simp [tagGet, tagDel, dictGet_dictDel], fun k' d h => ?_,
    keys_dictDel _ _, ?_, fun h => ?_⟩
  · exact ⟨by simp [tagGet, tagDel, dictGet_dictDel, h], by simp [hasAttr_tagDel, h]⟩
  · simp [tagDel, dictDel, List.filter_filter]
  · rw [tagDel, dictDel_of_not_has _ _ h]

/-- in a history, `del tag_i[k]` touches that attribute only -/
theorem del_leaves_others_unchanged (md : Nat) (lower : PStr → PStr) (b : BuilderCfg) (st : Hist) (i : Nat) (k : PStr) :
    ∃ st', histStep md lower b st (.del i k) = .ok st' ∧ st'.length = st.length ∧
      (∀ j k', (j ≠ i ∨ k' ≠ k) → attrAt st' j k' = attrAt st j k') ∧ attrAt st' i k = none := by
  refine ⟨_, rfl, length_modifyAt _ _ _, fun j k' h => ?_, ?_⟩
  · by_cases hj : j = i
    · subst hj
      exact attrAt_modifyAt_self st j (tagDel · k) k' id rfl fun t =>
        (dictGet_dictDel t.items k k').trans (if_neg (h.resolve_left fun h => h rfl))
    · exact attrAt_modifyAt_ne st hj _ k'
  · exact attrAt_modifyAt_self st i (tagDel · k) k (fun _ => none) rfl fun t => (dictGet_dictDel t.items k k).trans (if_pos rfl)

/-- A copy (`copy_self`) holds the same kind of dictionary as the original, keeps `is_xml`, uses the default list
    class, and its values are the original's values assigned through that dictionary class (lists in new lists); it
    fails only if that assignment fails (an HTML/XML container meeting an int beyond the digit limit). -/
theorem copy_keeps_container (md : Nat) (lower : PStr → PStr) (b : BuilderCfg) (st : Hist) (i : Nat)
    (n : PStr) (t : TagAttrs) (hi : st[i]? = some (n, t)) :
    (∀ st', histStep md lower b st (.copy i) = .ok st' →
      ∃ t', st' = st ++ [(n, t')] ∧ t'.cls = t.cls ∧ t'.listCls = 1 ∧ t'.isXml = t.isXml ∧
        copyInto md t.cls t.items [] = .ok t'.items) ∧
    (histStep md lower b st (.copy i) = .valueError ↔ copyInto md t.cls t.items [] = .valueError) := by
  simp only [histStep, hi, copyTag, tagInit]
  cases hc : copyInto md t.cls t.items [] with
  | valueError => simp [Res.bind]
  | ok d' =>
    refine ⟨?_, by simp [Res.bind]⟩
    intro st' h
    simp only [Res.bind, Res.ok.injEq] at h
    exact ⟨_, h.symm, rfl, rfl, rfl, rfl⟩

/-- a copy of a tag whose *plain* dictionary holds anything at all never fails and holds exactly the same items -/
theorem copy_of_plain_dict_never_fails (md : Nat) (lower : PStr → PStr) (n : PStr) (lc : Nat) (x : Bool) (d : Items)
    (hnd : (keys d).Nodup) : copyTag md lower n ⟨.plain, lc, d, x⟩ = .ok ⟨.plain, 1, d, x⟩ :=
  copyTag_fixed md lower n ⟨.plain, lc, d, x⟩ hnd fun _ _ => isFixed_plain md _

/-- Documentation of the defect `C17-copy-first-pass-huge-int`, repaired by fixes/C17-copy-no-constructor-pass.diff: with the constructor still handed
    the attributes, copying a tag whose plain dictionary holds an int beyond the digit limit raised `ValueError` (the
    discarded HTML container called `str()` on it), while the repaired copy keeps the value. -/
theorem copy_first_pass_raises_old :
    copyTagOld 2 pyLower (ofS "a") ⟨.plain, 1, [(ofS "n", .int 100)], false⟩ = .valueError ∧
    copyTag 2 pyLower (ofS "a") ⟨.plain, 1, [(ofS "n", .int 100)], false⟩
      = .ok ⟨.plain, 1, [(ofS "n", .int 100)], false⟩ := by decide_pstr

/-- … and for a tag as a parser leaves it (distinct keys, strings and lists) the copy's attributes are exactly the
    original's, whatever the dictionary class. -/
theorem copy_of_parsed_tag_identical (md : Nat) (lower : PStr → PStr) (n : PStr) (t : TagAttrs)
    (hnd : (keys t.items).Nodup) (hd : ∀ p ∈ t.items, StrOrList p.2) :
    copyTag md lower n t = .ok { t with listCls := 1 } :=
  copyTag_fixed md lower n t hnd fun p hp => isFixed_strOrList md _ _ (hd p hp)

example : copyTag 0 pyLower (ofS "p") ⟨.plain, 2, [(ofS "class", .list 2 [ofS "a"]), (ofS "k", .int 0)], false⟩
    = .ok ⟨.plain, 1, [(ofS "class", .list 2 [ofS "a"]), (ofS "k", .int 0)], false⟩ := by decide_pstr

/-- A copy is **identical** to the original (up to the list class of the tag) whenever every value is one its
    dictionary class stores unchanged — which is the case for: any value in a plain `AttributeDict`; strings and lists
    in any class; everything an `HTMLAttributeDict` can hold except `None`; everything an `XMLAttributeDict` can hold
    (so, with `containers_hold_no_numbers`, for every dictionary produced by assignments). -/
theorem copy_identical_when_values_settled (md : Nat) (lower : PStr → PStr) (n : PStr) (t : TagAttrs)
    (hnd : (keys t.items).Nodup)
    (hd : ∀ p ∈ t.items, t.cls = .plain ∨ StrOrList p.2 ∨ (t.cls = .html ∧ HtmlStorable p.2 ∧ p.2 ≠ .none) ∨
      (t.cls = .xml ∧ XmlStorable p.2)) :
    copyTag md lower n t = .ok { t with listCls := 1 } := by
  refine copyTag_fixed md lower n t hnd fun p hp => ?_
  rcases hd p hp with h | h | ⟨h, h1, h2⟩ | ⟨h, h1⟩
  · rw [h]; exact isFixed_plain md _
  · exact isFixed_strOrList md _ _ h
  · rw [h]; exact isFixed_html md _ h1 h2
  · rw [h]; exact isFixed_xml md _ h1

example : copyTag 0 pyLower (ofS "a") ⟨.xml, 2, [(ofS "k", .bool false), (ofS "c", .list 2 [])], true⟩
    = .ok ⟨.xml, 1, [(ofS "k", .bool false), (ofS "c", .list 2 [])], true⟩ :=
  copy_identical_when_values_settled 0 pyLower _ _ (by decide) (by
    intro p hp; simp at hp
    rcases hp with rfl | rfl
    · exact Or.inr (Or.inr (Or.inr ⟨rfl, trivial⟩))
    · exact Or.inr (Or.inl trivial))

/-- `soup.new_tag(name, attrs=a, **kw)`: the attributes go into the builder's dictionary class **without coercion**
    (`dict(**kw)`, `.update(a)`: `a` wins over a keyword of the same name, which keeps its place), and the tag then
    holds `replaceSpec` of that dictionary — for the default plain class whatever the values are, for any class when the
    values are strings or lists. -/
theorem new_tag_spec (md : Nat) (lower : PStr → PStr) (m : CdataMap) (hm : m ≠ []) (cls : DictClass) (lc : Nat)
    (x : Bool) (name : PStr) (kw a : Items)
    (hv : cls = .plain ∨ ∀ p ∈ rawUpdate (rawUpdate [] kw) a, StrOrList p.2) :
    newTag md lower ⟨some m, cls, lc, x⟩ name kw (some a)
      = .ok ⟨cls, lc, replaceSpec (some m) lower lc name (rawUpdate (rawUpdate [] kw) a), x⟩ ∧
    ∀ k, dictGet (rawUpdate (rawUpdate [] kw) a) k = match dictGet a.reverse k with
      | some v => some v
      | none => dictGet kw.reverse k := by
  have hnd : (keys (rawUpdate (rawUpdate [] kw) a)).Nodup :=
    keys_rawUpdate_nodup _ _ (keys_rawUpdate_nodup _ _ List.nodup_nil)
  refine ⟨tagInit_cdata md lower m hm cls lc x name _ hnd fun p hp => ?_, fun k => ?_⟩
  · rcases hv with h | h
    · exact h ▸ isFixed_plain md _
    · exact isFixed_strOrList md cls _ (strOrList_splitVal lc _ (h p hp))
  · rw [dictGet_rawUpdate, dictGet_rawUpdate]
    cases dictGet a.reverse k with
    | some v => rfl
    | none => cases dictGet kw.reverse k <;> rfl

example : newTag 0 pyLower ⟨some BS.Gen.c17DefaultCdataListAttributes, .plain, 1, false⟩ (ofS "td")
    [(ofS "id", .int 0), (ofS "headers", .str (ofS "k"))] (some [(ofS "headers", .str (ofS "a  b"))])
    = .ok ⟨.plain, 1, [(ofS "id", .int 0), (ofS "headers", .list 1 [ofS "a", ofS "b"])], false⟩ := by decide_pstr

/-! ## the regex engine's view, and the builder's options -/

/-- Refinement: the scanner `splitWs` computes what `re.findall(r"\S+", s)` computes when it is read as the engine
    proceeds — at each position a greedy match attempt, otherwise one character on — for every string. All the laws
    above therefore hold of that reading too. -/
theorem split_is_regex_findall (s : PStr) : findallNonWs s = splitWs s := findallGo_eq _ s (by omega)

example : findallNonWs (ofS "  ab \t c") = [ofS "ab", ofS "c"] := by decide_pstr

/-- `multi_valued_attributes`: leaving it out means the builder class's table, `None` disables splitting, a map replaces
    the table — nothing is merged with the default; the dictionary and list classes default to the plain ones. With the
    resulting configuration the facts above apply: `none_disables`, `custom_map_exact`, `parsed_start_tag`. -/
theorem builder_options_meaning (dflt m : CdataMap) (x : Bool) (dc : Option DictClass) (lc : Option Nat) :
    (mkBuilder dflt x .useDefault dc lc).cdata = some dflt ∧
    (mkBuilder dflt x .none dc lc).cdata = none ∧
    (mkBuilder dflt x (.map m) dc lc).cdata = some m ∧
    (mkBuilder dflt x .useDefault none none).dictCls = .plain ∧ (mkBuilder dflt x .useDefault none none).listCls = 1 ∧
    (∀ c, (mkBuilder dflt x .useDefault (some c) lc).dictCls = c) ∧
    (∀ c, (mkBuilder dflt x .useDefault dc (some c)).listCls = c) ∧
    (mkBuilder dflt x .useDefault dc lc).isXml = x :=
  ⟨rfl, rfl, rfl, rfl, rfl, fun _ => rfl, fun _ => rfl, rfl⟩

/-- `on_duplicate_attribute`: absent, `None` and `"replace"` all mean replace; `"ignore"` ignore; a callable is called;
    any other string is not a policy (Python raises `TypeError` at the first repeated attribute). -/
theorem on_duplicate_setting_meaning (f : Items → PStr → PStr → Items) (s : PStr) :
    resolveOnDup .absent = some .replace ∧ resolveOnDup .pyNone = some .replace ∧
    resolveOnDup (.str replaceStr) = some .replace ∧ resolveOnDup (.str ignoreStr) = some .ignore ∧
    (s ≠ replaceStr → s ≠ ignoreStr → resolveOnDup (.str s) = none) ∧
    (∃ g, resolveOnDup (.callable f) = some (.callable g) ∧ g = f) := by
  refine ⟨rfl, rfl, by simp [resolveOnDup, replaceStr, ignoreStr], by simp [resolveOnDup, ignoreStr], ?_, ⟨f, rfl, rfl⟩⟩
  intro h1 h2
  have e1 : (s == ignoreStr) = false := by simpa using h2
  have e2 : (s == replaceStr) = false := by simpa using h1
  simp [resolveOnDup, e1, e2]

example : resolveOnDup (.str [82, 101, 112, 108, 97, 99, 101]) = none := by
  simp [resolveOnDup, replaceStr, ignoreStr]

/-- `on_duplicate_attribute` is consulted for repeated attributes only: on a start tag whose attribute names are all
    different every setting — replace, ignore, any callable, even a string that is no policy — gives the same tag. -/
theorem policy_irrelevant_without_repeats (md : Nat) (lower : PStr → PStr) (b : BuilderCfg) (p1 p2 : OnDup)
    (a : OnDupArg) (name : PStr) (attrs : List (PStr × Option PStr)) (h : hasDupKey (attrs.map (·.1)) = false) :
    parseStartTag md lower b p1 name attrs = parseStartTag md lower b p2 name attrs ∧
    parseStartTagArg md lower b a name attrs = some (parseStartTag md lower b .replace name attrs) := by
  have hl := fun q => startTagLoop_fresh md b.dictCls q attrs [] (by simpa [keys] using hasDupKey_false_nodup _ h)
  refine ⟨by simp only [parseStartTag, hl], ?_⟩
  unfold parseStartTagArg
  cases resolveOnDup a with
  | none => simp [h]
  | some p => simp only [parseStartTag, hl]

example : hasDupKey ([(ofS "id", some (ofS "x")), (ofS "class", none)].map (·.1)) = false := by decide_pstr

/-- … and a string that is neither `"replace"` nor `"ignore"` fails (`TypeError`) exactly when an attribute repeats. -/
theorem bad_policy_string_fails_iff_repeat (md : Nat) (lower : PStr → PStr) (b : BuilderCfg) (s : PStr)
    (h1 : s ≠ replaceStr) (h2 : s ≠ ignoreStr) (name : PStr) (attrs : List (PStr × Option PStr)) :
    parseStartTagArg md lower b (.str s) name attrs = none ↔ hasDupKey (attrs.map (·.1)) = true := by
  have hr : resolveOnDup (.str s) = none := by
    simp [resolveOnDup, show (s == ignoreStr) = false by simpa using h2, show (s == replaceStr) = false by simpa using h1]
  unfold parseStartTagArg
  rw [hr]
  cases hasDupKey (attrs.map (·.1)) <;> simp

/-- The option has two routes, the builder keyword and `parser_kwargs`: a policy given through `parser_kwargs` alone is
    the policy in force (it is not overwritten by the absent keyword); a keyword that is passed wins over it. -/
theorem on_duplicate_routes (a b : OnDupArg) :
    effectiveOnDup none (some a) = a ∧ effectiveOnDup (some a) none = a ∧ effectiveOnDup (some a) (some b) = a ∧
    effectiveOnDup none none = .absent := ⟨rfl, rfl, rfl, rfl⟩

/-- … so `ignore` given through `parser_kwargs` keeps the first value of every repeated attribute, exactly as through
    the keyword (any start tag, any builder configuration). -/
theorem parser_kwargs_policy_decides (md : Nat) (lower : PStr → PStr) (b : BuilderCfg) (name : PStr)
    (attrs : List (PStr × Option PStr)) :
    parseStartTagArg md lower b (effectiveOnDup none (some (.str ignoreStr))) name attrs
      = some (parseStartTag md lower b .ignore name attrs) ∧
    parseStartTagArg md lower b (effectiveOnDup none (some (.callable accumulate))) name attrs
      = some (parseStartTag md lower b (.callable accumulate) name attrs) := by
  constructor
  · simp [effectiveOnDup, parseStartTagArg, resolveOnDup, ignoreStr]
  · simp [effectiveOnDup, parseStartTagArg, resolveOnDup]

/-- Builders that are handed one and the same caller-owned `parser_kwargs` dictionary do not influence each other: the
    setting of the i-th builder is determined by its own keyword and the dictionary as the caller wrote it. -/
theorem shared_parser_kwargs_independent (pk : Option OnDupArg) (kws : List (Option OnDupArg)) (i : Nat)
    (hi : i < kws.length) :
    (buildersSharing pk kws).length = kws.length ∧
    (buildersSharing pk kws)[i]? = some (effectiveOnDup kws[i] pk) := by
  simp [buildersSharing, hi]

/-- Documentation of the defect repaired by fixes/C17-parser-kwargs-dict-shared.diff: with the unrepaired constructor a
    builder given `on_duplicate_attribute="ignore"` left that entry in the caller's dictionary, and the next builder —
    given no policy at all — ignored duplicates too (first value `x` survives instead of the last, `z`). -/
theorem shared_parser_kwargs_leaked_old :
    (buildersSharingOld none [some (.str ignoreStr), none]).map
        (fun a => (parseStartTagArg 0 pyLower ⟨none, .plain, 1, false⟩ a [112]
          [([105], some [120]), ([105], some [122])]).map (fun r => match r with
            | .ok t => t.items
            | .valueError => []))
      = [some [([105], .str [120])], some [([105], .str [120])]] ∧
    (buildersSharing none [some (.str ignoreStr), none]).map
        (fun a => (parseStartTagArg 0 pyLower ⟨none, .plain, 1, false⟩ a [112]
          [([105], some [120]), ([105], some [122])]).map (fun r => match r with
            | .ok t => t.items
            | .valueError => []))
      = [some [([105], .str [120])], some [([105], .str [122])]] := by decide +kernel

/-- Whatever a formatter's own `attributes()` hands back (`sel`: any order, any selection of pairs), every pair is
    rendered by `_format_tag` itself: one entry per pair in that order, a list or tuple value joined by single spaces. -/
theorem custom_attributes_still_joined (md : Nat) (f : FmtCfg) (sel : Items) (l : List PStr)
    (h : formatAttrs md f sel = .ok l) :
    l.length = sel.length ∧
    ∀ i (hi : i < sel.length) (hl : i < l.length), formatAttr md f sel[i] = .ok l[i] :=
  formatAttrs_ok md f sel l h

example : attributeStringSel 0 ⟨false, id, fun _ => []⟩
    [(ofS "z", .str (ofS "1")), (ofS "class", .list 1 [ofS "b", ofS "a"]), (ofS "rel", .tuple [ofS "x", ofS "y"])]
    = .ok (ofS " z=\"1\" class=\"b a\" rel=\"x y\"") := by decide_pstr

/-! ## non-vacuity of the hypotheses used above -/

example : splitWs (ofS " x\tyz ") = [ofS "x", ofS "yz"] :=
  split_is_the_maximal_runs (ofS " x\tyz ") [32] [([120], [9]), ([121, 122], [32])] (by simp [AllWs]; decide)
    (by simp [GoodItems, Tok, AllWs]; decide) (by decide_pstr)

example : splitWs (joinSp [ofS "a", ofS "bc"]) = [ofS "a", ofS "bc"] :=
  split_join_tokens _ (by
    intro t ht
    simp at ht
    rcases ht with rfl | rfl <;> exact ⟨by decide, by decide⟩)

example : dictGet (replaceSpec (some BS.Gen.c17DefaultCdataListAttributes) pyLower 1 (ofS "a")
      [(ofS "rel", .str (ofS "x  y")), (ofS "id", .str (ofS "x  y"))]) (ofS "rel") = some (.list 1 [ofS "x", ofS "y"]) :=
  ((split_iff_covered BS.Gen.c17DefaultCdataListAttributes pyLower 1 (ofS "a")
      [(ofS "rel", .str (ofS "x  y")), (ofS "id", .str (ofS "x  y"))] (ofS "rel") (ofS "x  y") (by decide +kernel)).1).mpr
    (by decide +kernel)

example : dictGet (replaceSpec (some BS.Gen.c17DefaultCdataListAttributes) pyLower 1 (ofS "a")
      [(ofS "rel", .str (ofS "x  y")), (ofS "id", .str (ofS "x  y"))]) (ofS "id") = some (.str (ofS "x  y")) := by
  rw [others_verbatim _ _ _ _ _ _ (by decide +kernel)]; decide +kernel

example : dictGet (replaceSpec (some BS.Gen.c17DefaultCdataListAttributes) pyLower 1 (ofS "p")
      [(ofS "class", .list 0 [ofS "a b"])]) (ofS "class") = some (.list 0 [ofS "a b"]) :=
  list_values_kept _ _ _ _ _ _ _ _ (by decide +kernel)

example : (keys [(ofS "rel", PyVal.str (ofS "x  y")), (ofS "id", .str [])]).Nodup ∧
    ∀ p ∈ [(ofS "rel", PyVal.str (ofS "x  y")), (ofS "id", PyVal.str [])], StrOrList p.2 := by
  refine ⟨by decide, ?_⟩
  intro p hp; simp at hp; rcases hp with rfl | rfl <;> trivial

example : isMulti BS.Gen.c17DefaultCdataListAttributes pyLower (ofS "TH") (ofS "headers") = true :=
  default_table_every_entry_honoured pyLower (ofS "TH") (ofS "headers") (ofS "th", [ofS "headers"])
    (by decide +kernel) (by decide) (Or.inr (by decide +kernel))

example : isMulti BS.Gen.c17DefaultCdataListAttributes pyLower (ofS "a") (mkNs (some (ofS "svg")) (some (ofS "class"))).str
    = false :=
  (prefixed_attributes_never_split pyLower (ofS "a") (ofS "svg") (ofS "class") (by decide) (by decide)).2.1

example : htmlSetOld 4300 [] (.plain [107]) (.int 5) = htmlSet 4300 [] (.plain [107]) (.int 5) :=
  old_agrees_elsewhere _ _ _ _ (Or.inl (by decide))

example : getAttributeList ⟨.plain, 2, [(ofS "id", .str (ofS "x"))], false⟩ (ofS "id") .none = .strs 2 [ofS "x"] :=
  have ⟨_, _, _, hstr, _⟩ := get_attribute_list_spec ⟨.plain, 2, [(ofS "id", .str (ofS "x"))], false⟩ (ofS "id")
  hstr _ (by decide)

example : tagDel ⟨.plain, 1, [(ofS "id", .str []), (ofS "k", .int 0)], false⟩ (ofS "id")
    = ⟨.plain, 1, [(ofS "k", .int 0)], false⟩ := by decide_pstr

example : histStep 0 pyLower ⟨none, .plain, 1, false⟩ [(ofS "p", ⟨.html, 2, [(ofS "k", .str [])], true⟩)] (.copy 0)
    = .ok [(ofS "p", ⟨.html, 2, [(ofS "k", .str [])], true⟩), (ofS "p", ⟨.html, 1, [(ofS "k", .str [])], true⟩)] := by
  decide_pstr

example : ∀ j, j < 1 → ([(ofS "p", (⟨.plain, 1, [], false⟩ : TagAttrs)), (ofS "a", ⟨.plain, 1, [], false⟩)] : Hist)[j]?
    = ([(ofS "p", ⟨.plain, 1, [], false⟩)] : Hist)[j]? :=
  creation_leaves_earlier_tags_unchanged 0 pyLower ⟨none, .plain, 1, false⟩ [(ofS "p", ⟨.plain, 1, [], false⟩)]
    [(ofS "p", ⟨.plain, 1, [], false⟩), (ofS "a", ⟨.plain, 1, [], false⟩)] (.newTag (ofS "a") [])
    (Or.inr (Or.inl ⟨_, _, rfl⟩)) (by decide +kernel)

end BS.Props.C17
