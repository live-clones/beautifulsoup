import BSModel.Proofs.EncodingOut
import BSModel.Proofs.EncodingOutUtf
import BSModel.Proofs.EncodingOutSub
import BSModel.Proofs.EncodingOutTree
import BSModel.Proofs.EncodingOutDetect
/-! # C08 — output in any target encoding is valid, lossless and self-describing

Property theorems only. `pyEncode`/`encodeWith` is `str.encode(codec, errors)`, `encodeImpl`/`prettifyImpl`/`encodeContentsImpl`
mirror `Tag.encode`/`prettify(encoding)`/`encode_contents` (bs4/element.py), `substituteCharset`/`substituteContent`/
`setUpSubstitutions`/`attrValue` the charset machinery, `readText`/`readAttr` the part of html.parser + bs4 /
`html.unescape` that reads back what the writer wrote (Model/EncodingOut.lean). A codec is an arbitrary record; its laws
(`AsciiOK`, `RoundTrip`, `AsciiCompat`) are hypotheses of the theorems and are *tested* on the characters of every case by
the harness. The tables (`PYTHON_SPECIFIC_ENCODINGS`, the live `CHARSET_RE`'s shape, windows-1252, `html.unescape`'s two
tables, single-byte decode tables) are generated from the live objects on every run. -/
namespace BS.Props.C08
open BS BS.EncodingOut BS.Gen.EncodingOut

/-- a small document: `<p title="☃é">a&☃<br/></p>` (U+2603 SNOWMAN, U+00E9) -/
def demo : Node :=
  .tag (ofS "p") [(ofS "title", .plain [0x2603, 0xE9])] [.text [97, 38, 0x2603], .tag (ofS "br") [] []]

/-- `<meta charset="utf8">` and `<meta http-equiv="Content-Type" content="text/html; charset=utf8">` as parsed -/
def metaCharset : Node := .tag (ofS "meta") (setUpSubstitutions (ofS "meta") [(ofS "charset", .plain (ofS "utf8"))]) []
def metaContent : Node :=
  .tag (ofS "meta") (setUpSubstitutions (ofS "meta")
    [(ofS "http-equiv", .plain (ofS "Content-Type")), (ofS "content", .plain (ofS "text/html; charset=utf8"))]) []

/-! ## 1. rendering to bytes always succeeds -/

/-- `s.encode(C, "xmlcharrefreplace")` returns bytes for every string — lone surrogates and all — as soon as the codec
    can write ASCII (so that it can write `&#…;`): the bytes are the strict encoding of the replaced string. -/
theorem encodeWith_total (C : Codec) (h : C.AsciiOK) (s : PStr) :
    encodeWith C s = .bytes (C.enc (xmlcharrefreplace C s)) := by
  show pyEncode C .xmlcharrefreplace s = _
  rw [pyEncode_nonstrict C h _ (by decide), handled_xcr]

/-- All three entry points return bytes, whatever the tree, the indentation and the target encoding
    (`Tag.encode`: element.py `u.encode(encoding, errors)` with the default `errors="xmlcharrefreplace"`;
    `prettify(encoding)` → `encode(indent_level=0)`; `encode_contents` → `contents.encode(encoding, "xmlcharrefreplace")`,
    the repaired last line — 4.13.0 omitted the handler, see `encode_contents_strict_raises`). -/
theorem encode_total (C : Codec) (h : C.AsciiOK) (name : PStr) (indent : Option Nat) (t : Node) :
    (∃ b, encodeImpl name C indent t = .bytes b) ∧ (∃ b, prettifyImpl name C t = .bytes b)
      ∧ (∃ b, encodeContentsImpl name C indent t = .bytes b) :=
  ⟨⟨_, encodeWith_total C h _⟩, ⟨_, encodeWith_total C h _⟩, ⟨_, encodeWith_total C h _⟩⟩

-- `asciiCodec_fast`, `latin1Codec_fast`: see `asciiFirst`
example : encodeImpl (ofS "ascii") asciiCodec none demo
    = .bytes (ofS "<p title=\"&#9731;&#233;\">a&amp;&#9731;<br/></p>") := by rw [asciiCodec_fast]; decide_pstr
example : prettifyImpl (ofS "latin-1") latin1Codec demo
    = .bytes (ofS "<p title=\"&#9731;" ++ [0xE9] ++ ofS "\">\n a&amp;&#9731;\n <br/>\n</p>\n") := by rw [latin1Codec_fast]; decide_pstr
example : encodeContentsImpl (ofS "ascii") asciiCodec none demo = .bytes (ofS "a&amp;&#9731;<br/>") := by rw [asciiCodec_fast]; decide_pstr
example : asciiCodec.AsciiOK := tableCodec_asciiOK sb_ascii (tableAsciiOK_of_prefix _ (by decide +kernel))

/-- With the `strict` handler (what `encode_contents` used in 4.13.0 by passing no handler) the call raises exactly when
    the rendering holds a character the codec cannot encode — so "always succeeds" needs the handler. -/
theorem strict_raises_iff (C : Codec) (s : PStr) :
    (∃ p c, pyEncode C .strict s = .unicodeEncodeError p c) ↔ ∃ c ∈ s, C.canEnc c = false := by
  rw [← firstBad_isSome_iff C s 0]
  simp only [pyEncode]
  cases firstBad C 0 s with
  | none => simp
  | some pc => simp

/-- the 4.13.0 behaviour, concretely: `encode_contents(encoding="ascii")` on a tree with a snowman raises -/
theorem encode_contents_strict_raises :
    encodeContentsWith .strict (ofS "ascii") asciiCodec none demo = .unicodeEncodeError 6 0x2603 := by rw [asciiCodec_fast]; decide_pstr

/-! ## 2. the bytes decode in the target encoding -/

/-- For a codec with the round-trip law the bytes decode, and they decode to the replaced string: every encodable
    character as itself, every other one as `&#N;`. -/
theorem bytes_decode (C : Codec) (h : C.AsciiOK) (hr : C.RoundTrip) (s : PStr) (b : Bytes)
    (hb : encodeWith C s = .bytes b) : C.dec b = some (xmlcharrefreplace C s) := by
  rw [encodeWith_total C h s] at hb
  cases hb
  exact hr _ (xcr_encodable C h s)

/-- … for the three entry points: the decoded output is the rendering (made with `eventual_encoding` = the target's
    name) with the unencodable characters replaced. -/
theorem entry_points_decode (C : Codec) (h : C.AsciiOK) (hr : C.RoundTrip) (name : PStr) (indent : Option Nat) (t : Node) :
    (∀ b, encodeImpl name C indent t = .bytes b → C.dec b = some (xmlcharrefreplace C (decodeImpl indent (some name) t)))
    ∧ (∀ b, prettifyImpl name C t = .bytes b → C.dec b = some (xmlcharrefreplace C (decodeImpl (some 0) (some name) t)))
    ∧ (∀ b, encodeContentsImpl name C indent t = .bytes b →
        C.dec b = some (xmlcharrefreplace C (decodeContentsImpl indent (some name) t))) :=
  ⟨fun b hb => bytes_decode C h hr _ b hb, fun b hb => bytes_decode C h hr _ b hb, fun b hb => bytes_decode C h hr _ b hb⟩

/-- every generated single-byte decode table gives a codec with the round-trip law (so the hypotheses are satisfiable,
    by real charsets: these are CPython's tables) -/
theorem table_codecs_lawful (tbl : List Nat) : (tableCodec tbl).RoundTrip := tableCodec_roundTrip tbl

example : asciiCodec.dec (ofS "<p title=\"&#9731;&#233;\">a&amp;&#9731;<br/></p>")
    = some (xmlcharrefreplace asciiCodec (decodeImpl none (some (ofS "ascii")) demo)) := by rw [asciiCodec_fast]; decide_pstr
example : xmlcharrefreplace latin1Codec [0x2603, 0xE9, 0x1F600, 0xD800] = ofS "&#9731;" ++ [0xE9] ++ ofS "&#128512;&#55296;" := by rw [latin1Codec_fast]; decide_pstr

/-- encodable text is not touched at all -/
theorem encodable_untouched (C : Codec) (s : PStr) (h : C.Encodable s) : xmlcharrefreplace C s = s :=
  xcr_encodable_id C s h

/-! ## 2b. the `errors=` argument, and the fallback for every code point and every class of codec -/

/-- `Tag.encode(encoding, errors=h)` hands `h` to `str.encode`. Every handler but `strict` always returns bytes: the strict
    encoding of the rendering in which each unencodable code point is replaced by what the handler dictates (nothing,
    `?`, `&#N;`, `\xhh`/`\uhhhh`/`\Uhhhhhhhh`). -/
theorem encode_errors_total (C : Codec) (hA : C.AsciiOK) (h : Handler) (hs : h ≠ .strict) (name : PStr) (indent : Option Nat)
    (t : Node) :
    encodeImpl name C indent t h = .bytes (C.enc (handled C h (decodeImpl indent (some name) t))) :=
  pyEncode_nonstrict C hA h hs _

/-- … and the bytes decode to that handled string -/
theorem bytes_decode_errors (C : Codec) (hA : C.AsciiOK) (hr : C.RoundTrip) (h : Handler) (hs : h ≠ .strict) (s : PStr) (b : Bytes)
    (hb : pyEncode C h s = .bytes b) : C.dec b = some (handled C h s) := by
  rw [pyEncode_nonstrict C hA h hs s] at hb
  cases hb
  exact hr _ (handled_encodable C hA h s)

/-- when every character is encodable the handler is never consulted: all five give the strict encoding -/
theorem handlers_agree_on_encodable (C : Codec) (s : PStr) (hs : C.Encodable s) (h : Handler) :
    pyEncode C h s = .bytes (C.enc s) := by
  cases h <;> simp only [pyEncode, firstBad_none C _ 0 hs, handled_encodable_id C _ s hs]

/-- only `xmlcharrefreplace` — bs4's default — writes something a reader turns back into the character: the other
    handlers lose it (`ignore`), flatten it (`replace`) or leave an escape no HTML reader undoes (`backslashreplace`) -/
theorem other_handlers_lose :
    readText (fun _ => none) (handled asciiCodec .xmlcharrefreplace (substituteXml [97, 0x2603])) = [97, 0x2603]
    ∧ readText (fun _ => none) (handled asciiCodec .ignore (substituteXml [97, 0x2603])) = [97]
    ∧ readText (fun _ => none) (handled asciiCodec .replace (substituteXml [97, 0x2603])) = [97, 63]
    ∧ readText (fun _ => none) (handled asciiCodec .backslashreplace (substituteXml [97, 0x2603, 0xE9, 0x1F600]))
        = ofS "a\\u2603\\xe9\\U0001f600" := by rw [asciiCodec_fast]; decide_pstr

example : encodeImpl (ofS "ascii") asciiCodec none demo .replace = .bytes (ofS "<p title=\"??\">a&amp;?<br/></p>") := by rw [asciiCodec_fast]; decide_pstr
example : encodeImpl (ofS "ascii") asciiCodec none demo .strict = .unicodeEncodeError 10 0x2603 := by rw [asciiCodec_fast]; decide_pstr

/-- **The fallback, for every code point and every codec.** What stands for `c` in the output is `c` itself when the codec
    can encode it, and otherwise `&#` + the decimal digits of `c` + `;` — pure ASCII, at most ten characters for a code
    point of the Unicode range, and the digits read back as `c`. -/
theorem fallback_every_code_point (C : Codec) (c : Nat) :
    (C.canEnc c = true → xcrChar C c = [c])
    ∧ (C.canEnc c = false → xcrChar C c = [38, 35] ++ toDec c ++ [59] ∧ (∀ d ∈ xcrChar C c, d < 128)
        ∧ ofDec (toDec c) = c ∧ (∀ d ∈ toDec c, isDigit d = true) ∧ toDec c ≠ []
        ∧ (c < 0x110000 → (xcrChar C c).length ≤ 10)) := by
  refine ⟨fun h => by simp [xcrChar, h], fun h => ?_⟩
  have e : xcrChar C c = [38, 35] ++ toDec c ++ [59] := by simp [xcrChar, h, charref]
  refine ⟨e, ?_, ofDec_toDec c, toDec_digits c, toDec_ne_nil c, ?_⟩
  · intro d hd; rw [e] at hd; exact charref_lt128 c d (by simpa [charref] using hd)
  · intro hc
    have := toDec_length_le c hc
    rw [e]
    simp only [List.length_append, List.length_cons, List.length_nil]
    omega

/-- class 1, single-byte charsets (any decode table): a code point is written as a reference exactly when it is not in the
    table; class 2, the UTFs: exactly the lone surrogates are (they are not characters; everything else passes). -/
theorem fallback_by_codec_class (tbl : List Nat) (c : Nat) :
    ((tableCodec tbl).canEnc c = true ↔ (c < 0x110000 ∧ c ∈ tbl))
    ∧ (utf8Codec.canEnc c = true ↔ (c < 0x110000 ∧ ¬ (0xD800 ≤ c ∧ c ≤ 0xDFFF)))
    ∧ utf8Codec.canEnc = utf16Codec.canEnc ∧ utf8Codec.canEnc = utf32Codec.canEnc
    ∧ utf8Codec.canEnc = utf16leCodec.canEnc ∧ utf8Codec.canEnc = utf16beCodec.canEnc
    ∧ utf8Codec.canEnc = utf32leCodec.canEnc ∧ utf8Codec.canEnc = utf32beCodec.canEnc := by
  refine ⟨?_, ?_, rfl, rfl, rfl, rfl, rfl, rfl⟩
  · simp only [tableCodec, undef, Bool.and_eq_true, List.contains_iff_mem]
    constructor
    · intro h; exact ⟨of_decide_eq_true h.1, h.2⟩
    · intro h; exact ⟨decide_eq_true h.1, h.2⟩
  · simp [utf8Codec, isScalar, isSurr]; omega

/-- a document of characters (no lone surrogate) goes to any UTF without a single reference -/
theorem utf_needs_no_references (s : PStr) (h : ∀ c ∈ s, isScalar c = true) :
    xmlcharrefreplace utf8Codec s = s ∧ xmlcharrefreplace utf16Codec s = s ∧ xmlcharrefreplace utf32Codec s = s :=
  ⟨xcr_encodable_id _ s h, xcr_encodable_id _ s h, xcr_encodable_id _ s h⟩

example : xmlcharrefreplace utf8Codec [97, 0xD800, 0x1F600] = ofS "a&#55296;" ++ [0x1F600] := by decide_pstr
example : utf8Codec.enc [0x24, 0xE9, 0x20AC, 0x1F600] = [0x24, 0xC3, 0xA9, 0xE2, 0x82, 0xAC, 0xF0, 0x9F, 0x98, 0x80] := by decide +kernel
example : utf16Codec.enc [0x41, 0x1F600] = [0xFF, 0xFE, 0x41, 0, 0x3D, 0xD8, 0x00, 0xDE] := by decide +kernel

/-- The codec laws the theorems assume are satisfied by real codecs: all seven UTFs (CPython's byte layouts, compared byte
    for byte by the harness) obey the round-trip law and can write ASCII; UTF-8 is ASCII-compatible. -/
theorem utf_codecs_lawful :
    utf8Codec.RoundTrip ∧ utf16Codec.RoundTrip ∧ utf16leCodec.RoundTrip ∧ utf16beCodec.RoundTrip
    ∧ utf32Codec.RoundTrip ∧ utf32leCodec.RoundTrip ∧ utf32beCodec.RoundTrip
    ∧ utf8Codec.AsciiOK ∧ utf16Codec.AsciiOK ∧ utf32Codec.AsciiOK ∧ utf8Codec.AsciiCompat :=
  ⟨utf8_roundTrip, utf16_roundTrip, utf16le_roundTrip, utf16be_roundTrip, utf32_roundTrip, utf32le_roundTrip, utf32be_roundTrip,
   utf_asciiOK, utf_asciiOK, utf_asciiOK, utf8_asciiCompat⟩

/-- … and by every generated single-byte table (the whole `sbCodecs` table, not a sample): each can write ASCII — cp500
    (EBCDIC) included — and each except cp500 writes ASCII as itself, hence is ASCII-compatible. -/
theorem sb_tables_ascii :
    sbCodecs.all (fun p => tableAsciiOK p.2) = true
    ∧ sbCodecs.all (fun p => tableAsciiAt p.2 || p.1 == ofS "cp500") = true
    ∧ tableAsciiAt sb_cp500 = false := by
  -- a table begins with ASCII in order, or is cp500 with a full mask
  have hp : sbCodecs.all (fun p => asciiPrefix p.2 || (p.1 == ofS "cp500" && asciiMask p.2 == 2 ^ 128 - 1)) = true := by
    decide_pstr
  refine ⟨List.all_eq_true.mpr fun p h => ?_, List.all_eq_true.mpr fun p h => ?_, by decide +kernel⟩
  · rcases Bool.or_eq_true_iff.mp (List.all_eq_true.mp hp p h) with h1 | h1
    · exact tableAsciiOK_of_prefix _ h1
    · exact tableAsciiOK_of_mask _ (eq_of_beq (Bool.and_eq_true_iff.mp h1).2)
  · rcases Bool.or_eq_true_iff.mp (List.all_eq_true.mp hp p h) with h1 | h1
    · rw [tableAsciiAt_of_prefix _ h1]; rfl
    · rw [(Bool.and_eq_true_iff.mp h1).1]; exact Bool.or_true _

theorem sb_table_codec_laws (nm : PStr) (tbl : List Nat) (h : (nm, tbl) ∈ sbCodecs) :
    (tableCodec tbl).RoundTrip ∧ (tableCodec tbl).AsciiOK ∧ (nm ≠ ofS "cp500" → (tableCodec tbl).AsciiCompat) := by
  refine ⟨tableCodec_roundTrip tbl, tableCodec_asciiOK tbl ?_, fun hn => tableCodec_asciiCompat tbl ?_⟩
  · exact List.all_eq_true.mp sb_tables_ascii.1 (nm, tbl) h
  · have := List.all_eq_true.mp sb_tables_ascii.2.1 (nm, tbl) h
    simp only [Bool.or_eq_true, beq_iff_eq] at this
    rcases this with h1 | h1
    · exact h1
    · exact absurd h1 hn

example : (ofS "koi8-r", sb_koi8_r) ∈ sbCodecs := by decide_pstr

/-! ## 3. losslessness: re-reading the decoded bytes recovers text and attribute values -/

/-- table fact over the generated windows-1252 table: outside 0x80–0x9F, byte `n` of windows-1252 is U+`n` (so bs4's
    `handle_charref` compensation only ever bites on C1 numbers) -/
theorem cp1252_identity_outside_c1 :
    (List.range 256).all (fun n => isC1 n || cp1252Decode.getD n undef == n) = true := cp1252_table

/-- table fact over the generated `html.unescape` tables: every number it rewrites or drops is below 160 or a noncharacter -/
theorem unescape_tables_shape :
    invalidCharrefs.all (fun kv => kv.1 < 160) = true ∧ invalidCodepoints.all (fun c => c < 160 || isNonchar c) = true :=
  unescape_tables

/-- **Text is recovered.** For every codec that can write ASCII, every `original_encoding` of the re-parse and every text
    without an unencodable C1 control: entity-substituting, replacing the unencodable characters, and reading the result
    as html.parser + bs4 do gives the text back — encodable characters pass, the others come back from `&#N;`, and
    `&`, `<`, `>` and literal `&#…;` sequences in the text survive the double escaping. -/
theorem lossless_text (C : Codec) (h : C.AsciiOK) (orig : Nat → Option Nat) (s : PStr) (hs : CharrefSafeText C s = true) :
    readText orig (xmlcharrefreplace C (substituteXml s)) = s := by
  rw [readText_written C h]
  exact flatMap_rule_self C _ s (textCharref_of_safe C orig s hs)

/-- **Attribute values are recovered**, whichever of the three quoting forms `quoted_attribute_value` picks, for values
    without an unencodable C1 control, noncharacter or surrogate. -/
theorem lossless_attr (C : Codec) (h : C.AsciiOK) (v : PStr) (hs : CharrefSafeAttr C v = true) :
    readAttr (xmlcharrefreplace C (quotedAttributeValue (substituteXml v))) = v := by
  rw [readAttr_written C h]
  exact flatMap_rule_self C _ v (attrCharref_of_safe C h v hs)

example : readText (fun _ => none) (xmlcharrefreplace asciiCodec (substituteXml (ofS "a<&#65;" ++ [0x2603, 0xA0, 0x10FFFF])))
    = ofS "a<&#65;" ++ [0x2603, 0xA0, 0x10FFFF] := by rw [asciiCodec_fast]; decide_pstr
example : CharrefSafeText asciiCodec (ofS "a<&#65;" ++ [0x2603, 0xA0, 0x10FFFF]) = true := by rw [asciiCodec_fast]; decide_pstr
example : readAttr (xmlcharrefreplace latin1Codec (quotedAttributeValue (substituteXml (ofS "say \"it's\" &" ++ [0x2603]))))
    = ofS "say \"it's\" &" ++ [0x2603] := by rw [latin1Codec_fast]; decide_pstr
example : CharrefSafeAttr latin1Codec (ofS "say \"it's\" &" ++ [0x2603]) = true := by rw [latin1Codec_fast]; decide_pstr

/-- The default ("minimal") formatter's entity substitution IS `EntitySubstitution.substitute_xml` (generated from the live
    registry): every `&` of the tree is escaped, which is what `lossless_text` / `lossless_attr` rest on. -/
theorem minimal_formatter_is_substitute_xml :
    minimalFormatterIsSubstituteXml = true ∧ minimalFormatterSubstitution = ofS "substitute_xml" := by decide_pstr

/-- Why every `&` must be escaped: text that merely SPELLS a reference — `&#233;`, `&amp;`, `&lt;` — would, written as it stands, be read as the reference (it cannot be told from real
    `xmlcharrefreplace` output); escaped by `substituteXml` it comes back verbatim, next to characters the target cannot
    encode, in text and in attribute values. -/
theorem lookalike_references :
    readText (fun _ => none) (xmlcharrefreplace asciiCodec (ofS "write &#233; to get " ++ [0xE9])) = ofS "write " ++ [0xE9] ++ ofS " to get " ++ [0xE9]
    ∧ readText (fun _ => none) (xmlcharrefreplace asciiCodec (substituteXml (ofS "write &#233; to get " ++ [0xE9])))
        = ofS "write &#233; to get " ++ [0xE9]
    ∧ readText (fun _ => none) (ofS "&amp;lt;") = ofS "&lt;"
    ∧ readAttr (xmlcharrefreplace asciiCodec (quotedAttributeValue (substituteXml (ofS "x=a&b;y=&amp;" ++ [0x2603] ++ ofS "&#9731;\"'"))))
        = ofS "x=a&b;y=&amp;" ++ [0x2603] ++ ofS "&#9731;\"'" := by rw [asciiCodec_fast]; decide_pstr

/-- Without the hypothesis the statement fails (known finding `C08-c1-controls-via-charref`): U+0080 written for a target
    that cannot carry it becomes `&#128;`, which bs4's `handle_charref` (and `html.unescape`) read as windows-1252 `€`. -/
theorem lossless_text_needs_safe :
    readText (fun _ => none) (xmlcharrefreplace asciiCodec (substituteXml [0x80])) = [0x20AC]
      ∧ readAttr (xmlcharrefreplace asciiCodec (quotedAttributeValue (substituteXml [0x80]))) = [0x20AC]
      ∧ CharrefSafeText asciiCodec [0x80] = false := by rw [asciiCodec_fast]; decide +kernel

/-- … and (known finding `C08-noncharacters-in-attributes`) `html.unescape` drops references to noncharacters, so
    U+FDD0 and U+FFFE vanish from an attribute value — while they survive in text. -/
theorem lossless_attr_needs_safe :
    readAttr (xmlcharrefreplace asciiCodec (quotedAttributeValue (substituteXml [97, 0xFDD0, 0xFFFE, 98]))) = [97, 98]
      ∧ readText (fun _ => none) (xmlcharrefreplace asciiCodec (substituteXml [97, 0xFDD0, 0xFFFE, 98])) = [97, 0xFDD0, 0xFFFE, 98]
      ∧ CharrefSafeAttr asciiCodec [97, 0xFDD0, 0xFFFE, 98] = false := by rw [asciiCodec_fast]; decide +kernel

/-! ## 4. the declared charset names the encoding used — or is left alone -/

/-- HTML5 style. A `<meta>` with a `charset` attribute (with a value: `charset is not None`) — whatever else it carries, an
    HTML4-style declaration included — gets the placeholder at parse time, and rendering with `eventual_encoding = e` writes
    `e` there (the empty string for a Python-specific `e`), whatever the old value was. -/
theorem meta_rewritten_charset (attrs : List (PStr × AttrVal)) (old : AttrVal) (e : PStr)
    (h : lookupAttr (ofS "charset") attrs = some old) (hv : old ≠ .novalue) :
    (lookupAttr (ofS "charset") (setUpSubstitutions (ofS "meta") attrs)).map (attrValue (some e))
      = some (if isPythonSpecific e then [] else e) := by
  have hne : ofS "charset" ≠ ofS "content" := by decide_pstr
  simp [setUpSubstitutions, lookup_subContentStep _ hne, subCharsetStep_some attrs old h hv, lookup_setAttr, attrValue,
    substituteCharset]

/-- … and with `eventual_encoding = None` (`decode(eventual_encoding=None)`) the old value is written back. -/
theorem meta_untouched_charset (attrs : List (PStr × AttrVal)) (old : AttrVal)
    (h : lookupAttr (ofS "charset") attrs = some old) (hv : old ≠ .novalue) :
    (lookupAttr (ofS "charset") (setUpSubstitutions (ofS "meta") attrs)).map (attrValue none) = some old.str := by
  have hne : ofS "charset" ≠ ofS "content" := by decide_pstr
  simp [setUpSubstitutions, lookup_subContentStep _ hne, subCharsetStep_some attrs old h hv, lookup_setAttr, attrValue]

/-- `eventual_encoding = None` leaves *every* attribute value as parsed: placeholders render as their original text. -/
theorem meta_untouched (v : AttrVal) : attrValue none v = v.str := by
  cases v <;> rfl

/-- … at the level of whole trees, for every entry point that renders with `eventual_encoding=None` and every
    indentation: the rendering is exactly that of the tree in which no placeholder was ever installed (`plainN` turns every
    placeholder back into a plain string) — nothing anywhere in the document is rewritten. -/
theorem decode_without_encoding_ignores_placeholders (indent : Option Nat) (t : Node) :
    decodeImpl indent none (plainN t) = decodeImpl indent none t
    ∧ decodeContentsImpl indent none (plainN t) = decodeContentsImpl indent none t :=
  ⟨decodeImpl_none_plain indent t, decodeContentsImpl_none_plain indent t⟩

example : decodeImpl none none (.tag (ofS "head") [] [metaCharset, metaContent])
    = ofS "<head><meta charset=\"utf8\"/><meta content=\"text/html; charset=utf8\" http-equiv=\"Content-Type\"/></head>" := by
  rw [metaCharset, metaContent, setUp_charset_utf8, setUp_content_utf8]
  decide_pstr

/-- `str(tag)`, `tag.decode()`, `tag.prettify()` and `decode_contents()` are NOT "no target encoding": their
    `eventual_encoding` defaults to `DEFAULT_OUTPUT_ENCODING`, so a declared charset is rewritten to `utf-8` in the str they
    return (the generated constant is `utf-8` and is not Python-specific). Only an explicit `eventual_encoding=None` leaves
    the declaration alone. -/
theorem str_rendering_names_default (attrs : List (PStr × AttrVal)) (old : AttrVal)
    (h : lookupAttr (ofS "charset") attrs = some old) (hv : old ≠ .novalue) :
    (lookupAttr (ofS "charset") (setUpSubstitutions (ofS "meta") attrs)).map (attrValue (some defaultOutputEncoding))
      = some (ofS "utf-8") := by
  rw [meta_rewritten_charset attrs old _ h hv]
  decide_pstr

example : strImpl metaCharset = ofS "<meta charset=\"utf-8\"/>" := by
  rw [metaCharset, setUp_charset_utf8]
  decide_pstr
example : prettifyStrImpl (.tag (ofS "head") [] [metaContent])
    = ofS "<head>\n <meta content=\"text/html; charset=utf-8\" http-equiv=\"Content-Type\"/>\n</head>\n" := by
  rw [metaContent, setUp_content_utf8]
  decide_pstr

/-- `tag.encode()` with its defaults is UTF-8 of `str(tag)`, with no reference at all, for every tree of characters -/
theorem encode_default_is_utf8 (t : Node) (h : ∀ c ∈ strImpl t, isScalar c = true) :
    encodeImpl defaultOutputEncoding utf8Codec none t = .bytes (utf8Enc (strImpl t)) := by
  show pyEncode utf8Codec .xmlcharrefreplace (strImpl t) = _
  rw [handlers_agree_on_encodable utf8Codec _ h]
  rfl

/-- **The markup skeleton is never touched.** For a tree whose tag and attribute names are ASCII, the decoded output of
    `encode` is the rendering in which `xmlcharrefreplace` has been applied to each text piece and to each quoted attribute
    value separately (`decodeNodeX`) — `<`, names, `=`, quotes, `>` stand exactly where the str rendering has them. Together
    with `lossless_text` / `lossless_attr`, which read each such piece back, this is the document-level form of
    losslessness on the writer's side (re-assembling a tree from the pieces is the parser's business: C09/C15). -/
theorem encoding_touches_values_only (C : Codec) (hA : C.AsciiOK) (hr : C.RoundTrip) (name : PStr) (t : Node)
    (hn : asciiNames t = true) (b : Bytes) (hb : encodeImpl name C none t = .bytes b) :
    C.dec b = some (decodeNodeX C (some name) [] t) := by
  have := (entry_points_decode C hA hr name none t).1 b hb
  rw [this]
  congr 1
  exact xcr_decodeNode C hA (some name) [] t hn

example : ∀ c ∈ strImpl demo, isScalar c = true := by decide +kernel
example : asciiNames demo = true := by decide +kernel
example : decodeNodeX asciiCodec (some (ofS "ascii")) [] demo = ofS "<p title=\"&#9731;&#233;\">a&amp;&#9731;<br/></p>" := by rw [asciiCodec_fast]; decide_pstr

/-- HTML4 style: `content` (with a value) becomes a placeholder whenever `http-equiv` — a string, or any element of a list
    value (`get_attribute_list`) — is `content-type` in any letter case, whether or not the same tag also has a `charset`
    attribute (the repaired `if … if …`; 4.13.0's `elif` skipped this branch then, see `meta_both_styles_old_stale`). -/
theorem meta_content_placeholder (attrs : List (PStr × AttrVal)) (ct he : AttrVal)
    (h1 : lookupAttr (ofS "content") attrs = some ct) (hv : ct ≠ .novalue)
    (h2 : lookupAttr (ofS "http-equiv") attrs = some he) (h3 : isContentType he = true) :
    lookupAttr (ofS "content") (setUpSubstitutions (ofS "meta") attrs) = some (.contentMeta ct.str) := by
  have hc : ofS "content" ≠ ofS "charset" := by decide_pstr
  have hh : ofS "http-equiv" ≠ ofS "charset" := by decide_pstr
  have := subContentStep_some (subCharsetStep attrs) ct he (by rw [lookup_subCharsetStep _ hc]; exact h1) hv
    (by rw [lookup_subCharsetStep _ hh]; exact h2) h3
  simp [setUpSubstitutions, this, lookup_setAttr]

example : isContentType (.plain (ofS "Content-TYPE")) = true := by decide_pstr
example : isContentType (.list [ofS "refresh", ofS "CONTENT-type"]) = true := by decide_pstr
example : isContentType (.plain (ofS "content-type ")) = false := by decide_pstr

/-- A single `<meta>` carrying both declaration styles gets both placeholders, so both are rewritten on output and no
    stale `charset=` is left for a reader's regex to pick up. -/
theorem meta_both_styles (attrs : List (PStr × AttrVal)) (cs ct he : AttrVal) (e : PStr)
    (h0 : lookupAttr (ofS "charset") attrs = some cs) (hv0 : cs ≠ .novalue)
    (h1 : lookupAttr (ofS "content") attrs = some ct) (hv1 : ct ≠ .novalue)
    (h2 : lookupAttr (ofS "http-equiv") attrs = some he) (h3 : isContentType he = true) :
    (lookupAttr (ofS "charset") (setUpSubstitutions (ofS "meta") attrs)).map (attrValue (some e)) = some (substituteCharset e)
    ∧ (lookupAttr (ofS "content") (setUpSubstitutions (ofS "meta") attrs)).map (attrValue (some e))
        = some (substituteContent e ct.str) := by
  refine ⟨?_, ?_⟩
  · rw [meta_rewritten_charset attrs cs e h0 hv0]; rfl
  · rw [meta_content_placeholder attrs ct he h1 hv1 h2 h3]; rfl

/-- **A declaration made through the API is a declaration.** `soup.new_tag("meta", attrs=…, **kw)` — the `attrs`
    dictionary (the only way to pass `http-equiv`), keywords, or both, under any builder configuration — yields the same
    placeholders as parsing the tag: whenever the merged attributes hold a `charset` value, rendering with
    `eventual_encoding = e` writes `e`. -/
theorem new_tag_meta_rewritten (kw attrs : List (PStr × AttrVal)) (old : AttrVal) (e : PStr)
    (h : lookupAttr (ofS "charset") (mergeAttrs kw attrs) = some old) (hv : old ≠ .novalue) :
    (lookupAttr (ofS "charset") (newTagAttrs (ofS "meta") kw attrs)).map (attrValue (some e))
      = some (if isPythonSpecific e then [] else e) :=
  meta_rewritten_charset (mergeAttrs kw attrs) old e h hv

theorem new_tag_content_placeholder (kw attrs : List (PStr × AttrVal)) (ct he : AttrVal)
    (h1 : lookupAttr (ofS "content") (mergeAttrs kw attrs) = some ct) (hv : ct ≠ .novalue)
    (h2 : lookupAttr (ofS "http-equiv") (mergeAttrs kw attrs) = some he) (h3 : isContentType he = true) :
    lookupAttr (ofS "content") (newTagAttrs (ofS "meta") kw attrs) = some (.contentMeta ct.str) :=
  meta_content_placeholder (mergeAttrs kw attrs) ct he h1 hv h2 h3

/-- an entry of `attrs` wins over a keyword of the same name; a key it does not mention keeps its keyword value -/
theorem new_tag_attrs_win (k : PStr) (v : AttrVal) (kw attrs : List (PStr × AttrVal)) :
    lookupAttr k (mergeAttrs kw (attrs ++ [(k, v)])) = some v
    ∧ ((∀ a ∈ attrs, a.1 ≠ k) → lookupAttr k (mergeAttrs kw attrs) = lookupAttr k kw) :=
  ⟨lookup_mergeAttrs_last k v kw attrs, lookup_mergeAttrs_absent k attrs kw⟩

example : decodeNode (some (ofS "koi8-r")) [] (.tag (ofS "meta") (newTagAttrs (ofS "meta") [(ofS "content", .plain (ofS "x"))]
    [(ofS "http-equiv", .plain (ofS "Content-Type")), (ofS "content", .plain (ofS "text/html; charset=utf-8"))]) [])
    = ofS "<meta content=\"text/html; charset=koi8-r\" http-equiv=\"Content-Type\"/>" := by decide_pstr
example : decodeNode (some (ofS "koi8-r")) [] (.tag (ofS "meta") (newTagAttrs (ofS "meta") [(ofS "charset", .plain (ofS "utf8"))] []) [])
    = ofS "<meta charset=\"koi8-r\"/>" := by decide_pstr

/-- **Known finding `C08-meta-item-assignment`, as a theorem about the code mirror.** A declaration written by item
    assignment — `m = soup.new_tag('meta'); m['charset'] = 'utf8'`, or assigning again over the placeholder of a parsed
    `<meta>`, with the same text or another — is NOT a placeholder: whatever the attributes were before, the value found
    afterwards is the plain string, and rendering for any target `e` writes that string back unchanged. -/
theorem item_assigned_not_placeholder (k v : PStr) (attrs : List (PStr × AttrVal)) (e : PStr) :
    lookupAttr k (setItem k v attrs) = some (.plain v)
    ∧ (lookupAttr k (setItem k v attrs)).map (attrValue (some e)) = some v := by
  simp [setItem, lookup_setAttr, attrValue]

/-- decided witnesses: the rendered declaration keeps the stale name — on a fresh `<meta>`, over a parsed HTML5 placeholder
    (same text re-assigned), and over a parsed HTML4 placeholder — while the untouched parsed tag is rewritten -/
theorem item_assigned_declaration_stale :
    decodeNode (some (ofS "koi8-r")) [] (.tag (ofS "meta") (setItem (ofS "charset") (ofS "utf8") (newTagAttrs (ofS "meta") [] [])) [])
      = ofS "<meta charset=\"utf8\"/>"
    ∧ decodeNode (some (ofS "koi8-r")) [] (.tag (ofS "meta")
        (setItem (ofS "charset") (ofS "utf8") (setUpSubstitutions (ofS "meta") [(ofS "charset", .plain (ofS "utf8"))])) [])
      = ofS "<meta charset=\"utf8\"/>"
    ∧ decodeNode (some (ofS "koi8-r")) [] (.tag (ofS "meta") (setItem (ofS "content") (ofS "text/html; charset=utf8")
        (setUpSubstitutions (ofS "meta") [(ofS "http-equiv", .plain (ofS "Content-Type")),
          (ofS "content", .plain (ofS "text/html; charset=utf8"))])) [])
      = ofS "<meta content=\"text/html; charset=utf8\" http-equiv=\"Content-Type\"/>"
    ∧ decodeNode (some (ofS "koi8-r")) [] metaCharset = ofS "<meta charset=\"koi8-r\"/>" := by
  rw [metaCharset, setUp_charset_utf8]
  decide_pstr

/-- `<meta charset="utf-8" content="text/html; charset=utf-8" http-equiv="content-type">` -/
def metaBothAttrs : List (PStr × AttrVal) :=
  [(ofS "charset", .plain (ofS "utf-8")), (ofS "content", .plain (ofS "text/html; charset=utf-8")),
   (ofS "http-equiv", .plain (ofS "content-type"))]

/-- The 4.13.0 mirror on that tag: encoding to `gbk` leaves `charset=utf-8` inside `content` (which dammit's greedy
    `<meta[^>]+charset=` then prefers on re-parse); the repaired code rewrites both. -/
theorem meta_both_styles_old_stale :
    decodeNode (some (ofS "gbk")) [] (.tag (ofS "meta") (setUpSubstitutionsOld (ofS "meta") metaBothAttrs) [])
      = ofS "<meta charset=\"gbk\" content=\"text/html; charset=utf-8\" http-equiv=\"content-type\"/>"
    ∧ decodeNode (some (ofS "gbk")) [] (.tag (ofS "meta") (setUpSubstitutions (ofS "meta") metaBothAttrs) [])
      = ofS "<meta charset=\"gbk\" content=\"text/html; charset=gbk\" http-equiv=\"content-type\"/>" := by
  rw [metaBothAttrs]
  decide_pstr

/-- where at most one style is present the repair changes nothing -/
theorem setUp_old_agrees (name : PStr) (attrs : List (PStr × AttrVal))
    (h : lookupAttr (ofS "charset") attrs = none ∨ lookupAttr (ofS "content") attrs = none
      ∨ lookupAttr (ofS "http-equiv") attrs = none) :
    setUpSubstitutionsOld name attrs = setUpSubstitutions name attrs := by
  unfold setUpSubstitutionsOld setUpSubstitutions
  split
  · rfl
  · have hc : ofS "content" ≠ ofS "charset" := by decide_pstr
    have hh : ofS "http-equiv" ≠ ofS "charset" := by decide_pstr
    cases hcs : lookupAttr (ofS "charset") attrs with
    | none => simp [subCharsetStep_none attrs hcs]
    | some cs =>
      simp only
      rw [subContentStep_of_missing]
      rw [lookup_subCharsetStep _ hc, lookup_subCharsetStep _ hh]
      exact h.resolve_left (by simp [hcs])

/-- nothing but `<meta>` is touched -/
theorem non_meta_untouched (name : PStr) (attrs : List (PStr × AttrVal)) (h : name ≠ ofS "meta") :
    setUpSubstitutions name attrs = attrs := by
  simp [setUpSubstitutions, h]

example : decodeNode (some (ofS "koi8-r")) [] metaCharset = ofS "<meta charset=\"koi8-r\"/>" :=
  item_assigned_declaration_stale.2.2.2
example : decodeNode (some (ofS "idna")) [] metaCharset = ofS "<meta charset=\"\"/>" := by
  rw [metaCharset, setUp_charset_utf8]
  decide_pstr
example : decodeNode none [] metaCharset = ofS "<meta charset=\"utf8\"/>" := by
  rw [metaCharset, setUp_charset_utf8]
  decide_pstr
example : decodeNode (some (ofS "koi8-r")) [] metaContent
    = ofS "<meta content=\"text/html; charset=koi8-r\" http-equiv=\"Content-Type\"/>" := by
  rw [metaContent, setUp_content_utf8]
  decide_pstr
example : decodeNode (some (ofS "punycode")) [] metaContent
    = ofS "<meta content=\"text/html\" http-equiv=\"Content-Type\"/>" := by
  rw [metaContent, setUp_content_utf8]
  decide_pstr
example : decodeNode none [] metaContent
    = ofS "<meta content=\"text/html; charset=utf8\" http-equiv=\"Content-Type\"/>" := by
  rw [metaContent, setUp_content_utf8]
  decide_pstr

/-- The live `CHARSET_RE` is one of the spellings this model knows, and it is the tolerant one: case-insensitive, with
    optional whitespace around `=` — what dammit's detector accepts on the way in. (Generated from the live pattern and
    flags; false of 4.13.0's `((^|;)\s*charset=)([^;]*)`, under which `CHARSET=x` and `charset = x` are detected on input
    but not rewritten on output.) -/
theorem charset_re_tolerant :
    charsetReKnown = true ∧ charsetReSpaceTolerant = true ∧ charsetReIgnoreCase = true ∧ charsetReMultiline = true := by
  decide +kernel

/-- Declarations in the spellings the detector accepts are rewritten (computed through the model of `CHARSET_RE.sub`
    with the generated shape of the live pattern): upper case, spaces around `=`, no space after `;`, a further
    parameter, the declaration on its own line (`re.M`), at the very start; and removed for Python-specific encodings. -/
theorem content_rewritten_spellings :
    substituteContent (ofS "koi8-r") (ofS "text/html; charset=utf8") = ofS "text/html; charset=koi8-r"
    ∧ substituteContent (ofS "koi8-r") (ofS "text/html; CHARSET=utf8") = ofS "text/html; CHARSET=koi8-r"
    ∧ substituteContent (ofS "koi8-r") (ofS "text/html;charset = utf8; x=y") = ofS "text/html;charset = koi8-r; x=y"
    ∧ substituteContent (ofS "koi8-r") (ofS "text/html;\n Charset=utf8") = ofS "text/html;\n Charset=koi8-r"
    ∧ substituteContent (ofS "koi8-r") (ofS "a\ncharset=x;b") = ofS "a\ncharset=koi8-r;b"
    ∧ substituteContent (ofS "koi8-r") (ofS "charset=x") = ofS "charset=koi8-r"
    ∧ substituteContent (ofS "idna") (ofS "text/html; ChArSeT = utf8; x=y") = ofS "text/html; x=y"
    ∧ substituteContent (ofS "koi8-r") (ofS "text/html; xcharset=utf8") = ofS "text/html; xcharset=utf8" := by decide_pstr

/-! ### the general shape `PARAMS; charset=OLD; MORE` -/

/-- **HTML4 style, general shape.** For every content value of the form

      `pre ; ws₀ KEY ws₁ = ws₂ old rest`

    where `pre` is *quiet* (any text, earlier `;`-parameters and line breaks included, in which no line start and no `;`
    is followed — after optional white space — by a letter the pattern accepts for `c`; decidable, `quietGo`), `KEY` spells
    `charset` in any letter case the live pattern accepts, `ws₀ ws₁ ws₂` are any white space (`ws₁ ws₂` empty unless the live
    pattern is the tolerant one), `old` is any value without `;` and `rest` is empty or begins the next `;`-parameter:
    rendering for a target name `e` — any name — gives the same text with exactly `old` replaced by `e`, and goes on
    rewriting `rest` the same way (so a second declaration further on is rewritten too); for a Python-specific `e` the
    whole parameter, from its `;`, is removed. The only declarations not of this shape are those that open a line
    without a `;` (the `^` alternative of the pattern): they are covered by `content_rewritten_spellings` (decided
    instances) and `meta_rewritten_content_verbatim`. -/
theorem meta_rewritten_content (pre w0 L w1 w2 old rest e : PStr)
    (hq : quietGo true pre = true) (h0 : AllWs w0) (hL : SpellsKey L) (h1 : AllWs w1) (h2 : AllWs w2)
    (htol : charsetReSpaceTolerant = true ∨ (w1 = [] ∧ w2 = []))
    (hold : ∀ c ∈ old, c ≠ 59) (hws : old.dropWhile isReSpace = old) (hr : rest = [] ∨ ∃ m, rest = 59 :: m) :
    substituteContent e (pre ++ 59 :: (w0 ++ (L ++ (w1 ++ (61 :: (w2 ++ (old ++ rest)))))))
      = if isPythonSpecific e then
          pre ++ subGo (fun _ => []) 0 (endBol (endBol true pre) (59 :: (w0 ++ (L ++ (w1 ++ (61 :: (w2 ++ old))))))) rest
        else
          pre ++ 59 :: (w0 ++ (L ++ (w1 ++ (61 :: (w2 ++ e)))))
            ++ subGo (fun g1 => g1 ++ e) 0 (endBol (endBol true pre) (59 :: (w0 ++ (L ++ (w1 ++ (61 :: (w2 ++ old))))))) rest := by
  have h := fun repl => subGo_general repl pre w0 L w1 w2 old rest true hq h0 hL h1 h2 htol hold hws hr
  unfold substituteContent charsetReSub
  split <;> simp [h]

/-- the closed form when the declaration is the last parameter -/
theorem meta_rewritten_content_last (pre w0 L w1 w2 old e : PStr)
    (hq : quietGo true pre = true) (h0 : AllWs w0) (hL : SpellsKey L) (h1 : AllWs w1) (h2 : AllWs w2)
    (htol : charsetReSpaceTolerant = true ∨ (w1 = [] ∧ w2 = []))
    (hold : ∀ c ∈ old, c ≠ 59) (hws : old.dropWhile isReSpace = old) :
    substituteContent e (pre ++ 59 :: (w0 ++ (L ++ (w1 ++ (61 :: (w2 ++ old))))))
      = if isPythonSpecific e then pre else pre ++ 59 :: (w0 ++ (L ++ (w1 ++ (61 :: (w2 ++ e))))) := by
  have := meta_rewritten_content pre w0 L w1 w2 old [] e hq h0 hL h1 h2 htol hold hws (Or.inl rfl)
  simp only [List.append_nil] at this
  rw [this]
  split <;> simp [subGo]

-- the hypotheses are satisfiable, by the spellings the input side reads: earlier parameters, upper case, spaces, a value
-- with regex metacharacters, a following parameter
example : quietGo true (ofS "text/html; x=y;\n q") = true := by decide_pstr
example : quietGo true (ofS "application/xhtml+xml") = true := by decide_pstr
example : quietGo true (ofS "a; charset=x") = false := by decide_pstr
example : AllWs (ofS " \t") := by unfold AllWs; decide_pstr
example : SpellsKey (ofS "ChArSeT") := by unfold SpellsKey; decide_pstr
example : SpellsKey (ofS "charset") := by unfold SpellsKey; decide_pstr
example : substituteContent (ofS "866") (ofS "text/html; x=y" ++ 59 :: (ofS " " ++ (ofS "CHARSET" ++ (ofS " " ++ (61 :: (ofS " " ++ (ofS "\\g<1>" ++ ofS "; z=1")))))))
    = ofS "text/html; x=y; CHARSET = 866; z=1" := by decide_pstr

/-- **The rewrite is literal, for ANY name.** Whenever `CHARSET_RE` finds a declaration in the original `content` value,
    the value rendered for a target name `e` — any code points whatsoever: leading digits (`866`, `1252`), backslashes,
    `\g<1>`, `$1`, `%s` — contains `e` verbatim (a callback, not a regex template, does the replacement), and no code path
    can raise. (`meta_rewritten_content` above also quantifies over every `e`, and every old value.) -/
theorem meta_rewritten_content_verbatim (e orig : PStr) (hp : isPythonSpecific e = false)
    (hs : charsetReSearch true orig = true) : e <:+: substituteContent e orig := by
  unfold substituteContent charsetReSub
  simp only [hp, Bool.false_eq_true, if_false]
  exact subGo_contains e orig true hs

/-- … and a Python-specific target only ever removes text -/
theorem meta_python_specific_only_removes (e orig : PStr) (hp : isPythonSpecific e = true) :
    (substituteContent e orig).length ≤ orig.length := by
  unfold substituteContent charsetReSub
  simp only [hp, if_true]
  exact subGo_empty_length orig 0 true

example : substituteContent (ofS "866") (ofS "text/html; charset=utf8") = ofS "text/html; charset=866" := by decide_pstr
example : substituteContent (ofS "437") (ofS "text/html\\1; x=\\2;charset=\\g<1>; y=$1") = ofS "text/html\\1; x=\\2;charset=437; y=$1" := by decide_pstr
example : substituteContent (ofS "latin\\1") (ofS "text/html; charset=utf8") = ofS "text/html; charset=latin\\1" := by decide_pstr
example : substituteContent (ofS "\\g<1>$1%s{0}") (ofS "a; charset=\\1") = ofS "a; charset=\\g<1>$1%s{0}" := by decide_pstr
example : charsetReSearch true (ofS "text/html; charset=utf8") = true := by decide_pstr

example : substituteContent (ofS "big5") (ofS "text/html" ++ ofS "; charset=" ++ ofS "utf8") = ofS "text/html; charset=big5" := by decide_pstr

/-- the XML declaration `BeautifulSoup.decode` writes names the target encoding, names nothing for a Python-specific one
    or for `None` -/
theorem xml_declaration (e : PStr) :
    xmlDeclaration (some e) = (if isPythonSpecific e then ofS "<?xml version=\"1.0\"?>\n"
      else ofS "<?xml version=\"1.0\" encoding=\"" ++ e ++ ofS "\"?>\n")
    ∧ xmlDeclaration none = ofS "<?xml version=\"1.0\"?>\n" := by
  constructor
  · cases h : isPythonSpecific e <;> simp only [xmlDeclaration, h, Bool.false_eq_true, if_true, if_false]
    · repeat rw [ofS_ofList]
      simp
    · decide_pstr
  · decide_pstr

/-- the names the Python documentation lists as Python-specific encodings (both spellings), as the property states them -/
def documentedPythonSpecific : List PStr :=
  [ofS "idna", ofS "mbcs", ofS "oem", ofS "palmos", ofS "punycode", ofS "raw_unicode_escape", ofS "undefined",
   ofS "unicode_escape", ofS "raw-unicode-escape", ofS "unicode-escape", ofS "string-escape", ofS "string_escape"]

/-- the WHOLE generated `PYTHON_SPECIFIC_ENCODINGS` table is exactly that list (each way), so `isPythonSpecific` is
    membership in the documented list; real codec names — and other letter cases of the listed ones — are not in it -/
theorem python_specific_table :
    documentedPythonSpecific.all isPythonSpecific = true
    ∧ pythonSpecificEncodings.all (fun e => documentedPythonSpecific.contains e) = true
    ∧ [ofS "utf-8", ofS "ascii", ofS "latin-1", ofS "utf-16", ofS "koi8-r", ofS "IDNA", []].all (fun e => !isPythonSpecific e) = true := by
  rw [documentedPythonSpecific]
  decide_pstr

theorem isPythonSpecific_iff (e : PStr) : isPythonSpecific e = true ↔ e ∈ documentedPythonSpecific := by
  constructor
  · intro h
    have hm : e ∈ pythonSpecificEncodings := List.contains_iff_mem.mp h
    have := List.all_eq_true.mp python_specific_table.2.1 e hm
    exact List.contains_iff_mem.mp this
  · intro h
    exact List.all_eq_true.mp python_specific_table.1 e h

/-! ## 5. re-detection: the output of an ASCII-compatible codec carries a declaration a reader finds -/

/-- Re-detection by the simpler reader `findDeclared`, which takes the *first* `charset\s*=\s*["']?value` anywhere in the
    bytes (no `<meta` context): any ASCII text `pre` in which the word `charset` does not occur (`quietDecl`, decidable), then
    the HTML5 declaration as the renderer writes it for `e`. (`redetect_charset` / `redetect_content` below are the statements
    against dammit's own regex.) -/
theorem redetect_charset_first_match (C : Codec) (hc : C.AsciiCompat) (pre e rest : PStr) (hpre : ∀ c ∈ pre, c < 128)
    (hq : quietDecl pre = true) (he : NameLike e) (hrest : C.Encodable rest) :
    findDeclared (C.enc (pre ++ ofS "charset=\"" ++ e ++ [34] ++ rest)) = some e := by
  have hasc : ∀ c ∈ pre ++ ofS "charset=\"" ++ e ++ [34], c < 128 := by
    simp only [List.forall_mem_append, List.forall_mem_cons]
    exact ⟨⟨⟨hpre, by decide_pstr⟩, fun c h => (he c h).1⟩, by omega, nofun⟩
  have e1 : pre ++ ofS "charset=\"" ++ e ++ [34] ++ C.enc rest = pre ++ (ofS "charset=" ++ (34 :: (e ++ 34 :: C.enc rest))) := by
    repeat rw [ofS_ofList]
    simp
  rw [hc _ rest hasc hrest, e1, findDeclared_quiet pre _ hq, findDeclared_key_quoted e _ he]

/-- the same for the HTML4 declaration (`… charset=e"`, non-empty name): `pre` is then everything up to the key, e.g.
    `<html><head><meta content="text/html; ` -/
theorem redetect_content_first_match (C : Codec) (hc : C.AsciiCompat) (pre e rest : PStr) (hpre : ∀ c ∈ pre, c < 128)
    (hq : quietDecl pre = true) (he : NameLike e) (hne : e ≠ []) (hrest : C.Encodable rest) :
    findDeclared (C.enc (pre ++ ofS "charset=" ++ e ++ [34] ++ rest)) = some e := by
  have hasc : ∀ c ∈ pre ++ ofS "charset=" ++ e ++ [34], c < 128 := by
    simp only [List.forall_mem_append, List.forall_mem_cons]
    exact ⟨⟨⟨hpre, by decide_pstr⟩, fun c h => (he c h).1⟩, by omega, nofun⟩
  obtain ⟨c, cs, rfl⟩ := List.exists_cons_of_ne_nil hne
  rw [hc _ rest hasc hrest]
  simp only [List.append_assoc, List.cons_append, List.nil_append]
  rw [findDeclared_quiet pre _ hq]
  exact findDeclared_key_bare c cs _ he

example : quietDecl (ofS "<html><head><title>chars et al</title><meta a=\"c\" ") = true := by decide_pstr
example : quietDecl (ofS "<meta content=\"text/html; x=CHARSET; ") = false := by decide_pstr
example : findDeclared (utf8Codec.enc (ofS "<html><head><meta " ++ ofS "charset=\"" ++ ofS "utf-8" ++ [34] ++ [0x2603, 0x1F600])) = some (ofS "utf-8") := by decide_pstr
example : findDeclared (asciiCodec.enc (decodeNode (some (ofS "ascii")) [] metaCharset)) = some (ofS "ascii") := by
  rw [metaCharset, setUp_charset_utf8, asciiCodec_fast]
  decide_pstr
example : findDeclared (latin1Codec.enc (decodeNode (some (ofS "latin-1")) [] metaContent)) = some (ofS "latin-1") := by
  rw [metaContent, setUp_content_utf8, latin1Codec_fast]
  decide_pstr
example : NameLike (ofS "iso-8859-15") := by unfold NameLike; decide_pstr

/-- **Re-detection against the input side's own model (full for the HTML5 declaration).** `BS.EncodingIn.htmlSearch` is
    C07's model of dammit's `html_meta` regex — leftmost `<\s*meta`, greedy `[^>]+`, the LAST `charset\s*=\s*["']?…` of that
    tag. For every ASCII-compatible codec, every ASCII text `pre` before the tag in which that regex finds nothing (whatever
    follows: `hq`), every tag `<meta A charset="e" B>` as `_format_tag` writes it (`A`: earlier attributes, any ASCII without
    `>`; `B`: ASCII without `=` and `>`, e.g. the `/` of a void element), every name `e` a declaration can carry, and
    everything after the tag: the regex, run on the bytes `encode` produced, returns `e`. -/
theorem redetect_charset (C : Codec) (hc : C.AsciiCompat) (pre A e B rest : PStr)
    (hpre : ∀ c ∈ pre, c < 128) (hq : ∀ X, EncodingIn.htmlSearch (pre ++ X) = EncodingIn.htmlSearch X)
    (hA : ∀ c ∈ A, c < 128 ∧ c ≠ 62) (he : DetName e) (hB : ∀ c ∈ B, c < 128 ∧ c ≠ 61 ∧ c ≠ 62) (hrest : C.Encodable rest) :
    EncodingIn.htmlSearch (C.enc ((pre ++ (ofS "<meta " ++ (A ++ (ofS "charset=\"" ++ (e ++ 34 :: (B ++ [62])))))) ++ rest)) = some e := by
  have hasc : ∀ c ∈ pre ++ (ofS "<meta " ++ (A ++ (ofS "charset=\"" ++ (e ++ 34 :: (B ++ [62]))))), c < 128 := by
    simp only [List.forall_mem_append, List.forall_mem_cons]
    exact ⟨hpre, by decide_pstr, fun c h => (hA c h).1, by decide_pstr, fun c h => (he c h).1, by omega,
      fun c h => (hB c h).1, by omega, nofun⟩
  rw [hc _ rest hasc hrest, List.append_assoc, hq]
  simp only [List.append_assoc, List.cons_append, List.nil_append]
  exact htmlSearch_meta A e B _ (fun c h => (hA c h).2) he (fun c h => (hB c h).2)

/-- … and for the HTML4 declaration: `<meta A charset=e" B>` where `A` is everything of the tag up to the key (e.g.
    `content="text/html; `), `e` is non-empty, and `B` is the rest of the tag in which the regex finds nothing more
    (`hB`, e.g. ` http-equiv="Content-Type"/`). -/
theorem redetect_content (C : Codec) (hc : C.AsciiCompat) (pre A : PStr) (c : Nat) (cs B rest : PStr)
    (hpre : ∀ x ∈ pre, x < 128) (hq : ∀ X, EncodingIn.htmlSearch (pre ++ X) = EncodingIn.htmlSearch X)
    (hA : ∀ x ∈ A, x < 128 ∧ x ≠ 62) (he : DetName (c :: cs)) (hBa : ∀ x ∈ B, x < 128)
    (hB : ∀ X, EncodingIn.lastCharset (B ++ 62 :: X) = none) (hrest : C.Encodable rest) :
    EncodingIn.htmlSearch (C.enc ((pre ++ (ofS "<meta " ++ (A ++ (ofS "charset=" ++ (c :: cs ++ 34 :: (B ++ [62])))))) ++ rest))
      = some (c :: cs) := by
  have hasc : ∀ x ∈ pre ++ (ofS "<meta " ++ (A ++ (ofS "charset=" ++ (c :: cs ++ 34 :: (B ++ [62]))))), x < 128 := by
    simp only [List.forall_mem_append, List.forall_mem_cons]
    exact ⟨hpre, by decide_pstr, fun x h => (hA x h).1, by decide_pstr, List.forall_mem_cons.mp fun x h => (he x h).1, by omega, hBa,
      by omega, nofun⟩
  rw [hc _ rest hasc hrest, List.append_assoc, hq]
  simp only [List.append_assoc, List.cons_append, List.nil_append]
  exact htmlSearch_meta_bare A c cs B _ (fun x h => (hA x h).2) he (hB _)

example : ∀ X, EncodingIn.lastCharset (ofS " http-equiv=\"Content-Type\"/" ++ 62 :: X) = none := by intro X; rw [ofS_ofList]; rfl
example : EncodingIn.htmlSearch (latin1Codec.enc (decodeNode (some (ofS "latin-1")) []
    (.tag (ofS "head") [] [.tag (ofS "title") [] [.text [0xE9]], metaContent, .tag (ofS "p") [] [.text [0x2603]]])))
    = some (ofS "latin-1") := by
  rw [metaContent, setUp_content_utf8, latin1Codec_fast]
  decide_pstr

-- the hypotheses are satisfiable: a real document head before the tag, a real codec, a real name
example : ∀ X, EncodingIn.htmlSearch (ofS "<html><head><title>t</title>" ++ X) = EncodingIn.htmlSearch X := by intro X; rw [ofS_ofList]; rfl
example : DetName (ofS "iso-8859-15") := by unfold DetName; decide_pstr
example : EncodingIn.htmlSearch (utf8Codec.enc (decodeNode (some (ofS "utf-8")) []
    (.tag (ofS "html") [] [.tag (ofS "head") [] [.tag (ofS "title") [] [.text [0x2603]], metaCharset], .text [0x1F600]])))
    = some (ofS "utf-8") := by
  rw [metaCharset, setUp_charset_utf8]
  decide_pstr
-- with both declaration styles in one tag the regex takes the one in `content` — which the repaired code has rewritten too
example : EncodingIn.htmlSearch (latin1Codec.enc (decodeNode (some (ofS "latin-1")) []
    (.tag (ofS "meta") (setUpSubstitutions (ofS "meta") metaBothAttrs) []))) = some (ofS "latin-1") := by
  rw [metaBothAttrs, latin1Codec_fast]
  decide_pstr

/-- **BOM-carrying output.** `utf-32` output is always recognised by its mark, `utf-16` output whenever the rendering does
    not begin with U+0000 (a rendering begins with `<` or text) — the "(and those written with a byte-order mark)" clause. -/
theorem redetect_bom (s : PStr) (c : Nat) (cs : PStr) (h0 : c ≠ 0) (hc : c < 0x10000) :
    sniffBom (utf32Codec.enc s) = some .utf32le ∧ sniffBom (utf16Codec.enc (c :: cs)) = some .utf16le :=
  -- `hc` is idle: `sniff_utf16` holds of two-unit code points too
  ⟨sniff_utf32 s, (sniff_utf16 (c :: cs)).2 (by simpa using h0)⟩

/-- without that proviso it fails: a `utf-16` document that begins with U+0000 carries `FF FE 00 00`, the UTF-32-LE mark -/
theorem redetect_bom_needs_nonzero_start : sniffBom (utf16Codec.enc [0, 60]) = some .utf32le := by decide +kernel

example : utf8Codec.AsciiCompat ∧ (tableCodec sb_koi8_r).AsciiCompat :=
  ⟨utf8_asciiCompat, (sb_table_codec_laws (ofS "koi8-r") sb_koi8_r (by decide_pstr)).2.2 (by decide_pstr)⟩

end BS.Props.C08
