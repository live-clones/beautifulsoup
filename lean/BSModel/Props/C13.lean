import BSModel.Proofs.Text
import BSModel.Proofs.TextHeap
import BSModel.Proofs.TextIter
import BSModel.Props.C01
import BSModel.Props.C03
import BSModel.Gen.Text
/-! # C13 — text extraction returns exactly the interesting strings, in document order

Property theorems only. `allStringsImpl`, `getTextImpl`, `stringsImpl`, `strippedStringsImpl`, `textImpl`, `stringProp`,
`interestingFor`, `stringContainer` mirror `bs4/element.py` and `bs4/__init__.py` statement by statement
(`Model/Text.lean`); `textOf`/`textOfL` is the recursive evaluator, `joinSpec`/`List.intercalate` the meaning of
`separator.join`, `SoleChain`/`Occurs` the relations the statement talks about. The tables (`c13MainContentStringTypes`,
`c13HtmlStringContainers`, `pyWhitespace`) are generated from the live objects on every run. -/
namespace BS.Props.C13
open BS.Text

abbrev main := BS.Gen.c13MainContentStringTypes
abbrev containers := BS.Gen.c13HtmlStringContainers

/-- the pieces after the class test: as they are, or each one trimmed and the empty ones dropped -/
def pieces (strp : Bool) (l : List PStr) : List PStr :=
  if strp then (l.map strip).filter (fun s => !s.isEmpty) else l

/-- "ordinary text and CDATA" -/
def isMain (c : StrClass) : Bool := c == .navigableString || c == .cData

/-- A concrete mixed tree:
    `<div>" a "<!--c--><script>s1</script><p><![CDATA[x]]>"  "<b>"y "</b></p><template>t<i>u</i></template><?pi?></div>`
    with an extra Script string moved under `<p>` by hand. Tag names are code points; all tags carry the
    `interesting_string_types` a default html.parser build gives them. -/
def demo : Node :=
  .tag (ofS "div") (interestingFor main containers (ofS "div"))
    [ .str .navigableString (ofS " a "),
      .str .comment (ofS "c"),
      .tag (ofS "script") (interestingFor main containers (ofS "script")) [.str .script (ofS "s1")],
      .tag (ofS "p") (interestingFor main containers (ofS "p"))
        [ .str .cData (ofS "x"), .str .navigableString (ofS "  "), .str .script (ofS "moved"),
          .tag (ofS "b") (interestingFor main containers (ofS "b")) [.str .navigableString (ofS "y ")] ],
      .tag (ofS "template") (interestingFor main containers (ofS "template"))
        [ .str .templateString (ofS "t"), .tag (ofS "i") (interestingFor main containers (ofS "i")) [.str .templateString (ofS "u")] ],
      .str .processingInstruction (ofS "pi") ]

/-! ## 1. the chain walk with its filter is the recursive evaluator -/

/-- Document order: the worklist walk over `descendants` lists the nodes below an element in pre-order. -/
theorem walk_is_preorder (l : List Node) : walk l = preL l := walk_eq_pre l

/-- Refinement, for every tree, every `types` argument and every `interesting_string_types` of the receiver: what
    `Tag._all_strings` yields (walk over the descendants, exact-class filter, optional strip) is what the recursive
    evaluator yields for the resolved class selection — the selected strings, all of them, in document order. -/
theorem allStrings_eq_spec (mn : List StrClass) (strp : Bool) (types : TypesArg) (nm : PStr) (i : Interesting)
    (kids : List Node) :
    allStringsImpl mn strp types (.tag nm i kids) = pieces strp (textOfL (resolveTag mn i types).keeps kids) := by
  simp only [allStringsImpl, walk_eq_pre, filterMap_preL, filterMap_piece, pieces]

example : allStringsImpl main false .dflt demo = [ofS " a ", ofS "x", ofS "  ", ofS "y "] := by
  rw [demo, allStrings_eq_spec]; decide +kernel
example : allStringsImpl main true .dflt demo = [ofS "a", ofS "x", ofS "y"] := by
  rw [demo, allStrings_eq_spec]; decide +kernel

/-- The same on a string receiver (`NavigableString._all_strings`): the string itself if its class is selected
    (default: the main content classes, whatever its parent), trimmed under `strip`, and — a quirk of this branch,
    with or without `strip` — nothing at all when the result is empty. -/
theorem allStrings_str_eq_spec (mn : List StrClass) (strp : Bool) (types : TypesArg) (c : StrClass) (v : PStr) :
    allStringsImpl mn strp types (.str c v) =
      ((textOf (resolveStr mn types).keeps (.str c v)).map (fun s => if strp then strip s else s)).filter
        (fun s => !s.isEmpty) := by
  rw [allStrings_str, textOf]
  cases (resolveStr mn types).keeps c <;> rfl

example : allStringsImpl main true .dflt (.str .navigableString (ofS " k ")) = [ofS "k"] := by decide_pstr
example : allStringsImpl main false .dflt (.str .comment (ofS "k")) = [] := by decide_pstr
example : allStringsImpl main false .dflt (.str .navigableString []) = [] := by decide +kernel

/-- Document order and "exactly the selected classes", separated: there is one fixed sequence of the string nodes
    beneath an element (`strNodesL`, independent of every argument); each extraction is that sequence filtered by class —
    nothing reordered, nothing selected dropped, nothing else added. -/
theorem allStrings_filter_of_document_order (mn : List StrClass) (types : TypesArg) (nm : PStr) (i : Interesting)
    (kids : List Node) :
    allStringsImpl mn false types (.tag nm i kids) =
      ((strNodesL kids).filter (fun p => (resolveTag mn i types).keeps p.1)).map (·.2) := by
  rw [allStrings_eq_spec, textOfL_eq_filter]; rfl

example : (match demo with | .tag _ _ ks => (strNodesL ks).map (·.1) | _ => []) =
    [.navigableString, .comment, .script, .cData, .navigableString, .script, .navigableString, .templateString,
     .templateString, .processingInstruction] := by decide +kernel

/-- Law of the evaluator: the text of a sequence of siblings is the concatenation of their texts (so the text of
    an element is the concatenation, child by child, of the texts of its children). -/
theorem spec_append (sel : StrClass → Bool) (a b : List Node) :
    textOfL sel (a ++ b) = textOfL sel a ++ textOfL sel b := textOfL_append sel a b

/-! ## 2. the default selection -/

/-- Table fact: `Tag.MAIN_CONTENT_STRING_TYPES` is exactly {NavigableString, CData}. -/
theorem main_types_table (c : StrClass) : main.contains c = isMain c := by
  cases c <;> rfl

/-- Table fact: the default string containers of the HTML builders are script, style, template, rt, rp with their
    own classes, and no container class is a main content class. -/
theorem containers_table :
    containers.lookup (ofS "script") = some .script ∧ containers.lookup (ofS "style") = some .stylesheet ∧
    containers.lookup (ofS "template") = some .templateString ∧ containers.lookup (ofS "rt") = some .rubyTextString ∧
    containers.lookup (ofS "rp") = some .rubyParenthesisString ∧ containers.length = 5 ∧
    (containers.all fun p => !main.contains p.2) = true ∧ BS.Gen.c13BaseStringContainers = [] := by
  decide_pstr

/-- Ordinary element (its name is not a string container of the builder that made it), default arguments:
    exactly the NavigableString and CData strings beneath it, in document order. -/
theorem default_types_ordinary (strp : Bool) (cont : List (PStr × StrClass)) (nm : PStr) (kids : List Node)
    (h : cont.lookup nm = none) :
    allStringsImpl main strp .dflt (.tag nm (interestingFor main cont nm) kids) = pieces strp (textOfL isMain kids) := by
  rw [allStrings_eq_spec, keeps_ordinary _ _ _ _ h, textOfL_congr _ isMain main_types_table]

/-- Container element (script/style/template/rt/rp by default, or whatever `string_containers` says): exactly the
    strings of its own special class. -/
theorem default_types_container (strp : Bool) (cont : List (PStr × StrClass)) (nm : PStr) (c : StrClass)
    (kids : List Node) (h : cont.lookup nm = some c) :
    allStringsImpl main strp .dflt (.tag nm (interestingFor main cont nm) kids) =
      pieces strp (textOfL (fun d => d == c) kids) := by
  rw [allStrings_eq_spec, keeps_container _ _ _ _ c h]

/-- A tag made without a builder and without `interesting_string_types` (`None`) counts the main content classes. -/
theorem default_types_none (strp : Bool) (nm : PStr) (kids : List Node) :
    allStringsImpl main strp .dflt (.tag nm .none kids) = pieces strp (textOfL isMain kids) := by
  rw [allStrings_eq_spec]
  exact congrArg (pieces strp) (textOfL_congr _ isMain main_types_table kids)

example : containers.lookup (ofS "div") = none := by decide_pstr
example : containers.lookup (ofS "template") = some .templateString := by decide_pstr
example : allStringsImpl main true .dflt (.tag (ofS "template") (interestingFor main containers (ofS "template"))
    [.str .templateString (ofS " t "), .tag (ofS "b") (.many main) [.str .templateString (ofS "u"), .str .comment (ofS "c")]]) =
    [ofS "t", ofS "u"] := by
  rw [default_types_container true containers (ofS "template") .templateString _ (by decide)]; decide
example : allStringsImpl main false .dflt (.tag (ofS "script") (interestingFor main containers (ofS "script"))
    [.str .script (ofS "s"), .str .comment (ofS "c"), .str .navigableString (ofS "n")]) = [ofS "s"] := by
  rw [allStrings_eq_spec]; decide +kernel
example : (match demo with | .tag _ _ ks => textOfL isMain ks | _ => []) = [ofS " a ", ofS "x", ofS "  ", ofS "y "] := by
  decide +kernel

/-! ## 3. seen from outside, special strings never appear -/

/-- From an ordinary element, whatever the nesting: the default extraction is the extraction of *every* string
    (`types=None`) of the tree from which all strings of another class than NavigableString/CData — comments,
    doctypes, declarations, processing instructions, Script, Stylesheet, TemplateString, ruby strings, user
    subclasses — have been deleted. -/
theorem outside_never_sees_special (strp : Bool) (cont : List (PStr × StrClass)) (nm : PStr) (kids : List Node)
    (h : cont.lookup nm = none) :
    allStringsImpl main strp .dflt (.tag nm (interestingFor main cont nm) kids) =
      allStringsImpl main strp .none (.tag nm (interestingFor main cont nm) (pruneL isMain kids)) := by
  rw [default_types_ordinary strp cont nm kids h, allStrings_eq_spec, textOfL_pruneL]
  exact congrArg (pieces strp) (textOfL_congr _ _ (fun c => (Bool.and_true _).symm) kids)

/-- Membership form: a piece is yielded (no strip) iff it is the value of a NavigableString or CData node beneath the
    element. -/
theorem outside_mem (cont : List (PStr × StrClass)) (nm : PStr) (kids : List Node) (p : PStr)
    (h : cont.lookup nm = none) :
    p ∈ allStringsImpl main false .dflt (.tag nm (interestingFor main cont nm) kids) ↔
      ∃ c, OccursL kids c p ∧ (c = .navigableString ∨ c = .cData) := by
  rw [default_types_ordinary false cont nm kids h]
  simp only [pieces, Bool.false_eq_true, if_false]
  rw [mem_textOfL]
  simp [isMain]

/-- A subtree holding only special strings contributes nothing, however deep they sit. -/
theorem only_special_yields_nothing (strp : Bool) (cont : List (PStr × StrClass)) (nm : PStr) (kids : List Node)
    (h : cont.lookup nm = none) (hs : ∀ c v, OccursL kids c v → c ≠ .navigableString ∧ c ≠ .cData) :
    allStringsImpl main strp .dflt (.tag nm (interestingFor main cont nm) kids) = [] := by
  rw [default_types_ordinary strp cont nm kids h]
  have : textOfL isMain kids = [] := by
    apply List.eq_nil_iff_forall_not_mem.mpr
    intro p hp
    obtain ⟨c, ho, hc⟩ := (mem_textOfL isMain kids p).mp hp
    have := hs c p ho
    simp [isMain] at hc
    rcases hc with rfl | rfl
    · exact this.1 rfl
    · exact this.2 rfl
  simp [this, pieces]

example : allStringsImpl main false .dflt (.tag (ofS "div") (interestingFor main containers (ofS "div"))
    [.tag (ofS "script") (.many [.script]) [.str .script (ofS "s")], .str .comment (ofS "c"), .str .doctype (ofS "html")]) = [] := by
  rw [allStrings_eq_spec]; decide +kernel
/-- the hypothesis of `only_special_yields_nothing` on a concrete nested forest -/
example : ∀ c v, OccursL [.tag (ofS "script") (.many [.script]) [.str .script (ofS "s")], .str .comment (ofS "c")] c v →
    c ≠ .navigableString ∧ c ≠ .cData := by
  intro c v h
  cases h with
  | head h => cases h with
    | inTag h => cases h with
      | head h => cases h; decide
      | tail h => cases h
  | tail h => cases h with
    | head h => cases h; decide
    | tail h => cases h
example : pruneL isMain [.str .comment (ofS "c"), .tag (ofS "p") .none [.str .script (ofS "s"), .str .cData (ofS "x")]]
    = [.tag (ofS "p") .none [.str .cData (ofS "x")]] := by
  simp [pruneL, prune, isMain]

/-! ## 4. an explicit `types` argument -/

/-- A collection of classes selects exactly the strings whose class is a member — by *exact* class, independently of
    the receiver's own `interesting_string_types` and of the main content classes. -/
theorem types_arg_exact (mn : List StrClass) (strp : Bool) (cs : List StrClass) (nm : PStr) (i : Interesting)
    (kids : List Node) :
    allStringsImpl mn strp (.many cs) (.tag nm i kids) = pieces strp (textOfL (fun c => cs.contains c) kids) :=
  allStrings_eq_spec mn strp (.many cs) nm i kids

/-- A single class selects exactly the strings of that class. -/
theorem types_arg_one (mn : List StrClass) (strp : Bool) (c : StrClass) (nm : PStr) (i : Interesting)
    (kids : List Node) :
    allStringsImpl mn strp (.one c) (.tag nm i kids) = pieces strp (textOfL (fun d => d == c) kids) :=
  allStrings_eq_spec mn strp (.one c) nm i kids

/-- `types=None` selects every string. -/
theorem types_arg_none (mn : List StrClass) (strp : Bool) (nm : PStr) (i : Interesting) (kids : List Node) :
    allStringsImpl mn strp .none (.tag nm i kids) = pieces strp (textOfL (fun _ => true) kids) :=
  allStrings_eq_spec mn strp .none nm i kids

/-- Membership form of `types_arg_exact`. -/
theorem types_arg_mem (mn : List StrClass) (cs : List StrClass) (nm : PStr) (i : Interesting) (kids : List Node)
    (p : PStr) :
    p ∈ allStringsImpl mn false (.many cs) (.tag nm i kids) ↔ ∃ c, OccursL kids c p ∧ c ∈ cs := by
  rw [types_arg_exact]
  simp only [pieces, Bool.false_eq_true, if_false]
  rw [mem_textOfL]
  simp

example : allStringsImpl main false (.many [.comment, .script]) demo = [ofS "c", ofS "s1", ofS "moved"] := by
  rw [demo, types_arg_exact]; decide +kernel
example : allStringsImpl main false (.one .templateString) demo = [ofS "t", ofS "u"] := by
  rw [demo, types_arg_one]; decide +kernel
example : allStringsImpl main false (.many [.comment]) (.tag [] .none [.str (.other 0) (ofS "subclass of Comment")]) = [] := by
  rw [types_arg_exact]; decide +kernel

/-! ## 5. separator -/

/-- `get_text(sep, strip, types)` is the pieces of `_all_strings(strip, types)` with `sep` between consecutive ones. -/
theorem getText_join (mn : List StrClass) (sep : PStr) (strp : Bool) (types : TypesArg) (n : Node) :
    getTextImpl mn sep strp types n = List.intercalate sep (allStringsImpl mn strp types n) := by
  rw [getTextImpl, joinImpl_eq_joinSpec, joinSpec_eq_intercalate]

/-- Length accounting: every piece once, the separator between consecutive pieces only. -/
theorem getText_length (mn : List StrClass) (sep : PStr) (strp : Bool) (types : TypesArg) (n : Node) :
    (getTextImpl mn sep strp types n).length =
      (allStringsImpl mn strp types n).flatten.length + ((allStringsImpl mn strp types n).length - 1) * sep.length := by
  rw [getTextImpl, joinImpl_eq_joinSpec]
  cases allStringsImpl mn strp types n with
  | nil => simp [joinSpec]
  | cons p ps =>
    rw [joinSpec_cons, List.length_append, length_flatten_sep]
    simp only [List.flatten_cons, List.length_append, List.length_cons, Nat.add_sub_cancel]
    omega

/-- `.text` is the plain concatenation of `.strings`. -/
theorem text_concat (mn : List StrClass) (n : Node) : textImpl mn n = (stringsImpl mn n).flatten := by
  rw [textImpl, getTextImpl, joinImpl_eq_joinSpec, stringsImpl]
  cases allStringsImpl mn false .dflt n with
  | nil => simp [joinSpec]
  | cons p ps => rw [joinSpec_cons]; simp

example : getTextImpl main (ofS "|") true .dflt demo = ofS "a|x|y" := by
  rw [getText_join, demo, allStrings_eq_spec]; decide +kernel
example : getTextImpl main (ofS "--") false (.one .comment) demo = ofS "c" := by
  rw [getText_join, demo, allStrings_eq_spec]; decide +kernel

/-! ## 6. strip -/

/-- `str.strip()`: the string minus a whitespace prefix and a whitespace suffix, with no whitespace left at either
    end (whitespace = the generated `isspace` table). -/
theorem strip_spec (s : PStr) :
    (∃ a b, s = a ++ strip s ++ b ∧ (∀ c ∈ a, isSpace c = true) ∧ (∀ c ∈ b, isSpace c = true)) ∧
    (∀ c, (strip s).head? = some c → isSpace c = false) ∧ (∀ c, (strip s).getLast? = some c → isSpace c = false) :=
  ⟨Trim.trim_decomp isSpace s, Trim.trim_head isSpace s, Trim.trim_last isSpace s⟩

/-- With `strip=True`: the sequence is the unstripped sequence with every piece trimmed and the empty results
    dropped; every yielded piece is non-empty and has no leading or trailing whitespace. Holds for element and string
    receivers alike. -/
theorem strip_drops_empties (mn : List StrClass) (types : TypesArg) (nm : PStr) (i : Interesting) (kids : List Node) :
    allStringsImpl mn true types (.tag nm i kids) =
      ((allStringsImpl mn false types (.tag nm i kids)).map strip).filter (fun s => !s.isEmpty) ∧
    ∀ p ∈ allStringsImpl mn true types (.tag nm i kids),
      p ≠ [] ∧ (∀ c, p.head? = some c → isSpace c = false) ∧ (∀ c, p.getLast? = some c → isSpace c = false) := by
  rw [allStrings_eq_spec, allStrings_eq_spec]
  simp only [pieces, if_true, Bool.false_eq_true, if_false, true_and]
  intro p hp
  obtain ⟨hm, hne⟩ := List.mem_filter.mp hp
  obtain ⟨s, _, rfl⟩ := List.mem_map.mp hm
  refine ⟨?_, Trim.trim_head isSpace s, Trim.trim_last isSpace s⟩
  intro h; simp [h] at hne

/-- the same for a string receiver -/
theorem strip_drops_empties_str (mn : List StrClass) (types : TypesArg) (c : StrClass) (v : PStr) :
    ∀ p ∈ allStringsImpl mn true types (.str c v),
      p = strip v ∧ p ≠ [] ∧ (∀ c, p.head? = some c → isSpace c = false) ∧ (∀ c, p.getLast? = some c → isSpace c = false) := by
  intro p hp
  rw [allStrings_str] at hp
  split at hp
  · obtain ⟨hm, hne⟩ := List.mem_filter.mp hp
    obtain rfl : p = strip v := by simpa using hm
    exact ⟨rfl, by simpa using hne, Trim.trim_head isSpace v, Trim.trim_last isSpace v⟩
  · cases hp

/-- Already-trimmed strings come through unchanged. -/
theorem strip_fixed_point (s : PStr) (hh : ∀ c, s.head? = some c → isSpace c = false)
    (hl : ∀ c, s.getLast? = some c → isSpace c = false) : strip s = s := Trim.trim_fixed isSpace s hh hl

example : strip (ofS "a b") = ofS "a b" := strip_fixed_point _ (by decide) (by decide)
example : strip (ofS " \t a b\n") = ofS "a b" := by decide_pstr
example : strip [0x3000, 0xA0, 120, 0x200B, 0x2028] = [120, 0x200B] := by decide +kernel
example : strippedStringsImpl main demo = [ofS "a", ofS "x", ofS "y"] := by
  rw [strippedStringsImpl, demo, allStrings_eq_spec]; decide +kernel
example : ofS "a" ∈ allStringsImpl main true .dflt demo := by
  rw [demo, allStrings_eq_spec]; decide +kernel

/-- Whole-table facts about the generated `isspace` table: strictly increasing (so duplicate-free), every entry a
    code point, and below 128 exactly TAB, LF, VT, FF, CR, FS, GS, RS, US and SPACE. -/
theorem whitespace_table :
    BS.Gen.pyWhitespace.Pairwise (· < ·) ∧ (BS.Gen.pyWhitespace.all (· < 0x110000)) = true ∧
    ((List.range 128).all fun c => isSpace c == [9, 10, 11, 12, 13, 28, 29, 30, 31, 32].contains c) = true := by
  refine ⟨by decide +kernel, by decide +kernel, contains_below BS.Gen.pyWhitespace _ 128 (by decide +kernel)⟩

/-! ## 7. `.string` -/

/-- `.string` is the string reached through a chain of only children — any class of string counts — and `None` when
    there is no such chain (no child, several children, or the chain ends in an empty tag). -/
theorem string_sole_chain (n : Node) (c : StrClass) (v : PStr) :
    stringProp n = some (c, v) ↔ SoleChain n c v :=
  ⟨stringProp_sound n c v, stringProp_complete n c v⟩

/-- There is at most one such string. -/
theorem sole_chain_unique (n : Node) (c c' : StrClass) (v v' : PStr) (h : SoleChain n c v) (h' : SoleChain n c' v') :
    c = c' ∧ v = v' := by
  have a := stringProp_complete n c v h
  have b := stringProp_complete n c' v' h'
  rw [a] at b
  simpa using b

/-- `None` exactly when no chain of only children ends in a string. -/
theorem string_none_iff (n : Node) : stringProp n = none ↔ ¬ ∃ c v, SoleChain n c v := by
  constructor
  · rintro h ⟨c, v, hc⟩
    rw [stringProp_complete n c v hc] at h; cases h
  · intro h
    cases hs : stringProp n with
    | none => rfl
    | some cv => exact absurd ⟨cv.1, cv.2, stringProp_sound n cv.1 cv.2 hs⟩ h

example : stringProp (.tag (ofS "a") .none [.tag (ofS "b") .none [.str .comment (ofS "c")]]) = some (.comment, ofS "c") := by
  decide +kernel
example : SoleChain (.tag (ofS "a") .none [.tag (ofS "b") .none [.str .comment (ofS "c")]]) .comment (ofS "c") :=
  .down (.down (.here _ _))
example : stringProp demo = none := by decide_pstr
example : stringProp (.tag (ofS "a") .none [.tag (ofS "b") .none []]) = none := by decide +kernel

/-! ## 8. the class parsed text gets -/

/-- `BeautifulSoup.string_container` without `element_classes` overrides: plain data gets the class of the innermost
    open string-container element if there is one, else NavigableString; data the builder already classified
    (Comment, CData, Doctype, …) keeps its class. -/
theorem string_container_rule (cont : List (PStr × StrClass)) :
    (∀ nm c, cont.lookup nm = some c → stringContainer [] cont (some nm) none = c) ∧
    (∀ nm, cont.lookup nm = none → stringContainer [] cont (some nm) none = .navigableString) ∧
    (stringContainer [] cont none none = .navigableString) ∧
    (∀ top b, b ≠ .navigableString → stringContainer [] cont top (some b) = b) := by
  refine ⟨?_, ?_, ?_, ?_⟩
  · intro nm c h; simp [stringContainer, h]
  · intro nm h; simp [stringContainer, h]
  · simp [stringContainer]
  · intro top b hb; cases top <;> simp [stringContainer, hb]

/-- Hence, with the default tables: text parsed inside script/style/template/rt/rp is invisible from every ordinary
    element (it is visible from the container itself by `default_types_container`). -/
theorem parsed_container_text_invisible (nm : PStr) (c : StrClass) (v : PStr) (h : containers.lookup nm = some c) :
    textOf isMain (.str (stringContainer [] containers (some nm) none) v) = [] := by
  obtain ⟨_, _, _, _, _, _, hdisjoint, _⟩ := containers_table
  have hm := lookup_not_contains hdisjoint h
  rw [main_types_table] at hm
  simp [(string_container_rule containers).1 nm c h, textOf, hm]

example : stringContainer [] containers (some (ofS "script")) none = .script := by decide_pstr
example : stringContainer [] containers (some (ofS "script")) (some .comment) = .comment := by decide_pstr
/-- the recorded quirk (outside the property's quantifier): `element_classes={NavigableString: Sub}` turns every
    parsed string into a `Sub`, which the exact-class test then hides from ordinary elements -/
example : stringContainer [(.navigableString, .other 0)] containers none none = .other 0 ∧
    textOf isMain (.str (.other 0) (ofS "x")) = [] := by decide_pstr

/-! ## 9. on the pointer heap: parsed and edited trees

`allStringsHeap`/`getTextHeap`/`stringPropHeap` (Model/TextHeap.lean) run `_all_strings`, `get_text` and `.string`
on the pointer heap of Model/Heap.lean: over `Tag.descendants` — the `next_element` chase bounded by
`_last_descendant()` — exactly as the Python does. C01 proves that parsing and every finite history of editing calls
keep the heap consistent (`Good2`, of which `Good` is the first half); on a consistent heap the chase is the pre-order of the children lists
(Proofs/HeapIter.lean). Hence nothing about the linkage is assumed: sections 1–7 hold for the tree
`toNode h L h.cap x` read off the children lists. -/
section heap
open BS.Heap

/-- On every consistent heap, for every receiver, labelling and argument: the pointer-chasing `_all_strings` never
    fails and yields what the tree-level code-mirror yields on the tree read off `contents`. -/
theorem heap_allStrings_eq_tree {h : Heap} (hg : Good h) (mn : List StrClass) (L : Labels) (strp : Bool)
    (types : TypesArg) (x : Nat) :
    allStringsHeap mn h L strp types x = .ok (allStringsImpl mn strp types (toNode h L h.cap x)) := by
  obtain ⟨w, hwf⟩ := hg
  exact allStringsHeap_eq_tree hwf mn L strp types x

/-- … hence it is the recursive evaluator over the children's trees (element receiver). -/
theorem heap_allStrings_eq_spec {h : Heap} (hg : Good h) (mn : List StrClass) (L : Labels) (strp : Bool)
    (types : TypesArg) (x : Nat) (hx : (h.kind x).isTag = true) :
    allStringsHeap mn h L strp types x =
      .ok (pieces strp (textOfL (resolveTag mn (L.interesting x) types).keeps ((h.kids x).map (toNode h L h.cap)))) := by
  rw [heap_allStrings_eq_tree hg]
  obtain ⟨w, hwf⟩ := hg
  rw [toNode_unfold hwf L x hx, allStrings_eq_spec]

/-- Document order on the heap itself: the pieces are the values of the string nodes of the selected classes among
    `docOrder h x` (C01's pre-order of the subtree) after `x`, in that order. -/
theorem heap_allStrings_document_order {h : Heap} (hg : Good h) (mn : List StrClass) (L : Labels)
    (types : TypesArg) (x : Nat) (hx : (h.kind x).isTag = true) :
    allStringsHeap mn h L false types x =
      .ok ((((docOrder h x).tail).filter
        (fun e => !(h.kind e).isTag && (resolveTag mn (L.interesting x) types).keeps (L.cls e))).map h.val) := by
  obtain ⟨w, hwf⟩ := hg
  simp only [allStringsHeap, hx, if_true, descendants_eq hwf x, filterMap_shallow, docOrder]

/-- `get_text` on the heap: never fails, and is the separator-joined pieces of the tree-level evaluator. -/
theorem heap_getText {h : Heap} (hg : Good h) (mn : List StrClass) (L : Labels) (sep : PStr) (strp : Bool)
    (types : TypesArg) (x : Nat) :
    getTextHeap mn h L sep strp types x =
      .ok (List.intercalate sep (allStringsImpl mn strp types (toNode h L h.cap x))) := by
  unfold getTextHeap
  rw [heap_allStrings_eq_tree hg]
  exact congrArg Except.ok (getText_join mn sep strp types _)

/-- **Parse any document, edit it by any finite history of editing calls (all fourteen kinds, any arguments within
    C01's quantifier): text extraction on the resulting pointer structure is the recursive evaluator on its
    children lists** — for every receiver, every class labelling, every `interesting_string_types`, every argument. -/
theorem parsed_then_edited_text :
    ∀ (acts : List BS.ParseLink.Act) (ops : List Op) (h' : Heap),
      run (BS.ParseLink.prun BS.ParseLink.PSt.init acts).heap ops = .ok h' → (∀ op ∈ ops, op.kindsOK) →
      ∀ (mn : List StrClass) (L : Labels) (sep : PStr) (strp : Bool) (types : TypesArg) (x : Nat),
        allStringsHeap mn h' L strp types x = .ok (allStringsImpl mn strp types (toNode h' L h'.cap x)) ∧
        getTextHeap mn h' L sep strp types x =
          .ok (List.intercalate sep (allStringsImpl mn strp types (toNode h' L h'.cap x))) := by
  intro acts ops h' hr hk mn L sep strp types x
  have hg : Good h' := (BS.Props.C01.parsed_then_edited_consistent acts ops h' hr hk).1
  exact ⟨heap_allStrings_eq_tree hg mn L strp types x, heap_getText hg mn L sep strp types x⟩

/-- the same from freshly constructed objects (API-built trees) -/
theorem built_then_edited_text :
    ∀ (kinds : List Kind) (ops : List Op) (h' : Heap),
      run (Heap.init kinds) ops = .ok h' → (∀ op ∈ ops, op.kindsOK) →
      ∀ (mn : List StrClass) (L : Labels) (strp : Bool) (types : TypesArg) (x : Nat),
        allStringsHeap mn h' L strp types x = .ok (allStringsImpl mn strp types (toNode h' L h'.cap x)) := by
  intro kinds ops h' hr hk mn L strp types x
  have hg : Good h' := (BS.Props.C01.history_consistent ops _ h' (BS.Props.C01.init_consistent kinds) hk hr).1
  exact heap_allStrings_eq_tree hg mn L strp types x

/-- The abstraction is the tree of the children lists: a tag's tree is the tag over its children's trees, a string's
    tree is the string; the fuel `h.cap` is enough everywhere. -/
theorem toNode_is_the_tree {h : Heap} (hg : Good h) (L : Labels) (x : Nat) :
    ((h.kind x).isTag = true →
      toNode h L h.cap x = .tag (L.name x) (L.interesting x) ((h.kids x).map (toNode h L h.cap))) ∧
    ((h.kind x).isTag = false → toNode h L h.cap x = .str (L.cls x) (h.val x)) := by
  obtain ⟨w, hwf⟩ := hg
  exact ⟨toNode_unfold hwf L x, toNode_str L h.cap x⟩

/-- `.string` on the heap (the loop over `contents`) returns the string *object* at the end of the chain of only
    children, and `None` when there is none; the loop bound is never reached. -/
theorem heap_string_sole_chain {h : Heap} (hg : Good h) (x s : Nat) :
    stringPropHeap h h.cap x = some s ↔ HeapSoleChain h x s := by
  obtain ⟨w, hwf⟩ := hg
  constructor
  · exact stringPropHeap_sound h h.cap x s
  · intro hc
    have := hwf.size_cap x
    exact stringPropHeap_complete hwf hc h.cap (by omega)

/-- … and it is the tree-level `.string` of the abstracted tree (class and value of that object). -/
theorem heap_string_eq_tree (h : Heap) (L : Labels) (x : Nat) :
    stringProp (toNode h L h.cap x) = (stringPropHeap h h.cap x).map (fun s => (L.cls s, h.val s)) :=
  stringProp_toNode h L h.cap x

/-- a labelling for the examples: node 4 is a Comment, node 5 a Script string, every other string plain; tag 3
    counts Comments only, the other tags are ordinary -/
def demoLabels : Labels :=
  { cls := fun i => if i = 4 then .comment else if i = 5 then .script else .navigableString,
    interesting := fun i => if i = 3 then .many [.comment] else .many main,
    name := fun i => [i] }

/-- non-vacuity: `<t1>2<t3><!--4--></t3></t1>5` built by the API under the BeautifulSoup object 0, then edited: `5`
    moved into `t1`, a plain string `7` inserted at the front of `t1` (the library allocates node 6 for it), `2`
    extracted and appended to `t3` — and the text extracted through the pointers of the result -/
def demoHeap : Except Err Heap :=
  run (Heap.init [.soup, .tag, .str, .tag, .pre, .str])
    [.append 0 (.node 1), .append 1 (.node 2), .append 1 (.node 3), .append 3 (.node 4), .append 0 (.node 5),
     .append 1 (.node 5), .insert 1 0 [.plain [7]], .extract 2, .append 3 (.node 2)]

example : (demoHeap.toOption.map fun h => (h.kids 0, h.kids 1, h.kids 3)) = some ([1], [6, 3, 5], [4, 2]) := by
  decide +kernel
example : (demoHeap.toOption.bind fun h => (allStringsHeap main h demoLabels false .dflt 0).toOption) =
    some [[7], [2]] := by decide +kernel
example : (demoHeap.toOption.bind fun h => (allStringsHeap main h demoLabels false .dflt 3).toOption) = some [[4]] := by
  decide +kernel
example : (demoHeap.toOption.bind fun h => (allStringsHeap main h demoLabels false .none 0).toOption) =
    some [[7], [4], [2], [5]] := by decide +kernel
example : (demoHeap.toOption.bind fun h => (getTextHeap main h demoLabels (ofS "|") false .none 1).toOption) =
    some [7, 124, 4, 124, 2, 124, 5] := by decide_pstr
example : (demoHeap.toOption.map fun h => stringPropHeap h h.cap 0) = some none := by decide +kernel
example : (run (Heap.init [.soup, .tag, .tag, .str]) [.append 0 (.node 1), .append 1 (.node 2), .append 2 (.node 3)]).toOption.map
    (fun h => stringPropHeap h h.cap 0) = some (some 3) := by decide +kernel
example : ∀ op ∈ ([.append 1 (.node 5), .insert 1 0 [.plain [7]], .extract 2, .setString 3 .pre [9]] : List Op), op.kindsOK := by
  intro op h
  simp only [List.mem_cons, List.mem_nil_iff, or_false] at h
  rcases h with rfl | rfl | rfl | rfl <;> simp [Op.kindsOK]
/-- the demo heap is consistent (hypothesis `Good` of the heap theorems), by C01's history theorem -/
example : ∀ h, demoHeap = .ok h → Good h := fun h hh =>
  (BS.Props.C01.history_consistent _ _ h (BS.Props.C01.init_consistent _)
    (by intro op hop
        simp only [List.mem_cons, List.mem_nil_iff, or_false] at hop
        rcases hop with rfl | rfl | rfl | rfl | rfl | rfl | rfl | rfl | rfl <;> simp [Op.kindsOK]) hh).1
/-- a parsed start (`<a>x<b>y</b></a>z`) edited by a history: the hypothesis of `parsed_then_edited_text` is satisfiable -/
example : (run (BS.ParseLink.prun BS.ParseLink.PSt.init [.newTag, .newStr, .newTag, .newStr, .pop, .pop, .newStr]).heap
    [.append 1 (.node 5), .insert 1 0 [.plain [7]], .extract 2, .append 3 (.node 2)]).toOption.map
    (fun h => (h.kids 1, h.kids 3)) = some ([6, 3, 5], [4, 2]) := by decide +kernel

end heap

/-! ## 10. configuration: the builder's `string_containers`, builder-less tags, `new_tag`, copies, nesting -/

/-- `TreeBuilder.__init__`: an omitted `string_containers` means the class default, a dictionary — the empty one
    included — replaces it entirely, `None` is stored as `None`. -/
theorem config_option (dflt l : List (PStr × StrClass)) :
    builderStringContainers dflt .useDefault = some dflt ∧ builderStringContainers dflt (.dict l) = some l ∧
    builderStringContainers dflt .none = none := ⟨rfl, rfl, rfl⟩

/-- `Tag.__init__`, every case: with a builder the `interesting_string_types` argument is ignored and the builder's
    table decides (own class for a container name, main content classes otherwise — `new_tag` and the parser go
    through the same call); without a builder the argument is kept as given; a builder configured with
    `string_containers=None` makes every tag construction raise `TypeError` (recorded, not a documented value). -/
theorem tag_init_cases (mn : List StrClass) (cont : List (PStr × StrClass)) (nm : PStr) (p : Interesting) :
    tagInitInteresting mn (some (some cont)) nm p = .ok (interestingFor mn cont nm) ∧
    newTagInteresting mn (some cont) nm = .ok (interestingFor mn cont nm) ∧
    tagInitInteresting mn none nm p = .ok p ∧
    copySelfInteresting mn nm p = .ok p ∧
    tagInitInteresting mn (some none) nm p = .typeError ∧ newTagInteresting mn none nm = .typeError :=
  ⟨rfl, rfl, rfl, rfl, rfl, rfl⟩

/-- `string_containers={}` (and the plain `TreeBuilder`, whose default table is empty): no element is a container, not
    even script/style/template — every element counts NavigableString and CData, and plain parsed text is a
    NavigableString wherever it stands. -/
theorem empty_config_all_ordinary (dflt : List (PStr × StrClass)) (nm : PStr) (p : Interesting)
    (openNames : List PStr) (strp : Bool) (kids : List Node) :
    tagInitInteresting main (some (builderStringContainers dflt (.dict []))) nm p = .ok (.many main) ∧
    stringContainer [] [] (containerStackTop [] openNames) none = .navigableString ∧
    allStringsImpl main strp .dflt (.tag nm (interestingFor main [] nm) kids) = pieces strp (textOfL isMain kids) := by
  refine ⟨rfl, ?_, default_types_ordinary strp [] nm kids rfl⟩
  rw [containerStackTop_none [] openNames (fun _ _ => rfl)]; rfl

example : tagInitInteresting main (some (builderStringContainers containers (.dict []))) (ofS "script") .none =
    .ok (.many [.navigableString, .cData]) := by decide +kernel
example : tagInitInteresting main (some (builderStringContainers containers .useDefault)) (ofS "script") (.one .comment) =
    .ok (.many [.script]) := by decide_pstr
example : tagInitInteresting main none (ofS "script") .none = .ok .none := by decide_pstr
example : tagInitInteresting main (some (builderStringContainers containers .none)) (ofS "p") .none = .typeError := by decide_pstr

/-- A builder-less tag made without `interesting_string_types` counts the main content classes, whatever its name
    (a bare `Tag(name="script")` is *not* a string container). -/
theorem builderless_tag_counts_main (strp : Bool) (nm : PStr) (kids : List Node) :
    ∃ i, tagInitInteresting main none nm .none = .ok i ∧
      allStringsImpl main strp .dflt (.tag nm i kids) = pieces strp (textOfL isMain kids) :=
  ⟨.none, rfl, default_types_none strp nm kids⟩

/-- Copies (`copy.copy`, `copy.deepcopy`, `copy_self` on every tag, `type(s)(s)` on every string) keep every tag's
    `interesting_string_types` and every string's class: every extraction on the copy equals the one on the original. -/
theorem copy_same_text (mn : List StrClass) (sep : PStr) (strp : Bool) (types : TypesArg) (n : Node) :
    copyNode mn n = n ∧
    allStringsImpl mn strp types (copyNode mn n) = allStringsImpl mn strp types n ∧
    getTextImpl mn sep strp types (copyNode mn n) = getTextImpl mn sep strp types n ∧
    stringProp (copyNode mn n) = stringProp n := by
  rw [copyNode_id]; exact ⟨rfl, rfl, rfl, rfl⟩

/-- Copying a whole BeautifulSoup object is different at the root only: `BeautifulSoup.copy_self` builds a new root
    from the same builder, so the root counts what the builder's table says for its name again, whatever had been
    assigned to the original root by hand (recorded behaviour; every element below goes through `Tag.copy_self`). -/
theorem soup_copy_root_from_builder (mn : List StrClass) (cont : List (PStr × StrClass)) (root : PStr) (orig : Interesting) :
    soupCopySelfInteresting mn (some cont) root orig = .ok (interestingFor mn cont root) := rfl

example : copyNode main demo = demo := (copy_same_text main [] false .dflt demo).1

/-- Nested containers: plain text gets the class of the **innermost** open container element (whatever other
    containers are open further out), and NavigableString when none is open. -/
theorem nested_containers_innermost (cont : List (PStr × StrClass)) (pre : List PStr) (nm : PStr) (post : List PStr)
    (c : StrClass) (hpre : ∀ g ∈ pre, cont.lookup g = none) (hnm : cont.lookup nm = some c) :
    stringContainer [] cont (containerStackTop cont (pre ++ nm :: post)) none = c := by
  rw [containerStackTop_split cont pre nm post c hpre hnm]
  simp [stringContainer, hnm]

theorem no_container_open (cont : List (PStr × StrClass)) (names : List PStr)
    (h : ∀ g ∈ names, cont.lookup g = none) :
    stringContainer [] cont (containerStackTop cont names) none = .navigableString := by
  rw [containerStackTop_none cont names h]; rfl

example : stringContainer [] containers (containerStackTop containers [ofS "b", ofS "p"]) none = .navigableString :=
  no_container_open containers _ (by decide)
example : stringContainer [] containers (containerStackTop containers [ofS "b", ofS "rt", ofS "p", ofS "template", ofS "div"])
    none = .rubyTextString := by decide +kernel
example : (∀ g ∈ [ofS "b"], containers.lookup g = none) ∧ containers.lookup (ofS "rt") = some .rubyTextString := by decide_pstr

/-! ### the parser: C03's machine with this configuration

`BS.Builder` (Model/Builder.lean, property C03) mirrors `pushTag`/`popTag`/`_popToTag`/`endData`/`string_container`
for **every** event list, with string classes as numbers (`0` = NavigableString) and an abstract
`cfg.container`. `StrClass.code` is that numbering; the theorem below instantiates C03's machine with a
`string_containers` table and identifies the class it gives to pending text with `stringContainer` on the innermost
open container. With C03's `endData_is_flush`/`build_refines` this holds in every state the parser can reach. -/
section parser
open BS.Builder

theorem classFor_eq_stringContainer (cont : List (PStr × StrClass)) (preserve : Name → Bool) (ascii : List Nat)
    (root : Name) (stack : List Frame) :
    classFor (builderCfg cont preserve ascii root) stack none =
      (Text.stringContainer [] cont (containerStackTop cont (stack.map (·.name))) none).code := by
  simp only [classFor, containerStackTop, builderCfg]
  induction stack with
  | nil => simp [Text.stringContainer, StrClass.code]
  | cons f fs ih =>
    simp only [List.map_cons, List.find?]
    cases hl : cont.lookup f.name with
    | none => simpa [hl] using ih
    | some c => simp [hl, Text.stringContainer]

/-- **Parsed text gets the class of the innermost open string-container element**: one flush of pending plain text, in
    any parser state (any open elements `top :: rest`, any pending chunks), appends exactly one string whose class is
    `stringContainer` of the innermost open container (else NavigableString). -/
theorem parsed_text_class (cont : List (PStr × StrClass)) (preserve : Name → Bool) (ascii : List Nat) (root : Name)
    (top : Frame) (rest : List Frame) (b : List PStr) (hb : b ≠ []) :
    ∃ s, sFlush (builderCfg cont preserve ascii root) ⟨top :: rest, b⟩ none =
      ⟨{ top with kids := top.kids ++
          [Doc.text (Text.stringContainer [] cont (containerStackTop cont ((top :: rest).map (·.name))) none).code s] } :: rest, []⟩ := by
  rw [← classFor_eq_stringContainer cont preserve ascii root (top :: rest)]
  cases b with
  | nil => exact absurd rfl hb
  | cons x xs => exact ⟨_, rfl⟩

/-- **Never the contents of script/style/template (rt, rp) seen from outside**, with the default tables: plain text
    flushed while the innermost open container is one of the five default container elements becomes a string that no
    ordinary element's extraction yields and that the container's own extraction yields — wherever in the tree it
    later sits. -/
theorem container_contents_invisible (preserve : Name → Bool) (ascii : List Nat) (root : Name)
    (top : Frame) (rest : List Frame) (b : List PStr) (hb : b ≠ []) (pre : List Name) (nm : Name) (post : List Name)
    (c : StrClass) (hsplit : (top :: rest).map (·.name) = pre ++ nm :: post)
    (hpre : ∀ g ∈ pre, containers.lookup g = none) (hnm : containers.lookup nm = some c) :
    ∃ s, sFlush (builderCfg containers preserve ascii root) ⟨top :: rest, b⟩ none =
        ⟨{ top with kids := top.kids ++ [Doc.text c.code s] } :: rest, []⟩ ∧
      textOf isMain (.str (StrClass.ofCode c.code) s) = [] ∧
      textOf (fun d => d == c) (.str (StrClass.ofCode c.code) s) = [s] := by
  obtain ⟨s, hs⟩ := parsed_text_class containers preserve ascii root top rest b hb
  rw [hsplit, nested_containers_innermost containers pre nm post c hpre hnm] at hs
  refine ⟨s, hs, ?_, by simp [ofCode_code, textOf]⟩
  rw [ofCode_code, ← (string_container_rule containers).1 nm c hnm]
  exact parsed_container_text_invisible nm c s hnm

example : (∀ g ∈ [ofS "b"], containers.lookup g = none) ∧ containers.lookup (ofS "script") = some .script ∧
    (([⟨ofS "b", none, []⟩, ⟨ofS "script", none, []⟩, ⟨[0], none, []⟩] : List Frame).map (·.name)) =
      [ofS "b"] ++ ofS "script" :: [[0]] := by decide +kernel

end parser

/-! ## 11. the arguments at full strength -/

/-- `strip` is tested by `if strip:` — only its truth value matters: `0`, `None`, `""` behave as `False`; any other
    integer and any non-empty string as `True`. -/
theorem strip_truthiness (mn : List StrClass) (a b : PyArg) (types : TypesArg) (n : Node) (h : a.truthy = b.truthy) :
    allStringsArg mn a types n = allStringsArg mn b types n := by
  simp only [allStringsArg, h]

theorem strip_falsy_truthy (mn : List StrClass) (types : TypesArg) (n : Node) (k : Int) (hk : k ≠ 0) (s : PStr)
    (hs : s ≠ []) :
    allStringsArg mn (.int 0) types n = allStringsImpl mn false types n ∧
    allStringsArg mn .none types n = allStringsImpl mn false types n ∧
    allStringsArg mn (.str []) types n = allStringsImpl mn false types n ∧
    allStringsArg mn (.int k) types n = allStringsImpl mn true types n ∧
    allStringsArg mn (.str s) types n = allStringsImpl mn true types n := by
  refine ⟨rfl, rfl, rfl, ?_, ?_⟩
  · have : (k != 0) = true := by simpa using hk
    simp only [allStringsArg, PyArg.truthy, this]
  · cases s with
    | nil => exact absurd rfl hs
    | cons x xs => rfl

example : PyArg.truthy (.int 2) = PyArg.truthy (.str (ofS "yes")) := by decide_pstr

/-- `strip()` is *the* trim: however a string is cut into whitespace, a middle without leading or trailing whitespace,
    and whitespace, the middle is `strip` of it (with `strip_spec`: existence and uniqueness). -/
theorem strip_unique_trim (s a m b : PStr) (hs : s = a ++ m ++ b) (ha : ∀ c ∈ a, isSpace c = true)
    (hb : ∀ c ∈ b, isSpace c = true) (hh : ∀ c, m.head? = some c → isSpace c = false)
    (hl : ∀ c, m.getLast? = some c → isSpace c = false) : strip s = m :=
  Trim.trim_unique isSpace s a m b hs ha hb hh hl

example : strip ([32, 0x3000] ++ ofS "a b" ++ [10]) = ofS "a b" :=
  strip_unique_trim _ [32, 0x3000] (ofS "a b") [10] rfl (by decide) (by decide) (by decide) (by decide)

/-- A string asked for its own text: by default it counts only if it is a NavigableString or CData, *whatever its
    parent* — a Script string inside `<script>` has empty `.text` (recorded behaviour of `NavigableString._all_strings`). -/
theorem str_receiver_default (strp : Bool) (c : StrClass) (v : PStr) :
    allStringsImpl main strp .dflt (.str c v) =
      if isMain c then ([if strp then strip v else v].filter (fun s => !s.isEmpty)) else [] := by
  rw [allStrings_str]
  simp only [resolveStr, Types.keeps, main_types_table]

/-- … and an explicit `types` selects a string receiver by exact class as well. -/
theorem types_arg_str (mn : List StrClass) (strp : Bool) (cs : List StrClass) (c : StrClass) (v : PStr) :
    allStringsImpl mn strp (.many cs) (.str c v) =
      if cs.contains c then ([if strp then strip v else v].filter (fun s => !s.isEmpty)) else [] :=
  allStrings_str mn strp (.many cs) c v

example : allStringsImpl main false .dflt (.str .script (ofS "s")) = [] := by decide_pstr
example : allStringsImpl main false (.many [.script]) (.str .script (ofS "s")) = [ofS "s"] := by decide_pstr

/-- A one-shot iterator (generator) as `types` — not the documented tuple: `in` consumes it, so the loop yields only a
    *sublist* of what the same classes passed as a tuple select, depending on the order of the strings. -/
theorem iter_types_sublist (mn : List StrClass) (strp : Bool) (cs : List StrClass) (nm : PStr) (i : Interesting)
    (kids : List Node) :
    (allStringsIterImpl strp cs (.tag nm i kids)).Sublist (allStringsImpl mn strp (.many cs) (.tag nm i kids)) := by
  simp only [allStringsIterImpl, allStringsImpl, resolveTag]
  exact iterWalk_sublist strp cs (walk kids) cs (fun _ h => h)

/-- the sublist can be proper: `types=iter([Comment, NavigableString])` on "a", <!--c--> finds "a" only after skipping
    `Comment`, which is then gone -/
example : allStringsIterImpl false [.comment, .navigableString]
      (.tag [] .none [.str .navigableString (ofS "a"), .str .comment (ofS "c")]) = [ofS "a"] ∧
    allStringsImpl main false (.many [.comment, .navigableString])
      (.tag [] .none [.str .navigableString (ofS "a"), .str .comment (ofS "c")]) = [ofS "a", ofS "c"] := by
  constructor
  · simp [allStringsIterImpl, walk_eq_pre, preL, preN, iterWalk, iterIn, tagKeep, Types.keeps]
  · rw [types_arg_exact]; decide +kernel

/-! ## 12. a `Tag` (or `BeautifulSoup`) subclass with its own `MAIN_CONTENT_STRING_TYPES`; pickling -/

/-- An element whose class overrides `MAIN_CONTENT_STRING_TYPES` with `cm` (installed through
    `element_classes={Tag: Sub}`, or a `BeautifulSoup` subclass): built with a builder under an ordinary name, or
    builder-less with `interesting_string_types=None`, it counts exactly the classes in `cm` — whatever the stock
    classes count; a container name still gives the container's own class. -/
theorem subclass_main (mn cm : List StrClass) (strp : Bool) (cont : List (PStr × StrClass)) (nm : PStr) (kids : List Node) :
    (cont.lookup nm = none →
      allStringsImpl mn strp .dflt (.tag nm (interestingFor cm cont nm) kids) =
        pieces strp (textOfL (fun c => cm.contains c) kids)) ∧
    allStringsImpl mn strp .dflt (.tag nm (Interesting.ofClass cm .none) kids) =
      pieces strp (textOfL (fun c => cm.contains c) kids) ∧
    (∀ c, cont.lookup nm = some c →
      allStringsImpl mn strp .dflt (.tag nm (interestingFor cm cont nm) kids) = pieces strp (textOfL (fun d => d == c) kids)) := by
  refine ⟨fun h => ?_, allStrings_eq_spec mn strp .dflt nm _ kids, fun c h => ?_⟩
  · rw [allStrings_eq_spec, keeps_ordinary _ _ _ _ h]
  · rw [allStrings_eq_spec, keeps_container _ _ _ _ c h]

/-- the subclass's set is what `Tag.__init__` stores for parsed tags and `new_tag` (the `main` argument of the mirror is
    `self.MAIN_CONTENT_STRING_TYPES`, not `Tag.MAIN_CONTENT_STRING_TYPES`) -/
example : tagInitInteresting [.navigableString, .cData, .comment] (some (some containers)) (ofS "div") .none =
    .ok (.many [.navigableString, .cData, .comment]) := by decide +kernel
example : allStringsImpl main false .dflt (.tag (ofS "div") (interestingFor [.navigableString, .cData, .comment] containers (ofS "div"))
    [.str .navigableString (ofS "a"), .str .comment (ofS "b"), .str .script (ofS "s")]) = [ofS "a", ofS "b"] := by
  rw [allStrings_eq_spec]; decide +kernel
example : allStringsImpl main false .dflt (.tag (ofS "x") (Interesting.ofClass [.comment] .none)
    [.str .navigableString (ofS "a"), .str .comment (ofS "b")]) = [ofS "b"] := by
  rw [allStrings_eq_spec]; decide +kernel

/-- Pickling: a picklable builder (html.parser) travels with the document, configuration included, so the re-parse on
    unpickling and `new_tag` afterwards follow the same `string_containers`; for a builder that is not picklable only
    its class is kept and the class defaults apply (recorded). -/
theorem pickle_keeps_config (dflt : List (PStr × StrClass)) (sc : Option (List (PStr × StrClass))) (mn : List StrClass)
    (nm : PStr) :
    pickledStringContainers true dflt sc = sc ∧
    newTagInteresting mn (pickledStringContainers true dflt sc) nm = newTagInteresting mn sc nm ∧
    pickledStringContainers false dflt sc = some dflt := ⟨rfl, rfl, rfl⟩

/-- Pickling with a builder *object* of any truth value: a picklable builder keeps its table whatever its truth value
    (`__setstate__` asks `is None` since ca31e7d), so the re-parse on unpickling and `new_tag` afterwards follow the same
    `string_containers` as before the round trip. -/
theorem unpickle_keeps_builder_object (dflt htmlDflt : List (PStr × StrClass)) (b : BuilderObj) (mn : List StrClass) (nm : PStr) :
    pickledStringContainersObj true dflt htmlDflt b = b.sc ∧
    newTagInteresting mn (pickledStringContainersObj true dflt htmlDflt b) nm = newTagInteresting mn b.sc nm := ⟨rfl, rfl⟩

/-- the code before the repair (`elif not self.builder`) swapped a FALSY builder for a default `HTMLParserTreeBuilder`:
    the configuration survived exactly when the object was truthy or its table was the HTML default anyway -/
theorem unpickle_builder_truth_value_old (dflt htmlDflt : List (PStr × StrClass)) (sc : Option (List (PStr × StrClass))) :
    pickledStringContainersObjOld true dflt htmlDflt ⟨sc, true⟩ = sc ∧
    pickledStringContainersObjOld true dflt htmlDflt ⟨sc, false⟩ = some htmlDflt := ⟨rfl, rfl⟩

/-- witness of the repaired finding `C13-unpickle-falsy-builder`: under the old code a falsy builder configured with
    `string_containers={}` came back from a pickle round trip with the default table — `<script>` a string container
    again; under the repaired code it does not -/
theorem unpickle_falsy_builder_witness :
    pickledStringContainersObjOld true containers containers ⟨some [], false⟩ ≠ some [] ∧
    newTagInteresting main (pickledStringContainersObjOld true containers containers ⟨some [], false⟩) (ofS "script") =
      .ok (.many [.script]) ∧
    pickledStringContainersObj true containers containers ⟨some [], false⟩ = some [] ∧
    newTagInteresting main (some []) (ofS "script") = .ok (.many main) := by decide +kernel

/-- A builder object that happens to be falsy (`__len__() == 0`, `__bool__() == False`) is still a builder: tags made with
    it get what its `string_containers` says, exactly like a truthy one; only `None` means "no builder". -/
theorem falsy_builder_is_a_builder (mn : List StrClass) (sc : Option (List (PStr × StrClass))) (t : Bool) (nm : PStr)
    (p : Interesting) :
    tagInitInterestingObj mn (some ⟨sc, t⟩) nm p = tagInitInterestingObj mn (some ⟨sc, true⟩) nm p ∧
    tagInitInterestingObj mn (some ⟨sc, t⟩) nm p = tagInitInteresting mn (some sc) nm p ∧
    tagInitInterestingObj mn none nm p = .ok p := ⟨rfl, rfl, rfl⟩

example : tagInitInterestingObj main (some ⟨some containers, false⟩) (ofS "script") .none = .ok (.many [.script]) := by decide_pstr

section retry
open BS.Builder
/-- **Rejected parse attempts leave nothing behind.** `BeautifulSoup.__init__` tries the candidates of
    `prepare_markup()` in turn, calling `reset()` before each: however many candidates were rejected after sending
    events — with whatever string-container (and whitespace-preserving) elements still open — the document is the one
    built from the accepted candidate alone, so its strings have the classes `parsed_text_class` gives them (C03's
    `rejected_strategies_leave_no_trace`, instantiated with a `string_containers` table). -/
theorem rejected_attempts_leave_no_container_open (cont : List (PStr × StrClass)) (preserve : Name → Bool)
    (ascii : List Nat) (root : Name) (st : St) (rej : List Attempt) (hr : ∀ a ∈ rej, a.rejected = true) (evs : List Ev)
    (later : List Attempt) :
    parseLoop (builderCfg cont preserve ascii root) st (rej ++ ⟨evs, false⟩ :: later) =
      some (build (builderCfg cont preserve ascii root) evs) :=
  BS.Props.C03.rejected_strategies_leave_no_trace _ st rej hr evs later

/-- non-vacuity: a first candidate abandoned inside an open `<template>` (name `[2]` here), then the accepted one: the
    text `x` of the accepted document is a plain string (class 0), exactly as without the rejected attempt -/
example : parseLoop (builderCfg [([2], .templateString)] (fun _ => false) [32] [0]) (St.init (builderCfg [([2], .templateString)] (fun _ => false) [32] [0]))
    [⟨[.start [2] none, .data [120]], true⟩, ⟨[.start [3] none, .data [120]], false⟩] =
    some [.elem [3] none [.text 0 [120]]] := by rfl
end retry

/-! ## 13. the consumer edits the string it was just handed (histories of (yield, edit) steps)

`stringsIterEditFrom` (Model/TextHeap.lean) is `for s in tag._all_strings(False, types): <edit>` on the pointer heap:
the generator `Tag.descendants` reads `successor = current.next_element` **before** `yield current`. -/
section iteration
open BS.Heap

/-- **Extracting the string just handed out does not end or derail the iteration.** On a consistent heap, whatever
    subset of the strings the consumer extracts as it receives them, the iteration hands out exactly the interesting
    strings that were beneath the element when it started, in document order (the ids behind `allStringsHeap`). -/
theorem iteration_survives_extract {h : Heap} (hg : Good h) (mn : List StrClass) (L : Labels) (types : TypesArg) (x : Nat)
    (edit : Heap → Nat → Nat → Option Op) (hedit : ∀ hh k c, edit hh k c = none ∨ edit hh k c = some (.extract c))
    (l : List Nat) (h' : Heap) (hr : stringsIterEditFrom mn L types edit h.cap h x = .ok (l, h')) :
    ∃ ds, descendants h x = .ok ds ∧ l = ds.filter (heapKeeps mn L types x h) := by
  obtain ⟨w, hwf⟩ := hg
  unfold stringsIterEditFrom at hr
  cases hs : genStart h x with
  | error e => simp only [hs] at hr; cases hr
  | ok o =>
    cases o with
    | none =>
      simp only [hs] at hr; cases hr
      exact ⟨[], (genStart_descendants h x).2 hs, rfl⟩
    | some st =>
      simp only [hs] at hr
      refine ⟨genList h h.cap st, (genStart_descendants h x).1 st hs, ?_⟩
      have hinv : IterInv h st := by
        refine ⟨⟨w, hwf⟩, fun a ha => ?_⟩
        rw [hwf.kid_parent x a (genStart_current hs a ha)]; simp
      exact stringsIterEdit_eq (heapKeeps mn L types x) edit IterInv iterInv_next
        (fun hh st0 c st' k op h1 hI hgn hk he hstep => by
          rcases hedit hh k c with hn | hx
          · rw [hn] at he; cases he
          · rw [hx] at he; cases he
            exact extract_frame mn L types x hh st0 c st' h1 hI hgn hk hstep)
        h.cap h st 0 l h' hinv hr

/-- For *any* editing calls: if each edit, made while the generator is suspended, has the frame property (`EditFrame`:
    the remaining walk and the filter's verdicts are unchanged), the interleaved iteration hands out what the undisturbed
    one does. Full statement (not proved): every call of C01's alphabet applied to the string just handed out
    (`replace_with`, `insert_before/after`, `wrap`, `decompose`, …) has the frame property on a consistent heap. Proved
    for `extract` (`iteration_survives_extract`); missing for the others is the analogue of `extract_ne_after` for the
    paste witness of `Tag._insert` (they are `extract` + `_insert` of other nodes). The correspondence streams
    `heap-iter` and `tree-iter` run all of them against the real code. -/
theorem iteration_survives_framed_edits_partial (keep : Heap → Nat → Bool) (edit : Heap → Nat → Nat → Option Op)
    (Inv : Heap → GenSt → Prop) (hnext : ∀ h st c st', Inv h st → genNext h st = some (c, st') → Inv h st')
    (hedit : ∀ h st c st' k op h1, Inv h st → genNext h st = some (c, st') → keep h c = true → edit h k c = some op →
      step h op = .ok h1 → Inv h1 st' ∧ EditFrame keep h h1 st')
    (f : Nat) (h : Heap) (st : GenSt) (k : Nat) (l : List Nat) (h' : Heap) (hI : Inv h st)
    (hr : stringsIterEdit keep edit f h st k = .ok (l, h')) : l = (genList h f st).filter (keep h) :=
  stringsIterEdit_eq keep edit Inv hnext hedit f h st k l h' hI hr

/-- the undisturbed generator is `Tag.descendants` -/
theorem generator_is_descendants (h : Heap) (x : Nat) (st : GenSt) (hs : genStart h x = .ok (some st)) :
    descendants h x = .ok (genList h h.cap st) := (genStart_descendants h x).1 st hs

/-- non-vacuity: on the demo heap every string of the document is extracted as it is handed out; all four are handed
    out, in document order, and the document ends up without strings -/
example : (demoHeap.toOption.bind fun h =>
    (stringsIterEditFrom main demoLabels .none (fun _ _ c => some (.extract c)) h.cap h 0).toOption.map
      (fun r => (r.1, r.2.kids 1, r.2.kids 3))) = some ([6, 4, 2, 5], [3], []) := by decide +kernel
/-- … and replacing each by a new plain string (the library allocates nodes 7..10) hands out the same four -/
example : (demoHeap.toOption.bind fun h =>
    (stringsIterEditFrom main demoLabels .none (fun _ k c => some (.replaceWith c [.plain [100 + k]])) h.cap h 0).toOption.map
      (fun r => (r.1, r.2.kids 1, r.2.kids 3))) = some ([6, 4, 2, 5], [7, 3, 10], [8, 9]) := by decide +kernel
/-- reading the successor only AFTER the consumer had the element ends the iteration at once: the
    extracted string has no `next_element` any more -/
example : (demoHeap.toOption.bind fun h => (extract h 6).toOption.map (fun h1 => (h.ne 6, h1.ne 6))) =
    some (some 3, none) := by decide +kernel

end iteration

end BS.Props.C13
