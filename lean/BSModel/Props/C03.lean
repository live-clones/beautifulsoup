import BSModel.Proofs.BuilderBal
import BSModel.Proofs.ParseLinkClose
/-! # C03 — the tree-construction state machine of `BeautifulSoup`

Property theorems only.  `St`/`step`/`run`/`finish`/`build` mirror `bs4/__init__.py` statement by statement
(`pushTag`, `popTag`, `_popToTag` with its `open_tag_counter` guard, `endData`, `string_container`, the two
context stacks); `SSt`/`sStep`/`sRun`/`buildSpec` are the documented fold that reads everything off the open
elements.  The theorems hold for **every** configuration `cfg` with `CfgOK cfg` (the BeautifulSoup object's own
name is neither whitespace-preserving nor a string container) and **every** event list.

`Inv cfg st` (Proofs/Builder.lean) is the conjunction of the facts 1 and 2 below; it holds in every reachable
state (`reachable_inv`) and is what the statements about a single `_popToTag`/`endData` call assume. -/
namespace BS.Props.C03
open BS BS.Builder

/-! ## sample configuration for the non-vacuity examples
names are code-point lists: `[0]` = the root name, `[1]` whitespace-preserving, `[2]` a string container of class 7 -/

def cfgX : Cfg :=
  { preserve := fun n => n == [1],
    container := fun n => if n == [2] then some 7 else none,
    asciiSpaces := [9, 10, 12, 13, 32],
    rootName := [0] }

example : CfgOK cfgX := by decide

/-! ## 1–2: what the counter and the two context stacks hold -/

/-- Every reachable state satisfies the invariant `Inv` (root frame last, counter = number of open frames per
    name, both context stacks = the depths of the open frames they are about). -/
theorem reachable_inv (cfg : Cfg) (hc : CfgOK cfg) (evs : List Ev) : Inv cfg (run cfg (St.init cfg) evs) :=
  Inv.reachable hc evs

/-- `open_tag_counter[n]` is the number of open elements called `n` (a tag that happens to be called like the
    BeautifulSoup object is never counted, exactly as `pushTag` skips it); the tag stack is never empty and its
    outermost frame is the BeautifulSoup object — `_popToTag` never pops it. -/
theorem counter_inv (cfg : Cfg) (hc : CfgOK cfg) (evs : List Ev) :
    let st := run cfg (St.init cfg) evs
    (∀ n, (cget st.counter n).getD 0 =
        if n == cfg.rootName then 0 else (st.stack.filter (fun f => f.name == n)).length) ∧
    st.stack ≠ [] ∧
    ∃ r, st.stack.getLast? = some r ∧ r.name = cfg.rootName ∧ r.pfx = none := by
  intro st
  have h := Inv.reachable hc evs
  exact ⟨h.counter, h.root.ne_nil, h.root.getLast?⟩

example : (run cfgX (St.init cfgX) [.start [3] none, .start [3] (some [8]), .start [0] none]).counter = [([3], 2)] := by
  decide +kernel

/-- `preserve_whitespace_tag_stack` holds exactly the open whitespace-preserving elements and
    `string_container_stack` exactly the open string-container elements (innermost first, identified by depth). -/
theorem context_stacks_inv (cfg : Cfg) (hc : CfgOK cfg) (evs : List Ev) :
    let st := run cfg (St.init cfg) evs
    st.pws = pd cfg st.stack ∧ st.scs = sd cfg st.stack := by
  intro st
  have h := Inv.reachable hc evs
  exact ⟨h.pws, h.scs⟩

/-- What the code reads off the two stacks is what the documented fold reads off the open elements:
    "is a whitespace-preserving element open" and "class given by the nearest enclosing string container". -/
theorem context_reads (cfg : Cfg) (st : St) (h : Inv cfg st) (cls : Option Cls) :
    st.pws.isEmpty = !(preserving cfg st.stack) ∧ stringContainer cfg st cls = classFor cfg st.stack cls :=
  ⟨by rw [h.pws]; exact pd_isEmpty cfg _, stringContainer_eq h.scs cls⟩

example : (run cfgX (St.init cfgX) [.start [1] none, .start [3] none, .start [2] none]).pws = [2] ∧
    (run cfgX (St.init cfgX) [.start [1] none, .start [3] none, .start [2] none]).scs = [(4, [2])] := by decide +kernel

/-! ## 3: `_popToTag` -/

/-- The counter-guarded loop of `_popToTag(name, nsprefix)` closes up to and including the most recent open
    element with that name AND prefix; if the name is open only under other prefixes, up to and including the
    OUTERMOST open element of that name; nothing if the name is not open or is the root name.  It keeps the
    pending text and the invariant. -/
theorem popToTag_spec (cfg : Cfg) (st : St) (h : Inv cfg st) (name : Name) (pfx : Option Name) :
    (popToTag cfg st name pfx).stack =
        (if name == cfg.rootName then st.stack
         else sCloseN (closeCount name pfx st.stack.dropLast) st.stack) ∧
    (popToTag cfg st name pfx).buf = st.buf ∧
    Inv cfg (popToTag cfg st name pfx) :=
  ⟨popToTag_stack h name pfx, popToTag_buf cfg st name pfx, h.popToTag name pfx⟩

/-- Without namespace prefixes: an end tag closes up to and including the most recent open element of that
    name, and is ignored if none is open. -/
theorem popToTag_noprefix (cfg : Cfg) (st : St) (h : Inv cfg st) (hp : ∀ f ∈ st.stack, f.pfx = none)
    (name : Name) :
    (popToTag cfg st name none).stack =
      if name == cfg.rootName then st.stack
      else match st.stack.dropLast.findIdx? (fun f => f.name == name) with
        | some i => sCloseN (i + 1) st.stack
        | none => st.stack := by
  rw [popToTag_stack h name none,
    closeCount_noprefix name st.stack.dropLast (fun f hf => hp f (List.dropLast_subset _ hf))]
  split
  · rfl
  · cases st.stack.dropLast.findIdx? (fun f => f.name == name) <;> rfl

/-- the state after `<a:x><b><c:x><d>` (names `[5]`, `[4]`, `[5]`, `[6]`; prefixes `[8]`, none, `[9]`, none) -/
def stX : St :=
  run cfgX (St.init cfgX) [.start [5] (some [8]), .start [4] none, .start [5] (some [9]), .start [6] none]

example : Inv cfgX stX := Inv.reachable (by decide) _
-- matching prefix: the most recent `c:x` and everything above it
example : (popToTag cfgX stX [5] (some [9])).stack.length = 3 := by decide +kernel
-- `x` is open only under other prefixes: everything up to the OUTERMOST `x`
example : (popToTag cfgX stX [5] none).stack.length = 1 := by decide +kernel
-- not open: ignored
example : (popToTag cfgX stX [7] none).stack.length = 5 := by decide +kernel

/-! ## 4–5: the code is the documented fold; everything is closed at the end -/

/-- The code-mirror state machine (counter, context stacks, guarded loops) computes exactly the documented
    fold over the event list. -/
theorem build_refines (cfg : Cfg) (hc : CfgOK cfg) (evs : List Ev) : build cfg evs = buildSpec cfg evs :=
  build_eq_buildSpec hc evs

/-- … and step by step: forgetting the counter and the context stacks commutes with every event. -/
theorem run_refines (cfg : Cfg) (hc : CfgOK cfg) (evs : List Ev) :
    abs (run cfg (St.init cfg) evs) = sRun cfg ⟨[⟨cfg.rootName, none, []⟩], []⟩ evs :=
  abs_run evs (Inv.init hc)

example : build cfgX [.start [3] none, .data [32], .data [10], .stop [4] none, .start [2] none, .data [65]] =
    [.elem [3] none [.text 0 [10], .elem [2] none [.text 7 [65]]]] := by rfl

/-- After the closing phase only the BeautifulSoup object is open, both context stacks are empty and no text
    is pending. -/
theorem all_closed (cfg : Cfg) (hc : CfgOK cfg) (evs : List Ev) :
    let st := finish cfg (run cfg (St.init cfg) evs)
    st.stack.length = 1 ∧ st.pws = [] ∧ st.scs = [] ∧ st.buf = [] :=
  finish_closed hc (Inv.reachable hc evs)

/-! ## 6: what one flush appends -/

/-- One flush with pending chunks `b ≠ []` appends exactly one string to the innermost open element and clears
    the buffer.  Its class is the explicit class if one is given and ≠ 0, else the container class of the
    NEAREST enclosing string-container element, else 0.  Its value is the concatenation of the chunks unless
    no whitespace-preserving element is open and every code point is an ASCII space: then it is `"\n"` if a
    newline occurs and `" "` otherwise. -/
theorem text_rule (cfg : Cfg) (top : Frame) (rest : List Frame) (b : List PStr) (hb : b ≠ [])
    (cls : Option Cls) :
    ∃ c s, sFlush cfg ⟨top :: rest, b⟩ cls =
        ⟨{ top with kids := top.kids ++ [Doc.text c s] } :: rest, []⟩ ∧
      (∀ k, cls = some k → k ≠ 0 → c = k) ∧
      ((cls = none ∨ cls = some 0) → ∀ pre f post k, top :: rest = pre ++ f :: post →
          (∀ g ∈ pre, cfg.container g.name = none) → cfg.container f.name = some k → c = k) ∧
      ((cls = none ∨ cls = some 0) → (∀ g ∈ top :: rest, cfg.container g.name = none) → c = 0) ∧
      (((∃ g ∈ top :: rest, cfg.preserve g.name = true) ∨ ¬ (∀ ch ∈ b.flatten, ch ∈ cfg.asciiSpaces)) →
          s = b.flatten) ∧
      ((∀ g ∈ top :: rest, cfg.preserve g.name = false) → (∀ ch ∈ b.flatten, ch ∈ cfg.asciiSpaces) →
          s = if 10 ∈ b.flatten then [10] else [32]) := by
  refine ⟨classFor cfg (top :: rest) cls, wsVal cfg (preserving cfg (top :: rest)) b.flatten, ?_, ?_, ?_, ?_, ?_, ?_⟩
  · -- the flush
    cases b with
    | nil => exact absurd rfl hb
    | cons x xs => simp only [sFlush, wsVal]
  · -- explicit class
    intro k hk hk0; subst hk; simp [classFor, hk0]
  · -- nearest container
    intro hcls pre f post k hsplit hpre hf
    have hn := nearest_of_split cfg pre f post k hpre hf
    rw [← hsplit] at hn
    rw [classFor_eq, hn]
    rcases hcls with h | h <;> simp [h]
  · -- no container
    intro hcls hall
    rw [classFor_eq, nearest_none cfg _ hall]
    rcases hcls with h | h <;> simp [h]
  · -- value kept
    intro h
    apply wsVal_keep
    rcases h with ⟨g, hg, hpg⟩ | h
    · left; simp only [preserving, List.any_eq_true]; exact ⟨g, hg, hpg⟩
    · right; exact h
  · -- value collapsed
    intro hnp hall
    rw [preserving_eq_false hnp]
    exact wsVal_collapse cfg _ hall

/-- The empty-chunk quirk: `handle_data("")` followed by a flush outside whitespace-preserving elements gives
    a single space (the empty string passes the "only ASCII spaces, no newline" test). -/
theorem empty_chunk_gives_space (cfg : Cfg) (top : Frame) (rest : List Frame)
    (hnp : ∀ g ∈ top :: rest, cfg.preserve g.name = false) (cls : Option Cls) :
    sFlush cfg ⟨top :: rest, [[]]⟩ cls =
      ⟨{ top with kids := top.kids ++ [Doc.text (classFor cfg (top :: rest) cls) [32]] } :: rest, []⟩ := by
  simp [sFlush, preserving_eq_false hnp]

/-- `endData(containerClass)` of the code is that flush (in every state satisfying the invariant). -/
theorem endData_is_flush (cfg : Cfg) (st : St) (h : Inv cfg st) (cls : Option Cls) :
    abs (endData cfg st cls) = sFlush cfg (abs st) cls ∧ Inv cfg (endData cfg st cls) :=
  ⟨abs_endData h cls, h.endData cls⟩

example : build cfgX [.data []] = [.text 0 [32]] := by rfl
example : build cfgX [.start [1] none, .data [32, 10]] = [.elem [1] none [.text 0 [32, 10]]] := by rfl
example : build cfgX [.start [2] none, .start [3] none, .data [65], .endData (some 4), .data [66], .endData (some 0)] =
    [.elem [2] none [.elem [3] none [.text 4 [65], .text 7 [66]]]] := by rfl

/-! ## 7: chunking of `handle_data` calls -/

/-- Splitting a run of character data into several `handle_data` calls does not change the tree. -/
theorem data_chunking_irrelevant (cfg : Cfg) (hc : CfgOK cfg) (pre post : List Ev) (a b : PStr) :
    build cfg (pre ++ [.data a, .data b] ++ post) = build cfg (pre ++ [.data (a ++ b)] ++ post) := by
  rw [build_eq_buildSpec hc, build_eq_buildSpec hc]
  exact buildSpec_chunking cfg pre post a b

/-! ## 8: a balanced block of events -/

/-- Net effect of a balanced block: the events of a forest `ds` (each element = start, its children's events,
    stop with the same name and prefix; a string of class 0 = one data event, of class `c ≠ 0` =
    flush, data, flush-with-class), none of whose elements is named like the BeautifulSoup object, leave every
    open element as it was, append the normal form `absorb` of the forest (text merging, whitespace rule and
    class rule included — these depend only on the names of the enclosing open elements) to the innermost
    one and leave `absorb`'s pending text; each stop event closes exactly the element its start event opened. -/
theorem balanced_block (cfg : Cfg) (ds : List Doc) (hok : noRootL cfg ds = true)
    (top : Frame) (rest : List Frame) (b : List PStr) :
    sRun cfg ⟨top :: rest, b⟩ (eventsL ds) =
      ⟨{ top with kids := top.kids ++ (absorb cfg ((top :: rest).map (·.name)) b ds).1 } :: rest,
        (absorb cfg ((top :: rest).map (·.name)) b ds).2⟩ :=
  run_forest cfg ds hok top rest b

/-- … for a single node. -/
theorem balanced_node (cfg : Cfg) (d : Doc) (hok : noRoot cfg d = true)
    (top : Frame) (rest : List Frame) (b : List PStr) :
    sRun cfg ⟨top :: rest, b⟩ (events d) =
      ⟨{ top with kids := top.kids ++ (absorb1 cfg ((top :: rest).map (·.name)) b d).1 } :: rest,
        (absorb1 cfg ((top :: rest).map (·.name)) b d).2⟩ :=
  block_doc (stepsAbove_sStep cfg) d hok top rest b (Nat.zero_le _)

/-- Building from the events of a forest gives the forest's normal form (real code, via `build_refines`). -/
theorem build_events (cfg : Cfg) (hc : CfgOK cfg) (ds : List Doc) (hok : noRootL cfg ds = true) :
    build cfg (eventsL ds) =
      (absorb cfg [cfg.rootName] [] ds).1 ++ txtN cfg [cfg.rootName] (absorb cfg [cfg.rootName] [] ds).2 none :=
  build_eventsL hc ds hok

example : noRootL cfgX [.elem [3] none [.text 0 [65], .text 0 [66], .elem [1] none [.text 0 [32]], .text 5 [10]]] = true := by
  decide +kernel
example : build cfgX (eventsL [.elem [3] none [.text 0 [65], .text 0 [66], .elem [1] none [.text 0 [32]], .text 5 [10, 10]]]) =
    [.elem [3] none [.text 0 [65, 66], .elem [1] none [.text 0 [32]], .text 5 [10]]] := by rfl

/-! ## 9: the tree is always well linked (C01) — parse-time linkage

`ParseLink.prun` (Model/ParseLink.lean) mirrors the pointer writes of `PageElement.setup`, `handle_starttag`,
`object_was_parsed`, `_linkage_fixer` and `pushTag`/`popTag` on the pointer heap of C01; `ParseLink.actions`
replays which objects the machine above creates and when it closes them. The theorems hold for **every**
action list, in particular for the one of every event list. -/

open BS.ParseLink in
/-- **The tree is always well linked.** Every event sequence a builder can send yields a consistently linked
    document: after the actions of any event list — under any configuration — the six link fields of every
    object and the children lists describe one forest (`Good`, the invariant of C01), so every navigation view
    of the parsed document agrees with every other. -/
theorem parsed_document_well_linked (cfg : Cfg) (evs : List Ev) :
    Heap.Good (prun PSt.init (actions cfg (St.init cfg) evs)).heap :=
  parse_wf _

open BS.ParseLink in
/-- … and so does every prefix of the parser's work and every other order of creating and closing objects:
    the heap is consistent after **any** list of parser actions, and ids never handed out are plain strings. -/
theorem parse_actions_well_linked (acts : List Act) : Heap.Good2 (prun PSt.init acts).heap :=
  parse_good2 acts

open BS.ParseLink in
/-- The BeautifulSoup object stands outside the element chain after parsing: its `next_element` is `None`
    (`PageElement.setup` never links it), the first element created has no `previous_element`, and the element
    created last has no `next_element`. -/
theorem parse_root_outside_chain (acts : List Act) :
    (prun PSt.init acts).heap.ne 0 = none ∧ (prun PSt.init acts).heap.pe 1 = none ∧
    (prun PSt.init acts).heap.ne ((prun PSt.init acts).heap.next - 1) = none :=
  -- `parse_inv acts : ∃ w, PInv (prun PSt.init acts) w`; `chain_ends` gives the last two conjuncts
  (parse_inv acts).elim fun _ I => ⟨I.root_ne, I.chain_ends⟩

open BS.ParseLink in
/-- **Document order is creation order.** The pre-order walk of the children lists from the BeautifulSoup object
    visits exactly the objects created, each once, in the order of their creation; `next_element` /
    `previous_element` link each created object to the one created right after / before it; and
    `_most_recent_element` is the object created last. -/
theorem parsed_order_is_creation_order (acts : List Act) :
    Heap.docOrder (prun PSt.init acts).heap 0 = List.range (prun PSt.init acts).heap.next ∧
    (∀ n, 1 ≤ n → n + 1 < (prun PSt.init acts).heap.next →
      (prun PSt.init acts).heap.ne n = some (n + 1) ∧ (prun PSt.init acts).heap.pe (n + 1) = some n) ∧
    (prun PSt.init acts).mre =
      if (prun PSt.init acts).heap.next = 1 then none else some ((prun PSt.init acts).heap.next - 1) :=
  (parse_inv acts).elim fun _ I => ⟨I.docOrder_eq, I.chain, I.mre_eq⟩

open BS.ParseLink in
/-- The open elements are the right spine of the document: the tag stack is never empty, its outermost entry is
    the BeautifulSoup object, every entry is a tag, and the last descendant of every open element is the object
    created last (so no open element has anything after it — which is why `_linkage_fixer` never has anything
    to repair, `ParseLink.newStr_fixer_noop`). -/
theorem open_elements_are_right_spine (acts : List Act) :
    (prun PSt.init acts).stack.getLast? = some 0 ∧
    ∀ c ∈ (prun PSt.init acts).stack,
      ((prun PSt.init acts).heap.kind c).isTag = true ∧
      Heap.lastDown (prun PSt.init acts).heap (prun PSt.init acts).heap.cap c = (prun PSt.init acts).heap.next - 1 :=
  (parse_inv acts).elim fun _ I => ⟨I.root, I.open_last⟩

open BS.ParseLink in
/-- Everything is closed at the end, on the pointer side too: after the actions of a complete event list only
    the BeautifulSoup object is left on the parser's tag stack. -/
theorem parsed_everything_closed (cfg : Cfg) (hc : CfgOK cfg) (evs : List Ev) :
    (prun PSt.init (actions cfg (St.init cfg) evs)).stack = [0] :=
  actions_closed cfg hc evs

/-! non-vacuity: the action list of a real event list, and the linked document it produces
    (`<3>A<1> </1></3>B`: objects 1 = `<3>`, 2 = "A", 3 = `<1>`, 4 = " ", 5 = "B") -/
open BS.ParseLink in
example : actions cfgX (St.init cfgX)
      [.start [3] none, .data [65], .start [1] none, .data [32], .stop [3] none, .data [66]] =
    [.newTag, .newStr, .newTag, .newStr, .pop, .pop, .newStr] := by decide +kernel
open BS.ParseLink in
def parsedX : Heap.Heap := (prun PSt.init [.newTag, .newStr, .newTag, .newStr, .pop, .pop, .newStr]).heap
example : parsedX.kids 0 = [1, 5] ∧ parsedX.kids 1 = [2, 3] ∧ parsedX.kids 3 = [4] ∧ parsedX.ne 0 = none ∧
    parsedX.ne 4 = some 5 ∧ parsedX.pe 1 = none ∧ parsedX.ns 1 = some 5 ∧ parsedX.parent 5 = some 0 ∧
    parsedX.next = 6 := by decide +kernel


/-! ## 10: rejected parsing strategies leave nothing behind; the empty-element rule -/

/-- whatever state earlier iterations left in the object, the document is the one built from the events of the first strategy that is
    not rejected: a strategy abandoned with ParserRejectedMarkup after sending events contributes nothing -/
theorem rejected_strategies_leave_no_trace (cfg : Cfg) (st : St) (rej : List Attempt) (hr : ∀ a ∈ rej, a.rejected = true)
    (evs : List Ev) (later : List Attempt) :
    parseLoop cfg st (rej ++ ⟨evs, false⟩ :: later) = some (build cfg evs) := by
  rw [parseLoop_eq, List.find?_append, List.find?_eq_none.mpr (by simpa using hr)]
  rfl

/-- … and it does not depend on the state the object was in before (a BeautifulSoup object is reset per feed) -/
theorem parse_independent_of_previous_state (cfg : Cfg) (st st' : St) (atts : List Attempt) :
    parseLoop cfg st atts = parseLoop cfg st' atts := by
  rw [parseLoop_eq, parseLoop_eq]

/-- all strategies rejected: no tree (the caller sees ParserRejectedMarkup) -/
theorem all_rejected_no_document (cfg : Cfg) (st : St) (rej : List Attempt) (hr : ∀ a ∈ rej, a.rejected = true) :
    parseLoop cfg st rej = none := by
  rw [parseLoop_eq, List.find?_eq_none.mpr (by simpa using hr)]
  rfl

/-- an explicitly EMPTY empty-element rule makes no element void; no rule at all makes every element potentially void -/
theorem empty_rule_no_void (n : Name) : canBeEmptyElement (some []) n = false := by simp [canBeEmptyElement]
theorem no_rule_every_void (n : Name) : canBeEmptyElement none n = true := rfl
theorem rule_is_membership (l : List Name) (n : Name) : canBeEmptyElement (some l) n = true ↔ n ∈ l := by
  simp [canBeEmptyElement]

example : parseLoop sampleCfg (St.init sampleCfg) [⟨[.start [97] none, .data [120]], true⟩, ⟨[.start [98] none], false⟩]
    = some (build sampleCfg [.start [98] none]) :=
  rejected_strategies_leave_no_trace sampleCfg _ [⟨[.start [97] none, .data [120]], true⟩] (by simp) _ []

end BS.Props.C03
