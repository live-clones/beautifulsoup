import BSModel.Proofs.CopyEdit
import BSModel.Proofs.CopyCanon
import BSModel.Proofs.CopyHash
import BSModel.Gen.Copy
/-! C12 — copies are equal, detached and independent; equality is structural; a copy hashes like its original.

    Model: `BSModel/Model/Copy.lean` (trees with object identities). `copyImpl` mirrors `Tag.__deepcopy__`/`copy_self`/
    `NavigableString.__deepcopy__`, `eqImpl` mirrors `Tag.__eq__`. Of pickling only which markup travels and which
    document-level fields are kept is modelled (`PDoc`, `soupPickle`); the re-parse is C05's. -/
namespace BS.Props.C12
open BS BS.Copy

/-! ### examples used for non-vacuity

    `Settings`: canBeEmpty, cdata, preserveWs, interesting, hidden, sourceline,
    sourcepos, knownXml, namespaces. `TagData`: name, pfx, ns, attrs, st, parserClass, dictCls, avlCls. `SoupInfo`: builder,
    builderIsXml, isXml, parseOnly, elementClasses, originalEncoding, declaredHtmlEncoding, containsReplacementCharacters. -/

private def st0 : Settings := ⟨none, some 900, some 901, some 902, false, some 1, some 0, none, none⟩
private def dB : TagData := ⟨ofS "b", none, none, [], { st0 with canBeEmpty := some true }, some 7, 0, 0⟩
private def dP : TagData :=
  ⟨ofS "p", some (ofS "x"), none, [(ofS "class", none, .list 2 0 [ofS "a", ofS "b"]), (ofS "id", none, .str 0 (ofS "i"))], st0, some 7, 0, 5⟩
/-- `<x:p class="a b" id="i">t<b/><!--c--></x:p>` with object ids 1..5 (the class list is object 2) -/
private def exP : Node := .tag 1 dP [.str 3 0 (ofS "t"), .tag 4 dB [], .str 5 5 (ofS "c")]

/-! ### the copying loop is the pre-order recursion -/

/-- **Refinement.** The loop of `Tag.__deepcopy__` (event stream, tag stack, `append`) run on the event stream of a tree
    never underflows its stack, ends with the root clone alone on it, and returns exactly the tree the structural recursion
    `copySpec` builds (same nodes, same fresh identities, same allocator state) — for every element, every context
    (`inh` = the parent's `_is_xml`) and every allocator state. -/
theorem copy_refines (inh : Option Bool) (next : Nat) (t : Node) :
    copyImpl inh next t = some (copySpec inh next t) := copyImpl_eq_spec inh next t

/-- the same for `BeautifulSoup.__deepcopy__` (root clone = a new empty `BeautifulSoup` on the same builder) -/
theorem copy_soup_refines (fresh : TagData) (inh : Option Bool) (next i : Nat) (d : TagData) (ks : List Node) :
    copySoupImpl fresh inh next (.tag i d ks) =
      some (.tag next fresh (copySpecL (isXml inh d) (next + 1) ks).1, (copySpecL (isXml inh d) (next + 1) ks).2) :=
  copySoupImpl_eq_spec fresh inh next i d ks

private theorem copyImpl_some {inh : Option Bool} {next : Nat} {t c : Node} {n' : Nat}
    (h : copyImpl inh next t = some (c, n')) : c = (copySpec inh next t).1 ∧ n' = (copySpec inh next t).2 := by
  rw [copy_refines, Option.some.injEq] at h
  rw [h]
  exact ⟨rfl, rfl⟩

example : (copyImpl none 10 exP).map (fun r => (ids r.1, r.2)) = some ([10, 11, 12, 13, 14], 15) := by decide +kernel
example : ∃ c n', copyImpl none 10 exP = some (c, n') := ⟨_, _, copy_refines none 10 exP⟩
/-- an unbalanced stream does underflow: the `none` result is reachable, the theorem is not vacuous -/
example : run ⟨0, [⟨0, dB, []⟩]⟩ [.stop] = none := by decide +kernel

/-! ### what a copy keeps -/

/-- **A copy has the shape of its original**: erasing object identities (and reading `known_xml` through `_is_xml`), the
    copy — standing alone, with no parent to inherit from (`none`), or put back in the original's context — is the original:
    every tag's name, prefix, namespace, attributes in order with their values and value-list classes, every string's
    class and text, every setting (`can_be_empty_element`, `cdata_list_attributes`, `preserve_whitespace_tags`,
    `interesting_string_types`, `hidden`, `sourceline`, `sourcepos`, `_namespaces`, `_is_xml`) and the nesting. Hence any
    function of the shape — `decode` under any formatter, `prettify`, `get_text` — gives the same result on both. -/
theorem copy_same_shape (inh : Option Bool) (next : Nat) (t c : Node) (n' : Nat) (hs : SettledN t)
    (h : copyImpl inh next t = some (c, n')) : shape none c = shape inh t ∧ shape inh c = shape inh t := by
  obtain ⟨rfl, rfl⟩ := copyImpl_some h
  exact ⟨shape_copySpec t inh none next hs (fun _ => rfl), shape_copySpec t inh inh next hs (fun h => h)⟩

/-- **The same without any hypothesis**: for *every* tree, the copy has the shape of the original with each attribute
    dict re-processed by its own class (`settle`) — which is the original itself whenever its dicts were filled through
    their own `__setitem__` (`settle_of_settled`), and in general says exactly what the copy of a tampered-with
    `HTML/XMLAttributeDict` looks like (compared with the real code by the `setitem` stream) -/
theorem copy_shape_general (inh : Option Bool) (next : Nat) (t c : Node) (n' : Nat)
    (h : copyImpl inh next t = some (c, n')) : shape none c = shape inh (settle t) ∧ shape inh c = shape inh (settle t) := by
  obtain ⟨rfl, rfl⟩ := copyImpl_some h
  exact ⟨shape_copySpec_general t inh none next (fun _ => rfl), shape_copySpec_general t inh inh next (fun h => h)⟩

theorem settle_id (t : Node) (hs : SettledN t) : settle t = t := settle_of_settled t hs

/-- **A copy renders identically** — under `decode` with any formatter, `prettify`, `get_text`, …: every observation that
    reads the tree through its shape gives the same result on the copy (as a root) and on the original (in its context) -/
theorem copy_renders_identically {α : Type} (observe : Shape → α) (inh : Option Bool) (next : Nat) (t c : Node) (n' : Nat)
    (hs : SettledN t) (h : copyImpl inh next t = some (c, n')) : observe (shape none c) = observe (shape inh t) := by
  rw [(copy_same_shape inh next t c n' hs h).1]

/-- `tag.copy_self()` on its own (the public first step): the clone has no contents and the data `copySelf` gives it; the
    full copy has the same root data -/
theorem copy_root_is_copy_self (inh : Option Bool) (next i : Nat) (d : TagData) (ks : List Node) :
    ∃ ks', (copySpec inh next (.tag i d ks)).1 = .tag next (copySelf next d (isXml inh d)).2.1 ks' ∧ ks'.length = ks.length :=
  ⟨_, rfl, length_copySpecL _ ks _⟩

/-- for a `BeautifulSoup`, provided the object still has the data its builder gives a new one (`fresh`): the root data of
    the copy comes from the builder, not from the original -/
theorem copy_soup_same_shape (fresh : TagData) (inh : Option Bool) (next i : Nat) (d : TagData) (ks : List Node) (c : Node) (n' : Nat)
    (hpristine : shapeData fresh (isXml inh fresh) = shapeData d (isXml inh d)) (hx : isXml inh fresh = isXml inh d)
    (hs : SettledL ks) (h : copySoupImpl fresh inh next (.tag i d ks) = some (c, n')) : shape inh c = shape inh (.tag i d ks) := by
  rw [copy_soup_refines] at h
  cases h
  simp only [shape]
  rw [hpristine, hx, shapeL_copySpecL _ _ _ hs]

/-- the hypotheses are satisfiable by a non-trivial tree (attributes of every kind in a plain dict, a list value, a
    `NamespacedAttribute` key, children) -/
private def exN : Node :=
  .tag 1 { dP with attrs := dP.attrs ++ [(ofS "n", none, .int 2), (ofS "t", none, .bool true), (ofS "z", none, .none),
      (ofS "xlink:href", some ⟨some (ofS "xlink"), some (ofS "href"), none⟩, .str 1 (ofS "u"))] }
    [.str 9 0 (ofS "t"), .tag 10 dB []]
example : SettledN exN ∧ DictOK exN ∧ SettledN exP ∧ DictOK exP :=
  ⟨settledN_of_plain _ (by decide +kernel), dictOK_of_b _ (by decide +kernel),
   settledN_of_plain _ (by decide +kernel), dictOK_of_b _ (by decide +kernel)⟩
example : ∃ c n', copyImpl (some false) 20 exN = some (c, n') ∧ shape none c = shape (some false) exN :=
  ⟨_, _, copy_refines _ _ _, shape_copySpec exN (some false) none 20 (settledN_of_plain _ (by decide +kernel))
    (fun h => by cases h)⟩
/-- the statement has content: a tree that differs in one string class has another shape -/
example : shape none exP ≠ shape none (.tag 1 dP [.str 3 1 (ofS "t"), .tag 4 dB [], .str 5 5 (ofS "c")]) := by
  simp [shape, shapeL, exP]

/-- what is *not* kept (recorded quirk, nothing in `==`/`hash`/`decode` reads it): `parser_class` becomes `None`,
    `attribute_value_list_class` is the stock one, and `known_xml` holds the resolved `_is_xml`; the class of the `attrs`
    dict **is** kept (since the repair of `copy_self`) -/
example (next : Nat) (d : TagData) (xml : Option Bool) :
    (copySelf next d xml).2.1.parserClass = none ∧ (copySelf next d xml).2.1.avlCls = 0 ∧
    (copySelf next d xml).2.1.dictCls = d.dictCls ∧
    (copySelf next d xml).2.1.st.knownXml = xml := by simp [copySelf]

/-! ### attribute values that are not strings: the repaired `copy_self`, and what bs4 4.13.0 did -/

/-- the hypothesis `SettledN` of the theorems above is what the public API guarantees: a plain `AttributeDict` (what
    html.parser gives every parsed tag) stores anything unchanged … -/
theorem settled_of_plain_dict (cls : Nat) (l : Attrs) (h1 : cls ≠ 1) (h2 : cls ≠ 2) : Settled cls l :=
  settled_plain cls l h1 h2

/-- … whatever the class, strings (of any class) and lists are stored unchanged … -/
theorem settled_of_str_list (cls : Nat) (l : Attrs) (h : ∀ e ∈ l, (∃ c s, e.2.2 = .str c s) ∨ (∃ i c xs, e.2.2 = .list i c xs)) :
    Settled cls l := by
  intro e he
  rcases h e he with ⟨c, s, hv⟩ | ⟨i, c, xs, hv⟩
  · rw [hv]; exact coerce_str ..
  · rw [hv]; exact coerce_list ..

/-- a dict of a processing class is settled as well when it was filled through its own `__setitem__`: strings and lists -/
example : Settled 1 dP.attrs := settled_of_str_list 1 _ (by
  intro e he
  simp only [dP, List.mem_cons, List.not_mem_nil, or_false] at he
  rcases he with rfl | rfl
  · exact Or.inr ⟨_, _, _, rfl⟩
  · exact Or.inl ⟨_, _, rfl⟩)

/-- … and what `d[key] = value` stored is stored unchanged when set again (`__setitem__` is idempotent) — except for the
    one value an `HTMLAttributeDict` produces itself and then refuses: `True` under a `NamespacedAttribute` key whose
    `name` is `None` becomes `None` -/
theorem setitem_idempotent (cls : Nat) (k : PStr) (m : KMeta) (v v' : AVal) (h : coerce cls k m v = some v')
    (hne : ¬ (cls = 1 ∧ v' = .none)) : coerce cls k m v' = some v' := by
  unfold coerce at h ⊢
  by_cases h1 : cls = 1
  · rw [if_pos h1] at h ⊢
    exact coerceHtml_idem h fun e => hne ⟨h1, e⟩
  · rw [if_neg h1] at h ⊢
    by_cases h2 : cls = 2
    · rw [if_pos h2] at h ⊢
      exact coerceXml_idem h
    · rw [if_neg h2]

/-- the exception is real -/
example : coerce 1 (ofS "xml") (some ⟨some (ofS "xml"), none, none⟩) (.bool true) = some .none ∧
    coerce 1 (ofS "xml") (some ⟨some (ofS "xml"), none, none⟩) .none = none := by decide +kernel

private def dA (cls : Nat) (v : AVal) : TagData :=
  ⟨ofS "a", none, none, [(ofS "id", none, .str 0 (ofS "1")), (ofS "k", none, v)], st0, some 0, cls, 0⟩

/-- **What bs4 4.13.0 did** (defect `C12-copy-coerces-nonstring-attr`, repaired): `copy_self` kept the
    `HTMLAttributeDict` made by `Tag.__init__`, so the values of a parsed tag's plain dict were processed on the way:
    for `soup.a["k"] = 2` the copy holds `"2"` and is **not equal** to its original; for `True` it holds `"k"`; for
    `None` and `False` the attribute is gone (and `<a k>` renders as `<a>`). -/
theorem old_copy_self_coerces :
    dictEq (dA 0 (.int 2)).attrs (copySelfOld 10 (dA 0 (.int 2)) (some false)).2.1.attrs = false ∧
    (copySelfOld 10 (dA 0 (.int 2)) (some false)).2.1.attrs = (dA 1 (.str 0 (ofS "2"))).attrs ∧
    (copySelfOld 10 (dA 0 (.bool true)) (some false)).2.1.attrs = (dA 1 (.str 0 (ofS "k"))).attrs ∧
    (copySelfOld 10 (dA 0 .none) (some false)).2.1.attrs = [(ofS "id", none, .str 0 (ofS "1"))] ∧
    (copySelfOld 10 (dA 0 (.bool false)) (some false)).2.1.attrs = [(ofS "id", none, .str 0 (ofS "1"))] := by
  decide +kernel

/-- the repaired `copy_self` keeps every value (and the dict class) of such a tag -/
theorem new_copy_self_keeps (v : AVal) (hv : v.isList = false) (next : Nat) (xml : Option Bool) :
    (copySelf next (dA 0 v) xml).2.1.attrs = (dA 0 v).attrs ∧ (copySelf next (dA 0 v) xml).2.1.dictCls = 0 := by
  cases v <;> simp_all [copySelf, copyAttrs, dA, coerce, pushEntry, AVal.isList]

/-- old and new agree whenever the original's dict already is of the class `Tag.__init__` would choose (every tag made
    without a builder): the repair changes nothing there -/
theorem old_new_agree (next : Nat) (d : TagData) (xml : Option Bool)
    (h : d.dictCls = if xml == some true then 2 else 1) : copySelfOld next d xml = copySelf next d xml := by
  simp only [copySelfOld, copySelf, h]

/-! ### a copy is made of new objects only -/

/-- **Freshness.** The object identities of a copy (tags with their `attrs`/`contents`, strings, attribute value lists)
    are exactly the next unused ones, each used once, in pre-order; the allocator ends right after them. -/
theorem copy_ids_exact (inh : Option Bool) (next : Nat) (t c : Node) (n' : Nat) (h : copyImpl inh next t = some (c, n')) :
    ids c = List.range' next (n' - next) ∧ next < n' := by
  obtain ⟨rfl, rfl⟩ := copyImpl_some h
  obtain ⟨h1, h2⟩ := ids_copySpec t inh next
  rw [h2, Nat.add_sub_cancel_left]
  exact ⟨h1, Nat.lt_add_of_pos_right (ids_pos _)⟩

/-- every identity of the copy is at or above the allocator's value at call time, and no object occurs twice in it
    (no two tags of the copy share a value list, no node is reachable twice) -/
theorem copy_fresh (inh : Option Bool) (next : Nat) (t c : Node) (n' : Nat) (h : copyImpl inh next t = some (c, n')) :
    (∀ x ∈ ids c, next ≤ x ∧ x < n') ∧ (ids c).Nodup := by
  obtain ⟨h1, _⟩ := copy_ids_exact inh next t c n' h
  rw [h1]
  refine ⟨?_, List.nodup_range' 1⟩
  intro x hx
  obtain ⟨i, hi, rfl⟩ := List.mem_range'.mp hx
  omega

/-- hence the copy shares no object with anything that existed when it was made: not with the original, not with the
    tree the original lives in, not with any other tree -/
theorem copy_disjoint (inh : Option Bool) (next : Nat) (t c : Node) (n' : Nat) (h : copyImpl inh next t = some (c, n'))
    (world : List Node) (hw : ∀ x ∈ idsL world, x < next) : ∀ x ∈ ids c, x ∉ idsL world := by
  intro x hx hxw
  have := ((copy_fresh inh next t c n' h).1 x hx).1
  have := hw x hxw
  omega

/-- **Several copies in one run** (`copy.deepcopy([p, soup])`, an object referring to a tag and to its document, two
    `deepcopy(x, memo)` calls sharing a memo): `__deepcopy__` does not consult the memo, so each element is copied on its own,
    whatever their relation (one inside the other, the same twice) — the second copy is the recursion on its own original and
    re-uses no object of the first -/
theorem copy_run_two (inh1 inh2 : Option Bool) (next : Nat) (t1 t2 c1 c2 : Node) (n1 n2 : Nat)
    (h1 : copyImpl inh1 next t1 = some (c1, n1)) (h2 : copyImpl inh2 n1 t2 = some (c2, n2)) :
    c1 = (copySpec inh1 next t1).1 ∧ c2 = (copySpec inh2 n1 t2).1 ∧ ∀ x ∈ ids c1, x ∉ ids c2 := by
  refine ⟨(copyImpl_some h1).1, (copyImpl_some h2).1, ?_⟩
  intro x hx hx2
  have a := ((copy_fresh inh1 next t1 c1 n1 h1).1 x hx).2
  have b := ((copy_fresh inh2 n1 t2 c2 n2 h2).1 x hx2).1
  omega

/-- non-vacuity: a tag and then the tree it lives in -/
example : ∃ c1 n1 c2 n2, copyImpl none 10 (.tag 4 dB []) = some (c1, n1) ∧ copyImpl none n1 exP = some (c2, n2) :=
  ⟨_, _, _, _, copy_refines _ _ _, copy_refines _ _ _⟩

/-- **Detached.** The copy is a root: its root object is none of the objects of any existing tree, so it is in no
    `contents` list (no parent, no siblings) — and the loop left nothing open (`copy_refines`). -/
theorem copy_detached (inh : Option Bool) (next : Nat) (t c : Node) (n' : Nat) (h : copyImpl inh next t = some (c, n'))
    (world : List Node) (hw : ∀ x ∈ idsL world, x < next) : c.id ∉ idsL world :=
  copy_disjoint inh next t c n' h world hw c.id (id_mem_ids c)

example : ∀ x ∈ ids exP, x < 10 := by decide +kernel

/-! ### independence -/

/-- **Frame lemma.** An in-place mutation (attribute write or delete, change of a value list, rename, insertion into /
    clearing of `contents`, removal or replacement of a node) leaves unchanged every tree that does not contain the
    mutated object. -/
theorem edit_frame (e : Edit) (t : Node) (h : e.target ∉ ids t) : applyEdit e t = t := applyEdit_frame t e h

/-- **Independence, both directions**: editing any object of the copy leaves the original (and every tree that existed
    when the copy was made) unchanged; editing any object of the original leaves the copy unchanged. -/
theorem copy_independent (inh : Option Bool) (next : Nat) (t c : Node) (n' : Nat) (h : copyImpl inh next t = some (c, n'))
    (hw : ∀ x ∈ ids t, x < next) (e : Edit) :
    (e.target ∈ ids c → applyEdit e t = t) ∧ (e.target ∈ ids t → applyEdit e c = c) := by
  have key : ∀ x ∈ ids t, x ∉ ids c := fun x ht hc => by
    have := hw x ht
    have := ((copy_fresh inh next t c n' h).1 x hc).1
    omega
  exact ⟨fun hc => edit_frame e t fun ht => key _ ht hc, fun ht => edit_frame e c fun hc => key _ ht hc⟩

/-- … and the same for any **history** of mutations (`.string = …`, `smooth()`, `wrap`, `unwrap`, `insert_before`, `extend`
    … are sequences of the primitive ones on objects of the edited tree or on new objects): as long as no mutated object
    belongs to `t`, `t` is unchanged -/
theorem edits_frame (es : List Edit) (t : Node) (h : ∀ e ∈ es, e.target ∉ ids t) : applyEdits es t = t := by
  induction es with
  | nil => rfl
  | cons e r ih =>
    simp only [applyEdits]
    rw [edit_frame e t (h e (List.mem_cons_self ..))]
    exact ih (fun x hx => h x (List.mem_cons_of_mem _ hx))

/-- independence under whole edit histories of the copy: every mutated object is one of the copy or was created after the
    copy was made (identity ≥ `next`) — the original does not change -/
theorem copy_independent_history (inh : Option Bool) (next : Nat) (t c : Node) (n' : Nat)
    (_h : copyImpl inh next t = some (c, n')) (hw : ∀ x ∈ ids t, x < next) (es : List Edit) (hes : ∀ e ∈ es, next ≤ e.target) :
    applyEdits es t = t := by
  apply edits_frame
  intro e he ht
  have := hw _ ht
  have := hes e he
  omega

/-- the lemma has content: a clone that kept the original's value list (a *shallow* copy of `attrs`) is changed by
    `original["class"].append("z")` … -/
example : (match applyEdit (.listAppend 2 (ofS "z")) (.tag 10 dP []) with | .tag _ d _ => d.attrs | _ => []) =
    [(ofS "class", none, .list 2 0 [ofS "a", ofS "b", ofS "z"]), (ofS "id", none, .str 0 (ofS "i"))] := by decide +kernel
/-- … the real copy is not -/
example : ∀ c n', copyImpl none 10 exP = some (c, n') → applyEdit (.listAppend 2 (ofS "z")) c = c := by
  intro c n' h
  exact (copy_independent none 10 exP c n' h (by decide +kernel) (.listAppend 2 (ofS "z"))).2 (by decide +kernel)

/-! ### `==` is the structural relation -/

/-- **`==` decides the structural relation** of the property: for trees whose attribute dicts are dicts,
    `a == b` iff their identity-free, attribute-order-free normal forms coincide -/
theorem eq_iff_structural (a b : Node) (ha : DictOK a) (hb : DictOK b) : eqImpl a b = true ↔ EqSpec a b :=
  eqImpl_iff a b ha hb

theorem canonL_eq_iff : ∀ (ks ls : List Node),
    canonL ks = canonL ls ↔ ks.length = ls.length ∧ ∀ p ∈ ks.zip ls, EqSpec p.1 p.2
  | [], [] => by simp [canonL]
  | [], _ :: _ => by simp [canonL]
  | _ :: _, [] => by simp [canonL]
  | k :: ks, l :: ls => by
    simp only [canonL, List.cons.injEq, canonL_eq_iff ks ls, List.length_cons, List.zip_cons_cons, List.forall_mem_cons,
      Nat.add_right_cancel_iff, EqSpec, and_left_comm]

/-- the structural relation, unfolded as the property words it: same name, same attributes whatever their order
    (the same finite map from keys to values; a value list equals a value list with the same items, of any list class),
    as many children, pairwise related; strings by their text (the class is not looked at); a tag never equals a string -/
theorem eqSpec_tag (i j : Nat) (a b : TagData) (ks ls : List Node) :
    EqSpec (.tag i a ks) (.tag j b ls) ↔
      a.name = b.name ∧ (∀ k, attrMap a.attrs k = attrMap b.attrs k) ∧ ks.length = ls.length ∧
        ∀ p ∈ ks.zip ls, EqSpec p.1 p.2 := by
  simp only [EqSpec, canon, Canon.tag.injEq]
  rw [canonL_eq_iff]
  simp only [EqSpec]
  constructor
  · rintro ⟨h1, h2, h3⟩; exact ⟨h1, fun k => congrFun h2 k, h3⟩
  · rintro ⟨h1, h2, h3⟩; exact ⟨h1, funext h2, h3⟩

theorem eqSpec_str (i j c d : Nat) (v w : PStr) : EqSpec (.str i c v) (.str j d w) ↔ v = w := by
  simp [EqSpec, canon]

theorem eqSpec_tag_str (i j c : Nat) (a : TagData) (ks : List Node) (v : PStr) :
    ¬ EqSpec (.tag i a ks) (.str j c v) ∧ ¬ EqSpec (.str j c v) (.tag i a ks) := by
  simp [EqSpec, canon]

/-- `==` is reflexive (also without the `is` shortcut), symmetric and transitive on trees -/
theorem eq_refl (a : Node) (ha : DictOK a) : eqImpl a a = true := (eq_iff_structural a a ha ha).mpr rfl

theorem eq_symm (a b : Node) (ha : DictOK a) (hb : DictOK b) : eqImpl a b = eqImpl b a := by
  rw [Bool.eq_iff_iff, eq_iff_structural a b ha hb, eq_iff_structural b a hb ha]
  exact eq_comm

theorem eq_trans (a b c : Node) (ha : DictOK a) (hb : DictOK b) (hc : DictOK c)
    (h1 : eqImpl a b = true) (h2 : eqImpl b c = true) : eqImpl a c = true :=
  (eq_iff_structural a c ha hc).mpr (((eq_iff_structural a b ha hb).mp h1).trans ((eq_iff_structural b c hb hc).mp h2))

/-- `!=` is the negation of `==` -/
theorem ne_iff_not_eq (a b : Node) : neImpl a b = true ↔ eqImpl a b = false := by simp [neImpl]

/-- the result of `==` does not depend on object identities, on where the operands live, on string or list classes, on
    prefix/namespace or on any setting: only on the normal forms -/
theorem eq_depends_on_canon_only (a a' b b' : Node) (ha : DictOK a) (ha' : DictOK a') (hb : DictOK b) (hb' : DictOK b')
    (h1 : canon a = canon a') (h2 : canon b = canon b') : eqImpl a b = eqImpl a' b' := by
  rw [Bool.eq_iff_iff, eq_iff_structural a b ha hb, eq_iff_structural a' b' ha' hb', EqSpec, EqSpec, h1, h2]

/-- equal trees have the same number of nodes -/
theorem eq_same_size (a b : Node) (ha : DictOK a) (hb : DictOK b) (h : eqImpl a b = true) : sizeN a = sizeN b := by
  have := (eq_iff_structural a b ha hb).mp h
  rw [← csize_canon a, ← csize_canon b, this]

/-- hence `==` never identifies a tag with something below it: the structural test `c.parent != tag_stack[-1]` of
    `_event_stream` (the stack holds the open ancestors of the previous element, `c.parent` is one of them) pops exactly
    when the identity test would — copies of trees with repeated identical sub-structure have the right shape (the harness
    enumerates all small ones) -/
theorem eq_never_confuses_ancestor_and_descendant (a x : Node) (ha : DictOK a) (hx : DictOK x) (h : Below a x) :
    eqImpl a x = false ∧ eqImpl x a = false := by
  have hs := below_size h
  constructor <;> rw [Bool.eq_false_iff] <;> intro he
  · have := eq_same_size a x ha hx he; omega
  · have := eq_same_size x a hx ha he; omega

example : Below exP (.tag 4 dB []) := .kid (by simp)

/-- **A missing attribute is not an attribute whose value is `None`** — nor any other value: two tags whose attribute maps
    differ at one key are not equal, from either side, whatever else agrees (the same number of attributes, the same other
    attributes, name, children). `tag["disabled"] = None` (`<input disabled>`) makes the map `some none` at that key, a tag
    without it `none`. -/
theorem eq_false_of_attr_differs (i j : Nat) (a b : TagData) (ks ls : List Node) (k : PStr)
    (ha : DictOK (.tag i a ks)) (hb : DictOK (.tag j b ls)) (h : attrMap a.attrs k ≠ attrMap b.attrs k) :
    eqImpl (.tag i a ks) (.tag j b ls) = false ∧ eqImpl (.tag j b ls) (.tag i a ks) = false := by
  constructor <;> rw [Bool.eq_false_iff] <;> intro he
  · exact h (((eqSpec_tag i j a b ks ls).mp ((eq_iff_structural _ _ ha hb).mp he)).2.1 k)
  · exact h (((eqSpec_tag j i b a ls ks).mp ((eq_iff_structural _ _ hb ha).mp he)).2.1 k).symm

/-- `<input disabled name="q">` against `<input name="q" readonly>` and `<input name="q" title="x">`: as many attributes,
    exactly the value-less one renamed / replaced — not equal, in both directions -/
example :
    let base : TagData := { dB with attrs := [(ofS "disabled", none, .none), (ofS "name", none, .str 0 (ofS "q"))] }
    let ren : TagData := { dB with attrs := [(ofS "readonly", none, .none), (ofS "name", none, .str 0 (ofS "q"))] }
    let rep : TagData := { dB with attrs := [(ofS "name", none, .str 0 (ofS "q")), (ofS "title", none, .str 0 (ofS "x"))] }
    eqImpl (.tag 1 base []) (.tag 2 ren []) = false ∧ eqImpl (.tag 2 ren []) (.tag 1 base []) = false ∧
    eqImpl (.tag 1 base []) (.tag 3 rep []) = false ∧ eqImpl (.tag 3 rep []) (.tag 1 base []) = false ∧
    attrMap base.attrs (ofS "disabled") = some .none ∧ attrMap rep.attrs (ofS "disabled") = none := by decide_pstr

/-- in particular `==` does not look at the XML namespace, the prefix, any setting or any container class of a tag: changing
    them changes no comparison (an SVG `<a>` equals an HTML `<a>` with the same name, attributes and children) -/
theorem eq_ignores_namespace_prefix_settings (i j : Nat) (d : TagData) (ns' pfx' : Option PStr) (st' : Settings)
    (pc : Option Nat) (dc ac : Nat) (ks : List Node) (u : Node) (hd : DictOK (.tag i d ks)) (hu : DictOK u) :
    eqImpl (.tag j { d with ns := ns', pfx := pfx', st := st', parserClass := pc, dictCls := dc, avlCls := ac } ks) u =
      eqImpl (.tag i d ks) u ∧
    eqImpl u (.tag j { d with ns := ns', pfx := pfx', st := st', parserClass := pc, dictCls := dc, avlCls := ac } ks) =
      eqImpl u (.tag i d ks) := by
  have hd' : DictOK (.tag j { d with ns := ns', pfx := pfx', st := st', parserClass := pc, dictCls := dc, avlCls := ac } ks) := by
    simpa [DictOK] using hd
  exact ⟨eq_depends_on_canon_only _ _ _ _ hd' hd hu hu rfl rfl, eq_depends_on_canon_only _ _ _ _ hu hu hd' hd rfl rfl⟩

example : eqImpl exP (.tag 1 { dP with ns := some (ofS "http://www.w3.org/2000/svg"), pfx := none } [.str 3 0 (ofS "t"), .tag 4 dB [],
    .str 5 5 (ofS "c")]) = true := by decide +kernel

/-- **Attribute order is irrelevant**: permuting the attributes of a tag gives an equal tag -/
theorem attr_order_irrelevant (i j : Nat) (d : TagData) (attrs' : Attrs) (ks : List Node)
    (hd : DictOK (.tag i d ks)) (hp : d.attrs.Perm attrs') :
    eqImpl (.tag i d ks) (.tag j { d with attrs := attrs' } ks) = true := by
  have hd' : DictOK (.tag j { d with attrs := attrs' } ks) := by
    simp only [DictOK] at hd ⊢
    exact ⟨(hp.map Prod.fst).nodup_iff.mp hd.1, hd.2⟩
  rw [eq_iff_structural _ _ hd hd']
  simp only [EqSpec, canon]
  rw [attrMap_perm hp (by simpa [DictOK] using hd.1)]

private def exQ : Node :=
  .tag 21 { dP with attrs := [(ofS "id", some ⟨none, some (ofS "id"), none⟩, .str 2 (ofS "i")), (ofS "class", none, .list 22 9 [ofS "a", ofS "b"])], pfx := none }
    [.str 23 5 (ofS "t"), .tag 24 { dB with st := st0 } [], .str 25 0 (ofS "c")]

/-- other order, other list class, other key and value classes, other prefix, other string classes, other settings: still `==` -/
example : eqImpl exP exQ = true ∧ eqImpl exQ exP = true := by decide +kernel
example : DictOK exP ∧ DictOK exQ := by
  simp only [DictOK, DictOKL, exP, exQ, dP, dB]
  decide +kernel
/-- one attribute value changed / one child missing / a string against a tag: not `==` -/
example : eqImpl exP (.tag 1 { dP with attrs := [(ofS "class", none, .list 2 0 [ofS "a"]), (ofS "id", none, .str 0 (ofS "i"))] }
    [.str 3 0 (ofS "t"), .tag 4 dB [], .str 5 5 (ofS "c")]) = false := by decide +kernel
example : eqImpl exP (.tag 1 dP [.str 3 0 (ofS "t"), .tag 4 dB []]) = false := by decide +kernel
example : eqImpl (.str 3 0 (ofS "b")) (.tag 4 dB []) = false := by decide +kernel
/-- a list value never equals the string it renders as -/
example : valEq (.list 2 0 [ofS "a"]) (.str 0 (ofS "a")) = false := by decide +kernel
/-- numbers compare as numbers (`True == 1`), never with their text -/
example : valEq (.bool true) (.int 1) = true ∧ valEq (.int 2) (.str 0 (ofS "2")) = false ∧ valEq .none .none = true := by
  decide +kernel

/-! ### a copy equals its original and hashes like it -/

/-- **A copy compares equal to its original** (`original == copy` and `copy == original`) -/
theorem copy_eq (inh : Option Bool) (next : Nat) (t c : Node) (n' : Nat) (hd : DictOK t) (hs : SettledN t)
    (h : copyImpl inh next t = some (c, n')) : eqImpl t c = true ∧ eqImpl c t = true :=
  eq_of_shape t c inh inh hd (copy_same_shape inh next t c n' hs h).2.symm

/-- and to whatever the original compares equal to -/
theorem copy_eq_class (inh : Option Bool) (next : Nat) (t c u : Node) (n' : Nat) (hd : DictOK t) (hs : SettledN t)
    (hu : DictOK u) (h : copyImpl inh next t = some (c, n')) : eqImpl c u = eqImpl t u := by
  have hsh := (copy_same_shape inh next t c n' hs h).2
  exact eq_depends_on_canon_only _ _ _ _ (dictOK_of_shape t c inh inh hsh.symm hd) hd hu hu (canon_of_shape c t inh inh hsh) rfl

/-- **A copy hashes like its original**: `hash(tag)` is `hash(tag.decode())`; for every renderer that reads the tree
    through its shape (no object identities; `known_xml` only through `_is_xml`; attributes as a map) and every string hash -/
theorem copy_hash (render : RShape → PStr) (hsh : PStr → Nat) (inh : Option Bool) (next : Nat) (t c : Node) (n' : Nat)
    (hs : SettledN t) (h : copyImpl inh next t = some (c, n')) : hashImpl render hsh none c = hashImpl render hsh inh t := by
  simp only [hashImpl, (copy_same_shape inh next t c n' hs h).1]

/-- `==`, `hash` and the dict invariant are functions of the shape: whatever has the shape of a tree — its copy, a twin
    parsed from the same markup, the unpickled re-parse — is equal to it and hashes like it -/
theorem same_shape_eq_and_hash (render : RShape → PStr) (hsh : PStr → Nat) (i j : Option Bool) (a b : Node) (ha : DictOK a)
    (h : shape i a = shape j b) :
    eqImpl a b = true ∧ eqImpl b a = true ∧ hashImpl render hsh i a = hashImpl render hsh j b := by
  have he := eq_of_shape a b i j ha h
  exact ⟨he.1, he.2, by simp only [hashImpl, h]⟩

/-- **A copy equals (and hashes like) its original, for every tree**: with the original's dicts re-processed where they
    were tampered with; `copy_eq`/`copy_hash` above are the case `settle t = t` -/
theorem copy_eq_general (render : RShape → PStr) (hsh : PStr → Nat) (inh : Option Bool) (next : Nat) (t c : Node) (n' : Nat)
    (hd : DictOK t) (h : copyImpl inh next t = some (c, n')) :
    eqImpl (settle t) c = true ∧ eqImpl c (settle t) = true ∧
      hashImpl render hsh none c = hashImpl render hsh inh (settle t) := by
  have hsh' := (copy_shape_general inh next t c n' h).1
  obtain ⟨e1, e2, e3⟩ := same_shape_eq_and_hash render hsh inh none (settle t) c (dictOK_settle t hd) hsh'.symm
  exact ⟨e1, e2, e3.symm⟩

/-- non-vacuity: a tampered-with `HTMLAttributeDict` (`None` and an `int` put in behind its back) — the copy drops the one
    and turns the other into its text, exactly as `settle` says -/
example : (settleAttrs 1 (dA 1 .none).attrs) = [(ofS "id", none, .str 0 (ofS "1"))] ∧
    settleAttrs 1 (dA 1 (.int 7)).attrs = (dA 1 (.str 0 (ofS "7"))).attrs ∧
    (copySelf 5 (dA 1 (.int 7)) none).2.1.attrs = (dA 1 (.str 0 (ofS "7"))).attrs := by
  decide +kernel

/-- **`==` and `hash` agree on attribute order**: permuting the attribute dict changes neither (`==`:
    `attr_order_irrelevant`) -/
theorem hash_attr_order_irrelevant (render : RShape → PStr) (hsh : PStr → Nat) (inh : Option Bool) (i j : Nat) (d : TagData)
    (attrs' : Attrs) (ks : List Node) (hd : (d.attrs.map Prod.fst).Nodup) (hp : d.attrs.Perm attrs') :
    hashImpl render hsh inh (.tag i d ks) = hashImpl render hsh inh (.tag j { d with attrs := attrs' } ks) := by
  simp only [hashImpl, shape, rshapeOf, shapeData, isXml, eraseAttrs_lookup, perm_lookup hp hd]

/-- **When `==` implies equal hashes.** Two equal trees hash alike as soon as they also agree in what `==` does not look
    at (`decor`: string classes, prefixes, namespaces, settings, kinds of keys, kinds and classes of values) — for every
    renderer and string hash. In particular whenever one is a copy of the other, or they were parsed from the same
    markup by equally configured builders. -/
theorem eq_hash_consistent (render : RShape → PStr) (hsh : PStr → Nat) (inh inh' : Option Bool) (a b : Node)
    (ha : DictOK a) (hb : DictOK b) (he : eqImpl a b = true) (hdec : decor inh a = decor inh' b) :
    hashImpl render hsh inh a = hashImpl render hsh inh' b := by
  have hc := (eq_iff_structural a b ha hb).mp he
  simp only [hashImpl, rshape_of_canon_decor a b inh inh' hc hdec]

/-- what does **not** hold (and the property does not claim): `==` looks at less than `decode` does, so equal tags whose
    `decor` differs may hash differently — here `<a><!--x--></a> == <a>x</a>` (strings compare by text, whatever their
    class) -/
theorem hash_is_not_a_function_of_eq :
    ∃ (a b : Node) (render : RShape → PStr) (hsh : PStr → Nat),
      eqImpl a b = true ∧ hashImpl render hsh none a ≠ hashImpl render hsh none b := by
  refine ⟨.tag 1 dB [.str 2 5 (ofS "x")], .tag 3 dB [.str 4 0 (ofS "x")],
    (fun s => match s with | .tag _ _ [.str c _] => [c] | _ => []), (fun s => s.headD 0), by decide +kernel, ?_⟩
  simp [hashImpl, shape, shapeL, rshapeOf, rshapeOfL]

/-- non-vacuity of `eq_hash_consistent`: two different objects (other identities, other attribute order) that are equal and
    agree in `decor` -/
example : ∃ a b : Node, DictOK a ∧ DictOK b ∧ eqImpl a b = true ∧ decor none a = decor none b ∧ ids a ≠ ids b :=
  ⟨exP, .tag 31 { dP with attrs := dP.attrs.reverse |>.map fun e => match e with
      | (k, m, .list _ c xs) => (k, m, .list 32 c xs) | e => e } [.str 33 0 (ofS "t"), .tag 34 dB [], .str 35 5 (ofS "c")],
    dictOK_of_b _ (by decide +kernel),
    dictOK_of_b _ (by decide +kernel),
    by decide +kernel,
    by
      simp only [decor, decorL, exP, Decor.tag.injEq, List.cons.injEq, and_true, true_and]
      refine ⟨by decide +kernel, ?_, by decide +kernel⟩
      funext k
      simp only [← lookup_map_snd fun e : AEntry => (e.1, e.2.decor)]
      exact perm_lookup (by decide +kernel) (by decide +kernel) k,
    by decide +kernel⟩

/-! ### the `BeautifulSoup` object -/

/-- **What a copy of a `BeautifulSoup` object keeps**: the builder (the very same object is reused), `original_encoding`,
    and `is_xml` (it is the builder's); **what it does not**: `parse_only` and `element_classes` (the copy is not parsed
    from anything), and — although `original_encoding` is carried over — `declared_html_encoding` and
    `contains_replacement_characters`, which come from preparing the empty markup. Recorded behaviour of
    `BeautifulSoup.copy_self`, compared with the real objects on every run. -/
theorem soup_copy_info (s : SoupInfo) :
    (soupCopySelf s).builder = s.builder ∧ (soupCopySelf s).builderIsXml = s.builderIsXml ∧
    (soupCopySelf s).originalEncoding = s.originalEncoding ∧ (s.isXml = s.builderIsXml → (soupCopySelf s).isXml = s.isXml) ∧
    (soupCopySelf s).parseOnly = none ∧ (soupCopySelf s).elementClasses = none ∧
    (soupCopySelf s).declaredHtmlEncoding = none ∧ (soupCopySelf s).containsReplacementCharacters = false := by
  refine ⟨rfl, rfl, rfl, fun h => h.symm, rfl, rfl, rfl, rfl⟩

/-- copying a copy changes nothing more -/
theorem soup_copy_idempotent (s : SoupInfo) : soupCopySelf (soupCopySelf s) = soupCopySelf s := rfl

/-- a document parsed from a `str` without options is copied field by field -/
theorem soup_copy_exact (s : SoupInfo) (h1 : s.isXml = s.builderIsXml) (h2 : s.parseOnly = none) (h3 : s.elementClasses = none)
    (h4 : s.declaredHtmlEncoding = none) (h5 : s.containsReplacementCharacters = false) : soupCopySelf s = s := by
  cases s
  simp_all [soupCopySelf]

/-- pickling keeps every document-level field (the whole `__dict__` travels), with new builder / strainer / mapping objects -/
theorem soup_pickle_info (fresh : Nat) (s : SoupInfo) :
    (soupPickle fresh s).isXml = s.isXml ∧ (soupPickle fresh s).originalEncoding = s.originalEncoding ∧
    (soupPickle fresh s).declaredHtmlEncoding = s.declaredHtmlEncoding ∧
    (soupPickle fresh s).containsReplacementCharacters = s.containsReplacementCharacters ∧
    ((soupPickle fresh s).parseOnly.isSome = s.parseOnly.isSome) ∧ (soupPickle fresh s).builder = fresh := by
  refine ⟨rfl, rfl, rfl, rfl, ?_, rfl⟩
  cases h : s.parseOnly <;> simp [soupPickle, h]

example : soupCopySelf ⟨5, false, false, some 7, some 8, some (ofS "latin-1"), some (ofS "latin-1"), true⟩ =
    ⟨5, false, false, none, none, some (ofS "latin-1"), none, false⟩ := by decide_pstr

/-! ### further non-vacuity: concrete instances of the hypotheses above -/

/-- `attr_order_irrelevant` / `hash_attr_order_irrelevant`: a real permutation of a two-entry dict -/
example : dP.attrs.Perm dP.attrs.reverse ∧ (dP.attrs.map Prod.fst).Nodup ∧ dP.attrs ≠ dP.attrs.reverse :=
  ⟨(List.reverse_perm _).symm, by decide +kernel, by decide +kernel⟩
example : eqImpl exP (.tag 77 { dP with attrs := dP.attrs.reverse } [.str 3 0 (ofS "t"), .tag 4 dB [], .str 5 5 (ofS "c")]) = true :=
  attr_order_irrelevant 1 77 dP _ _ (dictOK_of_b _ (by decide +kernel)) (List.reverse_perm _).symm
/-- `setitem_idempotent`: `True` under a plain key in an `HTMLAttributeDict` becomes the key, which is stored unchanged -/
example : coerce 1 (ofS "k") none (.bool true) = some (.str 0 (ofS "k")) ∧ ¬ (1 = 1 ∧ AVal.str 0 (ofS "k") = .none) := by
  decide +kernel
/-- `old_new_agree`: a tag made without a builder holds an `HTMLAttributeDict` -/
example : (dA 1 (.str 0 (ofS "v"))).dictCls = (if (some false : Option Bool) == some true then 2 else 1) := by decide +kernel
/-- `soup_copy_exact`: a document parsed from a `str` without options -/
example : soupCopySelf ⟨5, false, false, none, none, none, none, false⟩ = ⟨5, false, false, none, none, none, none, false⟩ :=
  soup_copy_exact _ rfl rfl rfl rfl rfl
/-- `copy_soup_same_shape`: a pristine root (`fresh` = its own data) over two children -/
example : ∃ c n', copySoupImpl dB none 10 (.tag 1 dB [.str 2 0 (ofS "t"), .tag 3 dP []]) = some (c, n') ∧
    shape none c = shape none (.tag 1 dB [.str 2 0 (ofS "t"), .tag 3 dP []]) :=
  ⟨_, _, copy_soup_refines dB none 10 1 dB _, copy_soup_same_shape dB none 10 1 dB _ _ _ rfl rfl
    (settledL_of_plain _ (by decide +kernel)) (copy_soup_refines dB none 10 1 dB _)⟩
/-- `copy_independent_history`: a history on objects of the copy (ids 10..14) and on a later one (99) -/
example : applyEdits [.setName 10 (ofS "q"), .listAppend 11 (ofS "z"), .insertKid 10 0 (.str 99 0 (ofS "n")), .clear 13,
    .setAttr 99 (ofS "k") none (.int 1)] exP = exP :=
  copy_independent_history none 10 exP _ _ (copy_refines none 10 exP) (by decide +kernel) _ (by decide +kernel)
/-- `copy_eq`: the copy of the tree with all kinds of attribute -/
example : ∃ c n', copyImpl none 20 exN = some (c, n') ∧ eqImpl exN c = true := by
  refine ⟨_, _, copy_refines none 20 exN, ?_⟩
  have hs : SettledN exN := settledN_of_plain _ (by decide +kernel)
  exact (copy_eq none 20 exN _ _ (dictOK_of_b _ (by decide +kernel)) hs (copy_refines none 20 exN)).1

/-! ### pickling a document -/

/-- **Every generation is the re-parse of the current tree**: whatever happened to a document before — parsed, unpickled
    (so that it still holds the markup it was rebuilt from), edited, unpickled and edited again … — its pickle round trip
    is `feed (decode tree)` of the tree *as it is when it is pickled*; the left-over `markup` plays no role. With C05's
    `feed ∘ decode = normalise` this is "equal to the original up to the re-parse normalisations", for all histories. -/
theorem pickle_generation {T : Type} (decode : T → PStr) (feed : PStr → T) (d : PDoc T) (h : List (PStep T)) :
    (pickleRoundTrip decode feed (pRun decode feed d h)).tree = feed (decode (pRun decode feed d h).tree) := rfl

/-- in particular: unpickle, edit, pickle again — the second generation contains the edit -/
theorem pickle_edit_pickle {T : Type} (decode : T → PStr) (feed : PStr → T) (d : PDoc T) (f : T → T) :
    (pRun decode feed d [.pickle, .edit f, .pickle]).tree = feed (decode (f (feed (decode d.tree)))) := rfl

/-- what the seeded `__getstate__` (re-using a left-over `markup`) would do instead: the second generation is the first
    one again, the edit is lost. (Strings as documents, `feed = decode = id`, edit = append a character.) -/
example : getStateStale (T := PStr) id (⟨ofS "ab", none⟩ : PDoc PStr) = ofS "ab" ∧
    getStateStale (T := PStr) id { (pickleRoundTrip id id (⟨ofS "ab", none⟩ : PDoc PStr)) with tree := ofS "abc" } = ofS "ab" ∧
    getState (T := PStr) id { (pickleRoundTrip id id (⟨ofS "ab", none⟩ : PDoc PStr)) with tree := ofS "abc" } = ofS "abc" := by
  decide +kernel

/-! ### the model's reading of `copy_self` / `__getstate__` / `__setstate__`, pinned to observed behaviour

    The four theorems below compare tables generated by `translate/parts_c12.py` with what `Model/Copy.lean` assumes. The tables
    record behaviour: the translator builds probe objects in the running bs4 (spy subclasses of `Tag` / `BeautifulSoup`
    recording the bound arguments of `__init__`, `decode`, `reset`, `_feed`; one distinct sentinel value per parameter, told apart by
    identity), calls the method and writes down what it saw. Renaming locals, reordering independent statements, extracting a
    helper, unrolling a loop leave every table unchanged; a change of behaviour on the probes changes one. What they assume: the
    probes are representative (two probe tags with complementary flags inside a small tree, attribute values of every kind in a
    `dict` subclass; four probe documents); everything beyond the probes is the harness's business. -/

private def yes (names : List String) : List (PStr × Bool) := names.map fun n => (ofS n, true)
private def kinds (l : List (String × String)) : List (PStr × PStr) := l.map fun p => (ofS p.1, ofS p.2)
/-- a parameter that was not passed got its default, `None` for every parameter of `Tag.__init__` -/
private def noneLike (l : List (PStr × PStr)) : List (PStr × PStr) :=
  l.map fun p => (p.1, if p.2 == ofS "absent" then ofS "none" else p.2)

/-- the model's reading of `__getstate__`/`__setstate__` (`getState` = `decode` of the *current* tree, `setState` = `feed`
    of the stored markup, which `.markup` keeps; `soupPickle`: the whole `__dict__` travels), **observed on probe documents**:
    `__getstate__` calls `self.decode` exactly once, with `eventual_encoding=None` (no target encoding: `<meta>` declarations are
    left as they are, f08ffee) and nothing else but defaults; `state["markup"]` *is* the object that call returned — also when a
    non-empty `.markup` was left over, also for an empty tree; `contents` is a new empty list, the four links are `None`,
    `_most_recent_element` is gone, no tree object but the document itself is reachable from the state; the builder is replaced by
    its class exactly when it is not picklable (`None` stays `None`); every other key of `__dict__` travels as the identical
    object; the document is untouched. `__setstate__` calls `reset()` then `_feed()`, once each, whatever the builder entry: a class
    is instantiated, `None` gives an `HTMLParserTreeBuilder`, an instance — even a falsy one — is kept, `builder.soup` is the new
    object, the other fields are kept, the tree is the parse of `state["markup"]`. -/
theorem pickle_observed :
    BS.Gen.Copy.getstateDecodeCalls = 1 ∧
    BS.Gen.Copy.getstateDecode = kinds [("indent_level", "default"), ("eventual_encoding", "none"), ("formatter", "default"),
      ("iterator", "default"), ("kwargs", "default")] ∧
    BS.Gen.Copy.getstateFacts = yes ["builder_none_kept", "contents_empty", "empty_tree_gives_empty_markup", "links_none_or_absent",
      "markup_is_current_tree_not_leftover", "markup_is_what_decode_returned", "most_recent_element_absent",
      "no_tree_object_reachable", "object_untouched", "other_keys_kept_identical", "picklable_builder_kept", "state_is_new_dict",
      "unpicklable_builder_replaced_by_class"] ∧
    BS.Gen.Copy.setstateCalls = [ofS "reset", ofS "_feed"] ∧
    BS.Gen.Copy.setstateFacts = yes ["builder_class_instantiated", "builder_instance_kept", "builder_none_gives_htmlparser",
      "builder_soup_is_the_object", "falsy_builder_object_kept", "markup_attribute_keeps_state_markup", "other_fields_kept",
      "same_calls_for_every_builder_form", "tree_is_parse_of_state_markup"] := by
  simp only [yes, kinds, List.map]
  refine ⟨?_, ?_, ?_, ?_, ?_⟩ <;> decide_pstr

/-- `Tag.copy_self` as `copySelf` models it, **observed on probe tags** (a spy subclass of `Tag`, one sentinel per parameter of
    `Tag.__init__`, `hidden`/`can_be_empty_element`/`parser_class` set after construction, `known_xml` only on the parent, an
    attribute dict of a user class holding a list of a user class, a plain `list`, a `str` subclass, an int, a float, `True`,
    `None`): the one constructor call receives `None` (or nothing) for `parser`, `builder`, `attrs`, `parent`, `previous` and the
    tag's own value for everything else (`is_xml` = the resolved `_is_xml`); the clone holds the same objects in the attributes of
    those parameters, `parser_class = None`, no builder; its `attrs` is a new dict of the original's class with the keys in order,
    every list value a new list of its own class with the same items, every other value the identical object (nothing is
    re-processed — the repair, cd929ef; an empty dict of a user class stays one); `can_be_empty_element` and `hidden` are carried
    whatever their value; no parent, no contents, no links; the original is untouched. -/
theorem copy_self_observed :
    noneLike BS.Gen.Copy.copySelfCtor = kinds
      [("parser", "none"), ("builder", "none"), ("name", "own"), ("namespace", "own"), ("prefix", "own"), ("attrs", "none"),
       ("parent", "none"), ("previous", "none"), ("is_xml", "own"), ("sourceline", "own"), ("sourcepos", "own"),
       ("can_be_empty_element", "own"), ("cdata_list_attributes", "own"), ("preserve_whitespace_tags", "own"),
       ("interesting_string_types", "own"), ("namespaces", "own")] ∧
    BS.Gen.Copy.copySelfClone = kinds
      [("parser", "none"), ("builder", "noattr"), ("name", "same"), ("namespace", "same"), ("prefix", "same"), ("attrs", "rebuilt"),
       ("parent", "none"), ("previous", "none"), ("is_xml", "same"), ("sourceline", "same"), ("sourcepos", "same"),
       ("can_be_empty_element", "same"), ("cdata_list_attributes", "same"), ("preserve_whitespace_tags", "same"),
       ("interesting_string_types", "same"), ("namespaces", "same")] ∧
    BS.Gen.Copy.copySelfFacts = yes ["attrs_fresh_object", "attrs_keys_in_order", "attrs_same_class", "can_be_empty_element_carried",
      "can_be_empty_element_none_carried", "clone_is_new_object_of_same_class", "empty_attrs_same_class_fresh", "hidden_carried",
      "hidden_false_carried", "list_values_fresh", "list_values_same_class_same_items", "no_contents", "no_links", "no_parent",
      "one_constructor_call", "original_untouched", "other_values_identical"] := by
  simp only [noneLike, yes, kinds, List.map]
  refine ⟨?_, ?_, ?_⟩ <;> decide_pstr

/-- no parameter of `Tag.__init__` is forgotten by `copy_self` ("Any new arguments here need to be mirrored in
    Tag.copy_self", element.py:1638): **every** parameter of the live signature — whatever it is called, also one added later —
    is either handed the original's own value and found unchanged on the clone, or is one of `parser`/`builder`/`attrs`/
    `parent`/`previous`, which get `None` or nothing. Observed on the probe tags. -/
theorem copy_self_forwards_every_param :
    BS.Gen.Copy.copySelfCtor.map Prod.fst = BS.Gen.Copy.tagInitParams ∧
    BS.Gen.Copy.copySelfClone.map Prod.fst = BS.Gen.Copy.tagInitParams ∧
    BS.Gen.Copy.tagInitParams.all (fun p =>
      (BS.Gen.Copy.copySelfCtor.lookup p == some (ofS "own") && BS.Gen.Copy.copySelfClone.lookup p == some (ofS "same")) ||
      ([ofS "parser", ofS "builder", ofS "attrs", ofS "parent", ofS "previous"].contains p &&
        (BS.Gen.Copy.copySelfCtor.lookup p == some (ofS "none") || BS.Gen.Copy.copySelfCtor.lookup p == some (ofS "absent")))) = true := by
  decide_pstr

/-- `BeautifulSoup.copy_self` as `soupCopySelf` / `copySoupImpl` model it, **observed on a probe document** (a spy subclass of
    `BeautifulSoup` on a builder object of its own, `original_encoding` set to a sentinel): one constructor call with empty
    markup, no features, the original's very builder object and nothing else; the clone is a new empty object of the same class
    with the root name, hidden, on that same builder, attached to nothing; `original_encoding` is carried over; the original is
    untouched. -/
theorem soup_copy_self_observed :
    noneLike BS.Gen.Copy.soupCopySelfCtor = kinds [("markup", "empty"), ("features", "none"), ("builder", "own"),
      ("parse_only", "none"), ("from_encoding", "none"), ("exclude_encodings", "none"), ("element_classes", "none"),
      ("kwargs", "none")] ∧
    BS.Gen.Copy.soupCopySelfFacts = yes ["clone_has_root_name", "clone_is_empty", "clone_is_new_object_of_same_class",
      "no_parent_no_siblings", "one_constructor_call", "original_encoding_carried", "original_untouched", "same_builder_object"] ∧
    BS.Gen.Copy.rootTagName = ofS "[document]" := by
  simp only [noneLike, yes, kinds, List.map]
  refine ⟨?_, ?_, ?_⟩ <;> decide_pstr

end BS.Props.C12
