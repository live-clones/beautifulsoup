import BSModel.Proofs.Depth
import BSModel.Proofs.DepthEvents
import BSModel.Gen.C11Tables
/-! # C11 — working with a tree never recurses on its depth            (PARTIAL: interpreter stack measured)

Property theorems only. **These are theorems about an accounting of the code's call graph** (`Model/Depth.lean`: a
loop costs the deepest of its iterations, a call costs one frame plus its callee, a structural `==`/`!=` between tags
costs `eqDepth`), not about CPython: that the accounting matches the interpreter is *measured* by `harness/c11.py`
(growth of the `sys.setprofile` call depth between nesting depths d and 2d, and absence of `RecursionError` beyond
the recursion limit, for every operation on every shape family; the measured growth is compared with the growth this
accounting computes for the same tree).

Two groups:

* `depth_bounded_*` — for ALL trees, receivers (`Loc`: subtree + its ancestors' builder flags + its siblings), queries,
  argument lists and tokenizer event sequences, the accounting of every listed operation in its repaired form is at
  most an explicit constant: structural induction shows that no term depending on the nesting is ever added. Each is
  stated for every `Cfg` that has the flags the operation depends on set (so it holds for `repaired` in particular).
* `*_unbounded` — the unrepaired forms are NOT bounded: explicit families on which the accounting grows linearly
  (a chain with trailing text / a trailing sibling at every level for `_event_stream`'s `!=`; a pure chain for the
  `.string` getter, `find_all(name, string=…)` and `smooth`; builder-less ancestors for `_is_xml`; any linked
  document for pickling). These are the defects the measurement re-finds on the unrepaired code. -/
namespace BS.Props.C11
open BS.Depth

/-! ## 1. parsing -/

/-- `BeautifulSoup(markup, "html.parser")`: for every tokenizer event sequence (balanced or not), every choice of
    whitespace-preserving and string-container names and **whatever a structural recursion in `popTag`'s `==` would
    cost** (`deep`), provided `pushTag` pushes every whitespace-preserving tag (as it does), the accounting of the
    parse is at most 14: `preserve_whitespace_tag_stack` and
    `string_container_stack` are always the tag stack filtered by name (`Inv`), so the popped tag is either the very
    object on top of a side stack or has a different name — `Tag.__eq__` returns from one of its first two exits. -/
theorem depth_bounded_parse (nm : Names) (h0 : nm.outermostOnly = false) (hE : nm.scElif = false) (deep : Nat) (evs : List Ev) :
    parseDepth nm deep evs ≤ 14 := by
  have := feedDepth_le nm h0 hE deep evs
  simp only [parseDepth, call]; omega

/-- nested `<pre>` inside `<pre>` with text after each: both side-stack comparisons are exercised -/
def preNames : Names := { isPre := fun n => n == 6, isSc := fun n => n == 7 }
example : parseDepth preNames 1000000 [.open 6 false, .open 6 false, .open 1 false, .close 1, .text, .close 6, .text, .close 6] = 14 := by
  decide +kernel
example : parseDepth preNames 1000000 [.open 6 false, .open 7 false, .open 3 true, .close 6] ≤ 14 := depth_bounded_parse _ rfl rfl _ _

/-- The bound DEPENDS on `pushTag` pushing every whitespace-preserving tag: with the (tree-preserving) policy "only
    the outermost one is pushed", an inner `<pre>` is popped while the outer `<pre>` is on top of the side stack — two
    different objects with the same name — and `popTag`'s `==` goes into its structural branch: the accounting is
    then at least whatever that recursion costs. (The harness checks the invariant `Inv` on the running parser, and
    measures nested whitespace-preserving / string-container tags around deep look-alike content.) -/
theorem parse_unbounded_if_only_outermost_pushed (deep : Nat) :
    deep ≤ parseDepth { isPre := fun n => n == 6, isSc := fun _ => false, outermostOnly := true } deep
      [.open 6 false, .open 6 false, .close 6] := by
  simp [parseDepth, feedDepth, run, step, pushTag, popToTag, popTo, popTag, popEqCost, popEqPops, popAll, initState,
    endDataDepth, loop0, loopMax, call, cTokenizer, cTagInit]
  omega

/-! ## 2. `_event_stream`: the loop with its tag stack is the recursive skeleton, and what it compares is known -/

/-- **Refinement of the anchor.** The statement-by-statement mirror of `_event_stream` (element.py:2480-2504: a `for`
    over `self_and_descendants` in document order, the `while tag_stack and c.parent <cmp> tag_stack[-1]` pop loop, the
    START/EMPTY/STRING cases, the final flush) yields, for EVERY tree and both variants of the test, exactly the
    recursive skeleton: START, the children's events in order, END — EMPTY for an empty-element tag, STRING for a
    string. (Identities are positions in document order; the correspondence runs the real generator on random bushy
    trees against both sides.) -/
theorem event_stream_refines_skeleton (cfg : Cfg) (t : Node) : (eventStreamImpl cfg t).1 = evSpecN 0 t :=
  eventStreamImpl_events cfg t

/-- The deepest comparison the loop makes is the recursive characterisation `evCmp` that the accountings of decode,
    deepcopy and pickle are built on: when the child after `k` arrives, `c.parent` is compared with every tag `k`
    left open on the stack (its right spine, deepest first: different objects) and then with itself. -/
theorem event_stream_deepest_comparison (cfg : Cfg) (t : Node) : (eventStreamImpl cfg t).2 = evCmp cfg t :=
  eventStreamImpl_cost cfg t

/-- The same for the form in which the receiver itself is not iterated over (`decode_contents`, `__deepcopy__`, and
    any hidden receiver — the BeautifulSoup object, which `_self_and` leaves out): the receiver is never on the stack. -/
theorem event_stream_contents_refines (cfg : Cfg) (t : Node) :
    (eventStreamContentsImpl cfg t).1 = evSpecL 1 (kidsOf t) ∧ (eventStreamContentsImpl cfg t).2 = evCmpContents cfg t :=
  eventStreamContentsImpl_spec cfg t

/-- With the identity test the loop makes no call at all, whatever the tree. -/
theorem event_stream_identity_makes_no_call (cfg : Cfg) (h : cfg.neIdentity = true) (t : Node) :
    (eventStreamImpl cfg t).2 = 0 ∧ (eventStreamContentsImpl cfg t).2 = 0 := by
  rw [eventStreamImpl_cost, (eventStreamContentsImpl_spec cfg t).2, evCmp_id cfg h]
  exact ⟨rfl, by simp [evCmpContents, evKidsTop_id cfg h]⟩

/-- Two structurally equal trees have the same size: on the pairs `_event_stream` compares (an element's parent and a
    tag still open below it — one properly contains the other) the structural `!=` and `is not` give the same
    answer, so both variants yield the same events; they differ only in what the test costs. -/
theorem structural_equality_forces_equal_size (a b : Node) (h : beqN a b = true) : sizeN a = sizeN b :=
  beqN_sizeN a b h

example : beqN (chainWithTrailingText 3) (chainWithTrailingText 3) = true ∧ beqN (chainWithTrailingText 3) (chainWithTrailingText 2) = false := by
  decide +kernel

/-- `<a>t<b><br/></b><p>x</p></a>`: a void tag, a tag left open when its sibling arrives -/
def demoTree : Node :=
  .tag 1 0 true false [.str 2, .tag 2 0 true false [.tag 3 0 true true []], .tag 5 0 true false [.str 1]]
example : (eventStreamImpl unrepaired demoTree).1 =
    [.start 0, .string 1, .start 2, .empty 3, .end 2, .start 4, .string 5, .end 4, .end 0] := by decide +kernel
example : (eventStreamImpl unrepaired demoTree).2 = 2 ∧ (eventStreamImpl repaired demoTree).2 = 0 := by decide +kernel
example : (eventStreamContentsImpl repaired demoTree).1 =
    [.string 1, .start 2, .empty 3, .end 2, .start 4, .string 5, .end 4] := by decide +kernel

example : (eventStreamImpl repaired (chainWithTrailingSibling 4)).2 = 0 := (event_stream_identity_makes_no_call repaired rfl _).1
example : (eventStreamImpl unrepaired (chainWithTrailingSibling 4)).2 = 8 := by decide +kernel

/-! ## 2b. rendering -/

/-- `Tag.decode` with the identity test in `_event_stream` and the loop form of `_is_xml`: at most 6, for every tree,
    every receiver in it and every ancestor context. -/
theorem depth_bounded_decode (cfg : Cfg) (h1 : cfg.neIdentity = true) (h2 : cfg.isXmlLoop = true) (l : Loc) :
    decodeDepth cfg l ≤ 6 := by
  have h := loopMax_le (selfAndDescs l) renderPiece 5 (fun x _ => renderPiece_le x)
  simp only [decodeDepth, formatterForNameDepth, isXmlDepth_loop cfg h2, eventStreamDepth_id cfg h1, call]
  omega

example : decodeDepth repaired (atTop (chainWithTrailingText 3)) = 6 := by decide +kernel
example : decodeDepth repaired ⟨List.replicate 5 false, [], .tag 1 0 false false [.str 1]⟩ = 6 := by decide +kernel

/-- `encode`, `prettify` (both forms), `str`/`repr`, `hash`, `decode_contents`, `encode_contents`,
    `BeautifulSoup.decode`: a fixed number of frames on top of `decode`. -/
theorem depth_bounded_render (cfg : Cfg) (h1 : cfg.neIdentity = true) (h2 : cfg.isXmlLoop = true) (l : Loc) :
    encodeDepth cfg l ≤ 7 ∧ prettifyDepth cfg l ≤ 8 ∧ strDepth cfg l ≤ 7 ∧ hashDepth cfg l ≤ 8 ∧
    decodeContentsDepth cfg l ≤ 7 ∧ encodeContentsDepth cfg l ≤ 8 ∧ docDecodeDepth cfg l ≤ 7 := by
  have := depth_bounded_decode cfg h1 h2 l
  have hb : decodeBodyDepth cfg l ≤ 6 := by
    have h := loopMax_le (descs l.anc l.node) renderPiece 5 (fun x _ => renderPiece_le x)
    simp only [decodeBodyDepth, formatterForNameDepth, isXmlDepth_loop cfg h2, eventStreamContentsDepth_id cfg h1, call]
    omega
  simp only [encodeDepth, prettifyDepth, strDepth, hashDepth, decodeContentsDepth, encodeContentsDepth, docDecodeDepth, call]
  omega

example : hashDepth repaired (atTop (chainWithTrailingSibling 4)) = 8 := by decide +kernel

/-! ## 3. copying -/

/-- `__deepcopy__` (of a tag or of a whole document): the event stream plus, per element, a `copy_self` (which asks
    `_is_xml` of THAT element) and an `append` to a detached clone: at most 16. -/
theorem depth_bounded_deepcopy (cfg : Cfg) (h1 : cfg.neIdentity = true) (h2 : cfg.isXmlLoop = true) (isDoc : Bool) (l : Loc) :
    deepcopyDepth cfg isDoc l ≤ 16 := by
  have ha := copySelfDepth_le cfg h2 isDoc l
  have hb := loopMax_le (descs l.anc l.node) (deepcopyPiece cfg) 15 (fun d _ => deepcopyPiece_le cfg h2 d)
  simp only [deepcopyDepth, eventStreamContentsDepth_id cfg h1, call]
  omega

/-- `copy.copy(x)` → `__copy__` → `__deepcopy__` -/
theorem depth_bounded_copy (cfg : Cfg) (h1 : cfg.neIdentity = true) (h2 : cfg.isXmlLoop = true) (isDoc : Bool) (l : Loc) :
    copyDepth cfg isDoc l ≤ 18 := by
  have := depth_bounded_deepcopy cfg h1 h2 isDoc l
  simp only [copyDepth, call]; omega

example : deepcopyDepth repaired false (atTop (chainWithTrailingText 3)) = 7 := by decide +kernel
example : copyDepth repaired true (atTop (chainWithTrailingText 2)) = 17 := by decide +kernel

/-! ## 4. pickling a document -/

/-- After a parse — for EVERY event sequence (balanced or not, tags left open at the end of input included) and EVERY
    pair of builder tables (a name may be whitespace-preserving AND a string container, or neither) — no parser
    attribute of the document object references a tree object: `tagStack` is back to the document itself and both
    side stacks are empty. (`popTag` tests the two side stacks independently; `_feed` closes everything.) -/
theorem after_parse_no_tree_object (nm : Names) (h0 : nm.outermostOnly = false) (hE : nm.scElif = false) (deep : Nat)
    (evs : List Ev) : leftover (feedState nm deep evs) = [] := by
  obtain ⟨hs, hp, hc⟩ := feedState_stacks_empty nm h0 hE deep evs
  rw [leftover, hs, hp, hc]; rfl

/-- a name (12) that is in both tables, closed and left open -/
def bothNames : Names := { isPre := fun n => n == 12 || n == 6, isSc := fun n => n == 12 || n == 7 }
/-- the same tables with the `elif` form of `popTag` -/
def bothNamesElif : Names := { isPre := fun n => n == 12 || n == 6, isSc := fun n => n == 12 || n == 7, scElif := true }
example : leftover (feedState bothNames 5 [.open 2 false, .open 12 false, .text, .close 12, .open 12 false, .text]) = [] := by decide +kernel
example : (run bothNames 5 initState [.open 2 false, .open 12 false, .text]).1.sc.length = 1 := by decide +kernel

/-- Hence the state `__getstate__` hands to pickle contains no tree object, linked root or not: the parser stacks are
    empty and the root's links are dropped. -/
theorem pickled_state_has_no_tree_object (cfg : Cfg) (h3 : cfg.dropLinks = true) (nm : Names) (h0 : nm.outermostOnly = false)
    (hE : nm.scElif = false) (deep : Nat) (evs : List Ev) (rootLinked : Bool) :
    stateRefs cfg rootLinked (feedState nm deep evs) = 0 := by
  obtain ⟨hs, hp, hc⟩ := feedState_stacks_empty nm h0 hE deep evs
  rw [stateRefs_eq, hs, hp, hc]; simp [h3]

example : stateRefs repaired true (feedState bothNames 3 [.open 12 false, .open 6 false, .text]) = 0 :=
  pickled_state_has_no_tree_object repaired rfl bothNames rfl rfl 3 _ true
example : stateRefs unrepaired true (feedState bothNames 3 [.open 12 false, .open 6 false, .text]) = 1 := by decide +kernel

/-- Field by field: the mirror of `__getstate__` (copy of `__dict__`, `contents := []`, `markup := decode()`, the four
    links := None, `_most_recent_element` deleted) applied to the `__dict__` of a parsed (and then arbitrarily edited,
    linked or not) document returns a dict in which NO field holds a tree object. -/
theorem getstate_fields_hold_no_tree_object (cfg : Cfg) (h3 : cfg.dropLinks = true) (nm : Names) (h0 : nm.outermostOnly = false)
    (hE : nm.scElif = false) (deep : Nat) (evs : List Ev) (hasKids rootLinked mostRecent : Bool) :
    ∀ f ∈ getstateImpl cfg (soupDict (feedState nm deep evs) hasKids rootLinked mostRecent), ∀ k, f.val ≠ .tree k := by
  obtain ⟨hs, hp, hc⟩ := feedState_stacks_empty nm h0 hE deep evs
  exact getstateImpl_no_tree cfg h3 _ (soupDict_trees _ hs hp hc hasKids rootLinked mostRecent)

example : getstateImpl repaired (soupDict (feedState bothNames 9 [.open 12 false, .text, .close 12, .open 2 false]) true true true) ≠ [] := by
  decide +kernel
/-- before `__getstate__` the same dict does hold tree objects (`contents`, `next_element`, `_most_recent_element`) -/
example : dictRefs (soupDict (feedState bothNames 9 [.open 12 false, .text, .close 12]) true true true) = 3 := by decide +kernel

/-- `pickle.dumps(soup)` / `pickle.loads` of a parsed document (parsed from ANY event sequence under ANY tables, then
    edited into any tree `l`, root linked or not): `__getstate__` renders, the pickler sees only flat values,
    `__setstate__` re-parses: at most 15. -/
theorem depth_bounded_pickle (cfg : Cfg) (h1 : cfg.neIdentity = true) (h2 : cfg.isXmlLoop = true) (h3 : cfg.dropLinks = true)
    (nm : Names) (h0 : nm.outermostOnly = false) (hE : nm.scElif = false) (deep : Nat) (evs : List Ev) (rootLinked : Bool) (l : Loc) :
    pickleDepth cfg nm deep rootLinked (feedState nm deep evs) l ≤ 15 := by
  obtain ⟨_, _, _, _, _, _, ha⟩ := depth_bounded_render cfg h1 h2 l   -- `docDecodeDepth ≤ 7`
  have hb := feedDepth_le nm h0 hE deep (toEventsL (kidsOf l.node))
  simp only [pickleDepth, picklerWalk, pickled_state_has_no_tree_object cfg h3 nm h0 hE deep evs rootLinked, ↓reduceIte, call]
  omega

example : pickleDepth repaired bothNames 1000 true (feedState bothNames 1000 [.open 12 false, .text, .close 12, .open 2 false])
    (atTop (chainWithTrailingText 3)) ≤ 15 := depth_bounded_pickle _ rfl rfl rfl _ rfl rfl _ _ _ _

/-- The bound DEPENDS on `popTag` testing the two side stacks independently: with `elif` (pop the string-container
    stack only when the whitespace stack was not popped) a tag that is in both tables stays on
    `string_container_stack` after the parse, `__getstate__` hands it to pickle, and the pickler walks the whole
    document from it — whatever the document's shape. (The harness parses under such tables and inspects the real
    `__getstate__()` for tree objects.) -/
theorem pickle_unbounded_if_container_pop_is_elif (cfg : Cfg) (deep : Nat) (rootLinked : Bool) (l : Loc) :
    sizeN l.node ≤ pickleDepth cfg bothNamesElif deep rootLinked
      (feedState bothNamesElif deep [.open 12 false, .text, .close 12]) l := by
  have hl : (feedState bothNamesElif deep [.open 12 false, .text, .close 12]).sc.length = 1 := by
    simp [feedState, run, step, pushTag, popToTag, popTo, popTag, popEqPops, closeAll, initState, bothNamesElif]
  exact sizeN_le_pickleDepth cfg _ deep _ _ l (by rw [stateRefs_eq, hl]; omega)

example : 6 ≤ pickleDepth repaired bothNamesElif 0 false
    (feedState bothNamesElif 0 [.open 12 false, .text, .close 12]) (atTop (chainWithTrailingText 5)) :=
  Nat.le_trans (sizeN_chainTT 5) (pickle_unbounded_if_container_pop_is_elif repaired 0 false (atTop (chainWithTrailingText 5)))

/-! ## 5. text extraction and `.string` -/

/-- `get_text` / `.text` / `.strings` / `.stripped_strings` / `_all_strings`: a generator over a pointer loop -/
theorem depth_bounded_get_text (l : Loc) : allStringsDepth l ≤ 3 ∧ getTextDepth l ≤ 5 := by
  simp only [getTextDepth, allStringsDepth, descGenDepth_eq, loop0_eq, call]; omega

/-- the `.string` getter in loop form -/
theorem depth_bounded_string (cfg : Cfg) (h : cfg.stringLoop = true) (t : Node) : stringDepth cfg t ≤ 1 := by
  rw [stringDepth_loop cfg h]; exact Nat.le_refl 1

/-- Element classes: `Node.tag` is ANY instance of `Tag` (the library class or a user subclass installed with
    `element_classes`), and the getter treats them alike (`isinstance(child, Tag)`: the loop goes on in the same frame)
    — one frame whatever the classes. The bound DEPENDS on that: a getter that stays in the loop only for the exact
    class `Tag` and asks a subclass child for ITS `.string` makes one call per level of a chain of subclass tags.
    (The harness builds every shape also from user subclasses of BeautifulSoup/Tag/NavigableString/Comment, and from a
    mix of library classes and subclasses.) -/
theorem string_getter_ignores_element_classes (t : Node) (n : Nat) :
    stringPoly (fun _ => false) t = 1 ∧ stringPoly (fun _ => true) (pureChain n) = n + 1 :=
  ⟨stringPoly_loop t, stringPoly_pureChain n⟩

example : stringPoly (fun _ => false) (pureChain 30) = 1 ∧ stringPoly (fun _ => true) (pureChain 30) = 31 := by decide +kernel
/-- every other level a subclass: one frame per two levels -/
example : stringPoly (fun t => sizeN t % 2 == 0) (pureChain 9) = 6 := by decide +kernel

example : getTextDepth (atTop (pureChain 7)) = 5 := by decide +kernel
example : stringDepth repaired (pureChain 7) = 1 := by decide +kernel

/-! ## 6. searching -/

/-- every `find_all` (any combination of a name, an attribute and a `string=` criterion — the latter reads
    `Tag.string` of every tag that got that far), and `find` / `tag(...)` / `tag.name` on top of it -/
theorem depth_bounded_find_all (cfg : Cfg) (h : cfg.stringLoop = true) (q : Query) (l : Loc) :
    findAllDepth cfg q l ≤ 10 ∧ findDepth cfg q l ≤ 11 ∧ getattrFindDepth cfg q l ≤ 12 := by
  have := searchDepth_le cfg h q (descGenDepth l) (by rw [descGenDepth_eq]; exact Nat.le_refl 2) ((descs l.anc l.node).map (·.node))
  simp only [getattrFindDepth, findDepth, findAllDepth, call]; omega

/-- The `.string` getter is the ONLY tree-dependent call in matching, and it is made exactly for the elements that
    pass every earlier exit of `matches_tag` (`reachesString`; the correspondence counts the real reads of the
    property): for any other element the cost of matching does not depend on the variant of the getter at all, for
    those it is the getter's. -/
theorem matching_reads_string_only_where_reached (cfg : Cfg) (q : Query) (t : Node) :
    (reachesString q t = false → matchesTagDepth cfg q t ≤ 5) ∧
    (reachesString q t = true → matchesTagDepth cfg q t = call (max (call cRuleMatch) (max (stringDepth cfg t) (call cRuleMatch)))) := by
  cases t with
  | str v => exact ⟨fun _ => Nat.zero_le _, fun h => absurd h Bool.false_ne_true⟩
  | tag n a kx v ks =>
    rcases matchesTagDepth_cases cfg q n a kx v ks with ⟨hr, hm⟩ | ⟨hr, hm⟩
    · exact ⟨fun _ => hm, fun h => absurd (hr.symm.trans h) Bool.false_ne_true⟩
    · exact ⟨fun h => absurd (h.symm.trans hr) Bool.false_ne_true, fun _ => hm⟩

example : stringReads ⟨some 1, false, false, none, true⟩ demoTree = [] ∧
    stringReads ⟨none, true, true, none, true⟩ demoTree = [2, 3, 4] ∧
    stringReads ⟨some 5, false, false, none, true⟩ demoTree = [4] := by decide +kernel

/-- the other axes (`find_parents`, `find_all_next`, `find_all_previous`, `find_next_siblings`,
    `find_previous_siblings`, singular forms): for ANY list of visited elements -/
theorem depth_bounded_find_axis (cfg : Cfg) (h : cfg.stringLoop = true) (q : Query) (vis : List Node) :
    findAxisDepth cfg q vis ≤ 11 := by
  have := searchDepth_le cfg h q (call (loop0 vis)) (by simp [loop0_eq, call]) vis
  simp only [findAxisDepth, call] at this ⊢; omega

example : findAllDepth repaired ⟨some 1, false, false, none, true⟩ (atTop (pureChain 6)) = 10 := by decide +kernel
example : findAxisDepth repaired ⟨none, true, true, some 0, true⟩ [pureChain 4, pureChain 3, .str 1] ≤ 11 := depth_bounded_find_axis _ rfl _ _

/-! ## 7. editing

    `ts` is what one "are these two elements the same object?" test costs (`index`, `replace_with`, `insert_before`/
    `insert_after`, `_insert`); the code uses `is` — `idTest`, a `FreeTest`. -/

/-- `index`, `extract`, `decompose`, `clear` (both forms) -/
theorem depth_bounded_remove (ts : Test) (hT : FreeTest ts) (l : Loc) (dec : Bool) :
    indexDepth ts l.sibs l.node ≤ 1 ∧ extractDepth ts l ≤ 2 ∧ decomposeDepth ts l ≤ 3 ∧ clearDepth ts l dec ≤ 4 := by
  have h := loopMax_le (kidLocs l) (fun k => if dec then decomposeDepth ts k else extractDepth ts k) 3
    (fun k _ => by simp only [decomposeDepth_eq ts hT, extractDepth_eq ts hT]; split <;> omega)
  simp only [indexDepth_eq ts hT, extractDepth_eq ts hT, decomposeDepth_eq ts hT, clearDepth, call] at h ⊢
  omega

/-- `insert` (any number of arguments, also a BeautifulSoup object), `append`, `extend` -/
theorem depth_bounded_insert (ts : Test) (hT : FreeTest ts) (l : Loc) (args : List Loc) (a : Loc) (isDoc : Bool) :
    insertDepth ts l args isDoc ≤ 7 ∧ appendDepth ts l a isDoc ≤ 8 ∧ extendDepth ts l args ≤ 9 := by
  have h := loopMax_le args (fun a => appendDepth ts l a false) 8 (fun a _ => appendDepth_le ts hT l a false)
  refine ⟨insertDepth_le ts hT l args isDoc, appendDepth_le ts hT l a isDoc, ?_⟩
  simp only [extendDepth, call]; omega

/-- `replace_with`, `wrap`, `unwrap`, `insert_before` / `insert_after`, the `string` setter -/
theorem depth_bounded_replace (ts : Test) (hT : FreeTest ts) (parent l wrapper : Loc) (args : List Loc) :
    replaceWithDepth ts parent l args ≤ 8 ∧ wrapDepth ts parent l wrapper ≤ 9 ∧ unwrapDepth ts parent l ≤ 8 ∧
    insertBesideDepth ts parent l args ≤ 8 ∧ stringSetDepth ts l ≤ 9 := by
  have h1 := replaceWithDepth_le ts hT parent l args
  have h2 := replaceWithDepth_le ts hT parent l [wrapper]
  have h3 := appendDepth_le ts hT wrapper l false
  have h4 := loopMax_le (kidsOf l.node) (fun k => insertDepth ts parent [⟨parent.anc, [], k⟩] false) 7
    (fun k _ => insertDepth_le ts hT parent _ false)
  have h5 := loopMax_le args (fun a => max (extractDepth ts a) (max (indexDepth ts l.sibs l.node) (insertDepth ts parent [a] false))) 7
    (fun a _ => by have := insertDepth_le ts hT parent [a] false; simp only [extractDepth_eq ts hT, indexDepth_eq ts hT]; omega)
  obtain ⟨_, _, _, h6⟩ := depth_bounded_remove ts hT l false   -- `clearDepth ≤ 4`
  have h7 := appendDepth_le ts hT l ⟨[], [], .str 0⟩ false
  have h8 : loopMax args (fun a => ts a.node l.node) = 0 := loopMax_zero _ _ (fun a _ => hT _ _)
  simp only [wrapDepth, unwrapDepth, insertBesideDepth, stringSetDepth, indexDepth_eq ts hT, extractDepth_eq ts hT, call, cStrNew, h8] at h5 ⊢
  omega

example : insertDepth idTest (atTop (pureChain 3)) [atTop (pureChain 9), ⟨[], [], .str 1⟩] true = 7 := by decide +kernel
example : wrapDepth idTest (atTop (pureChain 2)) (atTop (pureChain 5)) (atTop (pureChain 5)) ≤ 9 :=
  (depth_bounded_replace idTest idTest_free _ _ _ []).2.1
example : clearDepth idTest (atTop (chainWithTrailingText 4)) true = 4 := by decide +kernel

/-- The bounds DEPEND on the tests being identity tests: written with `==`, `replace_with`'s "replacing an element
    with itself is a no-op" test walks the element and an equal (or nearly equal) copy of it in lock-step — two
    frames per level — and so does `index` when an earlier sibling looks like the element searched for. (The harness
    exercises every editing call with near copies of the receiver as arguments and as siblings.) -/
theorem editing_with_equality_tests_unbounded (n : Nat) (parent : Loc) (anc anc' : List Bool) (sibs sibs' rest : List Node) :
    2 * n + 1 ≤ replaceWithDepth eqTest parent ⟨anc, sibs, pureChain n⟩ [⟨anc', sibs', pureChain n⟩] ∧
    2 * n + 1 ≤ indexDepth eqTest (pureChain n :: rest) (pureChain n) := by
  have h := eqDepth_pureChain_self n
  constructor
  · simp only [replaceWithDepth, List.take, loopMax, eqTest, call]; omega
  · simp only [indexDepth, loopMax, eqTest, call]; omega

example : replaceWithDepth eqTest (atTop (pureChain 1)) (atTop (pureChain 20)) [atTop (pureChain 20)] = 46 := by decide +kernel
example : replaceWithDepth idTest (atTop (pureChain 1)) (atTop (pureChain 20)) [atTop (pureChain 20)] = 6 := by decide +kernel

/-- `smooth` iterating over the descendants -/
theorem depth_bounded_smooth (cfg : Cfg) (h : cfg.smoothLoop = true) (l : Loc) : smoothDepth cfg l ≤ 10 := by
  have h1 := loopMax_le ((selfAndDescs l).filter (fun d => isTag d.node)) (fun d => call (smoothWork d)) 9
    (fun d _ => by have := smoothWork_le d; simp only [call]; omega)
  simp only [smoothDepth, h, ↓reduceIte, descGenDepth_eq, call] at h1 ⊢
  omega

example : extractDepth idTest (atTop (chainWithTrailingText 9)) = 2 := by decide +kernel
example : smoothDepth repaired (atTop (pureChain 5)) ≤ 10 := depth_bounded_smooth _ rfl _
example : smoothDepth repaired (atTop (pureChain 2)) = 8 := by decide +kernel

/-! ## 8. the unrepaired forms are unbounded (witness families) -/

/-- `_event_stream` with `!=`: on a chain of n+1 tags with a trailing text at every level, when the trailing text of
    the outermost level arrives, `c.parent != tag_stack[-1]` compares two levels that agree in name, attributes and
    number of children all the way down: two frames (`__ne__`, `__eq__`) per level. -/
theorem decodeOld_unbounded_trailing_text (cfg : Cfg) (h : cfg.neIdentity = false) (n : Nat) :
    2 * n ≤ decodeDepth cfg (atTop (chainWithTrailingText n)) :=
  (decode_copy_pickle_ge_of_trailing_chain cfg h chainWithTrailingText (.str 2) rfl (fun _ => rfl) n).1

/-- the same with a trailing sibling tag at every level -/
theorem decodeOld_unbounded_trailing_sibling (cfg : Cfg) (h : cfg.neIdentity = false) (n : Nat) :
    2 * n ≤ decodeDepth cfg (atTop (chainWithTrailingSibling n)) :=
  (decode_copy_pickle_ge_of_trailing_chain cfg h chainWithTrailingSibling (.tag 2 0 true false []) rfl (fun _ => rfl) n).1

/-- `__deepcopy__` (hence `copy.copy`) and pickling (through `__getstate__` → `decode`) inherit it -/
theorem deepcopyOld_pickleOld_unbounded (cfg : Cfg) (h : cfg.neIdentity = false) (nm : Names) (deep : Nat) (lk isDoc : Bool)
    (ps : PState) (n : Nat) :
    2 * n ≤ deepcopyDepth cfg isDoc (atTop (chainWithTrailingText n)) ∧
    2 * n ≤ pickleDepth cfg nm deep lk ps (atTop (chainWithTrailingText n)) :=
  have ⟨_, hcopy, hpickle⟩ := decode_copy_pickle_ge_of_trailing_chain cfg h chainWithTrailingText (.str 2) rfl (fun _ => rfl) n
  ⟨hcopy isDoc, hpickle nm deep lk ps⟩

example : decodeDepth unrepaired (atTop (chainWithTrailingText 5)) = 12 := by decide +kernel
example : decodeDepth unrepaired (atTop (chainWithTrailingText 10)) = 22 := by decide +kernel

/-- the recursive `.string` getter on a pure chain: one frame per level, exactly -/
theorem stringOld_unbounded (cfg : Cfg) (h : cfg.stringLoop = false) (n : Nat) :
    stringDepth cfg (pureChain n) = n + 1 := by
  simp [stringDepth, h, stringRec_pureChain]

/-- `find_all(name, string=…)` reads `.string` of every tag with that name -/
theorem findAllStringOld_unbounded (cfg : Cfg) (h : cfg.stringLoop = false) (n : Nat) :
    n ≤ findAllDepth cfg ⟨some 1, false, false, none, true⟩ (atTop (pureChain n)) := by
  cases n with
  | zero => exact Nat.zero_le _
  | succ n =>
    have hm : pureChain n ∈ (descs (atTop (pureChain (n + 1))).anc (atTop (pureChain (n + 1))).node).map (·.node) := by
      simp [atTop, pureChain, descs, descsL]
    have h1 := le_loopMax _ (matchDepth cfg ⟨some 1, false, false, none, true⟩) _ hm
    have h2 : n + 1 ≤ matchDepth cfg ⟨some 1, false, false, none, true⟩ (pureChain n) := by
      have hs := stringOld_unbounded cfg h n
      obtain ⟨ks, hk⟩ := pureChain_tag n
      rw [hk] at hs ⊢
      simp only [matchDepth, matchesTagDepth, call, hs]
      simp
      omega
    simp only [findAllDepth, searchDepth, call]
    omega

/-- the recursive `smooth` -/
theorem smoothOld_unbounded (cfg : Cfg) (h : cfg.smoothLoop = false) (n : Nat) :
    n + 1 ≤ smoothDepth cfg (atTop (pureChain n)) := by
  simp only [smoothDepth, h, Bool.false_eq_true, ↓reduceIte, atTop]
  exact smoothRec_ge_pureChain [] n

/-- the recursive `_is_xml`: rendering or copying a tag that sits below n tags made without a builder
    (`Tag(name=…)`: `known_xml is None`) walks up all of them, one frame each -/
theorem isXmlOld_unbounded (cfg : Cfg) (h : cfg.isXmlLoop = false) (n : Nat) (sibs : List Node) (t : Node) (ht : kxOf t = false) :
    n ≤ decodeDepth cfg ⟨List.replicate n false, sibs, t⟩ ∧ n ≤ deepcopyDepth cfg false ⟨List.replicate n false, sibs, t⟩ := by
  have := isXmlRec_replicate n
  simp only [decodeDepth, deepcopyDepth, copySelfDepth, formatterForNameDepth, isXmlDepth, h, ht, Bool.false_eq_true, ↓reduceIte, call]
  omega

/-- pickling a document whose root is linked into the element chain (after `soup.insert(0, …)`, or a copy) with the
    links left in the state dict: the pickler nests at least once per element of the document, whatever its shape -/
theorem pickleLinkedOld_unbounded (cfg : Cfg) (h : cfg.dropLinks = false) (nm : Names) (deep : Nat) (ps : PState) (l : Loc) :
    sizeN l.node ≤ pickleDepth cfg nm deep true ps l :=
  sizeN_le_pickleDepth cfg nm deep true ps l (by rw [stateRefs_eq]; simp [h])

example : stringDepth unrepaired (pureChain 9) = 10 := by decide +kernel
example : 40 ≤ findAllDepth unrepaired ⟨some 1, false, false, none, true⟩ (atTop (pureChain 40)) := findAllStringOld_unbounded _ rfl _
example : 8 ≤ decodeDepth unrepaired ⟨List.replicate 8 false, [], .tag 1 0 false false []⟩ := (isXmlOld_unbounded _ rfl 8 [] _ rfl).1
example : 4 ≤ pickleDepth unrepaired preNames 0 true initState (atTop (chainWithTrailingText 3)) :=
  Nat.le_trans (sizeN_chainTT 3) (pickleLinkedOld_unbounded unrepaired rfl preNames 0 initState (atTop (chainWithTrailingText 3)))

/-- `!=` stops at its first exit when adjacent levels differ in name: alternating names are bounded even in the
    unrepaired accounting (why the suite's single shape never showed the defect). -/
theorem eqDepth_differs_is_one (n n' a a' : Nat) (kx kx' v v' : Bool) (ks ks' : List Node)
    (h : n ≠ n' ∨ a ≠ a' ∨ ks.length ≠ ks'.length) : eqDepth (.tag n a kx v ks) (.tag n' a' kx' v' ks') = 1 := by
  simp [eqDepth, h]

example : eqDepth (.tag 1 0 true false [.tag 2 0 true false [], .str 2]) (.tag 2 0 true false [.tag 1 0 true false [], .str 2]) = 1 := by decide +kernel

/-! ## 9. the shipped tables and the interpreter's limit (generated on every run from the live objects) -/

/-- the tables of the live `HTMLParserTreeBuilder()` -/
def shippedNames : Names := { isPre := BS.Gen.c11PreserveCodes.contains, isSc := BS.Gen.c11ContainerCodes.contains }

/-- With the shipped tables no name is both whitespace-preserving and a string container (over the WHOLE generated
    tables) — which is why a coupling of the two pops in `popTag` is invisible in the default configuration, and why
    the harness also parses under configurations where the tables overlap. The theorems above do not need this. -/
theorem shipped_tables_disjoint : ∀ c ∈ BS.Gen.c11PreserveCodes, c ∉ BS.Gen.c11ContainerCodes := by decide +kernel

/-- frames the caller may already have on the stack when it calls into bs4 -/
def callerFrames : Nat := 100

/-- Every bound proved above (the largest is 18) leaves room below the live `sys.getrecursionlimit()` even when the
    caller is already 100 frames deep: an operation whose accounting is bounded by one of these constants cannot
    raise RecursionError, however deep the document. -/
theorem bounded_depth_is_below_the_recursion_limit (d : Nat) (h : d ≤ 18) : d + callerFrames < BS.Gen.c11RecursionLimit := by
  have : 18 + callerFrames < BS.Gen.c11RecursionLimit := by decide
  omega

/-- e.g. parsing under the shipped tables, rendering, copying and pickling, each for every input -/
theorem handled_beyond_the_recursion_limit (cfg : Cfg) (h1 : cfg.neIdentity = true) (h2 : cfg.isXmlLoop = true) (h3 : cfg.dropLinks = true)
    (deep : Nat) (evs : List Ev) (isDoc lk : Bool) (l : Loc) :
    parseDepth shippedNames deep evs + callerFrames < BS.Gen.c11RecursionLimit ∧
    decodeDepth cfg l + callerFrames < BS.Gen.c11RecursionLimit ∧
    copyDepth cfg isDoc l + callerFrames < BS.Gen.c11RecursionLimit ∧
    pickleDepth cfg shippedNames deep lk (feedState shippedNames deep evs) l + callerFrames < BS.Gen.c11RecursionLimit := by
  refine ⟨bounded_depth_is_below_the_recursion_limit _ ?_, bounded_depth_is_below_the_recursion_limit _ ?_,
    bounded_depth_is_below_the_recursion_limit _ ?_, bounded_depth_is_below_the_recursion_limit _ ?_⟩
  · have := depth_bounded_parse shippedNames rfl rfl deep evs; omega
  · have := depth_bounded_decode cfg h1 h2 l; omega
  · exact depth_bounded_copy cfg h1 h2 isDoc l
  · have := depth_bounded_pickle cfg h1 h2 h3 shippedNames rfl rfl deep evs lk l; omega

example : parseDepth shippedNames 7 [.open 6 false, .open 9 false, .open 12 false, .text, .close 6] = 14 := by decide +kernel
example : copyDepth repaired true (atTop (chainWithTrailingText 40)) + callerFrames < BS.Gen.c11RecursionLimit :=
  (handled_beyond_the_recursion_limit repaired rfl rfl rfl 0 [] true false _).2.2.1

end BS.Props.C11
