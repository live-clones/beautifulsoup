import BSModel.Proofs.HeapOps
import BSModel.Proofs.HeapExtract
import BSModel.Proofs.HeapLink
import BSModel.Proofs.HeapIter
import BSModel.Proofs.HeapDecompose
import BSModel.Proofs.ParseLinkInv
import BSModel.Proofs.HeapCopySpec
import BSModel.Proofs.HeapCopyIso
/-! # C01 — one consistent tree: every navigation view agrees after any edit history

`Good h` says: there is a nested-set witness under which the children lists tile the parents' intervals and
every one of the six link fields of every element is the one determined by the pre-order of the children
lists (`WF`, Proofs/HeapWF.lean). The theorems below say that the start state is consistent, that every
editing call — the code-mirror of `bs4/element.py` in Model/Heap.lean — keeps it so, for every finite history,
and that in a consistent heap all six link fields and all six iterators are slices of the pre-order walk
of the children lists (`docOrder`). -/
namespace BS.Props.C01
open BS.Heap

/-- freshly constructed objects (any number, any kinds) form a consistent forest of one-node trees -/
theorem init_consistent (kinds : List Kind) : Good2 (Heap.init kinds) := by
  refine ⟨⟨⟨fun n => n, fun _ => 0, fun _ => 1, fun _ => false⟩, ?_⟩, ?_⟩
  · constructor <;> simp [Heap.init, Heap.empty, Tiles]
  · intro n hn
    simp only [Heap.init] at hn ⊢
    have : kinds[n]? = none := by simp; exact hn
    simp [this]

/-- **every editing call** (append, insert, extend, insert_before, insert_after, replace_with, wrap, unwrap,
    extract, clear, smooth, `.string=`; single- and multi-argument, arguments anywhere in the forest, plain
    strings, whole BeautifulSoup objects) that returns, returns a consistent forest. Calls that would put an
    element beneath itself are outside the quantifier (the model reports `excluded` for them). -/
theorem call_keeps_consistent {h h' : Heap} {op : Op} (hg : Good2 h) (hd : op.isDecompose = false) (hk : op.kindsOK)
    (hs : step h op = .ok h') : Good2 h' :=
  -- `hd` and `hk` are idle: `step_good` holds of every call, whatever class `.string =` allocates
  step_good hg hs

/-- **every editing call, `decompose` included**, that returns, returns a consistent forest. For `decompose`
    the model's guard excludes one state only: a BeautifulSoup object that has children and stands outside the
    element chain (the state right after parsing), where the Python wipes the object alone and leaves its
    children pointing at it. -/
theorem every_call_keeps_consistent {h h' : Heap} {op : Op} (hg : Good2 h) (hk : op.kindsOK)
    (hs : step h op = .ok h') : Good2 h' :=
  step_good hg hs

/-- **every finite history of editing calls** — all fourteen of them, `decompose` included — keeps the forest
    consistent -/
theorem history_consistent :
    ∀ (ops : List Op) (h h' : Heap), Good2 h → (∀ op ∈ ops, op.kindsOK) → run h ops = .ok h' → Good2 h' := by
  intro ops h h' hg hok hr
  fun_induction run h ops with
  | case1 => cases hr; exact hg
  | case2 => cases hr
  | case3 h op ops h1 hs ih =>
    exact ih (every_call_keeps_consistent hg (hok op (by simp)) hs) (fun o ho => hok o (by simp [ho])) hr

/-- **every finite history** of such calls keeps the forest consistent (`history_consistent` without `decompose`) -/
theorem history_consistent_noDecompose :
    ∀ (ops : List Op) (h h' : Heap), Good2 h → (∀ op ∈ ops, op.isDecompose = false ∧ op.kindsOK) →
      run h ops = .ok h' → Good2 h' :=
  fun ops h h' hg hok hr => history_consistent ops h h' hg (fun op ho => (hok op ho).2) hr

/-- **`decompose` destroys exactly the subtree.** On a consistent forest, a `decompose()` that returns is the
    `extract()` of the element (which never fails) followed by the wipe-out: afterwards every element of the
    subtree of `x` — the elements of the pre-order walk of the children lists from `x` *before* the call — is
    unlinked from everything (no parent, no siblings, no previous or next element, no children), and no other
    element differs in a single link or in its children list from the state the `extract()` alone produces.
    No element changes its class or its text, nothing is allocated, and the result is again consistent. -/
theorem decompose_destroys_subtree {h h' : Heap} {x : Nat} (hg : Good h) (hd : decompose h x = .ok h') :
    ∃ h1, extract h x = .ok h1 ∧ Good h1 ∧ Good h' ∧
      (∀ m, m ∈ docOrder h x →
        h'.parent m = none ∧ h'.ps m = none ∧ h'.ns m = none ∧ h'.pe m = none ∧ h'.ne m = none ∧
        h'.kids m = []) ∧
      (∀ m, m ∉ docOrder h x →
        h'.parent m = h1.parent m ∧ h'.ps m = h1.ps m ∧ h'.ns m = h1.ns m ∧ h'.pe m = h1.pe m ∧
        h'.ne m = h1.ne m ∧ h'.kids m = h1.kids m) ∧
      h'.kind = h.kind ∧ h'.val = h.val ∧ h'.next = h.next := by
  obtain ⟨w, hwf⟩ := hg
  obtain ⟨h1, w1, he, hwf1, _, hkind, hval, hnext, hW, hmem⟩ := decompose_wiped hwf hd
  refine ⟨h1, he, ⟨w1, hwf1⟩, ⟨_, wipe_wf hwf1 hW⟩, ?_, ?_, hW.kind.trans hkind, hW.val.trans hval,
    hW.next.trans hnext⟩
  · intro m hm
    exact hW.inside ((hmem m).mpr hm)
  · intro m hm
    exact hW.outside (fun hc => hm ((hmem m).mp hc))

/-- `extract` never fails on a consistent forest, and the element it returns is a self-contained tree:
    no parent, no siblings, no previous element, and its last element has no next element -/
theorem fragment_detached {h : Heap} (x : Nat) (hg : Good h) :
    ∃ h', extract h x = .ok h' ∧ Good h' ∧ h'.parent x = none ∧ h'.ps x = none ∧ h'.ns x = none ∧ h'.pe x = none ∧
      ∀ l, l ∈ docOrder h' x → (docOrder h' x).getLast? = some l → h'.ne l = none := by
  obtain ⟨w, hwf⟩ := hg
  obtain ⟨h', he, hwf', _⟩ := extract_spec h w x hwf
  obtain ⟨d1, d2, d3, d4⟩ := extract_detached hwf he
  refine ⟨h', he, ⟨_, hwf'⟩, d1, d2, d3, d4, ?_⟩
  exact fun l _ hlast => root_last_ne hwf' d1 hlast

/-- **all views are the pre-order of the children lists.** In a consistent heap there are, for every element
    `x`, a root `root x` and an index `idx x` such that `x` is the `idx x`-th element of the duplicate-free
    document order (recursive pre-order of the children lists) of the tree of `root x`, and every link field
    and every iterator of `x` is the corresponding slice of that list / of the parent's children list.
    The only freedom: a BeautifulSoup root may stand outside the element chain (then its `next_element` is
    `None`, its `next_elements` empty, and it is missing from the end of `previous_elements`). -/
theorem views_are_preorder {h : Heap} (hg : Good h) :
    ∃ (root idx : Nat → Nat), ∀ x,
      h.parent (root x) = none ∧ (docOrder h (root x)).Nodup ∧ (docOrder h (root x))[idx x]? = some x ∧
      (∀ m, m ∈ docOrder h (root x) ↔ root m = root x) ∧
      -- next_element / next_elements
      ((h.ne x = (docOrder h (root x))[idx x + 1]? ∧ nextElements h x = (docOrder h (root x)).drop (idx x + 1)) ∨
        (h.kind x = .soup ∧ h.parent x = none ∧ h.ne x = none ∧ nextElements h x = [])) ∧
      -- previous_elements
      (previousElements h x = ((docOrder h (root x)).take (idx x)).reverse ∨
        (h.kind (root x) = .soup ∧
          previousElements h x = (((docOrder h (root x)).take (idx x)).drop 1).reverse)) ∧
      -- descendants
      descendants h x = .ok ((pre h.kids h.cap x).tail) ∧
      (∃ n, pre h.kids h.cap x = ((docOrder h (root x)).drop (idx x)).take n) ∧
      -- siblings and parents
      (∀ p, h.parent x = some p →
        nextSiblings h x = (h.kids p).drop ((h.kids p).idxOf x + 1) ∧
        previousSiblings h x = ((h.kids p).take ((h.kids p).idxOf x)).reverse ∧
        parents h x = p :: parents h p) ∧
      (h.parent x = none → root x = x ∧ idx x = 0 ∧
        nextSiblings h x = [] ∧ previousSiblings h x = [] ∧ parents h x = [] ∧
        h.ps x = none ∧ h.ns x = none ∧ h.pe x = none) := by
  obtain ⟨w, hwf⟩ := hg
  refine ⟨w.tree, w.pos, fun x => ?_⟩
  have hr := hwf.tree_root x
  obtain ⟨_, _, _, hparents_root, hparents_cons⟩ := parents_eq hwf x
  refine ⟨hr, docOrder_nodup hwf hr, docOrder_self hwf x, fun m => docOrder_mem hwf hr m, ?_, ?_,
    descendants_eq hwf x, ⟨w.size x, pre_slice hwf x⟩, ?_, ?_⟩
  · cases hu : w.unl x with
    | false => exact Or.inl ⟨(next_element_is_successor hwf x).1 hu, (nextElements_eq hwf x).1 hu⟩
    | true =>
      have := hwf.unl_soup x hu
      exact Or.inr ⟨this.1, this.2, (next_element_is_successor hwf x).2 hu, (nextElements_eq hwf x).2 hu⟩
  · cases hu : w.unl (w.tree x) with
    | false => exact Or.inl ((previousElements_eq hwf x).1 hu)
    | true => exact Or.inr ⟨(hwf.unl_soup _ hu).1, (previousElements_eq hwf x).2 hu⟩
  · intro p hp
    exact ⟨nextSiblings_eq hwf hp rfl, previousSiblings_eq hwf hp rfl, hparents_cons p hp⟩
  · intro hp
    obtain ⟨_, _, hnextSibs, hprevSibs⟩ := siblings_root hwf hp
    obtain ⟨htree, hpos⟩ := hwf.root_tree x hp
    obtain ⟨hpe, -, hps, hns⟩ := root_links hwf hp
    exact ⟨htree, hpos, hnextSibs, hprevSibs, hparents_root hp, hps, hns, hpe⟩

/-- the document root never points at an element that is not the first one -/
theorem soup_root_caveat {h : Heap} (hg : Good h) (r : Nat) (hr : h.parent r = none) :
    h.ne r = none ∨ h.ne r = (h.kids r).head? := by
  obtain ⟨w, hwf⟩ := hg
  cases hne : h.ne r with
  | none => exact Or.inl rfl
  | some b =>
    right
    have hc := (hwf.chain_ne r b).mp hne
    have hrt := hwf.root_tree r hr
    -- b sits at position 1 of r's tree: it is covered by the first child, whose position is 1
    have ht := hwf.tiles r
    cases hk : h.kids r with
    | nil =>
      rw [hk] at ht; simp [Tiles] at ht
      have hb := hwf.bound b
      have hs := hwf.size_pos b
      rw [← hc.2.1, hrt.1] at hb
      omega
    | cons k ks =>
      rw [hk] at ht
      obtain ⟨hkp, _, _⟩ := ht
      have hkt := hwf.kid_tree r k (by rw [hk]; simp)
      have : b = k := hwf.inj b k (by rw [hkt, ← hc.2.1]) (by omega)
      simp [this]

/-! non-vacuity: the model runs a real history to a non-trivial consistent state -/
example : (run (Heap.init [.soup, .tag, .tag, .str, .str])
    [.append 0 (.node 1), .append 1 (.node 3), .insert 0 0 [.node 2, .plain [9]], .wrap 3 2,
     .replaceWith 1 [.node 4, .node 3]]).isOk = true := by decide +kernel

/-! non-vacuity for `decompose`: a history that destroys a two-level subtree in the middle of a document and
    keeps editing; the guard of the model fires only for an unlinked BeautifulSoup object with children -/
example : (run (Heap.init [.soup, .tag, .tag, .str, .str])
    [.append 0 (.node 1), .append 1 (.node 2), .append 2 (.node 3), .append 0 (.node 4),
     .decompose 1, .append 0 (.node 3)]).isOk = true := by decide +kernel
example : ((decompose (Heap.init [.soup, .tag]) 0).toOption.map (fun h => (h.ne 0, h.kids 0))) = some (none, []) := by
  decide +kernel

/-! ## copies (`copy.copy(el)`, `copy.deepcopy(el)`, `el.__copy__()`; Model/HeapCopy.lean)

"The same holds for every fragment that was extracted, replaced, unwrapped, cleared out **or copied**: it is a self-contained tree with
no parent, no siblings and no links into the tree it came from." `copy h x` mirrors `__deepcopy__`: fresh objects are allocated in
document order of the source subtree and each is linked by the model's `append` under the clone of its parent. -/

/-- a constructor call (an object of ANY class at the next unused id) keeps the forest consistent. `Good2`'s clause "ids from `next` on
    are strings" is about the ids that remain unused; `KSame` ("no call turns a string into a tag") is what an allocation of a tag does
    NOT satisfy and does not need: no id in use changes class or text -/
theorem alloc_keeps_consistent {h : Heap} (hg : Good2 h) (k : Kind) (v : PStr) :
    Good2 (alloc h k v).1 ∧ (∀ n, n ≠ h.next → (alloc h k v).1.kind n = h.kind n ∧ (alloc h k v).1.val n = h.val n) ∧
    (alloc h k v).1.kind h.next = k ∧ (alloc h k v).1.val h.next = v ∧ (alloc h k v).1.next = h.next + 1 :=
  alloc_good2_any hg k v

/-- **a copy keeps the forest consistent**: whatever is copied (a string, a tag with its subtree, a whole BeautifulSoup object, an
    element inside an extracted fragment or inside an earlier copy), a copy that returns, returns one consistent forest -/
theorem copy_keeps_consistent {h h' : Heap} {x c : Nat} (hg : Good2 h) (hc : copy h x = .ok (h', c)) : Good2 h' := by
  obtain ⟨_, w', st', inv⟩ := copy_cinv hg hc
  exact (cinv_final inv).1

/-- **the copy is a detached, self-contained tree of fresh objects.** The clone `c` is the first object the call allocates; it has no
    parent, no siblings and no previous element, and the last element of its document order has no next element; its document order
    is exactly the ids allocated by the call, in allocation order (every node of the copy is fresh: none existed before, so it shares
    no node with any tree that existed before — those consist of ids below the old allocation counter); and every link of every node of
    the copy (the five pointers and the children list) leads to a node of the copy: no link into the tree it came from -/
theorem copy_is_detached_and_fresh {h h' : Heap} {x c : Nat} (hg : Good2 h) (hc : copy h x = .ok (h', c)) :
    c = h.next ∧ h'.parent c = none ∧ h'.ps c = none ∧ h'.ns c = none ∧ h'.pe c = none ∧
    (∀ l, (docOrder h' c).getLast? = some l → h'.ne l = none) ∧
    docOrder h' c = List.range' h.next (h'.next - h.next) ∧ h.next < h'.next ∧
    (∀ m, m ∈ docOrder h' c → h.next ≤ m ∧ m < h'.next) ∧
    (∀ r m, r < h.next → m ∈ docOrder h r → m < h.next) ∧
    (∀ m b, m ∈ docOrder h' c →
      (h'.ne m = some b ∨ h'.pe m = some b ∨ h'.ns m = some b ∨ h'.ps m = some b ∨ h'.parent m = some b ∨ b ∈ h'.kids m) →
      b ∈ docOrder h' c) := by
  obtain ⟨rfl, w', st', inv⟩ := copy_cinv hg hc
  obtain ⟨_, hroot, hdoc, _⟩ := cinv_final inv
  obtain ⟨hpe, -, hps, hns⟩ := root_links inv.wf hroot
  have hmemr : ∀ m, m ∈ docOrder h' h.next → h.next ≤ m ∧ m < h'.next := by
    intro m hm; rw [hdoc, List.mem_range'_1] at hm; have := inv.lt; omega
  refine ⟨rfl, hroot, hps, hns, hpe, fun l => root_last_ne inv.wf hroot, hdoc, inv.lt, hmemr,
    fun r m hr hm => docOrder_old hg.1 hr hm, ?_⟩
  intro m b hm hlink
  have ht := (docOrder_mem inv.wf hroot m).mp hm
  exact (docOrder_mem inv.wf hroot b).mpr (by rw [tree_closed inv.wf hlink, ht])

/-- **the source is untouched** — and so is everything else that existed: every object allocated before the copy keeps its parent, its
    children list, its four sibling/element links, its class and its text -/
theorem copy_leaves_source_untouched {h h' : Heap} {x c : Nat} (hg : Good2 h) (hc : copy h x = .ok (h', c)) :
    ∀ a, a < h.next → h'.parent a = h.parent a ∧ h'.kids a = h.kids a ∧ h'.ne a = h.ne a ∧ h'.pe a = h.pe a ∧
      h'.ns a = h.ns a ∧ h'.ps a = h.ps a ∧ h'.kind a = h.kind a ∧ h'.val a = h.val a := by
  obtain ⟨_, w', st', inv⟩ := copy_cinv hg hc
  exact inv.frame

/-- **the copy is isomorphic to the source.** There is one map `φ` — "the element at index `j` of the source's document order ↦ the
    `j`-th object the call allocates" — such that the document order of the clone is the document order of the source mapped by `φ`
    (so `φ` is an order-preserving bijection between the two pre-orders: same length, element for element), every element's clone has
    its class and its text, the children list of the clone of `d` is the children list of `d` mapped by `φ`, and the parent of the clone
    of `d` is the clone of the parent of `d` (for every element other than the root of the copied subtree, whose clone has no parent:
    `copy_is_detached_and_fresh`) -/
theorem copy_is_isomorphic {h h' : Heap} {x c : Nat} (hg : Good2 h) (hc : copy h x = .ok (h', c)) :
    ∃ φ : Nat → Nat, (∀ j k, (docOrder h x)[j]? = some k → φ k = h.next + j) ∧
      docOrder h' c = (docOrder h x).map φ ∧
      (∀ d, d ∈ docOrder h x → h'.kind (φ d) = h.kind d ∧ h'.val (φ d) = h.val d ∧ h'.kids (φ d) = (h.kids d).map φ) ∧
      (∀ d, d ∈ docOrder h x → d ≠ x → ∃ π, h.parent d = some π ∧ π ∈ docOrder h x ∧ h'.parent (φ d) = some (φ π)) :=
  copy_iso hg hc

/-- **every finite history of editing calls, copies and constructor calls keeps the forest consistent** — histories may interleave
    them in any way, in particular move elements between an original and its copy -/
theorem history2_consistent :
    ∀ (ops : List Op2) (h h' : Heap), Good2 h → (∀ op ∈ ops, op.kindsOK) → run2 h ops = .ok h' → Good2 h' := by
  intro ops h h' hg hok hr
  fun_induction run2 h ops with
  | case1 => cases hr; exact hg
  | case2 => cases hr
  | case3 h op ops h1 hs ih =>
    exact ih (step2_good hg hs) (fun o ho => hok o (by simp [ho])) hr

/-! non-vacuity: the parsed document `<a>x<b>y</b></a>z` (ids: 0 the BeautifulSoup object, 1 `a`, 2 `x`, 3 `b`, 4 `y`, 5 `z`); the
    two-level subtree `b` is copied out of its middle (clone 6 with the string 7), the copied string is moved into the original, the
    original `x` into the copy, the copy is copied again (8) and, after a new tag (10), the whole document as well (11 …) -/
def wParsed : Heap := (BS.ParseLink.prun BS.ParseLink.PSt.init [.newTag, .newStr, .newTag, .newStr, .pop, .pop, .newStr]).heap
example : ((copy wParsed 3).toOption.map fun r => (r.2, docOrder r.1 r.2, r.1.parent 6, r.1.kids 6))
    = some (6, [6, 7], none, [7]) := by decide +kernel
example : ((copy wParsed 3).toOption.map fun r => (r.1.ne 7, r.1.kids 3, r.1.next)) = some (none, [4], 8) := by decide +kernel
example : ((copy wParsed 0).toOption.map fun r => (docOrder r.1 r.2, r.1.kids 7, r.1.kind 6 == .soup))
    = some ([6, 7, 8, 9, 10, 11], [8, 9], true) := by decide +kernel
example : ((copy wParsed 0).toOption.map fun r => (r.1.parent 6, r.1.kids 1, r.1.kids 0)) = some (none, [2, 3], [1, 5]) := by decide +kernel
example : ((copy wParsed 0).toOption.map fun r => ((docOrder wParsed 0).map wParsed.parent, (docOrder r.1 r.2).map r.1.parent))
    = some ([none, some 0, some 1, some 1, some 3, some 0], [none, some 6, some 7, some 7, some 9, some 6]) := by decide +kernel
example : ((copy wParsed 0).toOption.map fun r => ((docOrder wParsed 0).map wParsed.kids, (docOrder r.1 r.2).map r.1.kids))
    = some ([[1, 5], [2, 3], [], [4], [], []], [[7, 11], [8, 9], [], [10], [], []]) := by decide +kernel
example : ((run2 wParsed [.copy 3, .edit (.append 1 (.node 7)), .edit (.insert 6 0 [.node 2]), .copy 6, .alloc .tag [],
    .edit (.append 10 (.node 8)), .copy 0, .edit (.extract 3), .copy 4]).toOption.map
      fun h => (h.kids 1, h.kids 6, docOrder h 10, h.parent 8)) = some ([7], [2], [10, 8, 9], some 10) := by decide +kernel

/-- **parse any document, then edit it in any way: still one consistent tree.** The heap the parser leaves
    behind (Model/ParseLink.lean: the pointer writes of `PageElement.setup`, `object_was_parsed`,
    `_linkage_fixer`, for any list of parser actions) is a consistent forest, and so is the result of every
    finite history of editing calls applied to it. -/
theorem parsed_then_edited_consistent :
    ∀ (acts : List BS.ParseLink.Act) (ops : List Op) (h' : Heap),
      run (BS.ParseLink.prun BS.ParseLink.PSt.init acts).heap ops = .ok h' → (∀ op ∈ ops, op.kindsOK) → Good2 h' :=
  fun acts ops h' hr hk => history_consistent ops _ h' (BS.ParseLink.parse_good2 acts) hk hr

/-! non-vacuity: a parsed document (`<a>x<b>y</b></a>z`) edited by a history that moves, wraps and destroys -/
example : (run (BS.ParseLink.prun BS.ParseLink.PSt.init [.newTag, .newStr, .newTag, .newStr, .pop, .pop, .newStr]).heap
    [.append 0 (.node 3), .insert 1 0 [.plain [7]], .extract 5, .decompose 1, .append 3 (.node 5)]).isOk = true := by
  decide +kernel

end BS.Props.C01
