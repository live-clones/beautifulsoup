import BSModel.Proofs.SourcePos
import BSModel.Props.TK
/-! # C18 — sourceline/sourcepos give each tag's true position in the input

(1) bs4 passes the tokenizer's position through unchanged on every path, and stores nothing when
`store_line_numbers` is off; (2) the position arithmetic of CPython's `updatepos`, for ANY way the tokenizer may
cut the consumed text into chunks, is the 1-based line / 0-based column of the offset; (3) composed with the model of
CPython's tokenizer (`Model/Tokenizer.lean`, theorems in `Props/TK.lean`, tied to the real `html.parser` by the
"tokenizer-model" stream): for EVERY text, the positions stored for the tags are the line/column of the offsets at which
their start tags' `<` stand. -/
namespace BS.Props.C18
open BS.Adapter BS.Builder BS.SourcePos

/-- the positions the tokenizer reports are passed through unchanged: the start infos the adapter produces are, in
    order, exactly the positions of the start-tag callbacks (`<x>` and `<x/>` alike) when line numbers are stored, and
    `none` for every tag otherwise -/
theorem pos_pass_through (cfg : ACfg) (sevs : List SEv) :
    ((toEvents cfg sevs).2.map (·.pos)) =
      (startPositions sevs).map (fun p => if cfg.storeLines then some p else none) :=
  pos_pass_through_aux cfg sevs ⟨[]⟩   -- `toEvents` starts `arun` at `⟨[]⟩`

/-- with `store_line_numbers=False` every tag's position is `None` -/
theorem no_positions_when_off (cfg : ACfg) (sevs : List SEv) (h : cfg.storeLines = false) :
    ∀ i ∈ (toEvents cfg sevs).2, i.pos = none := by
  intro i hi
  have := pos_pass_through cfg sevs
  have hm : i.pos ∈ (toEvents cfg sevs).2.map (·.pos) := List.mem_map_of_mem hi
  rw [this] at hm
  simp only [h, Bool.false_eq_true, if_false, List.mem_map] at hm
  obtain ⟨_, _, heq⟩ := hm
  exact heq.symm

/-- one start info per start-tag callback -/
theorem one_info_per_start (cfg : ACfg) (sevs : List SEv) :
    (toEvents cfg sevs).2.length = (startPositions sevs).length := by
  have := congrArg List.length (pos_pass_through cfg sevs)
  simpa using this

/-! ### `updatepos` is the line/column of the offset, for any chunking -/

/-- **any chunking**: consuming the text in any sequence of chunks leaves `getpos()` at the 1-based line and
    0-based column of the end of the consumed text -/
theorem updatepos_any_chunking (chunks : List PStr) :
    posAfter chunks = lineCol chunks.flatten chunks.flatten.length := by
  unfold posAfter
  have : ∀ (cs : List PStr) (a : PStr), cs.foldl updatepos (lineCol a a.length) = lineCol (a ++ cs.flatten) (a ++ cs.flatten).length := by
    intro cs
    induction cs with
    | nil => intro a; simp
    | cons c cs ih =>
      intro a
      simp only [List.foldl_cons, List.flatten_cons]
      rw [updatepos_step, ih (a ++ c), List.append_assoc]
  have h0 : lineCol [] ([] : PStr).length = (1, 0) := by simp [lineCol]
  rw [← h0, this chunks []]
  simp

/-- hence the position reported for a tag whose `<` sits at offset `off` — the tokenizer has consumed exactly
    `text[0:off]` when it reports the tag — is `lineCol text off`, however the text before it was chunked -/
theorem start_tag_position (text : PStr) (off : Nat) (chunks : List PStr) (h : chunks.flatten = text.take off) :
    posAfter chunks = lineCol text off := by
  rw [updatepos_any_chunking, h]
  simp only [lineCol, List.take_length]

/-- the specification read out: the line is one more than the number of newlines before the offset, and the
    column is the distance to the character after the last of them -/
theorem lineCol_spec (a b : PStr) (hb : b.count 10 = 0) :
    lineCol (a ++ [10] ++ b) (a ++ [10] ++ b).length = (2 + a.count 10, b.length) := by
  simp only [lineCol, List.take_length]
  refine Prod.ext ?_ ?_
  · simp [List.count_append]; omega
  · have := takeWhile_reverse_append (a ++ [10]) b hb
    simp only at this ⊢
    rw [this]; simp

example : lineCol (BS.ofS "ab\ncd<e>") 5 = (2, 2) := by decide_pstr
example : posAfter [BS.ofS "ab", BS.ofS "\nc", BS.ofS "d"] = (2, 2) := by decide_pstr

/-! ### composed with the tokenizer model: positions are those of the `<` in the parsed text -/
section Tokenized
open BS.Tokenizer

/-- **every tag's stored position is the line/column of its start tag's `<`, for every text.** Tokenize `text` as
    `feed(text); close()` does (`BS.Tokenizer.run`, any `html.unescape`/`str.lower`), hand the callbacks to the adapter:
    the positions stored for the created tags, in order, are `lineCol text o` (1-based line, 0-based column) for the
    offsets `o` of the start-tag chunks (`none` for all with `store_line_numbers` off) — and at each such offset the
    text has a `<`. Composition of `BS.Props.TK.start_positions_are_offsets` (the tokenizer's position invariant) with
    `pos_pass_through`. -/
theorem start_tag_positions_are_offsets_tokenized (cfg : ACfg) (P : Params) (text : PStr) :
    ((toEvents cfg (callbacks (run P text))).2.map (·.pos)) =
        (startOffsets 0 (run P text).evs).map (fun o => if cfg.storeLines then some (lineCol text o) else none) ∧
      ∀ o ∈ startOffsets 0 (run P text).evs, text[o]? = some 60 := by
  obtain ⟨h1, h2⟩ := BS.Props.TK.start_positions_are_offsets P text
  refine ⟨?_, h2⟩
  rw [pos_pass_through, h1, List.map_map]
  rfl

/-- one stored position per start tag the tokenizer reports -/
theorem one_info_per_start_tag_tokenized (cfg : ACfg) (P : Params) (text : PStr) :
    (toEvents cfg (callbacks (run P text))).2.length = (startOffsets 0 (run P text).evs).length := by
  have := congrArg List.length (start_tag_positions_are_offsets_tokenized cfg P text).1
  simpa using this

/-- non-vacuity: `"ab\n <p id=x>c</p>"` — one tag, its `<` at offset 4 = line 2, column 1 -/
example : startOffsets 0 (run BS.Props.TK.P0 (BS.ofS "ab\n <p id=x>c</p>")).evs = [4]
    ∧ lineCol (BS.ofS "ab\n <p id=x>c</p>") 4 = (2, 1) := by decide_pstr

end Tokenized

end BS.Props.C18
