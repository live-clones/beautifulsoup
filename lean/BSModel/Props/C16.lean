import BSModel.Proofs.ParseOnlyCor
import BSModel.Model.Adapter
import BSModel.Proofs.StrainerParse
/-! # C16 — `parse_only` keeps exactly the outermost matching elements

Property theorems only.  `fFlush`/`fStep`/`fRun`/`fBuild` (Model/ParseOnly.lean) are C03's documented fold with
the two consultations of `parse_only` of `bs4/__init__.py`: `handle_starttag` asks `allow_tag_creation` only
while `len(tagStack) <= 1`, `endData` asks `allow_string_creation` only for a string that would become a direct
child of the BeautifulSoup object.  The filter `f : Filt` is two arbitrary predicates.

The theorems hold for **every** configuration `cfg` with `CfgOK cfg` (the BeautifulSoup object's own name is
neither whitespace-preserving nor a string container), **every** filter and **every** well-formed document
`ds : List Doc` (`eventsL ds` = its builder events) none of whose elements is named like the BeautifulSoup
object (`noRootL`).

Vocabulary (Proofs/ParseOnly*.lean, Proofs/BuilderBal.lean, Proofs/BuilderText.lean): `absorb cfg ctx b ds` = C03's normal form of a
forest under the enclosing names `ctx` with pending chunks `b` (children appended, text left pending);
`txtN` = what one flush appends; `txtRoot` = what a flush appends at the root under the filter;
`outer`/`outer1` = the root-mode result of a forest / a node; `outermost` = the outermost matching elements;
`normElem` = a kept element with its whole subtree in normal form; `textRuns` = the text runs of a document. -/
namespace BS.Props.C16
open BS BS.Builder BS.ParseOnly

/-! ## sample configuration, filters and documents for the non-vacuity examples
names are code-point lists: `[0]` = the root name, `[1]` whitespace-preserving (`pre`), `[2]` a string container of
class 7, `[3]` plays `a`, `[4]` plays `b` -/

def cfgX : Cfg :=
  { preserve := fun n => n == [1],
    container := fun n => if n == [2] then some 7 else none,
    asciiSpaces := [9, 10, 12, 13, 32],
    rootName := [0] }

/-- keep the elements called `[3]`, refuse every string (what a name/attribute `SoupStrainer` does) -/
def fTag : Filt := { allowTag := fun n _ => n == [3], allowString := fun _ => false }

/-- refuse every tag, keep the strings that contain the code point 65 (a string-only `SoupStrainer`) -/
def fStr : Filt := { allowTag := fun _ _ => false, allowString := fun s => s.contains 65 }

/-- both kinds refused -/
def fNone : Filt := { allowTag := fun _ _ => false, allowString := fun _ => false }

/-- `<b>x<a id=8>A<a id=9></a></a>y</b>z<a></a>` -/
def docX : List Doc :=
  [.elem [4] none [.text 0 [120], .elem [3] (some [8]) [.text 0 [65], .elem [3] (some [9]) []], .text 0 [121]],
   .text 0 [122], .elem [3] none []]

example : CfgOK cfgX := by decide
example : noRootL cfgX docX = true := by decide

/-! ## 1: deep mode — while a kept element is open the filter is not consulted -/

/-- With at least two frames open (a kept element and the BeautifulSoup object, possibly more) the filtered
    machine runs a balanced block exactly as the plain machine of C03 does. -/
theorem deep_mode (cfg : Cfg) (f : Filt) (ds : List Doc) (hok : noRootL cfg ds = true)
    (top below : Frame) (rest : List Frame) (b : List PStr) :
    fRun cfg f ⟨top :: below :: rest, b⟩ (eventsL ds) = sRun cfg ⟨top :: below :: rest, b⟩ (eventsL ds) :=
  (deep_forest cfg f ds hok top below rest b).trans (run_forest cfg ds hok top (below :: rest) b).symm

/-- … hence its net effect is C03's: every open element stays as it was, the normal form of the forest is
    appended to the innermost one, `absorb`'s pending text is left pending. -/
theorem deep_mode_net_effect (cfg : Cfg) (f : Filt) (ds : List Doc) (hok : noRootL cfg ds = true)
    (top below : Frame) (rest : List Frame) (b : List PStr) :
    fRun cfg f ⟨top :: below :: rest, b⟩ (eventsL ds) =
      ⟨{ top with kids := top.kids ++ (absorb cfg ((top :: below :: rest).map (·.name)) b ds).1 } :: below :: rest,
        (absorb cfg ((top :: below :: rest).map (·.name)) b ds).2⟩ :=
  deep_forest cfg f ds hok top below rest b

example : fRun cfgX fNone ⟨[⟨[3], none, []⟩, ⟨[0], none, []⟩], []⟩ (eventsL docX) =
    sRun cfgX ⟨[⟨[3], none, []⟩, ⟨[0], none, []⟩], []⟩ (eventsL docX) :=
  deep_mode cfgX fNone docX (by decide) _ _ _ _

/-! ## 2–3: root mode and the result of a filtered parse -/

/-- With only the BeautifulSoup object open, a balanced block appends to it exactly `outer`'s first component
    and leaves `outer`'s second component pending, where `outer` handles the nodes in order, threading the
    pending chunks: an ordinary string is added to the pending chunks; a special string flushes them and is
    flushed itself (`txtRoot`: a flush appends the collapsed string iff `allowString` accepts it); an element the
    tag filter ACCEPTS flushes, and is appended with its whole subtree built as the plain machine builds it below
    the root (`absorb cfg [n, root] [] ks`); an element the tag filter REFUSES flushes, contributes what its
    children contribute at the root, and flushes again. -/
theorem root_mode (cfg : Cfg) (hc : CfgOK cfg) (f : Filt) (ds : List Doc) (hok : noRootL cfg ds = true)
    (root : Frame) (hr : root.name = cfg.rootName) (b : List PStr) :
    fRun cfg f ⟨[root], b⟩ (eventsL ds) =
      ⟨[{ root with kids := root.kids ++ (outer cfg f b ds).1 }], (outer cfg f b ds).2⟩ := by
  obtain ⟨rn, pfx, kids⟩ := root
  simp only at hr
  subst hr
  exact root_forest hc f ds hok pfx kids b

/-- The clauses of `outer` spelled out (forest: nodes in order, threading the pending chunks; node: the four
    cases of the docstring of `root_mode`). -/
theorem root_mode_clauses (cfg : Cfg) (f : Filt) (b : List PStr) :
    outer cfg f b [] = ([], b) ∧
    (∀ d ds, outer cfg f b (d :: ds) =
      ((outer1 cfg f b d).1 ++ (outer cfg f (outer1 cfg f b d).2 ds).1, (outer cfg f (outer1 cfg f b d).2 ds).2)) ∧
    (∀ s, outer1 cfg f b (.text 0 s) = ([], b ++ [s])) ∧
    (∀ c s, c ≠ 0 → outer1 cfg f b (.text c s) = (txtRoot cfg f b none ++ txtRoot cfg f [s] (some c), [])) ∧
    (∀ n p ks, f.allowTag n p = true → outer1 cfg f b (.elem n p ks) =
      (txtRoot cfg f b none ++
        [Doc.elem n p ((absorb cfg [n, cfg.rootName] [] ks).1 ++
          txtN cfg [n, cfg.rootName] (absorb cfg [n, cfg.rootName] [] ks).2 none)], [])) ∧
    (∀ n p ks, f.allowTag n p = false → outer1 cfg f b (.elem n p ks) =
      (txtRoot cfg f b none ++ (outer cfg f [] ks).1 ++ txtRoot cfg f (outer cfg f [] ks).2 none, [])) := by
  refine ⟨by simp [outer], fun d ds => by simp [outer], fun s => by simp [outer1],
    fun c s hc => by simp [outer1, hc], fun n p ks h => by simp [outer1, h], fun n p ks h => by simp [outer1, h]⟩

/-- A root-level string is kept iff the filter accepts its FINAL value (after whitespace collapsing); class and
    value are those of the unfiltered parse. -/
theorem root_string_rule (cfg : Cfg) (hc : CfgOK cfg) (f : Filt) (b : List PStr) (cls : Option Cls) :
    txtRoot cfg f b cls =
      (txtN cfg [cfg.rootName] b cls).filter
        (fun d => match d with | .text _ s => f.allowString s | .elem _ _ _ => true) :=
  txtRoot_eq_filter hc f b cls

/-- The tree `BeautifulSoup(markup, parse_only=f)` builds from a well-formed document. -/
theorem parse_only_result (cfg : Cfg) (hc : CfgOK cfg) (f : Filt) (ds : List Doc) (hok : noRootL cfg ds = true) :
    fBuild cfg f (eventsL ds) = (outer cfg f [] ds).1 ++ txtRoot cfg f (outer cfg f [] ds).2 none :=
  fBuild_events hc f ds hok

example : fBuild cfgX fTag (eventsL docX) =
    [.elem [3] (some [8]) [.text 0 [65], .elem [3] (some [9]) []], .elem [3] none []] := by rfl

/-! ## 4: the property in its own words -/

/-- A filter with both kinds of criteria effectively refuses every tag and every string: nothing is kept. -/
theorem mixed_filter_keeps_nothing (cfg : Cfg) (hc : CfgOK cfg) (f : Filt)
    (ht : ∀ n p, f.allowTag n p = false) (hs : ∀ s, f.allowString s = false)
    (ds : List Doc) (hok : noRootL cfg ds = true) :
    fBuild cfg f (eventsL ds) = [] := by
  rw [fBuild_events hc f ds hok, outer_nothing ht hs, txtRoot_refused hs]; rfl

example : fBuild cfgX fNone (eventsL docX) = [] := by rfl

/-- **Tag filter.** If the filter refuses every string, the result is exactly — in document order, nothing
    else — the outermost matching elements of the document (`outermost`: pre-order, a match is not descended
    into), each with its COMPLETE subtree: `normElem` gives the kept element `n` the children
    `absorb cfg [n, root] [] ks`, i.e. all of `ks` in the normal form (text merging, whitespace rule, class rule)
    of an element standing directly below the BeautifulSoup object. -/
theorem tag_filter_keeps_outermost (cfg : Cfg) (hc : CfgOK cfg) (f : Filt)
    (hs : ∀ s, f.allowString s = false) (ds : List Doc) (hok : noRootL cfg ds = true) :
    fBuild cfg f (eventsL ds) = (outermost f ds).map (normElem cfg) := by
  rw [fBuild_events hc f ds hok, outer_tags hs, txtRoot_refused hs, List.append_nil]

/-- `outermost` in words: `e` is among the outermost matches iff it is an element the tag filter accepts that
    occurs in the document at a position all of whose proper ancestors the tag filter refuses. -/
theorem outermost_iff (f : Filt) (ds : List Doc) (e : Doc) :
    e ∈ outermost f ds ↔ isKept f e = true ∧ UnderDropped f ds e :=
  mem_outermost_iff f ds e

/-- `normElem` in words: the kept element is what the UNFILTERED parse makes of that element standing alone
    as the whole document. -/
theorem kept_element_is_standalone_parse (cfg : Cfg) (hc : CfgOK cfg) (n : Name) (p : Option Name)
    (ks : List Doc) (hok : noRootL cfg [.elem n p ks] = true) :
    build cfg (eventsL [.elem n p ks]) = [normElem cfg (.elem n p ks)] := by
  rw [build_eventsL hc _ hok]
  simp [absorb, absorb1, txtN, normElem]

example : outermost fTag docX = [.elem [3] (some [8]) [.text 0 [65], .elem [3] (some [9]) []], .elem [3] none []] := by
  rfl
example : fBuild cfgX fTag (eventsL docX) = (outermost fTag docX).map (normElem cfgX) :=
  tag_filter_keeps_outermost cfgX (by decide) fTag (fun _ => rfl) docX (by decide)

/-- **String filter.** If the filter refuses every tag, the result contains no element at all and is exactly,
    in order, the text runs of the document (`textRuns`: maximal sequences of ordinary text chunks not
    separated by a tag boundary or a special string, concatenated; special strings individually) collapsed by
    the whitespace rule, that `allowString` accepts. -/
theorem string_filter_keeps_runs (cfg : Cfg) (hc : CfgOK cfg) (f : Filt)
    (ht : ∀ n p, f.allowTag n p = false) (ds : List Doc) (hok : noRootL cfg ds = true) :
    fBuild cfg f (eventsL ds) = (textRuns ds).filterMap (keepRun cfg f) ∧
    ∀ d ∈ fBuild cfg f (eventsL ds), ∃ c s, d = Doc.text c s := by
  have h := fBuild_runs hc ht ds hok
  refine ⟨h, fun d hd => ?_⟩
  rw [h, List.mem_filterMap] at hd
  obtain ⟨r, _, hr⟩ := hd
  exact keepRun_text hr

/-- `<b>xA</b>A<!--A-->  <a>y</a>` : runs `xA`, `A`, the comment (class 5), two spaces (collapse to one), `y` -/
def docS : List Doc :=
  [.elem [4] none [.text 0 [120], .text 0 [65]], .text 0 [65], .text 5 [65], .text 0 [32, 32],
   .elem [3] none [.text 0 [121]]]

example : textRuns docS = [(0, [120, 65]), (0, [65]), (5, [65]), (0, [32, 32]), (0, [121])] := by decide
example : fBuild cfgX fStr (eventsL docS) = [.text 0 [120, 65], .text 0 [65], .text 5 [65]] := by rfl

/-! ### the filtered parse against the unfiltered parse -/

/-- The normal form of a forest depends on the names of the enclosing open elements only through the context
    they carry (`CtxEq`: the same "is a whitespace-preserving element open" and the same nearest
    string-container class); in particular inserting names that are neither changes nothing (`CtxEq.neutral`). -/
theorem normal_form_context_invariance (cfg : Cfg) (ds : List Doc) (c1 c2 : List Name) (b : List PStr)
    (h : CtxEq cfg c1 c2) : absorb cfg c1 b ds = absorb cfg c2 b ds :=
  absorb_congr cfg ds c1 c2 b h

/-- `noDroppedContext` in words: every element the tag filter refuses, all of whose proper ancestors it refuses
    too, and that has a kept element below it (`outermost f ks ≠ []`), is neither whitespace-preserving nor a
    string container. -/
theorem no_dropped_context_iff (cfg : Cfg) (f : Filt) (ds : List Doc) :
    noDroppedContext cfg f ds = true ↔
      ∀ n p ks, UnderDropped f ds (.elem n p ks) → f.allowTag n p = false → outermost f ks ≠ [] →
        cfg.preserve n = false ∧ cfg.container n = none :=
  noDroppedContext_iff cfg f ds

/-- If no DROPPED element that has a kept descendant is whitespace-preserving or a string container
    (`noDroppedContext`, decidable), the filtered parse is — on the nose — the list of outermost matching
    elements of the UNFILTERED parse `build cfg (eventsL ds)` (C03's code-mirror of the real machine). -/
theorem parse_only_eq_outermost_of_full_parse (cfg : Cfg) (hc : CfgOK cfg) (f : Filt)
    (hs : ∀ s, f.allowString s = false) (ds : List Doc) (hok : noRootL cfg ds = true)
    (hctx : noDroppedContext cfg f ds = true) :
    fBuild cfg f (eventsL ds) = outermost f (build cfg (eventsL ds)) := by
  rw [tag_filter_keeps_outermost cfg hc f hs ds hok, build_eventsL hc ds hok, outermost_append, outermost_txtN,
    List.append_nil, outermost_absorb cfg f ds [cfg.rootName] [] (CtxEq.refl _ _) hctx]

example : noDroppedContext cfgX fTag docX = true := by decide
example : fBuild cfgX fTag (eventsL docX) = outermost fTag (build cfgX (eventsL docX)) :=
  parse_only_eq_outermost_of_full_parse cfgX (by decide) fTag (fun _ => rfl) docX (by decide) (by decide)

/-- `<pre><a>␣␣</a></pre>` -/
def docW : List Doc := [.elem [1] none [.elem [3] none [.text 0 [32, 32]]]]

/-- The hypothesis of `parse_only_eq_outermost_of_full_parse` cannot be dropped: for `<pre><a>␣␣</a></pre>` and a
    filter keeping `a`, the kept `a` has lost the whitespace-preserving context of its dropped ancestor — the
    filtered parse holds `" "`, the unfiltered parse `"  "` (`Doc` has `BEq` only: compared through the
    flat code `Adapter.codeL`). -/
theorem dropped_context_witness :
    noRootL cfgX docW = true ∧ noDroppedContext cfgX fTag docW = false ∧
    Adapter.codeL (fBuild cfgX fTag (eventsL docW)) = Adapter.codeL [.elem [3] none [.text 0 [32]]] ∧
    Adapter.codeL (outermost fTag (build cfgX (eventsL docW))) = Adapter.codeL [.elem [3] none [.text 0 [32, 32]]] ∧
    fBuild cfgX fTag (eventsL docW) ≠ outermost fTag (build cfgX (eventsL docW)) := by
  refine ⟨by decide, by decide, by decide, by decide, ?_⟩
  intro h
  have h2 := congrArg Adapter.codeL h
  revert h2
  decide

end BS.Props.C16

/-! ## the filter itself: what the parser asks before a tag exists = what a search asks of the finished tag

`Filt.allowTag`/`Filt.allowString` above are arbitrary predicates. For a real `SoupStrainer` they are `allow_tag_creation` (asked with the raw
attribute strings before the `Tag` exists) and `allow_string_creation`; "the elements of the full parse that the same filter matches"
are those `matches_tag` accepts (the rule model is C10's, `Model/Search.lean`). -/
namespace BS.Props.C16
open BS BS.Search BS.StrainerParse

/-- **parse-time = search-time.** For a strainer with no string criteria, at least one name or attribute criterion, and no function
    among its NAME rules (the property's grammar is function-free; a name function is given a string at parse time and a `Tag` at
    search time), and an element all of whose attributes are single strings (`raw` = what the parser handed over):
    `allow_tag_creation(prefix, name, raw)` = `matches_tag(tag)`. Functions and regular expressions among the ATTRIBUTE rules are
    allowed (they see the same strings both times). -/
theorem allow_tag_creation_eq_matches_tag (O : Oracle) (v : Variant) (s : Strainer) (e : Elem) (raw : List (PStr × PStr))
    (hs : s.stringRules = []) (hr : ¬(s.nameRules.isEmpty = true ∧ s.attrFlat.isEmpty = true))
    (hfn : ∀ r ∈ s.nameRules, Rule.isFunction r = false)
    (hattrs : e.attrs = raw.map (fun p => (p.1, AttrVal.one p.2))) :
    allowTagCreation O s e.pfx e.name raw = (matchesTag O v s e).1 := by
  have hattr : (fun p : PStr × Rule => attributeMatch O (rawGet raw p.1) (s.rulesFor p.1)) =
      fun p => attributeMatch O (getAttr e p.1) (s.rulesFor p.1) := by
    funext p; rw [rawGet_eq, getAttr, hattrs]
  have hr' : (s.nameRules.isEmpty && s.attrFlat.isEmpty) = false := by simpa using hr
  simp only [allowTagCreation, matchesTag, stringRulesOK, hs, hr', hattr, prefixed_eq, List.isEmpty_nil, Bool.not_true,
    Bool.false_eq_true, if_false, Bool.true_or, Bool.and_true]
  by_cases hsc : shortcutReject s e = true
  · -- the shortcut fires: the loop says no as well
    obtain ⟨h1, h2⟩ := nameLoop_of_shortcut O s e hsc
    simp [hsc, h1, h2]
  · cases s.nameRules.isEmpty
    · -- there are name rules
      simp only [hsc, nameRulesEval_eq_nameLoop O v e _ hfn, Bool.false_eq_true, if_false, Bool.not_false, Bool.true_and]
      cases nameLoop O e.name (prefixedName e) s.nameRules <;> rfl
    · simp [hsc]

/-- the property's three kinds of filter, read off the code: name or attribute criteria refuse every string -/
theorem tag_strainer_refuses_strings (O : Oracle) (s : Strainer) (str : PStr)
    (hr : ¬(s.nameRules.isEmpty = true ∧ s.attrFlat.isEmpty = true)) : allowStringCreation O s str = false := by
  unfold allowStringCreation
  cases h1 : s.nameRules.isEmpty <;> cases h2 : s.attrFlat.isEmpty <;> simp_all

/-- string criteria refuse every tag (so both kinds of criteria refuse both) -/
theorem string_strainer_refuses_tags (O : Oracle) (s : Strainer) (pfx : Option PStr) (name : PStr) (raw : List (PStr × PStr))
    (hs : s.stringRules ≠ []) : allowTagCreation O s pfx name raw = false := by
  simp [allowTagCreation, List.isEmpty_eq_false_iff.mpr hs]

theorem string_strainer_keeps_matching_strings (O : Oracle) (s : Strainer) (str : PStr)
    (hn : s.nameRules = []) (ha : s.attrFlat = []) (hs : s.stringRules ≠ []) :
    allowStringCreation O s str = s.stringRules.any (fun r => r.matchesString O (some str)) := by
  simp [allowStringCreation, hn, ha, List.isEmpty_eq_false_iff.mpr hs]

/-- non-vacuity: `SoupStrainer("a", id="x")` on `<a id="x" k="v">` -/
def sAX : Strainer := mkStrainer { name := .atom (.str [97]), kwargs := [([105, 100], .atom (.str [120]))] }
def O0 : Oracle := ⟨fun _ _ => false, fun _ _ => false, fun _ _ => false⟩
def eAX : Elem := { id := 1, isTag := true, name := [97], pfx := none, attrs := [([105, 100], .one [120]), ([107], .one [118])], str := none }
example : allowTagCreation O0 sAX eAX.pfx eAX.name [([105, 100], [120]), ([107], [118])] = true := by decide
example : (matchesTag O0 Variant.repaired sAX eAX).1 = true := by decide
example : allowTagCreation O0 sAX none [98] [([105, 100], [120])] = false := by decide

end BS.Props.C16
