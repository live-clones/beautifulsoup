import BSModel.Proofs.AdapterVoid
import BSModel.Proofs.AdapterRefs
import BSModel.Props.C03
import BSModel.Proofs.WriterBuild
import BSModel.Gen.Cp1252
import BSModel.Proofs.TokenizerWholePos
import BSModel.Proofs.TokenizerWholeBuild
import BSModel.Proofs.TokenizerRawDoc
/-! # C04 — html.parser documents become the tree the markup describes

The adapter `BeautifulSoupHTMLParser` as a function from the standard-library parser's callback stream to builder
events (Model/Adapter.lean), composed with C03's construction machine. CPython's tokenizer: its callbacks are the input
up to `emit_build` (recorded by the harness); section `Written` goes through its model. -/
namespace BS.Props.C04
open BS.Builder BS.Adapter

/-! ### void elements -/

/-- **void elements are childless siblings of what follows**, for EVERY callback stream the standard-library
    parser can emit, in any mixture of `<br>`, `<br/>`, `<br></br>` and stray end tags: in the tree the construction
    machine (code-mirror) builds from the adapter's events, no element with a void name has a child -/
theorem void_childless (bcfg : Cfg) (cfg : ACfg) (hc : CfgOK bcfg) (hr : cfg.isVoid bcfg.rootName = false)
    (sevs : List SEv) : voidLeafL cfg.isVoid (adapterBuild bcfg cfg sevs).1 = true := by
  simp only [adapterBuild]
  rw [BS.Props.C03.build_refines bcfg hc]
  exact buildSpec_voidLeaf bcfg cfg hr sevs


/-- whichever way a void element is written — `<br>` or `<br/>` — the adapter sends the builder the same two
    events, a start tag immediately followed by its own end tag: nothing can become its child -/
theorem void_start_closes_itself (cfg : ACfg) (st : ASt) (n : Name) (a : List (PStr × Option PStr)) (l c : Nat)
    (hv : cfg.isVoid n = true) :
    (astep cfg st (.starttag n a l c)).2.1 = [.start n none, .stop n none] ∧
    (astep cfg st (.startendtag n a l c)).2.1 = [.start n none, .stop n none] := by
  simp [astep, hv]

/-- `<x/>` closes itself for every name, void or not, and never consults or changes the list of already closed
    empty-element tags (this is what failed before the repair, see `old_startendtag_swallows`) -/
theorem startendtag_closes_itself (cfg : ACfg) (st : ASt) (n : Name) (a : List (PStr × Option PStr)) (l c : Nat) :
    astep cfg st (.startendtag n a l c) = (st, [.start n none, .stop n none], [mkInfo cfg a l c]) := rfl

/-- `<br></br>`: the explicit end tag of a void element is redundant — it produces no builder event and leaves
    the adapter in the state it had before the `<br>` -/
theorem redundant_end_ignored (cfg : ACfg) (st : ASt) (n : Name) (a : List (PStr × Option PStr)) (l c : Nat)
    (hv : cfg.isVoid n = true) (hn : st.alreadyClosed.contains n = false) :
    let r1 := astep cfg st (.starttag n a l c)
    let r2 := astep cfg r1.1 (.endtag n)
    r2.2.1 = [] ∧ r2.1 = st := by
  have hrem : ∀ (L : List Name), L.contains n = false → removeFirst n (L ++ [n]) = L := by
    intro L
    induction L with
    | nil => intro _; simp [removeFirst]
    | cons m ms ih =>
      intro h
      simp only [List.contains_cons, Bool.or_eq_false_iff] at h
      simp [removeFirst, BEq.comm (a := m), h.1, ih h.2]
  simp [astep, hv, hrem _ hn]

/-- an end tag that is not the redundant end of a void element goes to the builder unchanged -/
theorem ordinary_end_forwarded (cfg : ACfg) (st : ASt) (n : Name) (hn : st.alreadyClosed.contains n = false) :
    astep cfg st (.endtag n) = (st, [.stop n none], []) :=
  BS.Writer.astep_endtag cfg st n hn

/-! ### character and entity references -/

/-- **a decimal reference denotes its character**: `&#N;` for a code point `256 ≤ N ≤ 0x10FFFF` written with at
    most `sys.int_max_str_digits` digits becomes exactly the character `N` -/
theorem charref_denotes_decimal (cfg : ACfg) (fuel n : Nat) (hn : n < 10 ^ fuel) (hf : 0 < fuel) (h256 : 256 ≤ n)
    (hmax : n ≤ 0x10FFFF) (hlen : (decDigits fuel n).length ≤ cfg.maxDigits) :
    handleCharref cfg (decDigits fuel n) = [n] := by
  refine BS.Writer.handle_of_number cfg _ n ?_ (by simp [BS.Writer.numericOK, hmax, h256])
  obtain ⟨f, rfl⟩ : ∃ f, fuel = f + 1 := ⟨fuel - 1, by omega⟩
  rw [decDigits_eq] at hlen ⊢
  simpa [BS.Writer.zdigits] using BS.Writer.number_zdec cfg 0 f n hn (by simpa [BS.Writer.zdigits] using hlen)

/-- numeric references below 256 take the Windows-1252 detour (the code's deliberate compensation): where
    Windows-1252 defines the byte, the result is that Windows-1252 character -/
theorem charref_below_256 (cfg : ACfg) (name : PStr) (n c : Nat) (hnum : charrefNumber cfg name = some n)
    (hn : n < 256) (hc : cfg.cp1252 n = some c) : handleCharref cfg name = [c] := by
  simp [handleCharref, hnum, hn, hc]

/-- a reference that cannot be converted (out of range for `chr`, or not parseable) becomes U+FFFD; in
    particular the conversion never fails, whatever the digits and however many there are -/
theorem charref_out_of_range (cfg : ACfg) (name : PStr) (n : Nat) (hnum : charrefNumber cfg name = some n)
    (hn : 0x10FFFF < n) : handleCharref cfg name = [0xFFFD] := by
  have h1 : ¬ n < 256 := by omega
  have h2 : chrOK n = false := by simp [chrOK]; omega
  simp [handleCharref, hnum, h1, h2]

theorem charref_unparseable (cfg : ACfg) (name : PStr) (hnum : charrefNumber cfg name = none) :
    handleCharref cfg name = [0xFFFD] := by
  simp [handleCharref, hnum]

/-- a named reference becomes the character sequence the table gives; an unknown name stays literal `&name` -/
theorem entityref_denotes (cfg : ACfg) (name : PStr) :
    handleEntityref cfg name = match cfg.entity name with | some c => c | none => 38 :: name := rfl

/-! ### special strings keep content and class -/

theorem comment_events (cfg : ACfg) (st : ASt) (s : PStr) :
    astep cfg st (.comment s) = (st, [.endData none, .data s, .endData (some clsComment)], []) := rfl

theorem doctype_events (cfg : ACfg) (st : ASt) (s : PStr) :
    astep cfg st (.decl s) = (st, [.endData none, .data (s.drop 8), .endData (some clsDoctype)], []) := rfl

theorem cdata_events (cfg : ACfg) (st : ASt) (s : PStr) :
    astep cfg st (.unknownDecl (cdataPrefix ++ s)) = (st, [.endData none, .data s, .endData (some clsCData)], []) :=
  BS.Writer.astep_special cfg st .cdata (fun _ => true) s

theorem pi_events (cfg : ACfg) (st : ASt) (s : PStr) :
    astep cfg st (.pi s) = (st, [.endData none, .data s, .endData (some clsPI)], []) := rfl

/-- the string delimited by `endData(none) … endData(some cls)` keeps exactly its text and gets exactly that
    class, whatever is open, unless it consists of ASCII whitespace only outside whitespace-preserving elements
    (then C03's whitespace rule applies to it as to any other string) -/
theorem special_string_kept (bcfg : Cfg) (top : Frame) (rest : List Frame) (c : List (Name × Nat)) (pws : List Nat)
    (scs : List (Nat × Name)) (s : PStr) (cls : Cls) (hcls : cls ≠ 0)
    (hs : pws ≠ [] ∨ s.all (fun ch => bcfg.asciiSpaces.contains ch) = false) :
    (run bcfg ⟨top :: rest, c, pws, scs, []⟩ [.endData none, .data s, .endData (some cls)]).stack
      = { top with kids := top.kids ++ [Doc.text cls s] } :: rest := by
  have hc : stringContainer bcfg ⟨top :: rest, c, pws, scs, [s]⟩ (some cls) = cls := by
    simp only [stringContainer, Option.getD_some]
    split <;> simp [hcls]
  simp only [run, List.foldl, step, endData, List.isEmpty_nil, if_true, List.nil_append, List.isEmpty_cons,
    Bool.false_eq_true, if_false, List.flatten_cons, List.flatten_nil, List.append_nil, hc]
  rcases hs with h | h
  · simp [h]
  · simp only [h, Bool.false_eq_true, if_false, ite_self]

/-! ### duplicate attributes -/

/-- `on_duplicate_attribute='ignore'`: the first value of a repeated attribute survives -/
theorem dup_ignore_first (d : List (PStr × AVal)) (k : PStr) (v : Option PStr) (old : AVal)
    (h : getAttr d k = some old) : addAttr .ignore d k v = d := by
  simp [addAttr, h]

/-- default / `'replace'`: the last value wins; a missing value (`None`) is stored as the empty string -/
theorem dup_replace_last (d : List (PStr × AVal)) (k : PStr) (v : Option PStr) :
    getAttr (addAttr .replace d k v) k = some (.one (v.getD [])) := by
  unfold addAttr
  cases h : getAttr d k <;> simp [BS.Writer.getAttr_setAttr]

/-- a callable policy sees every repeated value: the documentation's accumulating handler collects them in order -/
theorem dup_accumulate (d : List (PStr × AVal)) (k : PStr) (v : Option PStr) (o : PStr)
    (h : getAttr d k = some (.one o)) :
    getAttr (addAttr .accumulate d k v) k = some (.many [o, v.getD []]) := by
  simp [addAttr, h, BS.Writer.getAttr_setAttr]

/-- an attribute seen for the first time is stored whatever the policy -/
theorem first_occurrence_stored (pol : DupPolicy) (d : List (PStr × AVal)) (k : PStr) (v : Option PStr)
    (h : getAttr d k = none) : getAttr (addAttr pol d k v) k = some (.one (v.getD [])) := by
  simp [addAttr, h, BS.Writer.getAttr_setAttr]

/-! ### witness: before the repair `<br>a<br/>b` made the second `br` the parent of `b` -/
def wCfg : ACfg :=
  { isVoid := fun n => n == [98, 114], dup := .replace, storeLines := false, entity := fun _ => none,
    cp1252 := fun _ => none, origDecode := fun _ => none, maxDigits := 4300 }
def wB : Cfg := { preserve := fun _ => false, container := fun _ => none, asciiSpaces := [32, 10, 9, 12, 13], rootName := [91] }
def wDoc : List SEv := [.starttag [98, 114] [] 1 0, .data [97], .startendtag [98, 114] [] 1 5, .data [98]]

theorem old_startendtag_swallows :
    codeL (build wB (toEventsOld wCfg wDoc).1) =
      codeL [.elem [98, 114] none [], .text 0 [97], .elem [98, 114] none [.text 0 [98]]] := by decide

theorem repaired_startendtag_sibling :
    codeL (build wB (toEvents wCfg wDoc).1) =
      codeL [.elem [98, 114] none [], .text 0 [97], .elem [98, 114] none [], .text 0 [98]] := by decide

/-! non-vacuity of `charref_denotes_decimal`: `&#9731;` is the snowman -/
example : handleCharref wCfg (decDigits 4 9731) = [9731] :=
  charref_denotes_decimal wCfg 4 9731 (by decide) (by decide) (by decide) (by decide) (by decide)

/-! ## the whole-document theorem: the markup of a well-formed writer becomes the tree it describes

`Writer.WDoc` is the document a writer has in mind, `Writer.emitDoc iv c ds` the html.parser callback stream of its
markup under the writer's per-occurrence choices `c` (Model/Writer.lean: every void element spelt `<br>`, `<br/>`
or `<br></br>`; every text cut into arbitrarily many chunks, every character of it spelt literally, as a decimal or
hexadecimal reference with any number of leading zeros in either case, or as a named reference; every letter of
the keyword of a doctype/CDATA section in either case; start-tag positions whatever the in-tag whitespace makes them), and
`Writer.normalise` the tree the document describes. Hypotheses, all decidable and explicit:

 * `CfgOK bcfg` (C03): the `BeautifulSoup` object's own name is neither whitespace-preserving nor a string container;
 * `Representable`: no element is named like the `BeautifulSoup` object; a void element has no children;
 * `WellSpelt`: every reference the writer chose denotes the character it stands for (`numericOK`: a code point,
   and not one of the bytes 128–159 that bs4's Windows-1252 detour re-maps; a decimal digit string no longer than
   `sys.int_max_str_digits`; a name that is in `HTML_ENTITY_TO_CHARACTER` with exactly that character).

The harness (`harness/c04.py`, stream `writer`) ties both ends to the real code: the recorded callbacks of the
real tokenizer on the written text equal `emitDoc` for the choices the writer took, and the real parse equals
`normalise`; it also runs the real code at the excluded points. -/

section Whole
open BS.Writer

/-- **emit_build — html.parser documents become the tree their markup describes.** For every document, every
    assignment of the writer's choices and every adapter/builder configuration: feeding the callback stream of the
    written markup through `BeautifulSoupHTMLParser` (void handling via `already_closed_empty_element`, reference
    conversion, string classes) and the construction machine of C03 (the code-mirror `build`) yields exactly
    `normalise`: elements nested as written, void elements childless siblings of what follows, adjacent text merged
    with every reference replaced by its character, whitespace-only runs collapsed per C03's rule, text classes
    from the nearest string container, comments/CDATA/doctypes/declarations/PIs in their classes and in place —
    and `Tag.__init__` receives the attributes and positions of the start tags in document order. -/
theorem emit_build (bcfg : Cfg) (acfg : ACfg) (hc : CfgOK bcfg) (ds : List WDoc) (c : Choices)
    (hr : Representable bcfg acfg ds) (hs : WellSpelt acfg c.char ds) :
    adapterBuild bcfg acfg (emitDoc acfg.isVoid c ds) = (normalise bcfg ds, startInfos acfg c ds) := by
  simp only [adapterBuild, toEvents_emitDoc]
  rw [BS.Props.C03.build_refines bcfg hc, buildSpec_bev_normalise bcfg acfg c ds hr hs]

/-! the mixed sample document of the non-vacuity examples:
    `<!doctype html><p id=x k>a&amp;b<br>&#0099;<br/>&#X64;<br></br><!--note--></p><pre> \n </pre> \n ` -/
def xB : Cfg :=
  { preserve := fun n => n == [112, 114, 101], container := fun n => if n == [114, 116] then some 9 else none,
    asciiSpaces := [32, 10, 9, 12, 13], rootName := [91, 100, 111, 99, 117, 109, 101, 110, 116, 93] }
def xA : ACfg :=
  { isVoid := fun n => n == [98, 114], dup := .replace, storeLines := true,
    entity := fun n => if n == [97, 109, 112] then some [38] else none,
    cp1252 := fun n => if n < 128 || 160 ≤ n then some n else if n == 150 then some 8211 else none,
    origDecode := fun _ => none, maxDigits := 4300 }
def xDoc : List WDoc :=
  [ .special .doctype [104, 116, 109, 108],
    .elem [112] [([105, 100], some [120]), ([107], none)]
      [ .text [97, 38, 98], .elem [98, 114] [] [], .text [99], .elem [98, 114] [] [], .text [100], .elem [98, 114] [] [],
        .special .comment [110, 111, 116, 101] ],
    .elem [112, 114, 101] [] [ .text [32, 10, 32] ],
    .text [32, 10, 32] ]
/-- `<br>` at path [1,1], `<br/>` at [3,1], `<br></br>` at [5,1]; `&amp;` for the `&`; `&#0099;` for `c`; `&#X64;`
    for `d`; the `b` after `&amp;` starts a new chunk; lower-case `doctype` -/
def xC : Choices :=
  { void := fun p => if p == [1, 1] then .plain else if p == [3, 1] then .slash else .pair,
    pos := fun p => (1, 10 * p.length + p.headD 0),
    char := fun p i =>
      if p == [0, 1] && i == 1 then .named [97, 109, 112]
      else if p == [0, 1] && i == 2 then .lit true
      else if p == [2, 1] then .dec 2
      else if p == [4, 1] then .hex true false 0
      else .lit false,
    kwCase := fun _ _ => false }
/-- the other extreme: every void element `<br/>`, everything literal and in one chunk, `DocTypE` -/
def xC' : Choices := { xC with void := fun _ => .slash, char := fun _ _ => .lit false, kwCase := fun _ i => i % 3 == 0 }

def xTree : List Doc :=
  [ .text 5 [104, 116, 109, 108],
    .elem [112] none [ .text 0 [97, 38, 98], .elem [98, 114] none [], .text 0 [99], .elem [98, 114] none [], .text 0 [100],
      .elem [98, 114] none [], .text 1 [110, 111, 116, 101] ],
    .elem [112, 114, 101] none [ .text 0 [32, 10, 32] ],
    .text 0 [10] ]

example : CfgOK xB := by decide
example : Representable xB xA xDoc := by decide
example : WellSpelt xA xC.char xDoc := by decide
/-- the callbacks of the sample: all three void spellings, the entity between two data chunks, both numeric forms -/
example : (emitDoc xA.isVoid xC xDoc).length = 17 := by decide
example : codeL (normalise xB xDoc) = codeL xTree := by decide +kernel
example : codeL (adapterBuild xB xA (emitDoc xA.isVoid xC xDoc)).1 = codeL xTree := by decide +kernel
example : adapterBuild xB xA (emitDoc xA.isVoid xC xDoc) = (normalise xB xDoc, startInfos xA xC xDoc) :=
  emit_build xB xA (by decide) xDoc xC (by decide) (by decide)
/-- the excluded points are genuinely excluded: `&#150;` does not denote U+0096 (Windows-1252 detour) and a void
    element with a child is not what `<br>x</br>` builds -/
example : numericOK xA 150 = false ∧ handleCharref xA (decName 0 150) = [8211] := by decide
example : ¬ Representable xB xA [.elem [98, 114] [] [.text [120]]] := by decide

/-- **the spelling of references and the chunking of text are irrelevant**: any two assignments of choices whose
    references denote the characters they stand for — literal or decimal or hexadecimal or named, however many
    leading zeros, whichever case, wherever the text is cut into chunks — give the same tree (and, with the same
    start-tag positions, the same start infos); the void spellings may differ as well -/
theorem reference_spelling_irrelevant (bcfg : Cfg) (acfg : ACfg) (hc : CfgOK bcfg) (ds : List WDoc) (c1 c2 : Choices)
    (hr : Representable bcfg acfg ds) (hs1 : WellSpelt acfg c1.char ds) (hs2 : WellSpelt acfg c2.char ds) :
    (adapterBuild bcfg acfg (emitDoc acfg.isVoid c1 ds)).1 = (adapterBuild bcfg acfg (emitDoc acfg.isVoid c2 ds)).1 ∧
    (c1.pos = c2.pos →
      adapterBuild bcfg acfg (emitDoc acfg.isVoid c1 ds) = adapterBuild bcfg acfg (emitDoc acfg.isVoid c2 ds)) := by
  rw [emit_build bcfg acfg hc ds c1 hr hs1, emit_build bcfg acfg hc ds c2 hr hs2]
  refine ⟨rfl, fun hpos => ?_⟩
  simp only [startInfos, infosL_congr acfg c1 c2 hpos]

/-- **the spelling of void elements is irrelevant**: two assignments of the writer's choices that differ only in
    how void elements are spelt (`<br>`, `<br/>`, `<br></br>`, in any mixture) — and in the case of the
    doctype/CDATA keywords — give the same tree and the same attributes and positions -/
theorem void_spelling_irrelevant (bcfg : Cfg) (acfg : ACfg) (hc : CfgOK bcfg) (ds : List WDoc) (c1 c2 : Choices)
    (hchar : c1.char = c2.char) (hpos : c1.pos = c2.pos)
    (hr : Representable bcfg acfg ds) (hs : WellSpelt acfg c1.char ds) :
    adapterBuild bcfg acfg (emitDoc acfg.isVoid c1 ds) = adapterBuild bcfg acfg (emitDoc acfg.isVoid c2 ds) :=
  (reference_spelling_irrelevant bcfg acfg hc ds c1 c2 hr hs (hchar ▸ hs)).2 hpos

example : adapterBuild xB xA (emitDoc xA.isVoid xC xDoc) =
    adapterBuild xB xA (emitDoc xA.isVoid { xC with void := fun _ => .slash } xDoc) :=
  void_spelling_irrelevant xB xA (by decide) xDoc xC _ rfl rfl (by decide) (by decide)

example : WellSpelt xA xC'.char xDoc := by decide
example : adapterBuild xB xA (emitDoc xA.isVoid xC xDoc) = adapterBuild xB xA (emitDoc xA.isVoid xC' xDoc) :=
  (reference_spelling_irrelevant xB xA (by decide) xDoc xC xC' (by decide) (by decide) (by decide)).2 rfl
-- the two callback streams really differ
example : (emitDoc xA.isVoid xC' xDoc).length = 14 := by decide

/-- **elements nest as their tags do**: forgetting every string, the built tree is the element skeleton of the
    document — same names, same nesting, same order; in particular every void element is childless and what
    follows it is its sibling -/
theorem nesting_preserved (bcfg : Cfg) (acfg : ACfg) (hc : CfgOK bcfg) (ds : List WDoc) (c : Choices)
    (hr : Representable bcfg acfg ds) (hs : WellSpelt acfg c.char ds) :
    skelL (adapterBuild bcfg acfg (emitDoc acfg.isVoid c ds)).1 = wskelL ds := by
  rw [emit_build bcfg acfg hc ds c hr hs]
  exact skel_normalise bcfg ds

example : codeL (skelL (adapterBuild xB xA (emitDoc xA.isVoid xC xDoc)).1) =
    codeL [.elem [112] none [.elem [98, 114] none [], .elem [98, 114] none [], .elem [98, 114] none []],
           .elem [112, 114, 101] none []] := by decide +kernel

/-- **attribute names and values keep their content and order**: the elements of the built tree, in document
    order, have the names of the document's tags, `Tag.__init__` is handed one attribute dictionary per element in
    that order, and — when no attribute name repeats within a tag — that dictionary is the written attribute list:
    same names, same values (a missing value as the empty string), same order, under every
    `on_duplicate_attribute` policy. (Repeated names: `dup_ignore_first`, `dup_replace_last`, `dup_accumulate`.) -/
theorem attributes_preserved (bcfg : Cfg) (acfg : ACfg) (hc : CfgOK bcfg) (ds : List WDoc) (c : Choices)
    (hr : Representable bcfg acfg ds) (hs : WellSpelt acfg c.char ds)
    (hn : ∀ t ∈ wtagsL ds, keysNodup (t.2.map (·.1)) = true) :
    namesL (adapterBuild bcfg acfg (emitDoc acfg.isVoid c ds)).1 = (wtagsL ds).map (·.1) ∧
    (adapterBuild bcfg acfg (emitDoc acfg.isVoid c ds)).2.map (·.attrs) = (wtagsL ds).map (fun t => plainAttrs t.2) := by
  rw [emit_build bcfg acfg hc ds c hr hs]
  refine ⟨names_normalise bcfg ds, ?_⟩
  simp only [startInfos, infosL_attrs bcfg acfg c ds [] 0 hr]
  exact List.map_congr_left (fun t ht => attrDict_nodup acfg.dup t.2 (hn t ht))

example : ((adapterBuild xB xA (emitDoc xA.isVoid xC xDoc)).2.map (·.attrs) ==
    [[([105, 100], .one [120]), ([107], .one [])], [], [], [], []]) = true := by
  rw [(attributes_preserved xB xA (by decide) xDoc xC (by decide) (by decide) (by decide)).2]; decide

/-- **comments, CDATA sections, doctypes, declarations and processing instructions keep their content and
    order**: the special strings of the built tree, in document order, are those of the document, each in its class
    (a declaration whose text starts with `CDATA[` IS a CDATA section) and with its content — after C03's whitespace
    rule, which `endData` applies to every string and which leaves anything but a run of ASCII spaces alone
    (`special_content_verbatim`). `ContainersApart`: no string container hands out one of the five special classes. -/
theorem special_strings_preserved (bcfg : Cfg) (acfg : ACfg) (hc : CfgOK bcfg) (hk : ContainersApart bcfg)
    (ds : List WDoc) (c : Choices) (hr : Representable bcfg acfg ds) (hs : WellSpelt acfg c.char ds) :
    specialsL (adapterBuild bcfg acfg (emitDoc acfg.isVoid c ds)).1 = wspecialsL bcfg [bcfg.rootName] ds := by
  rw [emit_build bcfg acfg hc ds c hr hs]
  exact specials_normalise bcfg hk ds

/-- … and that content is the written one verbatim, unless it consists of ASCII spaces only and no enclosing
    element preserves whitespace -/
theorem special_content_verbatim (bcfg : Cfg) (ctx : List Name) (k : Kind) (s : PStr)
    (h : ctx.any bcfg.preserve = true ∨ (specialText k s).2.all (fun ch => bcfg.asciiSpaces.contains ch) = false) :
    wspecials bcfg ctx (.special k s) = [((specialText k s).1, (specialText k s).2)] := by
  simp only [wspecials, wsRule_keep bcfg ctx _ h]

example : ContainersApart xB := by
  intro n c h
  simp only [xB] at h
  split at h
  · cases h; decide
  · cases h
example : specialsL (adapterBuild xB xA (emitDoc xA.isVoid xC xDoc)).1 =
    [(clsDoctype, [104, 116, 109, 108]), (clsComment, [110, 111, 116, 101])] := by decide +kernel

/-- **numeric references denote their characters in every spelling**: decimal with any number of leading zeros
    (up to `sys.int_max_str_digits` digits in all) and hexadecimal with `x` or `X`, any number of leading zeros and
    digits in either case, for every code point `numericOK` admits -/
theorem numeric_reference_denotes (cfg : ACfg) (n : Nat) (hok : numericOK cfg n = true) :
    (∀ z, (decName z n).length ≤ cfg.maxDigits → handleCharref cfg (decName z n) = [n]) ∧
    (∀ ux ud z, handleCharref cfg (hexName ux ud z n) = [n]) :=
  ⟨fun z hl => dec_denotes cfg z n hok hl, fun ux ud z => hex_denotes cfg ux ud z n hok⟩

example : handleCharref xA (hexName true true 3 9731) = [9731] ∧ hexName true true 3 9731 = [88, 48, 48, 48, 50, 54, 48, 51] :=
  ⟨(numeric_reference_denotes xA 9731 (by decide)).2 true true 3, by decide⟩

/-- the live Windows-1252 table (CPython's codec, generated) with no document encoding (`str` input) -/
def liveRefCfg : ACfg :=
  { xA with cp1252 := fun n => (BS.Gen.cp1252Table.find? (fun e => e.1 == n)).map (·.2), origDecode := fun _ => none }

/-- **which characters cannot be written as numeric references**, on the live table: exactly the 27 code points
    128–159 that Windows-1252 maps elsewhere (`&#150;` is an en dash, not U+0096); the five bytes it leaves undefined
    (129, 141, 143, 144, 157) and everything else up to U+10FFFF denote themselves -/
theorem numericOK_live (n : Nat) (hn : n ≤ 0x10FFFF) :
    numericOK liveRefCfg n = !(128 ≤ n && n ≤ 159 && !([129, 141, 143, 144, 157].contains n)) := by
  by_cases h : n < 256
  · -- one pass over the table, and the 32 bytes 128–159 looked up in it
    refine numericOK_of_table liveRefCfg BS.Gen.cp1252Table
      (fun n => !(128 ≤ n && n ≤ 159 && !([129, 141, 143, 144, 157].contains n))) (List.range' 128 32)
      (by decide +kernel) (by decide +kernel) n h ?_ rfl rfl
    by_cases hr : 128 ≤ n ∧ n ≤ 159
    · exact Or.inl (List.mem_range'_1.mpr (by omega))
    · exact Or.inr (by simp only [Bool.not_eq_true', Bool.and_eq_false_iff, decide_eq_false_iff_not]; omega)
  · have h1 : ¬ n ≤ 159 := by omega
    simp [numericOK, hn, h1]; omega

end Whole

/-! ## the written TEXT: parsing a well-formed written document yields the tree it describes

`emit_build` starts from the html.parser CALLBACKS of a written document. This section starts from its TEXT
(`Model/WriterText.lean: writeText`) and goes through the model of CPython's tokenizer (`Model/Tokenizer.lean`, tied
to the real `html.parser` by the `tokenizer-model` streams): the callbacks the tokenizer makes on the text are `emit`'s,
up to the cutting of character data into chunks, with every start tag at the line/column of its `<`. -/
section Written
open BS.Writer BS.WriterText

/-- **the tokenizer on a written document with raw-text elements**: `callbacks_of_written_document` for `WritableRaw`. -/
theorem callbacks_of_written_document_raw (P : BS.Tokenizer.Params) (hP : ParamsOK P) (iv : Name → Bool) (c : Choices)
    (ds : List WDoc) (hw : WritableRaw iv c ds) :
    mergeData (BS.Tokenizer.callbacks (BS.Tokenizer.run P (writeText iv c ds))) =
        mergeData (emitDoc iv (withDerivedPos iv c ds) ds) ∧
      (BS.Tokenizer.run P (writeText iv c ds)).flag = .ok ∧ (BS.Tokenizer.run P (writeText iv c ds)).st.s = [] :=
  callbacks_of_loops P iv c ds (loops_of_goodL P hP _ (goodL_wtoksL P hP iv c ds [] 0 hw))

/-- **the tokenizer on a written document.** For a `Writable` document under any choices of the writer, and any
    `str.lower`/`html.unescape` that leave the writer's names alone and invert its attribute escaping (`ParamsOK`):
    `feed(writeText …); close()` does not raise, consumes the whole text, and makes exactly the callbacks `emit` lists —
    same callbacks, same order, same names, attributes, references, special strings — up to the cutting of character
    data into `data` chunks (`mergeData`), each start tag reported at the position `derivedPos` reads off the text
    (the 1-based line and 0-based column of the offset of its `<`). -/
theorem callbacks_of_written_document (P : BS.Tokenizer.Params) (hP : ParamsOK P) (iv : Name → Bool) (c : Choices)
    (ds : List WDoc) (hw : Writable iv c ds) :
    mergeData (BS.Tokenizer.callbacks (BS.Tokenizer.run P (writeText iv c ds))) =
        mergeData (emitDoc iv (withDerivedPos iv c ds) ds) ∧
      (BS.Tokenizer.run P (writeText iv c ds)).flag = .ok ∧ (BS.Tokenizer.run P (writeText iv c ds)).st.s = [] :=
  callbacks_of_written_document_raw P hP iv c ds (writableRL_of_writableL iv c ds [] 0 hw)

/-- **parse_of_written_document_raw**: `parse_of_written_document` for `WritableRaw` documents (`<script>`, `<style>`
    admitted): the text of a raw-text element, written verbatim, comes back as ONE string child of the
    element, of the class the builder's string-container rule gives the element (`normalise`: `Script` under `script`,
    `Stylesheet` under `style` for the HTML builders' `string_containers`, C03), `<`, `&` and tags inside it untouched
    (a text of ASCII whitespace only becomes one `\\n` or space, as everywhere outside `<pre>`: that is `normalise`). -/
theorem parse_of_written_document_raw (bcfg : Cfg) (acfg : ACfg) (hc : CfgOK bcfg) (P : BS.Tokenizer.Params) (hP : ParamsOK P)
    (c : Choices) (ds : List WDoc) (hw : WritableRaw acfg.isVoid c ds) (hr : Representable bcfg acfg ds)
    (hs : WellSpelt acfg c.char ds) :
    adapterBuild bcfg acfg (BS.Tokenizer.callbacks (BS.Tokenizer.run P (writeText acfg.isVoid c ds))) =
      (normalise bcfg ds, startInfos acfg (withDerivedPos acfg.isVoid c ds) ds) := by
  rw [adapterBuild_congr bcfg acfg hc _ _ (callbacks_of_written_document_raw P hP acfg.isVoid c ds hw).1]
  exact emit_build bcfg acfg hc ds (withDerivedPos acfg.isVoid c ds) hr hs

/-- **parse_of_written_document — parsing a well-formed written document yields the tree it describes.** The text
    `writeText` of a document (`Writable`, `Representable`, references `WellSpelt`), tokenized as `feed(text); close()`
    does, the callbacks handed to `BeautifulSoupHTMLParser` and its events to the construction machine: the result is
    `normalise` of the document, and `Tag.__init__` receives, in document order, the attributes of the start tags and
    the line/column of their `<` in the text. `html.unescape` and `str.lower` are the only parameters. -/
theorem parse_of_written_document (bcfg : Cfg) (acfg : ACfg) (hc : CfgOK bcfg) (P : BS.Tokenizer.Params) (hP : ParamsOK P)
    (c : Choices) (ds : List WDoc) (hw : Writable acfg.isVoid c ds) (hr : Representable bcfg acfg ds)
    (hs : WellSpelt acfg c.char ds) :
    adapterBuild bcfg acfg (BS.Tokenizer.callbacks (BS.Tokenizer.run P (writeText acfg.isVoid c ds))) =
      (normalise bcfg ds, startInfos acfg (withDerivedPos acfg.isVoid c ds) ds) :=
  parse_of_written_document_raw bcfg acfg hc P hP c ds (writableRL_of_writableL acfg.isVoid c ds [] 0 hw) hr hs

/-- **the derived positions are the positions of the `<`.** Whenever `derivedPos` finds the start tag of the element at
    path `p` at offset `o` of the written text, the text has a `<` there and the position is the 1-based line / 0-based
    column of `o`. -/
theorem derived_positions_are_lt_offsets (iv : Name → Bool) (c : Choices) (ds : List WDoc) (p : Path) (o : Nat)
    (h : offsetOf p 0 (wtoksL iv c [] 0 ds) = some o) :
    (writeText iv c ds)[o]? = some 60 ∧ (withDerivedPos iv c ds).pos p = BS.SourcePos.lineCol (writeText iv c ds) o :=
  derivedPos_at_open iv c ds p o h

/-! non-vacuity: the sample document of `emit_build`, written out and tokenized -/

/-- concrete parameters satisfying `ParamsOK`: ASCII lower-casing, and the inverse of the writer's attribute escaping -/
def xP : BS.Tokenizer.Params := { unescape := unescSimple, lower := BS.Tokenizer.asciiLower }
theorem xP_ok : ParamsOK xP := paramsOK_simple

example : Writable xA.isVoid xC xDoc := by decide
/-- under `xC'` the `&` of `a&b` is spelt literally: not writable -/
example : ¬ Writable xA.isVoid xC' xDoc := by decide
/-- the text of the sample under the first choices -/
example : writeText xA.isVoid xC xDoc =
    BS.ofS "<!doctype html><p id=\"x\" k>a&amp;b<br>&#0099;<br/>&#X64;<br></br><!--note--></p><pre> \n </pre> \n " := by decide_pstr
/-- positions read off the text: `<p` at offset 15, the first `<br` at 34, `<pre>` at 80 (still line 1) -/
example : (withDerivedPos xA.isVoid xC xDoc).pos [1] = (1, 15) ∧ (withDerivedPos xA.isVoid xC xDoc).pos [1, 1] = (1, 34) ∧
    (withDerivedPos xA.isVoid xC xDoc).pos [2] = (1, 80) := by decide +kernel
example : offsetOf [1, 1] 0 (wtoksL xA.isVoid xC [] 0 xDoc) = some 34 := by decide
/-- the model tokenizer on that text: 17 callbacks, no error, nothing left -/
example : (BS.Tokenizer.callbacks (BS.Tokenizer.run xP (writeText xA.isVoid xC xDoc))).length = 17 ∧
    (BS.Tokenizer.run xP (writeText xA.isVoid xC xDoc)).flag = .ok := by decide +kernel
example : mergeData (BS.Tokenizer.callbacks (BS.Tokenizer.run xP (writeText xA.isVoid xC xDoc))) =
    mergeData (emitDoc xA.isVoid (withDerivedPos xA.isVoid xC xDoc) xDoc) :=
  (callbacks_of_written_document xP xP_ok xA.isVoid xC xDoc (by decide)).1
example : adapterBuild xB xA (BS.Tokenizer.callbacks (BS.Tokenizer.run xP (writeText xA.isVoid xC xDoc))) =
    (normalise xB xDoc, startInfos xA (withDerivedPos xA.isVoid xC xDoc) xDoc) :=
  parse_of_written_document xB xA (by decide) xP xP_ok xC xDoc (by decide) (by decide) (by decide)
/-- the restrictions are genuine: a literal `<` in text, an element named `script`, a comment `a-- >b` are not writable -/
example : ¬ Writable xA.isVoid { xC with char := fun _ _ => .lit false } [.text [97, 60, 98]] := by decide
example : ¬ Writable xA.isVoid xC [.elem [115, 99, 114, 105, 112, 116] [] [.text [120]]] := by decide
example : ¬ Writable xA.isVoid xC [.special .comment [97, 45, 45, 32, 62, 98]] := by decide

/-! ### `<script>` / `<style>`: raw text through the tokenizer's CDATA mode

`Writable` excludes the two elements whose content html.parser reads in CDATA mode (`set_cdata_mode`, parser.py:123-125:
`interesting` becomes `</\s*name\s*>` with `re.I`; `parse_endtag` 407-416 only leaves the mode on the element's own name).
`WritableRaw` (`Model/WriterText.lean`) admits them with ONE text child written verbatim whose text respects `rawTextOK`. -/

/-- **raw_text_element_tokens — the tokenizer on a written raw-text element.** Anywhere in `feed` outside CDATA mode,
    whatever follows (`rest`): on `<name attrs>text</name>` with `name` = `script` or `style`, attribute names of the
    writer's class and `rawTextOK name text`, two turns of the `goahead` loop make exactly `handle_starttag(name, attrs)`
    at the position of the `<`, `handle_data(text)` — the whole text, verbatim, in one callback, none when it is empty —
    and `handle_endtag(name)`; CDATA mode is off again and the loop goes on with `rest`. -/
theorem raw_text_element_tokens (P : BS.Tokenizer.Params) (hP : ParamsOK P) (n : PStr) (a : List (PStr × Option PStr))
    (t rest : PStr) (pos : Nat × Nat) (f : Nat) (hcd : BS.Tokenizer.cdataContentElements.contains n = true)
    (ha : ∀ kv ∈ a, nameOK kv.1 = true) (ht : rawTextOK n t = true) :
    BS.Tokenizer.loop P false (f + 2) ⟨openText n a false ++ (t ++ (closeText n ++ rest)), pos, none⟩ =
      (let pos1 := BS.SourcePos.updatepos pos (openText n a false)
       let pos2 := BS.SourcePos.updatepos pos1 t
       let r := BS.Tokenizer.loop P false f ⟨rest, BS.SourcePos.updatepos pos2 (closeText n), none⟩
       ⟨⟨.st n a, openText n a false, pos⟩ :: (rawDataEv t pos1 ++ ⟨.et n, closeText n, pos2⟩ :: r.evs), r.st, r.flag⟩) :=
  loop_raw_element P hP n a t rest pos f hcd ha ht

/-! non-vacuity: a document with a `<script>` (with `<`, `&&` and `"</p>"` in it) and a `<style>` next to ordinary elements -/

/-- `xB` with the string containers of the HTML builders for the two raw-text elements: `script` ↦ 6 (`Script`),
    `style` ↦ 7 (`Stylesheet`) -/
def xBR : Cfg :=
  { xB with container := fun n => if n == BS.ofS "script" then some 6 else if n == BS.ofS "style" then some 7 else none }
def xDocR : List WDoc :=
  [ .special .doctype (BS.ofS "html"),
    .elem (BS.ofS "p") []
      [ .text (BS.ofS "a&b"), .elem (BS.ofS "script") [] [ .text (BS.ofS "if (a < b && c) { x = \"</p>\"; }") ],
        .elem (BS.ofS "br") [] [] ],
    .elem (BS.ofS "style") [(BS.ofS "type", some (BS.ofS "text/css"))] [ .text (BS.ofS "p > a { color: red }\n") ],
    .text (BS.ofS "z") ]
/-- `&amp;` for the `&` of `a&b`; everything else literal -/
def xCR : Choices := { xC with char := fun p i => if p == [0, 1] && i == 1 then .named [97, 109, 112] else .lit false }

example : WritableRaw xA.isVoid xCR xDocR := by unfold xDocR; decide_pstr
example : ¬ Writable xA.isVoid xCR xDocR := by unfold xDocR; decide_pstr
example : writeText xA.isVoid xCR xDocR = BS.ofS
    "<!doctype html><p>a&amp;b<script>if (a < b && c) { x = \"</p>\"; }</script><br></br></p><style type=\"text/css\">p > a { color: red }\n</style>z" := by
  unfold xDocR; decide_pstr
/-- the model tokenizer on that text: the script text is one `data`, its `</p>` is not an end tag -/
example : (BS.Tokenizer.run xP (writeText xA.isVoid xCR xDocR)).evs.map (fun e => (e.tok, e.pos)) =
    [ (.dl (BS.ofS "doctype html"), (1, 0)), (.st (BS.ofS "p") [], (1, 15)), (.data [97], (1, 18)), (.er (BS.ofS "amp"), (1, 19)),
      (.data [98], (1, 24)), (.st (BS.ofS "script") [], (1, 25)), (.data (BS.ofS "if (a < b && c) { x = \"</p>\"; }"), (1, 33)),
      (.et (BS.ofS "script"), (1, 64)), (.st (BS.ofS "br") [], (1, 73)), (.et (BS.ofS "br"), (1, 77)), (.et (BS.ofS "p"), (1, 82)),
      (.st (BS.ofS "style") [(BS.ofS "type", some (BS.ofS "text/css"))], (1, 86)),
      (.data (BS.ofS "p > a { color: red }\n"), (1, 109)), (.et (BS.ofS "style"), (2, 0)), (.data [122], (2, 8)) ] := by unfold xDocR; decide_pstr
/-- the tree: the script text is one `Script` (6) string, the style text one `Stylesheet` (7) string -/
example : codeL (normalise xBR xDocR) = codeL
    [ .text 5 (BS.ofS "html"),
      .elem (BS.ofS "p") none
        [ .text 0 (BS.ofS "a&b"),
          .elem (BS.ofS "script") none [ .text 6 (BS.ofS "if (a < b && c) { x = \"</p>\"; }") ],
          .elem (BS.ofS "br") none [] ],
      .elem (BS.ofS "style") none [ .text 7 (BS.ofS "p > a { color: red }\n") ],
      .text 0 [122] ] := by unfold xDocR; decide_pstr
example : adapterBuild xBR xA (BS.Tokenizer.callbacks (BS.Tokenizer.run xP (writeText xA.isVoid xCR xDocR))) =
    (normalise xBR xDocR, startInfos xA (withDerivedPos xA.isVoid xCR xDocR) xDocR) :=
  parse_of_written_document_raw xBR xA (by decide) xP xP_ok xCR xDocR (by unfold xDocR; decide_pstr)
    (by unfold xDocR; decide_pstr) (by unfold xDocR; decide_pstr)
/-- `raw_text_element_tokens` at `<script>a<b</script>z`, fuel 2 + 2 -/
example : (BS.Tokenizer.loop xP false 4 ⟨BS.ofS "<script>a<b</script>z", (1, 0), none⟩).evs.map (·.tok) =
    [.st (BS.ofS "script") [], .data (BS.ofS "a<b"), .et (BS.ofS "script"), .data [122]] := by decide_pstr
/-- the condition is genuine: `</script`, `</ script`, `</SCRIPT`, `</ſcript` inside a script, a script text ending in
    `</`+whitespace, a reference spelling, two children — not writable, nor `</script` inside a style (first letter only);
    `</tyle>`, `</p>`, `<!--`, `&amp;` inside a script are fine -/
example : rawTextOK (BS.ofS "script") (BS.ofS "a</script>b") = false ∧ rawTextOK (BS.ofS "script") (BS.ofS "a</ script") = false ∧
    rawTextOK (BS.ofS "script") (BS.ofS "</SCRIPT") = false ∧ rawTextOK (BS.ofS "script") [60, 47, 383] = false ∧
    rawTextOK (BS.ofS "script") (BS.ofS "x</\n") = false ∧ rawTextOK (BS.ofS "script") (BS.ofS "a</tyle></p><!--&amp;</") = true ∧
    rawTextOK (BS.ofS "style") (BS.ofS "</script>") = false := by decide_pstr
example : ¬ WritableRaw xA.isVoid { xC with char := fun _ _ => .dec 0 } [.elem (BS.ofS "script") [] [.text [120]]] := by decide_pstr
example : ¬ WritableRaw xA.isVoid xCR [.elem (BS.ofS "script") [] [.text [120], .text [121]]] := by decide_pstr
/-- where the condition fails the conclusion fails: the model tokenizer ends the script at the inner `</script >` -/
example : (mergeData (BS.Tokenizer.callbacks (BS.Tokenizer.run xP
      (writeText xA.isVoid xCR [.elem (BS.ofS "script") [] [.text (BS.ofS "a</script >b")]])))).length = 5 ∧
    (mergeData (emitDoc xA.isVoid (withDerivedPos xA.isVoid xCR [.elem (BS.ofS "script") [] [.text (BS.ofS "a</script >b")]])
      [.elem (BS.ofS "script") [] [.text (BS.ofS "a</script >b")]])).length = 3 := by decide_pstr

end Written

end BS.Props.C04
