import BSModel.Proofs.TokenizerRoundAttrs
import BSModel.Proofs.TokenizerErr
import BSModel.Proofs.TokenizerExact
/-! # TK — CPython's `html.parser` tokenizer as bs4 drives it (`feed(text); close()`, `convert_charrefs=False`)

Theorems about the executable model `BS.Tokenizer.run` (`Model/Tokenizer.lean`, a code mirror of `html/parser.py` and
`_markupbase.py` of CPython 3.12, tied to the real parser by `harness/tk.py`), for ALL texts and all values of the
parameters (`html.unescape`, `str.lower`):

* positions: at every turn of the `goahead` loop `(lineno, offset)` is the line/column of the current index, hence every
  callback — in particular every start tag — is made with `getpos()` = 1-based line / 0-based column of the first
  character of the text it consumes, which for a start tag is its `<`;
* coverage: the chunks consumed for the callbacks, in order, followed by the unconsumed rest, are the text; the rest is
  empty unless the parser raised or CDATA mode (`<script>`/`<style>` without end tag) is still on at `close()`;
* data callbacks carry exactly the text of their span;
* the fuel of the model's loops never runs out (every continuing turn consumes at least one character);
* the parser raises only inside `parse_marked_section` (texts without `<![` are never rejected);
* round trips of `parse_starttag` / `parse_endtag` on a small writer grammar;
* EXACT round trips of the delimiter-terminated constructs (comments, processing instructions, `<!DOCTYPE …>`, CDATA marked
  sections, character data): a decidable predicate on the written body, the parse result when it holds, and the parse
  result — the proper prefix up to the FIRST terminator — when it does not; based on `search_least` (`pattern.search`
  reports the least matching offset).

`Tok.skip` marks the two stretches CPython consumes without any callback (`</>`, and the `&` of an incomplete
reference that is all that is left at `close()`). -/
namespace BS.Props.TK
open BS.Tokenizer BS.SourcePos BS.Adapter

/-- the tokenizer stands at index `i` of `text`: the rest of its buffer is `text[i:]` and `(lineno, offset)` is the
    1-based line and 0-based column of `i` -/
def AtIndex (text : PStr) (st : St) (i : Nat) : Prop :=
  i ≤ text.length ∧ st.s = text.drop i ∧ st.pos = lineCol text i

private theorem AtIndex.after {text : PStr} {st st' : St} {evs : List Ev} {i : Nat} (h : AtIndex text st i)
    (hs : ∀ pre, st.pos = posOf pre → Spec pre st.s evs st') : AtIndex text st' (i + (srcs evs).length) := by
  obtain ⟨h1, h2, h3⟩ := h
  -- `text = pre ++ post` with `pre` a variable of length `i`
  obtain ⟨pre, post, rfl, rfl⟩ : ∃ pre post, text = pre ++ post ∧ pre.length = i :=
    ⟨_, _, (List.take_append_drop i text).symm, List.length_take_of_le h1⟩
  have hs := hs pre (h3.trans (lineCol_prefix pre post))
  rw [← hs.cover, List.drop_left] at h2
  subst h2
  rw [← List.append_assoc, ← List.length_append]
  exact ⟨by simp, List.drop_left.symm, hs.pos.trans (lineCol_prefix _ _).symm⟩

/-- **position invariant, one loop turn.** If the tokenizer stands at index `i` before a turn of the `while` loop of
    `goahead`, it stands at index `i + (what the turn consumed)` after it — `(lineno, offset)` is again the line/column
    of the current index. -/
theorem position_invariant_step (P : Params) (end_ : Bool) (text : PStr) (st : St) (i : Nat) (h : AtIndex text st i) :
    AtIndex text (step P end_ st).2.1 (i + (srcs (step P end_ st).1).length) :=
  h.after (step_spec P end_ st)

/-- **position invariant, `goahead`.** The same across a whole `goahead(end)` call (loop and final flush), so it holds
    at the start of `close()`'s call as well: `reset()` puts the tokenizer at index 0, `feed` leaves it at some index,
    `close()` continues from there. -/
theorem position_invariant_goahead (P : Params) (end_ : Bool) (text : PStr) (st : St) (i : Nat) (h : AtIndex text st i) :
    AtIndex text (goahead P end_ st).st (i + (srcs (goahead P end_ st).evs).length) :=
  h.after (goahead_spec P end_ st)

theorem position_invariant_init (text : PStr) : AtIndex text (init text) 0 := by
  simp [AtIndex, init, lineCol]

/-- **coverage.** The chunks of text consumed for the events of `feed(text); close()`, in order, followed by what
    is left in the buffer, are the text: nothing is consumed twice, skipped or reordered. -/
theorem coverage (P : Params) (text : PStr) : srcs (run P text).evs ++ (run P text).st.s = text :=
  (run_spec P text).cover

/-- **nothing is left** at the end of `close()` unless the parser raised or is still in CDATA mode (an unterminated
    `<script>`/`<style>`: CPython 3.12 drops that text, parser.py:158-159 and 245) -/
theorem coverage_complete (P : Params) (text : PStr) (hok : (run P text).flag = .ok) (hcd : (run P text).st.cd = none) :
    srcs (run P text).evs = text := by
  have h := coverage P text
  rcases run_rest P text hok with h0 | h0
  · rw [h0, List.append_nil] at h; exact h
  · exact absurd hcd h0

/-- **spans.** The span `[lo, hi)` the driver reports for an event (`tk spans`) is where its chunk sits in the text;
    spans of consecutive events are adjacent by construction of `spans`. -/
theorem span_is_chunk (P : Params) (text : PStr) (e : Ev) (lo hi : Nat) (h : (e, lo, hi) ∈ spans 0 (run P text).evs) :
    hi ≤ text.length ∧ (text.drop lo).take (hi - lo) = e.src := by
  obtain ⟨pre, post, rfl, rfl, rfl, _, _⟩ := spans_run P text e lo hi h
  refine ⟨by simp only [List.length_append]; omega, ?_⟩
  rw [List.drop_left, Nat.add_sub_cancel_left, List.take_left]

/-- **every callback's position.** Each event of the run was called back with `getpos()` = the 1-based line and
    0-based column of the start `lo` of its span. -/
theorem callback_position (P : Params) (text : PStr) (e : Ev) (lo hi : Nat) (h : (e, lo, hi) ∈ spans 0 (run P text).evs) :
    e.pos = lineCol text lo := by
  obtain ⟨pre, post, rfl, rfl, _, hp, _⟩ := spans_run P text e lo hi h
  rw [hp]
  exact (lineCol_prefix _ _).symm

/-- **start tags: `sourceline`/`sourcepos` are the position of the `<`.** Every `handle_starttag` /
    `handle_startendtag` callback is made with `getpos()` = (1-based line, 0-based column) of an index `lo` of the text
    at which a `<` stands — the `<` its start tag begins with (the span `[lo, hi)` is the text consumed for the tag). -/
theorem start_tag_position (P : Params) (text : PStr) (e : Ev) (lo hi : Nat) (h : (e, lo, hi) ∈ spans 0 (run P text).evs)
    (hst : isStart e.tok = true) : text[lo]? = some 60 ∧ e.pos = lineCol text lo := by
  refine ⟨?_, callback_position P text e lo hi h⟩
  obtain ⟨pre, post, rfl, rfl, _, _, hmem⟩ := spans_run P text e lo hi h
  have hhead := run_evOK P _ e hmem hst
  cases hsrc : e.src with
  | nil => rw [hsrc] at hhead; cases hhead
  | cons c t => rw [hsrc] at hhead; cases hhead; simp

/-- **data is faithful.** Every `handle_data` callback (in and outside CDATA mode, including the pieces `"<"`, `"&"`,
    `"&#"`, unterminated constructs flushed by `close()` and start tags handed out as text) carries exactly the text of
    its span. -/
theorem data_faithful (P : Params) (text : PStr) (e : Ev) (lo hi : Nat) (h : (e, lo, hi) ∈ spans 0 (run P text).evs)
    (d : PStr) (hd : e.tok = .data d) : d = (text.drop lo).take (hi - lo) := by
  obtain ⟨pre, post, rfl, rfl, rfl, _, hmem⟩ := spans_run P text e lo hi h
  rw [List.drop_left, Nat.add_sub_cancel_left, List.take_left]
  exact (run_spec P _).data e hmem d hd

/-- **a continuing turn consumes.** A turn of the `while` loop after which the loop goes on leaves a strictly shorter
    buffer (the index strictly increases), and no turn ends in the model's `stuck` outcome. -/
theorem turn_consumes (P : Params) (end_ : Bool) (st : St) :
    (step P end_ st).2.2 ≠ some .stuck ∧ ((step P end_ st).2.2 = none → (step P end_ st).2.1.s.length < st.s.length) :=
  step_progress P end_ st

/-- **the fuel suffices.** `run` gives every loop `length + 1` turns of fuel (the `while` loop of `goahead`, the
    attribute loops of `locatestarttagend_tolerant` and `parse_starttag`); none of them ever runs out, and the dead end
    `gtpos = -1` of `parse_endtag` (parser.py:404) is unreachable: the outcome is never `stuck`. -/
theorem fuel_suffices (P : Params) (text : PStr) : (run P text).flag ≠ .stuck := run_not_stuck P text

/-! ### errors -/

/-- **where `error` can come from.** The tokenizer raises (`AssertionError`, which bs4 reports as
    `ParserRejectedMarkup`) only inside `parse_marked_section`: if `feed(text); close()` ends in `error`, the text
    contains `<![` somewhere. Contrapositive: a text without `<![` is tokenized to the end, whatever else it contains. -/
theorem error_only_from_marked_section (P : Params) (text : PStr) (h : (run P text).flag = .err) :
    ∃ i, (text.drop i).take 3 = [60, 33, 91] := by
  obtain ⟨i, hi, _⟩ := run_err_marked P text h
  exact ⟨i, by simpa [sw] using hi⟩

/-- one loop turn: an `error` outcome means `parse_marked_section` raised at the index the turn had reached — its
    "expected name token" / "unknown status keyword" assertions (`_markupbase.py:389-392, 153-156`) -/
theorem turn_error_is_marked_section (P : Params) (end_ : Bool) (st : St) (h : (step P end_ st).2.2 = some .err) :
    ∃ j, (st.s.drop j).take 3 = [60, 33, 91] ∧ parseMarkedSection st.cd (st.s.drop j) = .err := by
  obtain ⟨hcd, hsw, hraise⟩ := step_err_plain P end_ st h
  exact ⟨_, by simpa [sw] using hsw, hcd ▸ hraise⟩

/-! ### the form C18 composes with: the positions of the start-tag callbacks, in order -/

/-- **the start-tag callbacks, in order, carry the line/column of the offsets of their `<`.** `startPositions` is the
    list of `(line, col)` of the `handle_starttag`/`handle_startendtag` callbacks in the stream the adapter receives. -/
theorem start_positions_are_offsets (P : Params) (text : PStr) :
    startPositions (callbacks (run P text)) = (startOffsets 0 (run P text).evs).map (lineCol text) ∧
    ∀ lo ∈ startOffsets 0 (run P text).evs, text[lo]? = some 60 := by
  constructor
  · have hs := run_spec P text
    have := startPositions_of_WP text (run P text).evs [] (run P text).st.s hs.wp (by simpa using hs.cover)
    simpa [callbacks] using this
  · intro lo hlo
    obtain ⟨e, hi, he, hst⟩ := startOffsets_mem _ 0 lo hlo
    exact (start_tag_position P text e lo hi he hst).1

/-- `str.lower` on ASCII, `html.unescape` = identity: enough for the examples -/
def P0 : Params := { unescape := id, lower := asciiLower }

/-! ### round trips on a small well-formed grammar (names over `[a-z][-.:_a-z0-9]*`) -/

/-- **end tags round-trip.** `parse_endtag` on `</name>` (followed by anything) calls `handle_endtag(name)`, returns
    the index just after the `>`, and leaves CDATA mode off — outside CDATA mode, and inside it when `name` is the
    element that switched it on. (`P.lower name = name`: `str.lower` leaves `[a-z0-9]` alone.) -/
theorem endtag_roundtrip (P : Params) (cd : Option PStr) (name rest : PStr) (hn : NameOK name)
    (hl : P.lower name = name) (hcd : cd = none ∨ cd = some name) :
    parseEndTag P cd (writeEndTag name ++ rest) = .ok (.et name) (writeEndTag name).length none :=
  parseEndTag_write P cd name rest hn hl hcd

example : NameOK (BS.ofS "h1") := ⟨104, [49], by decide, by decide, by decide⟩
example : parseEndTag P0 none (BS.ofS "</h1>x") = .ok (.et (BS.ofS "h1")) 5 none := by decide_pstr

/-- **comments round-trip** (partial: bodies without `>`, or without `-`). `parse_comment` on `<!--body-->` calls
    `handle_comment(body)` and returns the index just after the `>`. Dashes in the body are harmless as long as no `>`
    follows (`commentclose = --\s*>` needs one): `<!--a--b--->` gives `a--b-`. Both cases are
    instances of the exact characterisation `comment_roundtrip` / `comment_roundtrip_iff` below (bodies that contain `>`
    and `-` are fine as long as `--\s*>` matches nowhere; with a match CPython ends the comment early:
    `<!--a-- >b-->` gives `a`, `comment_ends_at_first_close`). -/
theorem comment_roundtrip_partial (cd : Option PStr) (body rest : PStr)
    (hb : (∀ x ∈ body, x ≠ 62) ∨ (∀ x ∈ body, x ≠ 45)) :
    parseComment cd (writeComment body ++ rest) = .ok (.cm body) (writeComment body).length cd :=
  parseComment_write_exact cd body rest (hb.elim (commentBodyOK_of_noGt body) (commentBodyOK_of_noDash body))

example : parseComment none (BS.ofS "<!--a--b--->x") = .ok (.cm (BS.ofS "a--b-")) 12 none := by decide_pstr
example : parseComment none (BS.ofS "<!--a-- >b-->x") = .ok (.cm (BS.ofS "a")) 9 none := by decide_pstr
example : parseComment none (BS.ofS "<!-- a>b -->x") = .ok (.cm (BS.ofS " a>b ")) 12 none := by decide_pstr

/-! ### exact round trips of the delimiter-terminated constructs -/

/-- **`pattern.search` reports the LEAST matching offset.** For every anchored matcher `m` (the model's stand-in for a
    compiled pattern's `match`) and every string: `search m s = (p, l)` exactly when `p` is an offset of `s` (its end
    included), `m` succeeds at `p` with length `l`, and `m` fails at every smaller offset. -/
theorem search_least (m : PStr → Option Nat) (s : PStr) (p l : Nat) :
    search m s = some (p, l) ↔ p ≤ s.length ∧ m (s.drop p) = some l ∧ ∀ k, k < p → m (s.drop k) = none :=
  search_eq_some_iff m s p l

example : search mCommentClose (BS.ofS "a-b-- >c-->") = some (3, 4) := by decide_pstr
example : search mCommentClose (BS.ofS "a-b-- c") = none := by decide_pstr

/-- **comments round-trip, exactly.** `CommentBodyOK body` says, with the model's own matcher for `commentclose = --\s*>`,
    that in `body-->` the pattern matches at no offset inside the body (the only match is the writer's `-->`); it is
    decidable and independent of what follows the comment. Under it `parse_comment` on `<!--body-->rest` calls
    `handle_comment(body)` and returns the index just after the writer's `>`. -/
theorem comment_roundtrip (cd : Option PStr) (body rest : PStr) (hb : CommentBodyOK body) :
    parseComment cd (writeComment body ++ rest) = .ok (.cm body) (writeComment body).length cd :=
  parseComment_write_exact cd body rest hb

/-- **… and when the predicate fails the comment ends at the first close.** If `CommentBodyOK body` is false there is a
    FIRST offset `p` inside the body at which `--\s*>` matches `body-->` (length `l`, no match at any smaller offset);
    `handle_comment` gets the proper prefix `body[:p]` and the parser continues right after that match — whatever
    follows the writer's `-->`. -/
theorem comment_ends_at_first_close (cd : Option PStr) (body rest : PStr) (hb : ¬ CommentBodyOK body) :
    ∃ p l, p < body.length ∧ mCommentClose (body.drop p ++ [45, 45, 62]) = some l ∧
      (∀ k, k < p → mCommentClose (body.drop k ++ [45, 45, 62]) = none) ∧
      parseComment cd (writeComment body ++ rest) = .ok (.cm (body.take p)) (4 + p + l) cd :=
  parseComment_write_first_close cd body rest hb

/-- **the characterisation.** A written comment comes back as its body, ending at the writer's `>`, if and only if
    `CommentBodyOK body`. -/
theorem comment_roundtrip_iff (cd : Option PStr) (body rest : PStr) :
    parseComment cd (writeComment body ++ rest) = .ok (.cm body) (writeComment body).length cd ↔ CommentBodyOK body := by
  constructor
  · intro h
    by_cases hb : CommentBodyOK body
    · exact hb
    · obtain ⟨p, l, hp, _, _, he⟩ := comment_ends_at_first_close cd body rest hb
      rw [he] at h
      simp only [PR.ok.injEq, Tok.cm.injEq] at h
      have := congrArg List.length h.1
      simp at this; omega
  · exact comment_roundtrip cd body rest

/-- both sides of the predicate: `>` and `-` in the body without a close; a close with whitespace inside the body -/
example : CommentBodyOK (BS.ofS "a>b--c- -") := by decide_pstr
example : parseComment none (BS.ofS "<!--a>b--c- --->x") = .ok (.cm (BS.ofS "a>b--c- -")) 16 none := by decide_pstr
example : ¬ CommentBodyOK (BS.ofS "a-- \n>b") := by decide_pstr
example : parseComment none (BS.ofS "<!--a-- \n>b-->x") = .ok (.cm (BS.ofS "a")) 10 none := by decide_pstr
/-- the partial theorem's two cases are instances -/
example : CommentBodyOK (BS.ofS "a--b-") ∧ CommentBodyOK (BS.ofS " a>b ") := by decide_pstr

/-- **processing instructions round-trip, exactly.** `parse_pi` on `<?body>rest` calls `handle_pi(body)` and returns the
    index just after the writer's `>` when the body has no `>` … -/
theorem pi_roundtrip (cd : Option PStr) (body rest : PStr) (hb : NoGt body) :
    parsePi cd (writePi body ++ rest) = .ok (.pi body) (writePi body).length cd :=
  parsePi_write_exact cd body rest hb

/-- … and otherwise `handle_pi` gets the proper prefix before the body's first `>` and the parser continues after it. -/
theorem pi_ends_at_first_gt (cd : Option PStr) (body rest : PStr) (hb : ¬ NoGt body) :
    ∃ a b, body = a ++ 62 :: b ∧ NoGt a ∧ parsePi cd (writePi body ++ rest) = .ok (.pi a) (writePi a).length cd :=
  parsePi_write_first_gt cd body rest hb

example : NoGt (BS.ofS "xml version='1.0'?") := by decide_pstr
example : parsePi none (BS.ofS "<?xml version='1.0'?>x") = .ok (.pi (BS.ofS "xml version='1.0'?")) 21 none := by decide_pstr
example : ¬ NoGt (BS.ofS "a>b") := by decide_pstr
example : parsePi none (BS.ofS "<?a>b>x") = .ok (.pi (BS.ofS "a")) 4 none := by decide_pstr

/-- **`<!DOCTYPE …>` round-trips, exactly.** For every spelling `kw` of the keyword (`str.lower` gives `doctype`; ASCII
    lowering suffices, see `stdlib_facts` in the harness) `parse_html_declaration` on `<!kw body>rest` calls
    `handle_decl(kw + body)` and returns the index just after the writer's `>` when the body has no `>` … -/
theorem doctype_roundtrip (cd : Option PStr) (kw body rest : PStr) (hkw : asciiLower kw = kwdoctype) (hb : NoGt body) :
    parseHtmlDeclaration cd (writeDoctype kw body ++ rest) = .ok (.dl (kw ++ body)) (writeDoctype kw body).length cd :=
  parseHtmlDeclaration_write_exact cd kw body rest hkw hb

/-- … and otherwise `handle_decl` gets the keyword and the proper prefix before the body's first `>`. -/
theorem doctype_ends_at_first_gt (cd : Option PStr) (kw body rest : PStr) (hkw : asciiLower kw = kwdoctype)
    (hb : ¬ NoGt body) :
    ∃ a b, body = a ++ 62 :: b ∧ NoGt a ∧
      parseHtmlDeclaration cd (writeDoctype kw body ++ rest) = .ok (.dl (kw ++ a)) (writeDoctype kw a).length cd :=
  parseHtmlDeclaration_write_first_gt cd kw body rest hkw hb

example : asciiLower (BS.ofS "DocType") = kwdoctype ∧ NoGt (BS.ofS " html") := by decide_pstr
example : parseHtmlDeclaration none (BS.ofS "<!DocType html>x") = .ok (.dl (BS.ofS "DocType html")) 15 none := by decide_pstr
example : ¬ NoGt (BS.ofS " a [<!ENTITY b \"c\">]") := by decide_pstr
example : parseHtmlDeclaration none (BS.ofS "<!DOCTYPE a [<!ENTITY b \"c\">]>x") =
    .ok (.dl (BS.ofS "DOCTYPE a [<!ENTITY b \"c\"")) 28 none := by decide_pstr

/-- **CDATA marked sections round-trip, exactly.** `CdataBodyOK body`: in `body]]>` the pattern
    `_markedsectionclose = ]\s*]\s*>` (whitespace allowed between the brackets!) matches at no offset inside the body.
    Under it `parse_marked_section` on `<![CDATA[body]]>rest` calls `unknown_decl("CDATA[" + body)` and returns the index
    just after the writer's `>`. -/
theorem cdata_roundtrip (cd : Option PStr) (body rest : PStr) (hb : CdataBodyOK body) :
    parseMarkedSection cd (writeCdata body ++ rest) = .ok (.ud (cdataKw ++ body)) (writeCdata body).length cd :=
  parseMarkedSection_write_exact cd body rest hb

/-- … and otherwise `unknown_decl` gets `"CDATA[" + body[:p]` for the FIRST offset `p` of the body at which
    `]\s*]\s*>` matches `body]]>`, and the parser continues after that match. -/
theorem cdata_ends_at_first_close (cd : Option PStr) (body rest : PStr) (hb : ¬ CdataBodyOK body) :
    ∃ p l, p < body.length ∧ mMarkedClose (body.drop p ++ [93, 93, 62]) = some l ∧
      (∀ k, k < p → mMarkedClose (body.drop k ++ [93, 93, 62]) = none) ∧
      parseMarkedSection cd (writeCdata body ++ rest) = .ok (.ud (cdataKw ++ body.take p)) (9 + p + l) cd :=
  parseMarkedSection_write_first_close cd body rest hb

example : CdataBodyOK (BS.ofS "a>b]]c] ]") := by decide_pstr
example : parseMarkedSection none (BS.ofS "<![CDATA[a>b]]c] ]]]>x") = .ok (.ud (BS.ofS "CDATA[a>b]]c] ]")) 21 none := by decide_pstr
example : ¬ CdataBodyOK (BS.ofS "a] \n] >b") := by decide_pstr
example : parseMarkedSection none (BS.ofS "<![CDATA[a] \n] >b]]>x") = .ok (.ud (BS.ofS "CDATA[a")) 16 none := by decide_pstr

/-- **character data round-trips, exactly (the `interesting` scan, `[&<]`).** One turn of the loop outside CDATA mode on
    `text ++ rest` — `text` non-empty without `<`/`&`, `rest` empty or beginning with `<`/`&` — hands out exactly `text` in
    one `handle_data` call, stamped with the position before it, and then acts on `rest` at the position after it. -/
theorem chardata_roundtrip (P : Params) (end_ : Bool) (pos : Nat × Nat) (text rest : PStr) (ht : TextOK text)
    (hne : text ≠ []) (hr : ∀ c, rest.head? = some c → isPlain c = false) :
    step P end_ ⟨text ++ rest, pos, none⟩ =
      if rest.isEmpty then ([⟨.data text, text, pos⟩], ⟨[], updatepos pos text, none⟩, some .ok)
      else applyAct [⟨.data text, text, pos⟩] rest (updatepos pos text) none (chooseAct P end_ none rest) :=
  step_text P end_ pos text rest ht hne hr

/-- … and a text that does contain `<` or `&` is cut there: the turn's data callback carries only the proper prefix
    before the first `<`/`&` (whatever comes after). -/
theorem chardata_ends_at_first_special (P : Params) (end_ : Bool) (pos : Nat × Nat) (a b rest : PStr) (c : Nat)
    (ha : TextOK a) (hne : a ≠ []) (hc : isPlain c = false) :
    (step P end_ ⟨(a ++ c :: b) ++ rest, pos, none⟩).1.head? = some ⟨.data a, a, pos⟩ := by
  have h := step_text P end_ pos a (c :: (b ++ rest)) ha hne (head_cons_stop _ hc)
  have e : (a ++ c :: b) ++ rest = a ++ c :: (b ++ rest) := by simp
  rw [e, h]
  simp only [List.isEmpty_cons, Bool.false_eq_true, if_false]
  exact applyAct_head _ _ _ _ _

/-- a whole document without `<`/`&` is one data callback at line 1, column 0, and nothing is left. (At this level there is
    no converse: `close()` flushes an unterminated construct such as a lone `<` as one data callback as well.) -/
theorem chardata_whole_text (P : Params) (text : PStr) (ht : TextOK text) (hne : text ≠ []) :
    (run P text).evs = [⟨.data text, text, (1, 0)⟩] ∧ (run P text).st = ⟨[], updatepos (1, 0) text, none⟩ ∧
      (run P text).flag = .ok :=
  run_text P text ht hne

example : TextOK (BS.ofS "a>b;\n") ∧ BS.ofS "a>b;\n" ≠ [] := by decide_pstr
example : ¬ TextOK (BS.ofS "a& b") := by decide_pstr
example : isPlain 38 = false ∧ isPlain 60 = false ∧ TextOK (BS.ofS "a") := by decide_pstr
example : (step P0 false ⟨BS.ofS "a& b<i>", (1, 0), none⟩).1.head? = some ⟨.data (BS.ofS "a"), BS.ofS "a", (1, 0)⟩ := by decide_pstr
example : (run P0 (BS.ofS "a& b")).evs.map (·.tok) = [.data (BS.ofS "a"), .data (BS.ofS "&"), .data (BS.ofS " b")] := by decide_pstr
example : (run P0 (BS.ofS "<")).evs.map (·.tok) = [.data (BS.ofS "<")] := by decide_pstr

/-! ### start tags of the small grammar -/

/-- **start tags round-trip.** For the writer `writeTag name attrs slash` = `<name k="w" j …>` or `<name k="w" j …/>`
    (names and attribute names over `[a-z][-.:_a-z0-9]*`, written values `w` without `"`, an attribute without value as
    its bare name; `str.lower` leaves the names alone), `parse_starttag` calls `handle_starttag` / `handle_startendtag`
    with the name and exactly the written attributes in order — value: quotes stripped and `html.unescape`d (`valOf`),
    `None` where none was written —, returns the index just after the `>`, and switches CDATA mode on exactly for a
    `<script>`/`<style>` start tag. -/
theorem starttag_roundtrip (P : Params) (cd : Option PStr) (name rest : PStr) (attrs : List (PStr × Option PStr))
    (slash : Bool) (hn : NameOK name) (hl : P.lower name = name) (ha : ∀ kv ∈ attrs, AttrOK kv)
    (hP : ∀ kv ∈ attrs, P.lower kv.1 = kv.1) :
    parseStartTag P cd (writeTag name attrs slash ++ rest) =
      .ok (startTok slash name (attrs.map fun kv => (kv.1, kv.2.map (valOf P)))) (writeTag name attrs slash).length
        (if slash then cd else if cdataContentElements.contains name then some name else cd) :=
  parseStartTag_write P cd name rest attrs slash hn hl ha hP

example : writeTag (BS.ofS "a") [(BS.ofS "k", some (BS.ofS "v w")), (BS.ofS "j2", none)] true = BS.ofS "<a k=\"v w\" j2/>" := by decide_pstr
example : AttrOK (BS.ofS "j-2", some (BS.ofS "v w>")) := ⟨⟨106, [45, 50], by decide, by decide, by decide⟩, by decide⟩
example : parseStartTag P0 none (BS.ofS "<a k=\"v w\" j2/>x") =
    .ok (.se (BS.ofS "a") [(BS.ofS "k", some (BS.ofS "v w")), (BS.ofS "j2", none)]) 15 none := by decide_pstr
example : parseStartTag P0 none (BS.ofS "<h1>x") = .ok (.st (BS.ofS "h1") []) 4 none := by decide_pstr
example : parseStartTag P0 none (BS.ofS "<style>x") = .ok (.st (BS.ofS "style") []) 7 (some (BS.ofS "style")) := by decide_pstr
/-- other quoting (outside the writer's grammar): checked on a concrete tag -/
example : parseStartTag P0 none (BS.ofS "<a k=\"v\" j='w'>x") =
    .ok (.st (BS.ofS "a") [(BS.ofS "k", some (BS.ofS "v")), (BS.ofS "j", some (BS.ofS "w"))]) 15 none := by decide_pstr

/-! ### non-vacuity: concrete texts with a tag on line 2 -/

/-- `"ab\n <p id=x>c</p>"`: data, start tag at line 2 column 1 (offset 4), data, end tag -/
example : (run P0 (BS.ofS "ab\n <p id=x>c</p>")).evs.map (fun e => (e.tok, e.pos)) =
    [(.data (BS.ofS "ab\n "), (1, 0)), (.st (BS.ofS "p") [(BS.ofS "id", some (BS.ofS "x"))], (2, 1)),
     (.data (BS.ofS "c"), (2, 9)), (.et (BS.ofS "p"), (2, 10))] := by decide_pstr
example : startOffsets 0 (run P0 (BS.ofS "ab\n <p id=x>c</p>")).evs = [4] := by decide_pstr
example : lineCol (BS.ofS "ab\n <p id=x>c</p>") 4 = (2, 1) := by decide_pstr
example : (run P0 (BS.ofS "ab\n <p id=x>c</p>")).flag = .ok ∧ (run P0 (BS.ofS "ab\n <p id=x>c</p>")).st.cd = none := by decide_pstr
/-- a self-closing tag on line 2, after a comment that contains a newline -/
example : (spans 0 (run P0 (BS.ofS "<!--\n--><br/>")).evs).map (fun x => (x.1.tok, x.1.pos, x.2)) =
    [(.cm [10], (1, 0), 0, 8), (.se (BS.ofS "br") [], (2, 3), 8, 13)] := by decide_pstr
/-- the hypotheses of `coverage_complete` matter: an unterminated `<script>` keeps CDATA mode on and its text is lost -/
example : (run P0 (BS.ofS "<script>x")).st.s = BS.ofS "x" ∧ (run P0 (BS.ofS "<script>x")).st.cd = some (BS.ofS "script") := by decide_pstr
/-- the two silent stretches: `</>` and the `&` of a trailing incomplete reference -/
example : (run P0 (BS.ofS "</>x&a")).evs.map (·.tok) = [.skip, .data (BS.ofS "x"), .skip, .data (BS.ofS "a")] := by decide_pstr
/-- the parser raises on an unknown marked-section keyword -/
example : (run P0 (BS.ofS "<![foo]>")).flag = .err := by decide_pstr
/-- a continuing turn: one start tag consumed, three characters -/
example : (step P0 false (init (BS.ofS "<a>x"))).2.2 = none ∧ (step P0 false (init (BS.ofS "<a>x"))).2.1.s = BS.ofS "x" := by decide_pstr

end BS.Props.TK
