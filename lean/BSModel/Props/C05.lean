import BSModel.Proofs.Reparse
import BSModel.Proofs.ReparseLaws
import BSModel.Proofs.ReparseRepr
import BSModel.Proofs.ReparseGrow
import BSModel.Gen.Render
import BSModel.Proofs.EntitiesLive
import BSModel.Proofs.RenderEnt
import BSModel.Proofs.RenderWritten
import BSModel.Proofs.RenderWrittenNorm
import BSModel.Props.C04
/-! # C05 — serialising and re-parsing gives the same tree back

`decodeImpl`/`eventStream`/`piece`/`formatTag`/`outputReady`/`substitute` mirror
`Tag.decode` (non-pretty), `Tag._event_stream`, `Tag._format_tag`, `output_ready` and `Formatter.substitute`
statement by statement (`Model/Render.lean`); `renderSpec` is the structural recursion. `step`/`build` mirror bs4's
side of a re-parse with html.parser, `emitR` is the event stream of the rendered text (the tokenizer is validated
per case by the harness, not modelled), `normaliseL` the documented normal form (`Model/Reparse.lean`).
The tables (`liveClsInfo`, `htmlRegistry`, `xmlRegistry`, `livePCfg`) are generated from the live objects on
every run. -/
namespace BS.Props.C05
open BS.Render BS.Gen.C05

/-- the formatter object a registry entry describes, given the function its code stands for -/
def mkFmt (g : Nat → Option (PStr → PStr)) (s : FmtSpec) : Fmt := ⟨g s.substKind, s.voidPrefix, s.cdataTags, s.emptyBool⟩

/-- the 'minimal' formatter of an HTML tree -/
def minimalHtml : Fmt := ⟨some substXml, [47], htmlCdataTags, false⟩
/-- the 'minimal' formatter of an XML tree -/
def minimalXml : Fmt := ⟨some substXml, [47], [], false⟩

def tg (name : String) (attrs : List (PStr × AVal) := []) (cbe : Bool := false) : TagInfo := ⟨ofS name, none, attrs, cbe, false⟩

/-- `<div class="a b" id='x"'><br/>a&lt;b<!--c--><script>1<2</script><p></p></div>` (the `br` can be empty) -/
def demo : Node :=
  .tag (tg "div" [(ofS "id", .str (ofS "x\"")), (ofS "class", .list [ofS "a", ofS "b"])])
    [ .tag (tg "br" [] true) [], .str .navigable (ofS "a<b"), .str .comment (ofS "c"),
      .tag (tg "script") [.str .script (ofS "1<2")], .tag (tg "p") [] ]

/-! ## 1. the stack machine over the element chain is the structural recursion -/

/-- **`_event_stream` is the structural recursion**, for every tree: the explicit tag stack over the pre-order chain
    of elements — popping and yielding END while the next element's parent is not the stack top, EMPTY for a
    childless tag that can be empty, START + push for any other tag, STRING for a string, and the final unwinding —
    yields exactly `specEvents`: per node `EMPTY`, or `START`, the children's events in order, `END`. Every start tag
    is closed exactly once, after its last descendant and before its next sibling. -/
theorem event_stream_eq_spec (n : Node) : eventStream (flatten none none 0 n) = specEvents none none 0 n :=
  eventStream_flatten n none none 0 (by simp)

example : (eventStream (flatten none none 0 demo)).map (fun e => (e.1, e.2.id)) =
    [(.start, 0), (.empty, 1), (.string, 2), (.string, 3), (.start, 4), (.string, 5), (.stop, 4), (.start, 6), (.stop, 6),
     (.stop, 0)] := by decide +kernel

/-- Refinement, for every tree, formatter and class table: `decode()` — the event stream above, each event formatted
    by `_format_tag`/`output_ready` and the pieces joined — produces exactly the text the obvious recursion over the
    tree produces. -/
theorem decode_eq_render (ci : SCls → ClsInfo) (f : Fmt) (n : Node) :
    decodeNode ci f n = renderSpec ci f none n := by
  simp only [decodeNode, decodeImpl, event_stream_eq_spec, pieces_specEvents]

/-- The start element may sit anywhere: with any parent identity outside its own block (`par`, numbered below the
    block) and any parent name, the loop over `self_and_descendants` renders the element alone — the parent is never
    consulted because the stack is empty when the first element arrives. -/
theorem decode_any_start (ci : SCls → ClsInfo) (f : Fmt) (n : Node) (par : Option Nat) (pname : Option PStr) (k : Nat)
    (hk : ∀ q, par = some q → q < k) :
    decodeImpl ci f (flatten par pname k n) = renderSpec ci f pname n := by
  simp only [decodeImpl, eventStream_flatten n par pname k hk, pieces_specEvents]

example : decodeImpl liveClsInfo minimalHtml (flatten (some 3) (some (ofS "script")) 7 (.tag (tg "b") [.str .navigable (ofS "<")])) =
    ofS "<b>&lt;</b>" := by decide_pstr

example : decodeNode liveClsInfo minimalHtml demo =
    ofS "<div class=\"a b\" id='x\"'><br/>a&lt;b<!--c--><script>1<2</script><p></p></div>" := by
  decide_pstr

/-- The same for `decode_contents()` (the loop runs over `descendants`, whose parent — the element itself — is
    never on the stack): the renderings of the children, concatenated. -/
theorem decode_contents_eq (ci : SCls → ClsInfo) (f : Fmt) (i : TagInfo) (kids : List Node) :
    decodeContents ci f (.tag i kids) = renderL ci f (some i.name) kids := by
  simp only [decodeContents, decodeImpl, flatten, List.tail_cons]
  rw [eventStream_flattenL kids (some 0) (some i.name) 1 (by intro q hq; cases hq; omega), pieces_specEventsL]

example : decodeContents liveClsInfo minimalHtml (.tag (tg "p") [.str .navigable (ofS "&"), .tag (tg "b") []]) =
    ofS "&amp;<b></b>" := by decide_pstr

/-! ## 2. an element with children is never rendered as an empty-element tag -/

/-- For every element with at least one child — whatever `can_be_empty_element` says, whatever the formatter's
    `void_element_close_prefix` is — `decode()` is: the open tag `<prefix:name attrs>` (no void slash), the
    renderings of the children, and the end tag `</prefix:name>`. -/
theorem never_empty_with_children (ci : SCls → ClsInfo) (f : Fmt) (i : TagInfo) (kids : List Node)
    (hk : kids ≠ []) (hh : i.hidden = false) :
    decodeNode ci f (.tag i kids) =
      (60 :: (prefixStr i ++ i.name ++ attrString f i.attrs ++ [62])) ++ renderL ci f (some i.name) kids ++
      (60 :: 47 :: (prefixStr i ++ i.name ++ [62])) := by
  rw [decode_eq_render]
  have : kids.isEmpty = false := by cases kids <;> simp_all
  simp [renderSpec, this, formatTag, hh]

/-- **For every element of every tree**: in the event stream of the whole tree an `EMPTY_ELEMENT` event — the only
    event whose piece carries the formatter's void prefix — is yielded only for an element with no contents whose
    `can_be_empty_element` is true; every other tag gets `START` and `END`, every string `STRING`. -/
theorem events_classified (t : Node) : ∀ e ∈ eventStream (flatten none none 0 t), evOK e = true := by
  rw [event_stream_eq_spec]
  exact specEvents_ok t none none 0

/-- … hence, whatever the depth: the piece `decode()` of the whole tree emits for a tag with at least one child is
    `_format_tag` *without* the void slash — `<prefix:name attrs>` for START, `</prefix:name>` for END. -/
theorem never_empty_everywhere (ci : SCls → ClsInfo) (f : Fmt) (t : Node) (e : Ev) (c : Item) (i : TagInfo) (nk : Nat)
    (he : (e, c) ∈ eventStream (flatten none none 0 t)) (hc : c.pl = .tag i nk) (hk : nk ≠ 0) :
    (e = .start ∨ e = .stop) ∧ piece ci f (e, c) = formatTag f i false (e == .start) := by
  have h := events_classified t (e, c) he
  have hnk : (nk == 0) = false := by simpa using hk
  cases e with
  | start => exact ⟨Or.inl rfl, by simp [piece, hc, Payload.isEmptyElement, hnk]⟩
  | stop => exact ⟨Or.inr rfl, by simp [piece, hc, Payload.isEmptyElement, hnk]; rfl⟩
  | empty => simp [evOK, hc, hnk] at h
  | string => simp [evOK, hc] at h

example : ∀ e ∈ eventStream (flatten none none 0 demo), evOK e = true := events_classified demo
/-- the `<script>` element of `demo` (item 4, one child): START and END pieces without a void slash -/
example : ((eventStream (flatten none none 0 demo)).map fun e => (e.1, e.2.id, e.2.pl.isEmptyElement)).contains (.start, 4, false) = true ∧
    piece liveClsInfo minimalHtml (Ev.stop, (⟨4, some 0, .tag (tg "script") 1⟩ : Item)) = ofS "</script>" := by decide_pstr

/-- the complementary case, for reference: a childless element is `<x/>` (with the formatter's prefix) exactly when
    `can_be_empty_element` is true, else `<x></x>` -/
theorem childless_forms (ci : SCls → ClsInfo) (f : Fmt) (i : TagInfo) (hh : i.hidden = false) :
    decodeNode ci f (.tag i []) =
      if i.cbe then 60 :: (prefixStr i ++ i.name ++ attrString f i.attrs ++ f.voidPrefix ++ [62])
      else (60 :: (prefixStr i ++ i.name ++ attrString f i.attrs ++ [62])) ++ (60 :: 47 :: (prefixStr i ++ i.name ++ [62])) := by
  rw [decode_eq_render]
  cases hc : i.cbe <;> simp [renderSpec, hc, formatTag, hh, renderL]

example : decodeNode liveClsInfo minimalHtml (.tag (tg "br" [] true) [.str .navigable (ofS "x")]) = ofS "<br>x</br>" := by
  decide_pstr
example : decodeNode liveClsInfo minimalHtml (.tag (tg "br" [] true) []) = ofS "<br/>" := by decide_pstr
example : decodeNode liveClsInfo minimalHtml (.tag (tg "br" [] false) []) = ofS "<br></br>" := by decide_pstr

/-! ## 3. text inside script/style is emitted verbatim -/

/-- A string whose parent's name is in the formatter's `cdata_containing_tags` is emitted unchanged (between the
    PREFIX and SUFFIX of its class) — for every substitution function. -/
theorem cdata_verbatim (ci : SCls → ClsInfo) (f : Fmt) (pn : PStr) (c : SCls) (s : PStr)
    (h : f.cdataTags.contains pn = true) :
    outputReady ci f (some pn) c s = (ci c).pre ++ s ++ (ci c).suf :=
  outputReady_cdata ci f pn c s h

/-- **For every cdata-containing element of every tree, with any children**: its contents are rendered as the
    concatenation of its children where every string child — whatever its class, whatever the substitution function —
    is emitted verbatim between its class' PREFIX and SUFFIX (element children render as usual). -/
theorem cdata_verbatim_children (ci : SCls → ClsInfo) (f : Fmt) (i : TagInfo) (kids : List Node)
    (h : f.cdataTags.contains i.name = true) :
    decodeContents ci f (.tag i kids) = kids.flatMap (rawKid ci f i.name) := by
  rw [decode_contents_eq, renderL_cdata ci f i.name h]

example : decodeContents liveClsInfo minimalHtml
    (.tag (tg "style") [.str .stylesheet (ofS "a>b{"), .str .navigable (ofS "&}"), .str .comment (ofS "<c>")]) =
    ofS "a>b{&}<!--<c>-->" := by decide_pstr

/-- every formatter of the live HTML registry (`None`, 'minimal', 'html', 'html5', 'html5-4.12') treats exactly
    `script` and `style` as cdata-containing; every XML one treats no tag so -/
theorem registry_cdata_tags :
    (∀ e ∈ htmlRegistry, e.2.cdataTags = [ofS "script", ofS "style"]) ∧ (∀ e ∈ xmlRegistry, e.2.cdataTags = []) := by
  decide_pstr

/-- On the live tables: under every formatter of the HTML registry — whatever function its substitution code
    stands for — `decode()` of a `<script>`/`<style>` element whose children are strings of a text class
    (NavigableString, Script, Stylesheet, …) is the open tag, the strings verbatim, the end tag. -/
theorem cdata_verbatim_live (g : Nat → Option (PStr → PStr)) (e : Option PStr × FmtSpec) (he : e ∈ htmlRegistry)
    (i : TagInfo) (hn : i.name = ofS "script" ∨ i.name = ofS "style") (c : SCls) (hc : isTextCls c = true) (s : PStr) :
    decodeNode liveClsInfo (mkFmt g e.2) (.tag i [.str c s]) =
      formatTag (mkFmt g e.2) i false true ++ s ++ formatTag (mkFmt g e.2) i false false := by
  rw [decode_eq_render]
  have hcd : (mkFmt g e.2).cdataTags.contains i.name = true := by
    have := registry_cdata_tags.1 e he
    simp only [mkFmt, this]
    rcases hn with hn | hn <;> rw [hn] <;> decide +kernel
  simp only [renderSpec, List.isEmpty_cons, Bool.false_and, Bool.false_eq_true, if_false, renderL, List.append_nil]
  rw [cdata_verbatim _ _ _ _ _ hcd]
  have hps : (liveClsInfo c).pre = [] ∧ (liveClsInfo c).suf = [] := by
    cases c <;> first | exact ⟨rfl, rfl⟩ | cases hc
  rw [hps.1, hps.2, List.nil_append, List.append_nil]

example : decodeNode liveClsInfo minimalHtml (.tag (tg "script") [.str .script (ofS "if (a<b && c) x='</p>'")]) =
    ofS "<script>if (a<b && c) x='</p>'</script>" := by
  decide_pstr
/-- outside script/style the same string is substituted -/
example : decodeNode liveClsInfo minimalHtml (.tag (tg "p") [.str .script (ofS "a<b")]) = ofS "<p>a&lt;b</p>" := by decide_pstr
/-- an XML formatter has no cdata-containing tags: the text of a `script` element *is* substituted there -/
example : decodeNode liveClsInfo minimalXml (.tag (tg "script") [.str .navigable (ofS "a<b")]) =
    ofS "<script>a&lt;b</script>" := by decide_pstr

/-- 'minimal' and 'html', in both registries, write the void form as `<x/>` (the form `emitR` reads back as a
    start-end event) and do not turn `""` attribute values into bare keys -/
theorem void_prefix_slash :
    ∀ e ∈ htmlRegistry ++ xmlRegistry, (e.1 = some (ofS "minimal") ∨ e.1 = some (ofS "html")) →
      e.2.voidPrefix = [47] ∧ e.2.emptyBool = false := by
  decide_pstr

/-! ## 4. the round trip, at the event level -/

/-- `Representable`: the explicit decidable predicate `representableL` (Model/Reparse.lean). It excludes: tag names
    outside `[a-z][-.a-z0-9:_]*` and attribute names outside `[a-z_:][-.a-z0-9:_]*` (the tokenizer lower-cases
    and delimits names), duplicate attribute keys, hidden elements below the root, elements whose name is void for
    the re-parsing builder but which have children, elements (or comments, …) inside script/style, `</` in
    what is written between `<script>`/`<style>` and its end tag (the concatenation of the strings), elements for which the writer's and the reader's notion of raw content differ (a prefixed
    `x:script`; `script`/`style` under an XML formatter), empty text strings, bare `PreformattedString`s, `--`/a
    trailing `-`/a leading `>` or `->` in comments, `]` or `>` in CDATA sections, `>` in processing instructions,
    declarations and doctypes. -/
abbrev Representable (p : PCfg) (f : Fmt) (ds : List Node) : Prop := representableL p f ds = true

instance (p : PCfg) (f : Fmt) (ds : List Node) : Decidable (Representable p f ds) := by
  unfold Representable; infer_instance

/-- Round trip for every representable forest, every re-parser configuration and every formatter: feeding the
    events of the rendered text to bs4's parser-side machine (start/end/start-end handling with the
    already-closed list of void elements, `endData` with the whitespace rule and the string container classes,
    `_popToTag`) builds exactly the normal form `normaliseL` — same elements in the same nesting, same attributes
    (sorted, `None` → `""`, multi-valued ones split), same text with adjacent runs merged and whitespace-only runs
    normalised once, same special strings (a newline text after a doctype; `<?…?>` strings come back as
    ProcessingInstruction) — and the already-closed list is empty again after every element, so the `<br>`/`<br/>`
    interplay of `already_closed_empty_element` is never triggered by rendered output. -/
theorem reparse_roundtrip (p : PCfg) (f : Fmt) (ds : List Node) (h : Representable p f ds) :
    build p (emitRL f ds) = normaliseL p f ds := by
  have hv := representableL_voidOkL p f ds h
  simp only [build]
  rw [run_forest p f ds _ [] [] hv]
  simp [flush_eq, closeAll, closeAllAux, normaliseL, ctxOf, rootFrame]

example : Representable livePCfg minimalHtml [demo] := by decide +kernel
example : normaliseL livePCfg minimalHtml [demo] =
    [.tag (tg "div" [(ofS "class", .list [ofS "a", ofS "b"]), (ofS "id", .str (ofS "x\""))])
      [ .tag (tg "br" [] true) [], .str .navigable (ofS "a<b"), .str .comment (ofS "c"),
        .tag (tg "script") [.str .script (ofS "1<2")], .tag (tg "p") [] ]] := by decide_pstr
/-- merging, whitespace rule, container class, doctype newline, `None` attribute, list split -/
example : normaliseL livePCfg minimalHtml
    [.str .doctype (ofS "html"), .str .navigable (ofS " "), .str .navigable (ofS "\t"),
     .tag (tg "p" [(ofS "class", .str (ofS " a  b ")), (ofS "k", .none)])
       [.str .navigable (ofS "a"), .str .navigable (ofS "b"), .tag (tg "rt") [.str .navigable (ofS "r")]],
     .str .xmlpi (ofS "x y")] =
    [.str .doctype (ofS "html"), .str .navigable (ofS "\n"),
     .tag (tg "p" [(ofS "class", .list [ofS "a", ofS "b"]), (ofS "k", .str [])])
       [.str .navigable (ofS "ab"), .tag (tg "rt") [.str .rubyText (ofS "r")]],
     .str .pi (ofS "x y?")] := by decide_pstr
/-- what `Representable` is needed for: a void element with a child is read back with the child as a sibling -/
example : build livePCfg (emitRL minimalHtml [.tag (tg "br" [] true) [.str .navigable (ofS "x")]]) =
    [.tag (tg "br" [] true) [], .str .navigable (ofS "x")] := by decide_pstr

/-- The theorem is for every builder configuration. With `empty_element_tags=set()` no name is void: a `br` with a child is
    representable and comes back with its child; with `empty_element_tags=None` every name is void (`PCfg.isVoid`), an
    element with a child is not representable and the parser returns the child as a sibling. -/
example : let p := { livePCfg with voidAll := false, voidTags := [] }
    Representable p minimalHtml [.tag (tg "br") [.str .navigable (ofS "x")]] ∧
    build p (emitRL minimalHtml [.tag (tg "br") [.str .navigable (ofS "x")]]) = [.tag (tg "br") [.str .navigable (ofS "x")]] := by
  decide_pstr
example : let p := { livePCfg with voidAll := true, voidTags := [] }
    ¬ Representable p minimalHtml [.tag (tg "p") [.str .navigable (ofS "x")]] ∧
    build p (emitRL minimalHtml [.tag (tg "p") [.str .navigable (ofS "x")]]) = [.tag (tg "p" [] true) [], .str .navigable (ofS "x")] := by
  decide_pstr

/-! ## 5. the second round trip -/

/-- **Refutation of unrestricted idempotence** (a genuine defect of the code, recorded as known finding
    `C05-doctype-newline-accumulates`): for the representable document `<!DOCTYPE html>x` the normal form is not
    a fixpoint — `Doctype.SUFFIX` adds a newline on every rendering, the parser keeps it as text, and a text that
    is not whitespace-only is never normalised back. -/
theorem doctype_text_not_fixpoint :
    ∃ ds, Representable livePCfg minimalHtml ds ∧ Representable livePCfg minimalHtml (normaliseL livePCfg minimalHtml ds) ∧
      normaliseL livePCfg minimalHtml (normaliseL livePCfg minimalHtml ds) ≠ normaliseL livePCfg minimalHtml ds :=
  ⟨[.str .doctype (ofS "html"), .str .navigable (ofS "x")], by decide +kernel, by decide +kernel, by decide +kernel⟩

/-- … whereas a doctype followed by whitespace or an element (the usual document head) is stable after one trip -/
example : let ds := [Node.str .doctype (ofS "html"), .tag (tg "p") []]
    normaliseL livePCfg minimalHtml (normaliseL livePCfg minimalHtml ds) = normaliseL livePCfg minimalHtml ds := by decide_pstr

/-- The second re-parse, for every representable forest whose normal form is representable again: it builds the
    normal form of the normal form. So the second round trip is a fixpoint exactly when `normaliseL` is idempotent
    at this forest — a decidable condition on executable definitions, evaluated by the driver on every case of the
    correspondence run (field `norm2`) next to the real second re-parse. -/
theorem second_roundtrip (p : PCfg) (f : Fmt) (ds : List Node) (h : Representable p f ds)
    (h2 : Representable p f (normaliseL p f ds)) :
    build p (emitRL f (build p (emitRL f ds))) = normaliseL p f (normaliseL p f ds) := by
  rw [reparse_roundtrip p f ds h, reparse_roundtrip p f _ h2]

theorem second_roundtrip_fixpoint_iff (p : PCfg) (f : Fmt) (ds : List Node) (h : Representable p f ds)
    (h2 : Representable p f (normaliseL p f ds)) :
    build p (emitRL f (build p (emitRL f ds))) = build p (emitRL f ds) ↔
      normaliseL p f (normaliseL p f ds) = normaliseL p f ds := by
  rw [second_roundtrip p f ds h h2, reparse_roundtrip p f ds h]

example : let ds := [demo]
    Representable livePCfg minimalHtml ds ∧ Representable livePCfg minimalHtml (normaliseL livePCfg minimalHtml ds) ∧
    normaliseL livePCfg minimalHtml (normaliseL livePCfg minimalHtml ds) = normaliseL livePCfg minimalHtml ds := by decide +kernel

/-- "whitespace-only runs normalise once": the whitespace rule of `endData` is idempotent, for every configuration -/
theorem wsRule_idem (p : PCfg) (pres : Bool) (s : PStr) : wsRule p pres (wsRule p pres s) = wsRule p pres s :=
  BS.Render.wsRule_idem p pres s

example : wsRule livePCfg false (ofS " \t\n ") = ofS "\n" ∧ wsRule livePCfg true (ofS " \t\n ") = ofS " \t\n " ∧
    wsRule livePCfg false [] = ofS " " := by decide_pstr

/-- "adjacent text runs merge": however the tokenizer chunks a run of character data (at `&`, at buffer
    boundaries), `endData` produces the same string object -/
theorem txt_chunking (p : PCfg) (ctx : Ctx) (b : List PStr) (x y : PStr) :
    txt p ctx (b ++ [x, y]) = txt p ctx (b ++ [x ++ y]) := by
  have hc : concatL (b ++ [x, y]) = concatL (b ++ [x ++ y]) := by
    rw [List.append_cons b x [y], concatL_snoc, concatL_snoc, concatL_snoc, List.append_assoc]
  cases b with
  | nil => simp [txt, concatL]
  | cons a b => simp only [List.cons_append, txt] at hc ⊢; rw [hc]

/-! ## 6. idempotence of the normal form -/

/-- `DoctypeStable`: no doctype of the forest is followed by text that is not ASCII whitespace, and none stands inside
    a preserve-whitespace element (`<pre>`, `<textarea>`) — exactly the inputs outside known finding
    `C05-doctype-newline-accumulates` (`normalise_idem_iff`). Explicit and decidable (`dstableL`, Model/Reparse.lean). -/
abbrev DoctypeStable (p : PCfg) (ds : List Node) : Prop := dstableL p (ctxOf p [rootFrame]) false ds = true

/-- the hypotheses on the builder configuration: string containers are text classes, the newline is in ASCII_SPACES,
    the space is a `\s` character — all true of the live configuration (`live_config_ok`) -/
abbrev ConfigOK (p : PCfg) : Prop :=
  contOK p = true ∧ p.asciiSpaces.contains 10 = true ∧ p.reSpace.contains 32 = true

theorem live_config_ok : ConfigOK livePCfg := by decide +kernel

/-- The attribute part, for **every** attribute list (duplicate keys, `None`, list values, any order), tag name and
    formatter: sorted by key, folded as a dict, `None` → `""`, multi-valued ones split — and doing it again changes
    nothing (`sortAttrs` leaves strictly sorted keys alone; distinct keys are not folded;
    `findall(" ".join(findall(v))) = findall(v)`). -/
theorem normAttrs_idem (p : PCfg) (h32 : p.reSpace.contains 32 = true) (f : Fmt) (nm : PStr) (a : List (PStr × AVal)) :
    normAttrs p f nm (normAttrs p f nm a) = normAttrs p f nm a :=
  BS.Render.normAttrs_idem p h32 f nm a

example : normAttrs livePCfg minimalHtml (ofS "a")
    [(ofS "rel", .str (ofS " x  y ")), (ofS "id", .none), (ofS "class", .list [ofS "p q", ofS "r"]), (ofS "id", .str (ofS "z"))] =
    [(ofS "class", .list [ofS "p", ofS "q", ofS "r"]), (ofS "id", .str []), (ofS "rel", .list [ofS "x", ofS "y"])] := by decide_pstr

/-- **A second round trip changes nothing.** For every forest — representable or not —, every formatter and every
    builder configuration satisfying `ConfigOK`: if the forest is `DoctypeStable`, the documented normal form is a
    fixpoint of the normalisation. Proof: the second normalisation is run in lockstep with the first (`reabsorbL`):
    the text node the first pass flushes is taken up unchanged by the second, special strings and elements are re-read
    as themselves (attributes by `normAttrs_idem`), and the newline a doctype leaves behind meets exactly the `"\n"`
    it produced the first time. Without `DoctypeStable` the statement is false (`doctype_text_not_fixpoint`): that
    hypothesis is the exact shape of known finding `C05-doctype-newline-accumulates`, not a gap of the proof. -/
theorem normalise_idem (p : PCfg) (f : Fmt) (hp : ConfigOK p) (ds : List Node) (hs : DoctypeStable p ds) :
    normaliseL p f (normaliseL p f ds) = normaliseL p f ds :=
  normaliseL_idem_all p f hp.1 hp.2.1 hp.2.2 ds hs

/-- **… and only then.** For every forest that is *not* `DoctypeStable` the second normalisation differs from the
    first: the total length of the character data grows by exactly the number of doctypes whose newline is not
    absorbed (`tlen_second`, the lockstep of `normalise_idem` run as a count), and an unstable forest has at least one
    (`grow_unstable`). -/
theorem normalise_not_idem (p : PCfg) (f : Fmt) (hp : ConfigOK p) (ds : List Node) (hs : ¬ DoctypeStable p ds) :
    normaliseL p f (normaliseL p f ds) ≠ normaliseL p f ds :=
  normaliseL_not_idem p f hp.1 hp.2.1 ds (by simpa using hs)

/-- **Complete characterisation of "a second round trip changes nothing"**: for every forest of the model, every
    formatter and every configuration satisfying `ConfigOK` (the live one does), the documented normal form is a
    fixpoint **iff** the forest is `DoctypeStable` — the explicit decidable predicate "no doctype is followed by visible
    text or stands inside `<pre>`/`<textarea>`". What lies outside is exactly known finding
    `C05-doctype-newline-accumulates`. -/
theorem normalise_idem_iff (p : PCfg) (f : Fmt) (hp : ConfigOK p) (ds : List Node) :
    normaliseL p f (normaliseL p f ds) = normaliseL p f ds ↔ DoctypeStable p ds := by
  constructor
  · intro h
    cases hd : dstableL p (ctxOf p [rootFrame]) false ds with
    | true => exact hd
    | false => exact absurd h (normaliseL_not_idem p f hp.1 hp.2.1 ds hd)
  · exact normalise_idem p f hp ds

/-- the length of the character data after the second normalisation, exactly -/
theorem second_normalisation_growth (p : PCfg) (f : Fmt) (hp : ConfigOK p) (ds : List Node) :
    tlenL (normaliseL p f (normaliseL p f ds)) = tlenL (normaliseL p f ds) + grow p (ctxOf p [rootFrame]) ds :=
  tlen_second p f hp.1 hp.2.1 ds

example : grow livePCfg (ctxOf livePCfg [rootFrame])
    [.str .doctype (ofS "html"), .str .navigable (ofS "x"), .tag (tg "pre") [.str .doctype (ofS "y")], .str .doctype (ofS "z")] = 2 := by
  decide_pstr

/-- in particular: every forest without a doctype, under the live configuration and any formatter -/
theorem normalise_idem_live_no_doctype (f : Fmt) (ds : List Node) (h : DoctypeStable livePCfg ds) :
    normaliseL livePCfg f (normaliseL livePCfg f ds) = normaliseL livePCfg f ds :=
  normalise_idem livePCfg f live_config_ok ds h

/-- doctype followed by whitespace and an element, text to merge, a `<pre>`, special strings, multi-valued attribute -/
def demo2 : List Node :=
  [.str .doctype (ofS "html"), .str .navigable (ofS " "), .str .navigable (ofS "\t"),
   .tag (tg "p" [(ofS "class", .str (ofS " a  b ")), (ofS "k", .none)])
     [.str .navigable (ofS "a"), .str .navigable (ofS "b"), .tag (tg "rt") [.str .navigable (ofS "r")],
      .tag (tg "pre") [.str .navigable (ofS " \n ")], .str .comment (ofS " "), .str .navigable (ofS " ")],
   .str .xmlpi (ofS "x y"), .str .declaration (ofS "if IE")]

example : DoctypeStable livePCfg demo2 ∧ Representable livePCfg minimalHtml demo2 := by decide +kernel
example : normaliseL livePCfg minimalHtml (normaliseL livePCfg minimalHtml demo2) = normaliseL livePCfg minimalHtml demo2 :=
  normalise_idem _ _ live_config_ok _ (by decide +kernel)
/-- the witness of the refutation is excluded by `DoctypeStable` -/
example : ¬ DoctypeStable livePCfg [.str .doctype (ofS "html"), .str .navigable (ofS "x")] := by decide_pstr

/-- **Parse-then-render is idempotent**, at the event level: for every representable, doctype-stable forest whose
    normal form is representable again, the second re-parse builds the same forest as the first. -/
theorem second_roundtrip_fixpoint (p : PCfg) (f : Fmt) (hp : ConfigOK p)
    (ds : List Node) (h : Representable p f ds) (h2 : Representable p f (normaliseL p f ds))
    (hs : DoctypeStable p ds) :
    build p (emitRL f (build p (emitRL f ds))) = build p (emitRL f ds) :=
  (second_roundtrip_fixpoint_iff p f ds h h2).mpr (normalise_idem p f hp ds hs)

example : Representable livePCfg minimalHtml (normaliseL livePCfg minimalHtml demo2) := by decide +kernel

/-- The normal form of a representable forest is representable again — for every configuration whose string
    containers are text classes and every formatter that agrees with the re-parser on the raw-content elements or has
    none (`CdataAgree`; true of every formatter of both live registries: `registry_cdata_agree`). -/
theorem representable_normal_form (p : PCfg) (f : Fmt) (hc : contOK p = true) (hcd : CdataAgree p f) (ds : List Node)
    (h : Representable p f ds) : Representable p f (normaliseL p f ds) :=
  representable_normalise p f hc hcd ds h

theorem registry_cdata_agree :
    ∀ x, (∀ e ∈ registryOf x, e.2.cdataTags = livePCfg.cdataElems ∨ e.2.cdataTags = []) ∧
      ((ctorDefaults x).cdataTags = livePCfg.cdataElems ∨ (ctorDefaults x).cdataTags = []) := by decide +kernel

/-- **Parse-then-render is idempotent** (event level), with no hypothesis about the intermediate tree: for every
    representable, doctype-stable forest the second re-parse builds the same forest as the first — hence its rendering,
    a function of the forest, is the same text. -/
theorem parse_render_idempotent (p : PCfg) (f : Fmt) (hp : ConfigOK p) (hcd : CdataAgree p f) (ds : List Node)
    (h : Representable p f ds) (hs : DoctypeStable p ds) :
    build p (emitRL f (build p (emitRL f ds))) = build p (emitRL f ds) :=
  second_roundtrip_fixpoint p f hp ds h (representable_normal_form p f hp.1 hcd ds h) hs

example : CdataAgree livePCfg minimalHtml ∧ CdataAgree livePCfg minimalXml := ⟨Or.inl (by decide +kernel), Or.inr rfl⟩
example : build livePCfg (emitRL minimalHtml (build livePCfg (emitRL minimalHtml demo2))) = build livePCfg (emitRL minimalHtml demo2) :=
  parse_render_idempotent _ _ live_config_ok (Or.inl (by decide +kernel)) _ (by decide +kernel) (by decide +kernel)

/-! ## 7. which formatter `decode` uses; the XML flavour -/

/-- the live environment of `formatter_for_name`: both registries, the constructor defaults for a callable, and the
    registered substitution functions (`substitute_xml` from this model, `substitute_html`/`substitute_html5` from
    C09's model over the generated entity tables) -/
def liveEnv : FmtEnv :=
  ⟨registryOf, ctorDefaults,
   fun k => if k = 0 then none else if k = 1 then some substXml
            else if k = 2 then some (BS.Entities.substHtml BS.Gen.C09.htmlTable)
            else some (BS.Entities.substHtml5 BS.Gen.C09.htmlTable)⟩

/-- `_is_xml` walks up the parent chain to the first `known_xml` that is not `None`; a root without one answers with
    its `is_xml` attribute (default False) -/
theorem isXml_eq_spec (r : Bool) (chain : List (Option Bool)) : isXmlImpl r chain = isXmlSpec r chain := by
  induction chain with
  | nil => rfl
  | cons a as ih =>
    cases a with
    | none => simpa [isXmlImpl, isXmlSpec, List.find?] using ih
    | some b => simp [isXmlImpl, isXmlSpec, List.find?]

example : isXmlImpl false [none, none, some true, some false] = true ∧ isXmlImpl true [none, none] = true ∧
    isXmlImpl true [some false, some true] = false := by decide +kernel

/-- Whole-registry facts, both flavours (`x` = `_is_xml`): 'minimal' is `substitute_xml`, 'html' is
    `substitute_html`, both write `<x/>` and keep `""` attribute values; HTML formatters treat script/style as
    cdata-containing, XML formatters no tag; 'html5' and 'html5-4.12' exist for HTML only. -/
theorem registry_lookup_live :
    (∀ x, lookupReg (registryOf x) (some (ofS "minimal")) = some ⟨1, [47], if x then [] else htmlCdataTags, false⟩) ∧
    (∀ x, lookupReg (registryOf x) (some (ofS "html")) = some ⟨2, [47], if x then [] else htmlCdataTags, false⟩) ∧
    (∀ x, lookupReg (registryOf x) none = some ⟨0, [47], if x then [] else htmlCdataTags, false⟩) ∧
    lookupReg (registryOf false) (some (ofS "html5")) = some ⟨3, [], htmlCdataTags, true⟩ ∧
    lookupReg (registryOf true) (some (ofS "html5")) = none ∧
    (∀ x, (ctorDefaults x).voidPrefix = [47] ∧ (ctorDefaults x).emptyBool = false ∧
          (ctorDefaults x).cdataTags = if x then [] else htmlCdataTags) := by decide_pstr

/-- A callable becomes the substitution function of a fresh formatter of the element's flavour, with that flavour's
    defaults. -/
theorem formatter_for_callable (x : Bool) (g : PStr → PStr) :
    ∃ f, formatterForName liveEnv x (.fn g) = .ok f ∧ f.voidPrefix = [47] ∧ f.emptyBool = false ∧
      f.cdataTags = (if x then [] else htmlCdataTags) ∧ ∃ g', f.subst = some g' ∧ ∀ s, g' s = g s := by
  cases x <;> exact ⟨_, rfl, rfl, rfl, rfl, g, rfl, fun _ => rfl⟩

/-- An unknown registry key — 'html5' on an XML-flavoured element, for one — is a `KeyError`, not a silent default. -/
theorem decode_keyerror (ci : SCls → ClsInfo) (r : Bool) (chain : List (Option Bool)) (k : Option PStr) (n : Node)
    (h : lookupReg (liveEnv.registry (isXmlImpl r chain)) k = none) :
    decodeTop ci liveEnv r chain (.name k) n = none := by
  simp [decodeTop, formatterForName, h]

example : decodeTop liveClsInfo liveEnv false [some true] (.name (some (ofS "html5"))) demo = none := by decide_pstr
example : decodeTop liveClsInfo liveEnv false [none, some true] (.name (some (ofS "minimal")))
    (.tag (tg "script" [] true) []) = some (ofS "<script/>") := by decide_pstr

/-- `str(el)` / `repr(el)` = `decode()` with the default key 'minimal': it exists in both registries, so `str()` never
    raises, whatever the flavour the parent chain decides -/
theorem str_never_keyerror (ci : SCls → ClsInfo) (r : Bool) (chain : List (Option Bool)) (n : Node) :
    (decodeTop ci liveEnv r chain (.name (some (ofS "minimal"))) n).isSome = true := by
  rw [decodeTop, formatterForName_name liveEnv _ _ _ (registry_lookup_live.1 _)]
  rfl

/-- `decode(formatter=…)` end to end: the resolved formatter, then the structural rendering. -/
theorem decodeTop_eq (ci : SCls → ClsInfo) (e : FmtEnv) (r : Bool) (chain : List (Option Bool)) (a : FmtArg) (n : Node) :
    decodeTop ci e r chain a n =
      match formatterForName e (isXmlSpec r chain) a with
      | .ok f => some (renderSpec ci f none n)
      | .keyError => none := by
  simp only [decodeTop, isXml_eq_spec]
  cases formatterForName e (isXmlSpec r chain) a <;> simp [decode_eq_render]

/-- **XML flavour**: a formatter without cdata-containing tags — every formatter of the XML registry and every
    callable on an XML-flavoured element (`registry_lookup_live`, `registry_cdata_tags`) — substitutes every string of
    a text class wherever it stands, `script`/`style` included. -/
theorem xml_substitutes_everywhere (ci : SCls → ClsInfo) (f : Fmt) (g : PStr → PStr) (hf : f.subst = some g)
    (hc : f.cdataTags = []) (pn : Option PStr) (c : SCls) (s : PStr) (hp : (ci c).preformatted = false) :
    outputReady ci f pn c s = (ci c).pre ++ g s ++ (ci c).suf := by
  cases pn <;> simp [outputReady, substitute, hf, hc, hp]

example : decodeTop liveClsInfo liveEnv false [some true] (.name (some (ofS "minimal")))
    (.tag (tg "script") [.str .navigable (ofS "a<b")]) = some (ofS "<script>a&lt;b</script>") := by decide_pstr
example : outputReady liveClsInfo minimalXml (some (ofS "script")) .navigable (ofS "a<b") = [] ++ substXml (ofS "a<b") ++ [] :=
  xml_substitutes_everywhere liveClsInfo minimalXml substXml rfl rfl (some (ofS "script")) .navigable (ofS "a<b") rfl

/-! ## 8. the generated class table is the markup the re-parse model presupposes (whole table) -/

/-- For all 13 string classes: `PREFIX`, `SUFFIX` and the kind of `output_ready` of the live class are those `strKind`
    / `emitStr` are written for — a changed prefix or suffix breaks this obligation by name. -/
theorem class_table_live : ∀ c, liveClsInfo c = assumedMarkup c := by
  intro c; cases c <;> decide +kernel

/-! ## 9. the round trip through C09's readers: 'minimal' and 'html' at full strength -/

/-- this model's `substitute_xml` and `quoted_attribute_value` are C09's (over the live `CHARACTER_TO_XML_ENTITY`) -/
theorem subst_quote_are_c09 :
    (∀ s, substXml s = BS.Entities.substXml BS.Gen.C09.xmlTable s) ∧ (∀ v, quoteAttr v = BS.Entities.quoteAttr v) :=
  ⟨substXml_eq_c09, quoteAttr_eq_c09⟩

/-- C09's readers: `readText` = html.parser (convert_charrefs=False) + bs4's handle_entityref/handle_charref on tag-free
    character data; `readAttr` = quote stripping + `html.unescape` — over the generated entity tables -/
def c09Reader (late : Bool) : Reader :=
  ⟨BS.Reader.readText BS.Gen.C09.htmlTable late 0, BS.Reader.readAttr BS.Gen.C09.htmlTable⟩

/-- `substitute_xml` is undone by the readers, for every string (C09, over the live tables) -/
theorem minimal_reader_laws (late : Bool) (vp : PStr) (cd : List PStr) (eb : Bool) :
    ReaderLaws (c09Reader late) ⟨some substXml, vp, cd, eb⟩ :=
  have hcovAmp := BS.Entities.xml_covers.1
  ⟨substXml, rfl,
   fun s => by
    rw [substXml_eq_c09]
    exact BS.Entities.roundtrip_covered (BS.Entities.reads_text _ late) (BS.Entities.repOK_xml BS.Entities.xmlOK_xmlTable)
      hcovAmp s,
   fun v => by
    rw [substXml_eq_c09, quoteAttr_eq_c09]
    exact BS.Entities.attr_roundtrip_covered (BS.Entities.repOK_xml BS.Entities.xmlOK_xmlTable) hcovAmp
      (BS.Entities.tblOK_quot BS.Entities.tblOK_htmlTable) v⟩

/-- `substitute_html` is undone by the readers, for every string (C09, over the live tables) -/
theorem html_reader_laws (late : Bool) (vp : PStr) (cd : List PStr) (eb : Bool) :
    ReaderLaws (c09Reader late) ⟨some (BS.Entities.substHtml BS.Gen.C09.htmlTable), vp, cd, eb⟩ :=
  have h := BS.Entities.tblOK_amp BS.Entities.tblOK_htmlTable
  have hrepOK := h.1
  have hcovAmp := h.2.2.2.2
  ⟨_, rfl,
   fun s => BS.Entities.roundtrip_covered (BS.Entities.reads_text _ late) hrepOK hcovAmp s,
   fun v => by
    rw [quoteAttr_eq_c09]
    exact BS.Entities.attr_roundtrip_covered hrepOK hcovAmp (BS.Entities.tblOK_quot BS.Entities.tblOK_htmlTable) v⟩

/-- Round trip with the written text read back character by character: for every reader and formatter satisfying the
    reader laws, every configuration and every representable forest, the events the readers produce from what
    `output_ready` / `_format_tag` wrote are `emitR`, and the machine builds the normal form. -/
theorem reparse_roundtrip_rd (p : PCfg) (rd : Reader) (f : Fmt) (hl : ReaderLaws rd f) (ds : List Node)
    (h : Representable p f ds) :
    build p (emitRdL p rd f none false ds) = normaliseL p f ds := by
  rw [emitRdL_eq p rd f hl ds none rfl h]
  exact reparse_roundtrip p f ds h

/-- **'minimal' and 'html', HTML and XML flavour, unconditionally**: whichever of the four registered formatters
    `formatter_for_name` resolves to, the reader laws hold (C09's theorems over the live entity tables), hence for every
    representable forest the re-parse of the rendered text — substituted, quoted, read back through the models of the
    tokenizer's character-data and attribute-value handling — builds the normal form. -/
theorem reparse_roundtrip_registry (x late : Bool) (k : PStr) (hk : k = ofS "minimal" ∨ k = ofS "html") :
    ∃ f, formatterForName liveEnv x (.name (some k)) = .ok f ∧ ReaderLaws (c09Reader late) f ∧
      ∀ ds, Representable livePCfg f ds →
        build livePCfg (emitRdL livePCfg (c09Reader late) f none false ds) = normaliseL livePCfg f ds := by
  obtain ⟨hminimal, hhtml, -⟩ := registry_lookup_live
  rcases hk with rfl | rfl
  · exact ⟨_, formatterForName_name liveEnv x _ _ (hminimal x), minimal_reader_laws late _ _ _,
      reparse_roundtrip_rd _ _ _ (minimal_reader_laws late _ _ _)⟩
  · exact ⟨_, formatterForName_name liveEnv x _ _ (hhtml x), html_reader_laws late _ _ _,
      reparse_roundtrip_rd _ _ _ (html_reader_laws late _ _ _)⟩

/-- the written form really is read back: `a<b` under `<p>`, `1<2` raw under `<script>`, a value with both quotes -/
example : emitRdL livePCfg (c09Reader false) minimalHtml none false [demo] = emitRL minimalHtml [demo] :=
  emitRdL_eq _ _ _ (minimal_reader_laws false _ _ _) _ none rfl (by decide +kernel)

/-! ## 10. "the same elements, attributes, text and special strings": laws of the normal form

`normaliseL` is defined as what the parser-side machine absorbs; these theorems say what that is, for **every** forest
(no `Representable` needed). -/

/-- **Same elements**: the normal form has exactly the elements of the forest (under the name `prefix:name` a re-parse
    reads), in the same nesting and order. -/
theorem same_elements (p : PCfg) (f : Fmt) (ds : List Node) : skelL (normaliseL p f ds) = skelL ds :=
  skel_normalise p f ds

/-- **Same attributes**: for the attributes of a dict (distinct keys): the same keys, sorted; each value is the text it
    was written as (`None` → `""`, a list joined with spaces), split on whitespace again if the attribute is
    multi-valued for the tag. -/
theorem same_attributes (p : PCfg) (f : Fmt) (nm : PStr) (a : List (PStr × AVal)) (hn : keysNodup (a.map (·.1)) = true) :
    normAttrs p f nm a = (sortAttrs a).map (normVal p nm) :=
  normAttrs_spec p f nm a hn

example : keysNodup ([(ofS "id", AVal.none), (ofS "class", .list [ofS "a b", ofS "c"])].map (·.1)) = true := by decide_pstr

/-- **Same text**: every character of the character data that is not ASCII whitespace survives, in document order,
    across the whole forest — what the normalisation may change is whitespace only (whitespace-only runs collapse,
    a newline appears after a doctype), and which runs are one string (adjacent runs merge: `txt_chunking`). -/
theorem same_text (p : PCfg) (f : Fmt) (hp : contOK p = true ∧ p.asciiSpaces.contains 10 = true ∧ p.asciiSpaces.contains 32 = true)
    (ds : List Node) : inkL p (normaliseL p f ds) = inkL p ds :=
  ink_normalise p f hp.1 hp.2.1 hp.2.2 ds

example : contOK livePCfg = true ∧ livePCfg.asciiSpaces.contains 10 = true ∧ livePCfg.asciiSpaces.contains 32 = true := by decide +kernel
example : inkL livePCfg demo2 = ofS "abr" := by decide_pstr

/-- **Same special strings**: class by class (as a re-parse classifies them: comments, CDATA sections, processing
    instructions — `<?…?>` strings with their `?` —, doctypes), in document order, with their content; the content is
    changed only if it is whitespace-only (`wsRule_cases`), by the whitespace rule of its context, once (`wsRule_idem`). -/
theorem same_specials (p : PCfg) (f : Fmt) (hc : contOK p = true) (ds : List Node) :
    specL (normaliseL p f ds) = specCtxL p (ctxOf p [rootFrame]) ds :=
  spec_normalise p f hc ds

example : specL (normaliseL livePCfg minimalHtml demo2) =
    [(.doctype, ofS "html"), (.comment, ofS " "), (.pi, ofS "x y?"), (.pi, ofS "if IE?")] := by decide_pstr

/-- the whitespace rule changes a string only if it is whitespace-only, and then into `"\n"` or `" "` -/
theorem wsRule_only_whitespace (p : PCfg) (pres : Bool) (s : PStr) :
    wsRule p pres s = s ∨ (s.all (fun c => p.asciiSpaces.contains c) = true ∧ (wsRule p pres s = [10] ∨ wsRule p pres s = [32])) :=
  wsRule_cases p pres s


/-! ## 11. `output_ready` called directly; `Doctype.for_name_and_ids` -/

/-- `string.output_ready(None)`: PREFIX + the string as it stands + SUFFIX — no substitution at all, whatever the
    class and the parent. -/
theorem output_ready_none (ci : SCls → ClsInfo) (e : FmtEnv) (r : Bool) (ch : List (Option Bool)) (pn : Option PStr)
    (c : SCls) (s : PStr) : strOutputReady ci e r ch none pn c s = some ((ci c).pre ++ s ++ (ci c).suf) := rfl

/-- `string.output_ready(arg)` with an argument that resolves (by the string's own flavour, decided up its parent
    chain) to the formatter `f`: exactly what `decode()` emits for that string under `f`. -/
theorem output_ready_resolved (ci : SCls → ClsInfo) (e : FmtEnv) (r : Bool) (ch : List (Option Bool)) (a : FmtArg) (f : Fmt)
    (h : formatterForName e (isXmlSpec r ch) a = .ok f) (pn : Option PStr) (c : SCls) (s : PStr) :
    strOutputReady ci e r ch (some a) pn c s = some (outputReady ci f pn c s) := by
  simp only [strOutputReady, isXml_eq_spec, h, outputReady]

/-- an unknown registry key raises `KeyError` for every class — the preformatted ones included, although they ignore the
    formatter's result -/
theorem output_ready_keyerror (ci : SCls → ClsInfo) (e : FmtEnv) (r : Bool) (ch : List (Option Bool)) (k : Option PStr)
    (h : lookupReg (e.registry (isXmlImpl r ch)) k = none) (pn : Option PStr) (c : SCls) (s : PStr) :
    strOutputReady ci e r ch (some (.name k)) pn c s = none := by
  simp [strOutputReady, formatterForName, h]

example : strOutputReady liveClsInfo liveEnv false [none, some false] (some (.name (some (ofS "nosuch")))) none .comment (ofS "c") = none ∧
    strOutputReady liveClsInfo liveEnv false [none, some false] (some (.name (some (ofS "minimal")))) (some (ofS "p")) .navigable (ofS "a<") =
      some (ofS "a&lt;") ∧
    strOutputReady liveClsInfo liveEnv false [none] none (some (ofS "p")) .navigable (ofS "a<") = some (ofS "a<") := by decide_pstr

/-- A doctype made by `Doctype.for_name_and_ids` renders as `<!DOCTYPE ` + its string + `>\n` under every formatter
    (class table), and if neither the name nor the identifiers contain `>` it is representable: it comes back as the
    same doctype (`reparse_roundtrip`, `same_specials`). -/
theorem doctype_for_ids (f : Fmt) (pn : Option PStr) (name pub sys : Option PStr)
    (hn : 62 ∉ name.getD []) (hp : 62 ∉ pub.getD []) (hs : 62 ∉ sys.getD []) :
    outputReady liveClsInfo f pn .doctype (doctypeString name pub sys) =
        ofS "<!DOCTYPE " ++ doctypeString name pub sys ++ ofS ">\n" ∧
      okStr .doctype (doctypeString name pub sys) = true := by
  refine ⟨rfl, ?_⟩
  have h62 : 62 ∉ doctypeString name pub sys := by
    cases pub <;> cases sys <;> simp_all [doctypeString]
  simpa [okStr] using h62

example : okStr .doctype (doctypeString (some (ofS "html")) none (some (ofS "x.dtd"))) = true :=
  (doctype_for_ids minimalHtml none (some (ofS "html")) none (some (ofS "x.dtd")) (by decide +kernel) (by decide +kernel) (by decide +kernel)).2

example : doctypeString (some (ofS "html")) (some (ofS "-//W3C//DTD HTML 4.01//EN")) (some (ofS "x.dtd")) =
    ofS "html PUBLIC \"-//W3C//DTD HTML 4.01//EN\" \"x.dtd\"" ∧
    doctypeString none none (some (ofS "x.dtd")) = ofS " SYSTEM \"x.dtd\"" ∧ doctypeString (some (ofS "html")) none none = ofS "html" := by
  decide_pstr


/-! ## 12. the rendered text through the tokenizer MODEL (C04's `parse_of_written_document`)

`reparse_roundtrip` is about `emitR`, the callback stream the tokenizer is *assumed* to produce for the rendered text
(compared with the real tokenizer per case). On the class `RenderWritable` the assumption is discharged: the rendered
text is literally a text C04's writer writes, and C04 proves what the code-mirror of CPython's tokenizer
(`Model/Tokenizer.lean`, tied to the real parser by equality of callback streams) makes of such a text. -/

/-- `RenderWritable`: decidable. `renderWritableL` (Model/RenderWritten.lean: no hidden element; void names written
    `<br/>`; no `<x/>` for other names; element names not cdata-containing for the formatter; attribute values without
    `<`, `>` and not "a `"` but no `'`"; no bare PreformattedString) together with C04's `Writable` (names
    `[a-z][-.:_a-z0-9]*`, no script/style, comments without `>` or without `-`, no `>` in CDATA/doctype/PI) and
    `Representable` (no element named `[document]`, void elements childless) on the written document `toWDocL f ds`. -/
abbrev RenderWritable (bcfg : BS.Builder.Cfg) (acfg : BS.Adapter.ACfg) (f : Fmt) (ds : List Node) : Prop :=
  renderWritableL acfg.isVoid f ds = true ∧
  BS.WriterText.Writable acfg.isVoid (BS.WriterMin.minimalChoices (toWDocL f ds)) (toWDocL f ds) ∧
  BS.Writer.Representable bcfg acfg (toWDocL f ds)

/-- **The rendering IS a written document.** For every formatter that substitutes with `substitute_xml`, writes `<x/>`
    and keeps `""` values ('minimal', both flavours: `minimal_is_minimal`), the class table of the live classes, and
    every forest in `renderWritableL`: `decode()`'s text equals, character for character, the text C04's writer writes
    for the document `toWDocL f ds` under the explicit choices `minimalChoices` — every void element `<br/>`; `&`, `<`,
    `>` as `&amp;`, `&lt;`, `&gt;` and every other character literally; `DOCTYPE`/`CDATA` in upper case; attributes in
    the renderer's (sorted) order, double-quoted with `&amp;`/`&quot;`. -/
theorem render_is_written (ci : SCls → ClsInfo) (hci : ∀ c, ci c = assumedMarkup c) (f : Fmt) (hf : IsMinimal f)
    (iv : PStr → Bool) (ds : List Node) (h : renderWritableL iv f ds = true) :
    renderL ci f none ds =
      BS.WriterText.writeText iv (BS.WriterMin.minimalChoices (toWDocL f ds)) (toWDocL f ds) := by
  rw [BS.WriterMin.writeText_minimal, renderL_eq_wrenderL ci hci f hf iv ds none rfl h]

theorem minimal_is_minimal : IsMinimal minimalHtml ∧ IsMinimal minimalXml := ⟨⟨rfl, rfl, rfl⟩, ⟨rfl, rfl, rfl⟩⟩

/-- **`reparse_roundtrip_tokenized`** — parse(render(t)) through the tokenizer model. For every builder and adapter
    configuration (`CfgOK`; the three references `&amp; &lt; &gt;` mean `& < >`: `EntOK`), every `str.lower` /
    `html.unescape` satisfying `ParamsOK`, and every `RenderWritable` forest: the rendered text, tokenized as
    `feed(text); close()` does (model of CPython's tokenizer), its callbacks handed to `BeautifulSoupHTMLParser` and the
    construction machine, gives the normal form of the written document, and `Tag.__init__` receives the attributes of
    the start tags in document order with the positions of their `<` in the rendered text. -/
theorem reparse_roundtrip_tokenized (bcfg : BS.Builder.Cfg) (acfg : BS.Adapter.ACfg) (hc : BS.Builder.CfgOK bcfg)
    (P : BS.Tokenizer.Params) (hP : BS.WriterText.ParamsOK P) (he : BS.WriterMin.EntOK acfg)
    (ci : SCls → ClsInfo) (hci : ∀ c, ci c = assumedMarkup c) (f : Fmt) (hf : IsMinimal f) (ds : List Node)
    (h : RenderWritable bcfg acfg f ds) :
    BS.Adapter.adapterBuild bcfg acfg (BS.Tokenizer.callbacks (BS.Tokenizer.run P (renderL ci f none ds))) =
      (BS.Writer.normalise bcfg (toWDocL f ds),
       BS.Writer.startInfos acfg (BS.WriterText.withDerivedPos acfg.isVoid (BS.WriterMin.minimalChoices (toWDocL f ds)) (toWDocL f ds))
         (toWDocL f ds)) := by
  rw [render_is_written ci hci f hf acfg.isVoid ds h.1]
  exact BS.Props.C04.parse_of_written_document bcfg acfg hc P hP _ _ h.2.1 h.2.2
    (BS.WriterMin.wellSpelt_minimal acfg he _)

/-- … and the tokenizer model makes of the rendered text exactly the callbacks of the written document, without error
    and consuming the whole text (up to the chunking of character data) — the link between the assumed stream and the
    modelled tokenizer. -/
theorem rendered_text_callbacks (P : BS.Tokenizer.Params) (hP : BS.WriterText.ParamsOK P) (iv : PStr → Bool)
    (ci : SCls → ClsInfo) (hci : ∀ c, ci c = assumedMarkup c) (f : Fmt) (hf : IsMinimal f) (ds : List Node)
    (h : renderWritableL iv f ds = true)
    (hw : BS.WriterText.Writable iv (BS.WriterMin.minimalChoices (toWDocL f ds)) (toWDocL f ds)) :
    BS.WriterText.mergeData (BS.Tokenizer.callbacks (BS.Tokenizer.run P (renderL ci f none ds))) =
        BS.WriterText.mergeData (BS.Writer.emitDoc iv
          (BS.WriterText.withDerivedPos iv (BS.WriterMin.minimalChoices (toWDocL f ds)) (toWDocL f ds)) (toWDocL f ds)) ∧
      (BS.Tokenizer.run P (renderL ci f none ds)).flag = .ok ∧ (BS.Tokenizer.run P (renderL ci f none ds)).st.s = [] := by
  rw [render_is_written ci hci f hf iv ds h]
  exact BS.Props.C04.callbacks_of_written_document P hP iv _ _ hw


/-- **C04's `normalise` of the written document is this model's `normaliseL`**, for every forest (no hypothesis): as
    trees of the builder model (`toDocL`: names, nesting, strings with their classes; attributes are reported by C04
    separately as `startInfos`), with the builder configuration read off `PCfg` (`bcfgOf`) and any numbering of the
    classes that agrees with the adapter's ids of the special ones. -/
theorem normalise_is_c04_normalise (p : PCfg) (f : Fmt) (clsId : SCls → BS.Builder.Cls) (hid : ClsIdOK clsId) (ds : List Node) :
    toDocL clsId (normaliseL p f ds) = BS.Writer.normalise (bcfgOf p clsId) (toWDocL f ds) :=
  normalise_bridge p f clsId hid ds

/-- **parse(render(t)) = the normal form of t, through the tokenizer model, in this model's vocabulary.** For every
    `PCfg` whose root name is neither whitespace-preserving nor a string container, every adapter configuration with
    `EntOK`, every `ParamsOK` parameters, the 'minimal' formatter and every `RenderWritable` forest: the tree built from
    the tokenizer model's callbacks on the rendered text is `normaliseL p f ds` — the same normal form
    `reparse_roundtrip` reaches from the assumed stream `emitR`, so `same_elements/_text/_specials`, `normalise_idem_iff`
    … apply to it. (Attributes: C04's `startInfos` of the written attributes `evAttrs`, from which `normAttrs` is
    computed by `Tag.__init__`'s multi-valued split — not restated here.) -/
theorem reparse_roundtrip_tokenized_normalise (p : PCfg) (clsId : SCls → BS.Builder.Cls) (hid : ClsIdOK clsId)
    (hroot : p.preserveWs.contains rootFrame.name = false ∧ lookupL p.containers rootFrame.name = none)
    (acfg : BS.Adapter.ACfg) (P : BS.Tokenizer.Params) (hP : BS.WriterText.ParamsOK P) (he : BS.WriterMin.EntOK acfg)
    (ci : SCls → ClsInfo) (hci : ∀ c, ci c = assumedMarkup c) (f : Fmt) (hf : IsMinimal f) (ds : List Node)
    (h : RenderWritable (bcfgOf p clsId) acfg f ds) :
    (BS.Adapter.adapterBuild (bcfgOf p clsId) acfg
        (BS.Tokenizer.callbacks (BS.Tokenizer.run P (renderL ci f none ds)))).1 =
      toDocL clsId (normaliseL p f ds) := by
  have hc : BS.Builder.CfgOK (bcfgOf p clsId) := ⟨by simpa [bcfgOf] using hroot.1, by simp [bcfgOf, hroot.2]⟩
  rw [reparse_roundtrip_tokenized (bcfgOf p clsId) acfg hc P hP he ci hci f hf ds h]
  exact (normalise_is_c04_normalise p f clsId hid ds).symm

/-- a class numbering with `ClsIdOK` -/
def liveClsId : SCls → BS.Builder.Cls
  | .navigable => 0 | .comment => 1 | .cdata => 2 | .pi => 3 | .declaration => 4 | .doctype => 5
  | .stylesheet => 6 | .script => 7 | .template => 8 | .rubyText => 9 | .rubyParen => 10 | .xmlpi => 11 | .preformatted => 12
example : ClsIdOK liveClsId ∧ livePCfg.preserveWs.contains rootFrame.name = false ∧
    lookupL livePCfg.containers rootFrame.name = none := ⟨⟨rfl, rfl, rfl, rfl, rfl⟩, by decide +kernel, by decide +kernel⟩

/-- non-vacuity on C04's sample configuration (`xB`, `xA`: `br` void, `pre` preserving) with the references added -/
def tkA : BS.Adapter.ACfg :=
  { BS.Props.C04.xA with entity := fun n => if n == [97, 109, 112] then some [38] else if n == [108, 116] then some [60]
                                            else if n == [103, 116] then some [62] else none }
def tkDemo : List Node :=
  [.str .doctype (ofS "html"),
   .tag (tg "p" [(ofS "id", .str (ofS "x&y")), (ofS "class", .list [ofS "a", ofS "b'\""]), (ofS "k", .none)])
     [.str .navigable (ofS "a<b & c>"), .tag (tg "br" [] true) [], .str .comment (ofS "note"), .tag (tg "b") [],
      .str .cdata (ofS "d"), .str .xmlpi (ofS "x y")],
   .tag (tg "pre") [.str .navigable (ofS " \n ")]]

theorem tkDemo_ok : RenderWritable BS.Props.C04.xB tkA minimalHtml tkDemo := by decide +kernel
example : renderL liveClsInfo minimalHtml none tkDemo =
    ofS "<!DOCTYPE html>\n<p class=\"a b'&quot;\" id=\"x&amp;y\" k>a&lt;b &amp; c&gt;<br/><!--note--><b></b><![CDATA[d]]><?x y?></p><pre> \n </pre>" := by
  decide_pstr
example : (BS.Adapter.adapterBuild BS.Props.C04.xB tkA
    (BS.Tokenizer.callbacks (BS.Tokenizer.run BS.Props.C04.xP (renderL liveClsInfo minimalHtml none tkDemo)))).1 =
    BS.Writer.normalise BS.Props.C04.xB (toWDocL minimalHtml tkDemo) :=
  congrArg Prod.fst (reparse_roundtrip_tokenized _ tkA (by decide +kernel) _ BS.Props.C04.xP_ok ⟨rfl, rfl, rfl⟩ liveClsInfo
    class_table_live minimalHtml minimal_is_minimal.1 tkDemo tkDemo_ok)
/-- outside the class: a value the renderer single-quotes, a `<` in a value, `<x/>` for a non-void name, script -/
example : renderWritableL tkA.isVoid minimalHtml [.tag (tg "p" [(ofS "t", .str (ofS "a\"b"))]) []] = false ∧
    renderWritableL tkA.isVoid minimalHtml [.tag (tg "p" [(ofS "t", .str (ofS "a<b"))]) []] = false ∧
    renderWritableL tkA.isVoid minimalHtml [.tag (tg "x" [] true) []] = false ∧
    renderWritableL tkA.isVoid minimalHtml [.tag (tg "script") [.str .script (ofS "x")]] = false := by decide_pstr


end BS.Props.C05
