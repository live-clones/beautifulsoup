import BSModel.Proofs.PrettyStream
import BSModel.Proofs.PrettyTokens
import BSModel.Proofs.PrettyReparseWritable
import BSModel.Props.C05
/-! # C14 — prettify() changes only whitespace and shows the nesting

`decodeImpl`, `step`, `indentString`, `events`, `receiverStream`, `prettifyImpl`, `indentOf`,
`shouldPrettyPrint`, `levelOf` mirror `bs4/element.py` (`Tag.decode`, `_event_stream`, `_indent_string`,
`_should_pretty_print`, `prettify`, `decode_contents`) and `bs4/formatter.py` (`Formatter.__init__`) statement by statement
(`Model/Pretty.lean`); `prettyNode`/`prettyL`/`plain`/`decodeSpec` are the recursive specification; `items`/`layout`/
`OutermostPre`/`pieceSeq`/`Decorated` (`Proofs/PrettyLaws.lean`) and `dropWs` (`Model/Pretty.lean`) are the vocabulary of the statement. Tag and
string pieces are opaque inputs. The tables (`whitespace`, `htmlPreserveWs`, `basePreserveWs`, `builtinIndents`,
`defaultIndentInt`) are generated from the live objects on every run.

Clause of the property → theorems (all for every tree, unit, level, encoding; none by finite enumeration):
* "re-parses to the same tree as the plain output once whitespace inside text is disregarded" → `nonws_equal(_contents)`,
  `recv_nonws_equal` (same non-whitespace characters, same order), `pretty_same_events` (same pieces, tags intact),
  `pretty_same_tokens` + `specials_ok_table` (same token sequence modulo whitespace in character data, the token cuts taken
  as a definition — section 10), `prettify_reparse_tokenized` (the same tree through the tokenizer model, on `RenderWritable`
  forests — section 11; outside that class the tree-level comparison is the harness' re-parse oracle);
* "everything inside whitespace-preserving elements (pre, textarea) is reproduced character for character" →
  `preserve_verbatim`, `preserve_verbatim_line`, `preserve_verbatim_contents`, `html_preserve_tags`, `xml_preserves_nothing`,
  `should_pretty_print_iff`;
* "outside those elements every tag and every non-blank string sits on its own line, indented by unit × depth" →
  `line_structure(_contents)`, `line_structure_general` (no visibility hypothesis), `recv_line_structure`, `blank_iff`,
  `special_strings_have_lines`, `tag_piece_shape`, `void_receiver`;
* "the output ends with a newline" → `ends_with_newline(_contents)`, `recv_line_structure` (declaration line included);
* quantifier "every element as the starting point" → `decode_refines`, `recv_decode_refines` (visible / hidden receiver,
  `decode_contents`, `BeautifulSoup` object, empty-element tag), `event_stream_refines`; "every built-in formatter and indent
  setting" → `builtin_units` (whole table), `indent_none/int/str/other`, `indent_whitespace`; "HTML- and XML-flavoured trees" →
  `html_preserve_tags`, `xml_preserves_nothing`, `xml_declaration(_python_specific)`; str and bytes flavour of `prettify` →
  `prettify_flavours`, `prettify_bytes_of_str`; "trees from edit histories" → the statements are about arbitrary trees
  (identities distinct), whatever history produced them.

Hypotheses that appear below and why they are harmless:
* `distinct t` — no element has the identity of one of its own descendants (`decode` compares with `is`); true of every
  real tree (C01's well-formedness).
* `preVisible t` — a whitespace-preserving element met outside literal mode is not `hidden` (a hidden `<pre>` has no
  opening/closing piece, so it has no line of its own; `hidden` is set by hand only, never by a parser on such a tag).
* `∀ c ∈ unit, isSpace c` — the indent unit is whitespace (`Formatter(indent="--")` is outside the property). -/
namespace BS.Props.C14
open BS.Pretty

/-- `<div><p>a <b>x</b></p><pre> x <pre> y </pre>\n</pre><br/>  </div>` with a pre inside a pre, an empty-element tag and a
    blank string; identities = pre-order numbers -/
def demo : Node :=
  .elem 0 (ofS "<div>") (ofS "</div>") false
    [ .elem 1 (ofS "<p>") (ofS "</p>") false [.str (ofS "a "), .elem 2 (ofS "<b>") (ofS "</b>") false [.str (ofS "x")]],
      .elem 3 (ofS "<pre>") (ofS "</pre>") true
        [.str (ofS " x "), .elem 4 (ofS "<pre>") (ofS "</pre>") true [.str (ofS " y ")], .str (ofS "\n")],
      .void (ofS "<br/>"),
      .str (ofS "  ") ]

/-- the `<pre>` of `demo` -/
def demoPre : Node :=
  .elem 3 (ofS "<pre>") (ofS "</pre>") true
    [.str (ofS " x "), .elem 4 (ofS "<pre>") (ofS "</pre>") true [.str (ofS " y ")], .str (ofS "\n")]

/-- a hidden root (the `BeautifulSoup` object) over two top-level nodes -/
def demoSoup : Node := .elem 0 [] [] false [.str (ofS " t "), .elem 1 (ofS "<a>") (ofS "</a>") false []]

/-! ## 1. the loop over the event stream is the recursive specification -/

/-- Refinement: `decode(indent_level=l)` on the event stream of a tree — level bookkeeping, string-literal mode entered at
    the first whitespace-preserving start tag and left at *its* end tag, `strip()` of string pieces and the
    `_indent_string` rule outside that mode, empty pieces dropped — is the recursive pretty rendering: level and
    literal tag are restored after every balanced block of events. -/
theorem pretty_refines (u : PStr) (l : Int) (t : Node) (h : distinct t = true) :
    decodeImpl u (some l) (events t) = prettyNode u l false t := by
  simpa [decodeImpl_eq_run] using (moves_out u t l h []).1

example : decodeImpl (ofS " ") (some 0) (events demo) =
    ofS "<div>\n <p>\n  a\n  <b>\n   x\n  </b>\n </p>\n <pre> x <pre> y </pre>\n</pre>\n <br/>\n</div>\n" := by decide_pstr
example : distinct demo = true := by decide +kernel
/-- without distinct identities the loop really differs: an inner tag with the identity of the literal tag ends the mode early -/
example : decodeImpl (ofS " ") (some 0)
      (events (.elem 3 (ofS "<pre>") (ofS "</pre>") true [.elem 3 (ofS "<b>") (ofS "</b>") false [], .str (ofS " z ")]))
    ≠ prettyNode (ofS " ") 0 false
      (.elem 3 (ofS "<pre>") (ofS "</pre>") true [.elem 3 (ofS "<b>") (ofS "</b>") false [], .str (ofS " z ")]) := by decide_pstr

/-- State restoration (the pillar of the refinement): after the events of any subtree the loop's `indent_level` and
    `string_literal_tag` are what they were before it — whatever is nested inside (whitespace-preserving elements within
    each other, tags inside them) — so what follows a subtree is laid out independently of it. -/
theorem state_restored (u : PStr) (l : Int) (t : Node) (rest : List Ev) (h : distinct t = true) :
    finalState u ⟨some l, none⟩ (events t ++ rest) = finalState u ⟨some l, none⟩ rest ∧
    finalState u ⟨some l, none⟩ (events t) = ⟨some l, none⟩ := by
  exact ⟨(moves_out u t l h rest).2, by simpa [finalState] using (moves_out u t l h []).2⟩

example : (finalState (ofS " ") ⟨some 0, none⟩ ((events demo).take 9)).lit = some 3 ∧
    (finalState (ofS " ") ⟨some 0, none⟩ ((events demo).take 9)).lvl = some 2 := by decide_pstr

/-- The same for `decode_contents(indent_level=l)` and for a hidden receiver (the `BeautifulSoup` object): the children's
    stream gives the children's rendering, all at level `l`. -/
theorem pretty_refines_contents (u : PStr) (l : Int) (ks : List Node) (h : distinctL ks = true) :
    decodeImpl u (some l) (eventsL ks) = prettyL u l false ks := by
  simpa [decodeImpl_eq_run] using (movesL_out u ks l h []).1

/-- Plain mode (`indent_level=None`): the pieces, concatenated, whatever the identities. -/
theorem plain_refines (u : PStr) (t : Node) : decodeImpl u none (events t) = plain t := by
  rw [decodeImpl_eq_run, run_plain u _ _ rfl, pieces_events]

/-- plain mode on the children's stream (`decode_contents()`, hidden receiver) -/
theorem plain_refines_contents (u : PStr) (ks : List Node) : decodeImpl u none (eventsL ks) = plainL ks := by
  rw [decodeImpl_eq_run, run_plain u _ _ rfl, pieces_eventsL]

example : decodeImpl (ofS " ") none (events demo) =
    ofS "<div><p>a <b>x</b></p><pre> x <pre> y </pre>\n</pre><br/>  </div>" := by decide_pstr

/-- Every receiver, every way of calling: `decode(indent_level)`, `decode_contents(indent_level)`, visible or hidden
    receiver, `indent_level` None / True / an int. -/
theorem decode_refines (u : PStr) (lvl : LevelArg) (hidden contentsOnly : Bool) (t : Node) (h : distinct t = true) :
    decodeImpl u (levelOf lvl) (receiverStream hidden contentsOnly t) = decodeSpec u (levelOf lvl) hidden contentsOnly t := by
  unfold receiverStream decodeSpec
  cases levelOf lvl <;> cases hidden || contentsOnly <;>
    simp [plain_refines, plain_refines_contents, pretty_refines _ _ t h, pretty_refines_contents _ _ _ (distinctL_kids h)]

/-- `prettify()` is the pretty rendering at level 0 (of the children, for a hidden receiver). -/
theorem prettify_refines (u : PStr) (hidden : Bool) (t : Node) (h : distinct t = true) :
    prettifyImpl u hidden t = if hidden then prettyL u 0 false t.kids else prettyNode u 0 false t := by
  have := decode_refines u (.int 0) hidden false t h
  simp only [levelOf, decodeSpec, Bool.or_false] at this
  simpa [prettifyImpl] using this

example : prettifyImpl (ofS " ") true demoSoup = ofS "t\n<a>\n</a>\n" := by decide_pstr
example : distinctL demoSoup.kids = true ∧ distinct demoSoup = true := by decide +kernel
example : levelOf .true = some 0 ∧ levelOf .none = none ∧ levelOf (.int (-1)) = some (-1) := by decide +kernel

/-! ## 2. every tag and every non-blank string on its own line, indented by unit × depth -/

/-- Line structure. The pretty output is exactly the concatenation of the lines `unit^(l + depth) ++ content ++ "\n"` where
    the contents are, in document order: every (non-empty) tag piece outside whitespace-preserving elements, every string
    piece that is not blank with its surrounding whitespace stripped, and every outermost whitespace-preserving element as
    one verbatim block; `depth` is the nesting depth below the receiver. Blank strings and hidden tags have no line. -/
theorem line_structure (u : PStr) (l : Int) (t : Node) (hd : distinct t = true) (hv : preVisible t = true) :
    decodeImpl u (some l) (events t) = layout u l (items 0 t) := by
  rw [pretty_refines u l t hd]
  simpa using pretty_layout u t l 0 hv

/-- the same for the children's stream (`decode_contents`, hidden receiver) -/
theorem line_structure_contents (u : PStr) (l : Int) (ks : List Node) (hd : distinctL ks = true)
    (hv : preVisibleL ks = true) : decodeImpl u (some l) (eventsL ks) = layout u l (itemsL 0 ks) := by
  rw [pretty_refines_contents u l ks hd]
  simpa using prettyL_layout u ks l 0 hv

example : items 0 demo =
    [(0, ofS "<div>"), (1, ofS "<p>"), (2, ofS "a"), (2, ofS "<b>"), (3, ofS "x"), (2, ofS "</b>"), (1, ofS "</p>"),
     (1, ofS "<pre> x <pre> y </pre>\n</pre>"), (1, ofS "<br/>"), (0, ofS "</div>")] := by decide_pstr
example : preVisible demo = true := by decide +kernel
example : layout (ofS "\t") 1 [(0, ofS "<a>"), (1, ofS "x")] = ofS "\t<a>\n\t\tx\n" := by decide_pstr

/-- "blank" means what it should: `strip` leaves nothing iff every code point is whitespace (`str.isspace`, generated table) -/
theorem blank_iff (s : PStr) : strip s = [] ↔ ∀ c ∈ s, isSpace c = true := strip_eq_nil_iff s

example : strip (ofS " \n\t") = [] ∧ strip (ofS " a b \n") = ofS "a b" := by decide_pstr

/-- The output ends with a newline (unless it is empty: nothing but blank strings and hidden tags). -/
theorem ends_with_newline (u : PStr) (l : Int) (t : Node) (hd : distinct t = true) (hv : preVisible t = true)
    (hne : decodeImpl u (some l) (events t) ≠ []) : (decodeImpl u (some l) (events t)).getLast? = some 10 := by
  have h := line_structure u l t hd hv
  exact EndsNl.getLast (h ▸ layout_endsNl u l _) hne

/-- the same for the children's stream (`decode_contents`, `BeautifulSoup.prettify()`) -/
theorem ends_with_newline_contents (u : PStr) (l : Int) (ks : List Node) (hd : distinctL ks = true)
    (hv : preVisibleL ks = true) (hne : decodeImpl u (some l) (eventsL ks) ≠ []) :
    (decodeImpl u (some l) (eventsL ks)).getLast? = some 10 := by
  have h := line_structure_contents u l ks hd hv
  exact EndsNl.getLast (h ▸ layout_endsNl u l _) hne

example : decodeImpl (ofS " ") (some 0) (eventsL [.str (ofS "  ")]) = [] := by decide_pstr
example : decodeImpl (ofS " ") (some 0) (events demo) ≠ [] := by decide_pstr
/-- the hypothesis `preVisible` is needed: a hidden `<pre>` leaves its contents without a final newline -/
example : decodeImpl (ofS " ") (some 0) (events (.elem 0 [] [] true [.str (ofS "x")])) = ofS "x" := by decide_pstr

/-! ## 3. inside whitespace-preserving elements: character for character -/

/-- For every outermost whitespace-preserving element `e` of the receiver, the plain rendering of `e` occurs contiguously
    in the pretty output. -/
theorem preserve_verbatim (u : PStr) (l : Int) {d : Nat} {e t : Node} (hd : distinct t = true) (h : OutermostPre d e t) :
    decodeImpl u none (events e) <:+: decodeImpl u (some l) (events t) := by
  rw [plain_refines, pretty_refines u l t hd]
  exact outermost_infix u h l

/-- … on a line of its own: indented like any other tag at its depth, followed by a newline. -/
theorem preserve_verbatim_line (u : PStr) (l : Int) {d : Nat} {e t : Node} (hd : distinct t = true)
    (h : OutermostPre d e t) (hv : preVisible e = true) :
    rep u (l + d) ++ decodeImpl u none (events e) ++ [10] <:+: decodeImpl u (some l) (events t) := by
  rw [plain_refines, pretty_refines u l t hd]
  exact outermost_line u h hv l

example : OutermostPre 1 demoPre demo :=
  .inside 0 _ _ _ demoPre demoPre 0 (by simp [demoPre]) (.self 3 _ _ _)
example : decodeImpl (ofS " ") none (events demoPre) = ofS "<pre> x <pre> y </pre>\n</pre>" := by decide_pstr

/-! ## 4. only whitespace changes -/

/-- With a whitespace-only indent unit, the pretty output and the plain output have the same non-whitespace code points
    in the same order: nothing but whitespace is added, lost or moved. -/
theorem nonws_equal (u : PStr) (l : Int) (t : Node) (hd : distinct t = true) (hu : ∀ c ∈ u, isSpace c = true) :
    dropWs (decodeImpl u (some l) (events t)) = dropWs (decodeImpl u none (events t)) := by
  rw [pretty_refines u l t hd, plain_refines]
  exact dropWs_pretty u hu t l false

/-- the same for the children's stream (`decode_contents`, `BeautifulSoup.prettify()`) -/
theorem nonws_equal_contents (u : PStr) (l : Int) (ks : List Node) (hd : distinctL ks = true)
    (hu : ∀ c ∈ u, isSpace c = true) :
    dropWs (decodeImpl u (some l) (eventsL ks)) = dropWs (decodeImpl u none (eventsL ks)) := by
  rw [pretty_refines_contents u l ks hd, plain_refines_contents]
  exact dropWs_prettyL u hu ks l false

example : dropWs (ofS " <a>\n  x y\n") = ofS "<a>xy" := by decide_pstr
example : (∀ c ∈ ofS " \t", isSpace c = true) ∧ (∀ c ∈ ([] : PStr), isSpace c = true) := by decide_pstr
/-- the hypothesis on the unit is needed -/
example : dropWs (decodeImpl (ofS "--") (some 1) (events (.void (ofS "<br/>")))) ≠
    dropWs (decodeImpl (ofS "--") none (events (.void (ofS "<br/>")))) := by decide_pstr

/-- Same events: the pretty output is the concatenation of the *same piece sequence* as the plain output, each piece kept
    intact — a string piece possibly with its surrounding whitespace stripped — with copies of the unit before it and
    possibly a newline after it. In particular no tag piece is altered and nothing is inserted inside a piece. -/
theorem pretty_same_events (u : PStr) (l : Int) (t : Node) (hd : distinct t = true) :
    decodeImpl u none (events t) = ((pieceSeq t).map (·.2)).flatten ∧
    ∃ qs, Pointwise (Decorated u) (pieceSeq t) qs ∧ decodeImpl u (some l) (events t) = qs.flatten := by
  rw [plain_refines, pretty_refines u l t hd]
  exact ⟨plain_pieceSeq t, same_pieces u t l false⟩

example : pieceSeq demoSoup = [(false, []), (true, ofS " t "), (false, ofS "<a>"), (false, ofS "</a>"), (false, [])] := by decide_pstr

/-! ## 5. the indent unit -/

/-- `Formatter(indent=None)`: newlines only. -/
theorem indent_none : indentOf .none = [] := by decide +kernel

/-- `Formatter(indent=n)`: `n` spaces; negative counts as 0. -/
theorem indent_int (n : Int) : indentOf (.int n) = List.replicate n.toNat 32 := by
  by_cases h : n < 0
  · have : n.toNat = 0 := by omega
    simp [indentOf, h, this]
  · simp [indentOf, h]

/-- `Formatter(indent=s)`: the string itself. -/
theorem indent_str (s : PStr) : indentOf (.str s) = s := rfl

/-- anything else: one space -/
theorem indent_other : indentOf .other = [32] := rfl

/-- Unless a string is passed, the unit consists of spaces — so the hypothesis of `nonws_equal` holds. For a string argument
    it holds iff the string is whitespace (by `indent_str`). -/
theorem indent_whitespace (a : IndentArg) (h : ∀ s, a ≠ .str s) : ∀ c ∈ indentOf a, isSpace c = true := by
  have h32 : isSpace 32 = true := by decide
  intro c hc
  cases a with
  | none => simp [indent_none] at hc
  | int n => rw [indent_int] at hc; rw [(List.mem_replicate.mp hc).2]; exact h32
  | str s => exact absurd rfl (h s)
  | other => simp [indent_other] at hc; rw [hc]; exact h32

example : indentOf (.int 3) = ofS "   " ∧ indentOf (.int (-1)) = [] ∧ indentOf (.str (ofS "\t")) = ofS "\t" := by decide_pstr
example : ∀ s, IndentArg.int 3 ≠ .str s := by intro s h; cases h

/-- Table fact (generated from `HTMLFormatter.REGISTRY`/`XMLFormatter.REGISTRY` and the signature of `Formatter.__init__`):
    every built-in formatter, and the default of `indent=`, indents by exactly one space. -/
theorem builtin_units :
    (∀ e ∈ BS.Gen.Pretty.builtinIndents, e.2.2 = [32]) ∧ BS.Gen.Pretty.defaultIndentIsInt = true ∧
    indentOf (.int BS.Gen.Pretty.defaultIndentInt) = [32] := by decide +kernel

example : BS.Gen.Pretty.builtinIndents.length ≥ 8 := by decide +kernel

/-! ## 6. which elements preserve whitespace -/

/-- `_should_pretty_print()` is false exactly for a name in a non-empty `preserve_whitespace_tags`. -/
theorem should_pretty_print_iff (pwt : Option (List PStr)) (name : PStr) :
    shouldPrettyPrint pwt name = false ↔ ∃ l, pwt = some l ∧ name ∈ l := by
  cases pwt with
  | none => simp [shouldPrettyPrint]
  | some l =>
    cases l with
    | nil => simp [shouldPrettyPrint]
    | cons a l =>
      simp only [shouldPrettyPrint]
      by_cases h : name = a <;> simp [h]

/-- Table fact (generated from `HTMLTreeBuilder.DEFAULT_PRESERVE_WHITESPACE_TAGS`): in an HTML-flavoured tree exactly `pre`
    and `textarea` are whitespace-preserving. -/
theorem html_preserve_tags (name : PStr) :
    shouldPrettyPrint (some BS.Gen.Pretty.htmlPreserveWs) name = false ↔ name = ofS "pre" ∨ name = ofS "textarea" := by
  have ht : BS.Gen.Pretty.htmlPreserveWs = [ofS "pre", ofS "textarea"] := by decide +kernel
  rw [should_pretty_print_iff, ht]
  simp

/-- Table fact (`TreeBuilder.DEFAULT_PRESERVE_WHITESPACE_TAGS`) and the builder-less default (`None`): in an XML-flavoured
    tree nothing is whitespace-preserving unless configured. -/
theorem xml_preserves_nothing (name : PStr) :
    shouldPrettyPrint (some BS.Gen.Pretty.basePreserveWs) name = true ∧ shouldPrettyPrint none name = true := by
  have ht : BS.Gen.Pretty.basePreserveWs = [] := by decide +kernel
  simp [ht, shouldPrettyPrint]

example : mkTag 7 (ofS "<pre>") (ofS "</pre>") (some BS.Gen.Pretty.htmlPreserveWs) (ofS "pre") false [] =
    .elem 7 (ofS "<pre>") (ofS "</pre>") true [] := by rfl
example : mkTag 7 (ofS "<br/>") (ofS "</br>") (some BS.Gen.Pretty.htmlPreserveWs) (ofS "br") true [] = .void (ofS "<br/>") := by
  rfl

/-- Table sanity (generated from `str.isspace` of the running CPython): the characters pretty-printing inserts — space,
    newline — and tab are whitespace; the zero-width space and the markup characters `<`, `>`, `&` are not. -/
theorem whitespace_table : isSpace 32 = true ∧ isSpace 10 = true ∧ isSpace 9 = true ∧ isSpace 0x200b = false ∧
    isSpace 60 = false ∧ isSpace 62 = false ∧ isSpace 38 = false := by decide +kernel

/-! ## 6b. `_event_stream` itself -/

/-- `_event_stream`'s walk — a stack of open tags, popped (END events) while the next element's parent *is not* the tag on top,
    START/EMPTY/STRING for the element, everything left closed at the end — over the pre-order of a tree with parent
    pointers yields exactly the balanced event list the other theorems are about; for `self_and_descendants` of a visible
    receiver (`p` = its parent, never looked at) and for `descendants` / a hidden receiver (`p` = the receiver). Identities are
    pairwise distinct here (`Nodup`): the walk compares parents with `is`. -/
theorem event_stream_refines (p : Nat) (t : Node) (ks : List Node) :
    ((ids t).Nodup → streamImpl [] (flat p t) = events t) ∧
    ((idsL ks).Nodup → p ∉ idsL ks → streamImpl [] (flatL p ks) = eventsL ks) := by
  constructor
  · intro hn
    have := stream_node t p [] [] rfl (by simp) hn
    simpa [streamImpl] using this
  · intro hn hp
    have := stream_forest ks p [] [] rfl (by simp) hn hp
    simpa [streamImpl] using this

example : (ids demo).Nodup := by decide +kernel
example : streamImpl [] (flat 99 demo) = events demo := by decide +kernel
/-- two tags with one identity: the walk leaves the inner one open when the outer one's next child arrives -/
example : streamImpl [] (flat 9 (.elem 1 [60] [62] false [.elem 1 [60] [62] false [], .str [97]])) ≠
    events (.elem 1 [60] [62] false [.elem 1 [60] [62] false [], .str [97]]) := by decide +kernel

/-- End to end: `decode(indent_level=l)` run on what `_event_stream` really yields is the recursive pretty rendering. -/
theorem decode_on_walk (u : PStr) (l : Int) (p : Nat) (t : Node) (hn : (ids t).Nodup) :
    decodeImpl u (some l) (streamImpl [] (flat p t)) = prettyNode u l false t := by
  rw [(event_stream_refines p t []).1 hn, pretty_refines u l t (nodup_distinct t hn)]

/-! ## 7. every tree, hidden whitespace-preserving elements included; verbatim blocks seen from a hidden receiver -/

/-- Line structure without the visibility hypothesis: for *every* tree the pretty output is the concatenation of its blocks —
    the lines of `line_structure`, except that a whitespace-preserving element without opening (closing) piece — a hidden
    one — is a block that lacks the indentation (the newline). -/
theorem line_structure_general (u : PStr) (l : Int) (t : Node) (hd : distinct t = true) :
    decodeImpl u (some l) (events t) = layoutB u l (blocks 0 t) ∧
    (preVisible t = true → blocks 0 t = (items 0 t).map lineBlock) := by
  refine ⟨?_, blocks_items t 0⟩
  rw [pretty_refines u l t hd]
  simpa using pretty_blocks u t l 0

example : blocks 0 (.elem 0 (ofS "<p>") (ofS "</p>") false [.elem 1 [] [] true [.str (ofS " x ")], .str (ofS "y")]) =
    [⟨0, true, ofS "<p>", true⟩, ⟨1, false, ofS " x ", false⟩, ⟨1, true, ofS "y", true⟩, ⟨0, true, ofS "</p>", true⟩] := by decide_pstr

/-- `preserve_verbatim` for `decode_contents` and hidden receivers (`BeautifulSoup.prettify()`): an outermost
    whitespace-preserving element below one of the children. -/
theorem preserve_verbatim_contents (u : PStr) (l : Int) {d : Nat} {e k : Node} {ks : List Node} (hd : distinctL ks = true)
    (hk : k ∈ ks) (h : OutermostPre d e k) :
    decodeImpl u none (events e) <:+: decodeImpl u (some l) (eventsL ks) ∧
    (preVisible e = true → rep u (l + d) ++ decodeImpl u none (events e) ++ [10] <:+: decodeImpl u (some l) (eventsL ks)) := by
  rw [plain_refines, pretty_refines_contents u l ks hd]
  exact ⟨(outermost_infix u h l).trans (infix_prettyL u l k ks hk),
    fun hv => (outermost_line u h hv l).trans (infix_prettyL u l k ks hk)⟩

example : OutermostPre 0 demoPre demoPre ∧ demoPre ∈ [Node.str (ofS " "), demoPre] := ⟨.self 3 _ _ _, by simp⟩

/-! ## 8. the pieces: tags and special strings -/

/-- `_format_tag`: a hidden tag has no pieces; any other tag's pieces start with `<` and end with `>` — so they are never
    empty or blank and `strip()` would not change them (which is why `decode` strips string pieces only). With this,
    `preVisible` says exactly "no hidden whitespace-preserving element" (`preVisible_resolve`). -/
theorem tag_piece_shape (c : RCfg) (i : TagInfo) (isEmpty opening : Bool) :
    (i.hidden = true → formatTag c i isEmpty opening = []) ∧
    (i.hidden = false → ∃ mid, formatTag c i isEmpty opening = 60 :: (mid ++ [62])) ∧
    strip (formatTag c i isEmpty opening) = formatTag c i isEmpty opening :=
  ⟨formatTag_hidden c i isEmpty opening, formatTag_visible c i isEmpty opening, strip_formatTag c i isEmpty opening⟩

/-- a `<meta charset>` whose attribute string depends on the eventual encoding, and an empty-element tag -/
def metaInfo : TagInfo :=
  { id := 1, soupXml := none, hidden := false, nsPrefix := [], name := ofS "meta", attrDefault := ofS " charset=\"utf-8\"",
    attrBy := [(none, ofS " charset=\"iso-8859-1\""), (some (ofS "latin-1"), ofS " charset=\"latin-1\"")],
    preserveWs := some BS.Gen.Pretty.htmlPreserveWs, canBeEmpty := true }

example : formatTag ⟨some (ofS "utf-8"), ofS "/"⟩ metaInfo true true = ofS "<meta charset=\"utf-8\"/>" ∧
    formatTag ⟨none, ofS "/"⟩ metaInfo true true = ofS "<meta charset=\"iso-8859-1\"/>" ∧
    formatTag ⟨none, []⟩ { metaInfo with nsPrefix := ofS "ns" } false false = ofS "</ns:meta>" ∧
    formatTag ⟨none, []⟩ { metaInfo with hidden := true } false false = [] := by decide_pstr

/-- Table fact over the WHOLE generated table of `NavigableString` subclasses (PREFIX, SUFFIX), lifted by
    `strip_outputReady`: a string of a class with a PREFIX (comment, CDATA, processing instruction, declaration, doctype)
    strips to PREFIX ++ body ++ SUFFIX-without-trailing-whitespace — never blank, whatever its body — so it always gets its
    line, content intact; the other classes have neither PREFIX nor SUFFIX (their piece is the substituted text). -/
theorem special_strings_have_lines :
    ∀ e ∈ BS.Gen.Pretty.stringAffixes, (e.2.1 = [] → e.2.2.1 = []) ∧
      (e.2.1 ≠ [] → ∀ body, strip (outputReady e.2.1 e.2.2.1 body) = e.2.1 ++ body ++ rstrip e.2.2.1 ∧
        strip (outputReady e.2.1 e.2.2.1 body) ≠ []) := by
  have hall : BS.Gen.Pretty.stringAffixes.all (fun e => affixOk e && (!e.2.1.isEmpty || e.2.2.1.isEmpty)) = true := by
    decide +kernel
  intro e he
  have h := List.all_eq_true.mp hall e he
  simp only [Bool.and_eq_true, Bool.or_eq_true, Bool.not_eq_true', List.isEmpty_iff] at h
  refine ⟨fun hp => ?_, fun hp body => strip_outputReady e h.1 hp body⟩
  rcases h.2 with h2 | h2
  · simp [hp] at h2
  · exact h2

example : (ofS "Doctype", ofS "<!DOCTYPE ", ofS ">\n", true) ∈ BS.Gen.Pretty.stringAffixes ∧
    (ofS "Comment", ofS "<!--", ofS "-->", true) ∈ BS.Gen.Pretty.stringAffixes := by decide_pstr
example : strip (outputReady (ofS "<!DOCTYPE ") (ofS ">\n") (ofS "html")) = ofS "<!DOCTYPE html>" ∧
    strip (outputReady (ofS "<!--") (ofS "-->") (ofS "  ")) = ofS "<!--  -->" := by decide_pstr

/-! ## 9. receivers, encodings, the bytes flavour, the XML declaration -/

/-- `<head>` over a `<meta charset>`, a comment, a text: identities 0, 1 -/
def demoRaw : RNode :=
  .tag { id := 0, soupXml := none, hidden := false, nsPrefix := [], name := ofS "head", attrDefault := [], attrBy := [],
         preserveWs := some BS.Gen.Pretty.htmlPreserveWs, canBeEmpty := false }
    [.tag metaInfo [], .str (ofS "<!--") (ofS "-->") (ofS " c "), .str [] [] (ofS " t ")]

/-- an XML-flavoured `BeautifulSoup` object (hidden) over one empty-element tag -/
def demoXmlSoup : RNode :=
  .tag { id := 0, soupXml := some true, hidden := true, nsPrefix := [], name := ofS "[document]", attrDefault := [], attrBy := [],
         preserveWs := some [], canBeEmpty := false }
    [.tag { metaInfo with name := ofS "a", attrDefault := [], attrBy := [], preserveWs := some [] } []]

/-- Refinement for every receiver and entry point: `decode`/`decode_contents` of a `Tag`, and of a `BeautifulSoup` object
    (XML declaration first, deprecated bool level), at every `eventual_encoding`, equal the recursive specification on the
    pieces `_format_tag`/`output_ready` produce under that encoding. -/
theorem recv_decode_refines (u vcp : PStr) (lvl : LevelArg) (enc : Option PStr) (co : Bool) (r : RNode)
    (h : rdistinct r = true) : recvDecode u vcp lvl enc co r = recvSpec u vcp lvl enc co r := by
  have hd := distinct_resolve ⟨enc, vcp⟩ r h
  unfold recvDecode recvSpec soupDecode tagDecode
  cases r.soupXml with
  | none => simp [decode_refines u lvl r.hidden co _ hd]
  | some x => simp [decode_refines u (soupLevel lvl) r.hidden co _ hd]

example : rdistinct demoRaw = true ∧ rdistinct demoXmlSoup = true := by decide +kernel
example : recvDecode (ofS " ") (ofS "/") (.int 0) (some (ofS "utf-8")) false demoRaw =
    ofS "<head>\n <meta charset=\"utf-8\"/>\n <!-- c -->\n t\n</head>\n" := by
  unfold demoRaw metaInfo
  decide_pstr
example : recvDecode (ofS " ") (ofS "/") .true (some (ofS "utf-8")) false demoXmlSoup =
    ofS "<?xml version=\"1.0\" encoding=\"utf-8\"?>\n<a/>\n" ∧
    recvDecode (ofS " ") (ofS "/") .false (some (ofS "idna")) false demoXmlSoup = ofS "<?xml version=\"1.0\"?>\n<a/>" := by decide_pstr

/-- The XML declaration: an `is_xml` soup's output is the declaration line — naming the eventual encoding unless it is None or
    one of `PYTHON_SPECIFIC_ENCODINGS` (generated table, consulted by membership: holds for the whole table) — followed by what
    `Tag.decode` gives; any other receiver has no such line. -/
theorem xml_declaration (u vcp : PStr) (lvl : LevelArg) (enc : Option PStr) (co : Bool) (r : RNode) :
    (r.soupXml = some true →
      recvDecode u vcp lvl enc co r =
        ofS "<?xml version=\"1.0\"" ++
          (match enc with
           | some e => if BS.Gen.Pretty.pythonSpecificEncodings.contains e then [] else ofS " encoding=\"" ++ e ++ ofS "\""
           | none => []) ++ ofS "?>\n" ++ tagDecode u vcp (soupLevel lvl) enc co r) ∧
    (r.soupXml = some false → recvDecode u vcp lvl enc co r = tagDecode u vcp (soupLevel lvl) enc co r) ∧
    (r.soupXml = none → recvDecode u vcp lvl enc co r = tagDecode u vcp lvl enc co r) := by
  refine ⟨fun h => ?_, fun h => ?_, fun h => ?_⟩
  · simp only [recvDecode, h, soupDecode, xmlDecl, if_true]
    cases enc with
    | none => simp
    | some e => by_cases hc : e ∈ BS.Gen.Pretty.pythonSpecificEncodings <;> simp [hc]
  · simp [recvDecode, h, soupDecode, xmlDecl]
  · simp [recvDecode, h]

/-- every python-specific encoding of the generated table is left out of the declaration -/
theorem xml_declaration_python_specific :
    ∀ e ∈ BS.Gen.Pretty.pythonSpecificEncodings, xmlDecl true (some e) = ofS "<?xml version=\"1.0\"?>\n" := by
  intro e he
  simp only [xmlDecl, if_true, List.contains_eq_mem, he, decide_true]
  decide_pstr

example : ofS "idna" ∈ BS.Gen.Pretty.pythonSpecificEncodings ∧ ofS "utf-8" ∉ BS.Gen.Pretty.pythonSpecificEncodings := by decide_pstr
example : demoXmlSoup.soupXml = some true ∧ demoRaw.soupXml = none := by decide +kernel

/-- Only whitespace changes, for every receiver, entry point, level argument and eventual encoding: the output has the same
    non-whitespace code points as the plain output *for the same eventual encoding* (declaration line included). -/
theorem recv_nonws_equal (u vcp : PStr) (lvl : LevelArg) (enc : Option PStr) (co : Bool) (r : RNode) (hd : rdistinct r = true)
    (hu : ∀ c ∈ u, isSpace c = true) :
    dropWs (recvDecode u vcp lvl enc co r) = dropWs (recvDecode u vcp .none enc co r) := by
  rw [recv_decode_refines u vcp lvl enc co r hd, recv_decode_refines u vcp .none enc co r hd]
  unfold recvSpec
  cases r.soupXml with
  | none => simpa [levelOf] using dropWs_decodeSpec u hu (levelOf lvl) r.hidden co _
  | some x =>
    simp only [dropWs_append]
    congr 1
    simpa [levelOf, soupLevel] using dropWs_decodeSpec u hu (levelOf (soupLevel lvl)) r.hidden co _

/-- the default `eventual_encoding` of the `decode` a receiver's `self.decode(...)` reaches (generated from the signatures) -/
def decodeDefault (r : RNode) : Option PStr :=
  match r.soupXml with
  | some _ => BS.Gen.Pretty.soupDecodeDefaultEnc
  | none => BS.Gen.Pretty.tagDecodeDefaultEnc

/-- Table fact (generated from the signatures of `Tag.decode`, `Tag.decode_contents`, `Tag.encode`, `Tag.encode_contents`,
    `BeautifulSoup.decode`, `Tag.prettify`): every rendering entry point has the same default eventual encoding, and
    `prettify`'s own `encoding` defaults to None (the str flavour) — so `prettify()`, `decode()`, `str()`, `decode_contents()`
    and the text inside `encode()` with arguments omitted all render `<meta>` charsets and the XML declaration alike. -/
theorem default_encodings_agree :
    BS.Gen.Pretty.tagDecodeContentsDefaultEnc = BS.Gen.Pretty.tagDecodeDefaultEnc ∧
    BS.Gen.Pretty.tagEncodeDefaultEnc = BS.Gen.Pretty.tagDecodeDefaultEnc ∧
    BS.Gen.Pretty.tagEncodeContentsDefaultEnc = BS.Gen.Pretty.tagDecodeDefaultEnc ∧
    BS.Gen.Pretty.soupDecodeDefaultEnc = BS.Gen.Pretty.tagDecodeDefaultEnc ∧
    BS.Gen.Pretty.tagDecodeDefaultEnc = some BS.Gen.Pretty.defaultOutputEncoding ∧
    BS.Gen.Pretty.tagPrettifyDefaultEnc = none := by decide +kernel

/-- The two flavours of `prettify`. Without an encoding: the text `decode(indent_level=0)` gives with the encoding argument
    omitted — hence (whitespace unit) the same non-whitespace characters as `decode()`/`str()`; in particular a charset
    declaration in a `<meta>` is rewritten the same way in both. With an encoding `e`: the bytes of the text
    `decode(0, e)` gives — the same non-whitespace characters as the text `encode(e)` hands to the codec. -/
theorem prettify_flavours (u vcp : PStr) (r : RNode) (hd : rdistinct r = true) (hu : ∀ c ∈ u, isSpace c = true) :
    (∃ t, prettifyRaw u vcp none r = .str t ∧ t = recvDecode u vcp (.int 0) (decodeDefault r) false r ∧
      dropWs t = dropWs (recvDecode u vcp .none (decodeDefault r) false r)) ∧
    (∀ e, ∃ t t', prettifyRaw u vcp (some e) r = .bytes e t ∧ encodeImpl u vcp e .none r = .bytes e t' ∧
      t = recvDecode u vcp (.int 0) (some e) false r ∧ dropWs t = dropWs t') := by
  refine ⟨⟨_, ?_, rfl, recv_nonws_equal u vcp (.int 0) _ false r hd hu⟩, fun e => ⟨_, _, rfl, rfl, rfl, ?_⟩⟩
  · unfold prettifyRaw decodeDefault
    cases r.soupXml <;> rfl
  · exact recv_nonws_equal u vcp (.int 0) (some e) false r hd hu

example : prettifyRaw (ofS " ") (ofS "/") none demoRaw =
    .str (ofS "<head>\n <meta charset=\"utf-8\"/>\n <!-- c -->\n t\n</head>\n") ∧
    prettifyRaw (ofS " ") (ofS "/") (some (ofS "latin-1")) demoRaw =
    .bytes (ofS "latin-1") (ofS "<head>\n <meta charset=\"latin-1\"/>\n <!-- c -->\n t\n</head>\n") := by
  unfold demoRaw metaInfo
  decide_pstr
/-- the encodings matter: rendering the pretty text with `eventual_encoding=None` while the plain text uses the default would
    change non-whitespace characters of a `<meta charset>` -/
example : dropWs (recvDecode (ofS " ") (ofS "/") (.int 0) none false demoRaw) ≠
    dropWs (recvDecode (ofS " ") (ofS "/") .none (decodeDefault demoRaw) false demoRaw) := by
  unfold demoRaw metaInfo
  decide_pstr

/-- A tree whose attribute strings do not depend on the encoding (no charset-substituting `<meta>`) and that is not an XML soup
    renders the same text in both flavours: `prettify(e)` is the encoded `prettify()`. -/
theorem prettify_bytes_of_str (u vcp : PStr) (e : PStr) (r : RNode) (hx : r.soupXml ≠ some true)
    (hr : ∀ enc, resolve ⟨enc, vcp⟩ r = resolve ⟨none, vcp⟩ r) :
    ∃ t, prettifyRaw u vcp none r = .str t ∧ prettifyRaw u vcp (some e) r = .bytes e t := by
  refine ⟨_, rfl, ?_⟩
  simp only [prettifyRaw, encodeImpl, recvDecode, soupDecode, tagDecode, hr (some e)]
  cases hs : r.soupXml with
  | none => simp [hr BS.Gen.Pretty.tagDecodeDefaultEnc]
  | some x =>
    have : x = false := by cases x <;> simp_all
    simp [this, xmlDecl, hr BS.Gen.Pretty.soupDecodeDefaultEnc]

example : ∀ enc, resolve ⟨enc, ofS "/"⟩ demoXmlSoup = resolve ⟨none, ofS "/"⟩ demoXmlSoup := fun _ => rfl
example : (RNode.tag { metaInfo with attrBy := [] } []).soupXml ≠ some true ∧
    ∀ enc, resolve ⟨enc, ofS "/"⟩ (.tag { metaInfo with attrBy := [] } []) = resolve ⟨none, ofS "/"⟩ (.tag { metaInfo with attrBy := [] } []) :=
  ⟨by decide, fun _ => rfl⟩

/-- An empty-element tag as the starting point: its tag on a line of its own — indented by the start level, newline after. -/
theorem void_receiver (u vcp : PStr) (l : Int) (enc : Option PStr) (i : TagInfo) (hc : i.canBeEmpty = true)
    (hh : i.hidden = false) (hs : i.soupXml = none) :
    recvDecode u vcp (.int l) enc false (.tag i []) = rep u l ++ formatTag ⟨enc, vcp⟩ i true true ++ [10] ∧
    prettifyRaw u vcp none (.tag i []) = .str (formatTag ⟨BS.Gen.Pretty.tagDecodeDefaultEnc, vcp⟩ i true true ++ [10]) := by
  constructor
  · simp [recvDecode, RNode.soupXml, hs, tagDecode_void u vcp l enc i hc hh]
  · simp [prettifyRaw, recvDecode, RNode.soupXml, hs, tagDecode_void u vcp 0 _ i hc hh]

example : recvDecode (ofS "  ") (ofS "/") (.int 2) none false (.tag metaInfo []) = ofS "    <meta charset=\"iso-8859-1\"/>\n" := by
  unfold metaInfo
  decide_pstr
example : metaInfo.canBeEmpty = true ∧ metaInfo.hidden = false ∧ metaInfo.soupXml = none := by decide +kernel

/-- Line structure and final newline for every receiver at the level of the objects: a visible receiver gives its own lines, a
    hidden one (the `BeautifulSoup` object) or `decode_contents` the children's, after the declaration line if any; and the
    output, unless empty, ends with a newline. `rPreVisible`: no whitespace-preserving element met outside literal mode is hidden. -/
theorem recv_line_structure (u vcp : PStr) (l : Int) (enc : Option PStr) (co : Bool) (r : RNode) (hd : rdistinct r = true)
    (hv : if (r.hidden || co) = true then rPreVisibleL r.kids = true else rPreVisible r = true) :
    recvDecode u vcp (.int l) enc co r =
      (match r.soupXml with | some x => xmlDecl x enc | none => []) ++
      layout u l (if (r.hidden || co) = true then itemsL 0 (resolveL ⟨enc, vcp⟩ r.kids) else items 0 (resolve ⟨enc, vcp⟩ r)) ∧
    (recvDecode u vcp (.int l) enc co r ≠ [] → (recvDecode u vcp (.int l) enc co r).getLast? = some 10) := by
  have hs := decodeSpec_layout u l r.hidden co _ (preVisible_resolve_recv ⟨enc, vcp⟩ r r.hidden co hv)
  rw [kids_resolve] at hs
  have hdecl : EndsNl (match r.soupXml with | some x => xmlDecl x enc | none => []) := by
    cases r.soupXml with
    | none => exact Or.inl rfl
    | some x => exact xmlDecl_endsNl x enc
  refine (fun key => ⟨key, fun hne => EndsNl.getLast (key ▸ EndsNl.append hdecl (layout_endsNl u l _)) hne⟩) ?_
  rw [recv_decode_refines u vcp (.int l) enc co r hd, recvSpec]
  cases r.soupXml <;> simp [levelOf, soupLevel, hs]

example : rPreVisible demoRaw = true ∧ rPreVisibleL demoXmlSoup.kids = true ∧ demoXmlSoup.hidden = true := by decide +kernel

/-! ## 10. "re-parses to the same tree once whitespace inside text is disregarded": the token level

    Full statement of the clause: `parse(prettify(t))` and `parse(decode(t))` are the same tree up to whitespace in text nodes.
    `parse` = CPython's `html.parser` tokenizer + bs4's tree builder. This section does not use the tokenizer model (section
    11 does, on a narrower class of trees): the clause is proved up to the tokenizer: the two outputs, cut into tokens where a tokenizer cuts well-formed output, are the same token sequence
    once adjacent character data is merged and whitespace in it is disregarded. A tree builder is a function of that
    sequence (bs4's merges `handle_data` calls until the next tag; whitespace-only data never opens or closes an element).
    That html.parser really cuts the two texts like this — and the resulting trees — is what the harness' re-parse oracle
    checks on the real outputs (for text pieces that are inert for the tokenizer). -/

/-- Same tokens modulo whitespace in character data, for every tree of objects, unit of whitespace, level and encoding:
    (1) `prettyToks`/`plainToks` are cuts of the real pretty / plain output of a visible receiver — every tag piece and every
    string with a PREFIX (minus whitespace after its closing delimiter) one markup token, the rest character data;
    (2) after merging adjacent character data, removing whitespace from it and dropping empty runs, the two token sequences
    are equal. `specialsOk`: a PREFIX starts with a non-whitespace character (`specials_ok_table`). -/
theorem pretty_same_tokens (u vcp : PStr) (l : Int) (enc : Option PStr) (r : RNode) (hd : rdistinct r = true)
    (hh : r.hidden = false) (hu : ∀ c ∈ u, isSpace c = true) (hok : specialsOk r = true) :
    tagDecode u vcp (.int l) enc false r = textOf (prettyToks ⟨enc, vcp⟩ u l false r) ∧
    tagDecode u vcp .none enc false r = textOf (plainToks ⟨enc, vcp⟩ r) ∧
    canon (prettyToks ⟨enc, vcp⟩ u l false r) = canon (plainToks ⟨enc, vcp⟩ r) := by
  have hdist := distinct_resolve ⟨enc, vcp⟩ r hd
  refine ⟨?_, ?_, ?_⟩
  · rw [prettyToks_text]
    simp [tagDecode, hh, receiverStream, levelOf, pretty_refines u l _ hdist]
  · rw [plainToks_text]
    simp [tagDecode, hh, receiverStream, levelOf, plain_refines]
  · have := eqv_toks ⟨enc, vcp⟩ u hu r l false [] [] hok (Eqv.refl []) []
    simpa [canon] using this

example : specialsOk demoRaw = true ∧ demoRaw.hidden = false := by decide +kernel
example : canon (plainToks ⟨none, ofS "/"⟩ demoRaw) =
    [.markup (ofS "<head>"), .markup (ofS "<meta charset=\"iso-8859-1\"/>"), .markup (ofS "<!-- c -->"), .data (ofS "t"),
     .markup (ofS "</head>")] ∧
    prettyToks ⟨none, ofS "/"⟩ (ofS " ") 0 false demoRaw =
    [.data [], .markup (ofS "<head>"), .data [10], .data (ofS " "), .markup (ofS "<meta charset=\"iso-8859-1\"/>"), .data [10],
     .data (ofS " "), .markup (ofS "<!-- c -->"), .data [10], .data (ofS " t\n"), .data [], .markup (ofS "</head>"),
     .data [10]] := by
  unfold demoRaw metaInfo
  decide_pstr
/-- a doctype's newline belongs to the character data after it -/
example : plainToks ⟨none, []⟩ (.str (ofS "<!DOCTYPE ") (ofS ">\n") (ofS "html")) =
    [.markup (ofS "<!DOCTYPE html>"), .data [10]] := by decide_pstr

/-- Table fact over the whole generated table of string classes: every PREFIX starts with a character that is not whitespace —
    the hypothesis `specialsOk` of `pretty_same_tokens` holds for every string of every bs4 class, whatever its body. -/
theorem specials_ok_table : ∀ e ∈ BS.Gen.Pretty.stringAffixes, ∀ body, specialsOk (.str e.2.1 e.2.2.1 body) = true := by
  have hall : BS.Gen.Pretty.stringAffixes.all (fun e => specialsOk (.str e.2.1 e.2.2.1 [])) = true := by decide +kernel
  exact fun e he _ => List.all_eq_true.mp hall e he

/-! ## 11. the re-parse clause through the tokenizer MODEL (C05's `reparse_roundtrip_tokenized`)

    Section 10 stops at a *definition* of the token cuts. Here the clause is proved with `parse` = the code-mirror of CPython's
    tokenizer (`Model/Tokenizer.lean`, `feed(text); close()`) + `BeautifulSoupHTMLParser`'s handlers + the construction
    machine (`adapterBuild`), on the class C05's tokenized round trip covers (`RenderWritable`, 'minimal' formatter), with
    the pieces no longer opaque: `toPL` hands `_format_tag`/`output_ready` of C05's renderer to `decodeImpl`.
    The bridge: the pretty output of `ds` IS the plain output of `prettyTreeL u pwt l ds` (whitespace strings `unit^level`,
    `"\n"` added around every tag / non-blank string outside whitespace-preserving elements, text stripped, blank text
    dropped) — `pretty_output_is_plain_output`; and the parse of that tree's text differs from the parse of `ds`'s text only by
    whitespace in character data outside whitespace-preserving elements (`eraseWsL`: every `str.isspace` character removed,
    empty strings dropped; comments, CDATA, doctypes, PIs, element names and everything below a whitespace-preserving
    element compared exactly). -/

open BS.PrettyReparse in
/-- **The pretty output is the plain output of the tree with the whitespace strings added**, character for character: C14's
    loop (`decodeImpl`, levels, literal mode, `strip`, `_indent_string`) run on the pieces C05's renderer computes, at any
    start level, equals C05's `renderL` of `prettyTreeL`; and in plain mode it is `renderL` of the tree itself. For the
    formatters that substitute with `substitute_xml` ('minimal', whatever their `cdata_containing_tags`), every forest
    without hidden elements — `script`/`style` with their unsubstituted text included: both `substitute_xml` and the
    identity commute with `strip` and leave whitespace alone (`SubstOK`) —, a whitespace indent unit. -/
theorem pretty_output_is_plain_output (ci : BS.Render.SCls → BS.Render.ClsInfo) (hci : ∀ c, ci c = BS.Render.assumedMarkup c)
    (f : BS.Render.Fmt) (hf : f.subst = some BS.Render.substXml) (u : PStr) (hu : ∀ c ∈ u, isSpace c = true)
    (pwt : Option (List PStr)) (l : Int) (ds : List BS.Render.Node) (h : noHiddenL ds = true) :
    decodeImpl u (some l) (eventsL (toPL ci f pwt none 0 ds)) = BS.Render.renderL ci f none (prettyTreeL u pwt l ds) ∧
    decodeImpl u none (eventsL (toPL ci f pwt none 0 ds)) = BS.Render.renderL ci f none ds := by
  constructor
  · rw [pretty_refines_contents u l _ (distinctL_toPL ci f pwt ds none 0)]
    exact prettyL_eq_renderL ci hci f hf u hu pwt ds none 0 l h
  · rw [plain_refines_contents, plainL_toPL]

open BS.PrettyReparse in
/-- **Same parse modulo whitespace at the level of the written documents**, for EVERY forest (no writability hypothesis), unit
    of whitespace and level: the tree a parse builds from the document `prettyTreeL` describes equals the one built from the
    forest's own document after `eraseWsL`. `preAgreeL`: an element the pretty-printer lays out is not whitespace-preserving
    for the re-parsing builder (both read `preserve_whitespace_tags`); `CfgWs`: `ASCII_SPACES` ⊆ `str.isspace`, string
    containers do not produce comment/CDATA/PI/declaration/doctype classes. -/
theorem pretty_tree_same_parse (cfg : BS.Builder.Cfg) (hw : CfgWs cfg) (f : BS.Render.Fmt) (u : PStr)
    (hu : ∀ c ∈ u, isSpace c = true) (pwt : Option (List PStr)) (l : Int) (ds : List BS.Render.Node)
    (ha : preAgreeL cfg pwt ds = true) :
    eraseWsL cfg (BS.Writer.normalise cfg (BS.Render.toWDocL f (prettyTreeL u pwt l ds))) =
      eraseWsL cfg (BS.Writer.normalise cfg (BS.Render.toWDocL f ds)) :=
  erase_normalise_pretty hw f u hu pwt l ds ha

open BS.PrettyReparse in
/-- **`RenderWritable` is inherited by the pretty tree**: all three parts — the renderer-side class `renderWritableL`, C04's
    `Writable` under `minimalChoices` (restated path-independently: `writable_minimal_iff`; text is always writable under
    the minimal spelling, so stripping and the added whitespace strings are harmless) and `Representable` (a laid-out
    element gets children, but it is not a void name). For every unit (whitespace or not), level and `pwt`. -/
theorem pretty_tree_render_writable (bcfg : BS.Builder.Cfg) (acfg : BS.Adapter.ACfg) (f : BS.Render.Fmt) (u : PStr)
    (pwt : Option (List PStr)) (l : Int) (ds : List BS.Render.Node) (h : BS.Props.C05.RenderWritable bcfg acfg f ds) :
    BS.Props.C05.RenderWritable bcfg acfg f (prettyTreeL u pwt l ds) := by
  obtain ⟨h1, h2, h3⟩ := h
  obtain ⟨k1, k2, k3⟩ := parts_treeL acfg.isVoid bcfg.rootName f u pwt ds l h1
    ((writable_minimal_iff acfg.isVoid _).mp h2) h3
  exact ⟨k1, (writable_minimal_iff acfg.isVoid _).mpr k2, k3⟩

open BS.PrettyReparse in
/-- **`prettify_reparse_tokenized`** — "pretty-printed output re-parses to the same tree as the plain output once whitespace
    inside text is disregarded", with the parser modelled end to end. For every builder/adapter configuration (`CfgOK`, `CfgWs`,
    `EntOK`), `ParamsOK` tokenizer parameters, the 'minimal' formatter, whitespace unit `u`, start level `l`, and every
    `RenderWritable` forest `ds` (its pretty tree then is, too: `pretty_tree_render_writable`): tokenizing `decode(indent_level=l)`'s text (the loop of `Tag.decode` on the real
    pieces) with the model of CPython's tokenizer and building the tree gives, after `eraseWsL`, the same tree as doing so
    with `decode()`'s text — and that tree is the normal form of `ds`. Elements, nesting, special strings and everything inside
    whitespace-preserving elements are compared exactly; character data elsewhere up to its whitespace characters. -/
theorem prettify_reparse_tokenized (bcfg : BS.Builder.Cfg) (acfg : BS.Adapter.ACfg) (hc : BS.Builder.CfgOK bcfg)
    (hw : CfgWs bcfg) (P : BS.Tokenizer.Params) (hP : BS.WriterText.ParamsOK P) (he : BS.WriterMin.EntOK acfg)
    (ci : BS.Render.SCls → BS.Render.ClsInfo) (hci : ∀ c, ci c = BS.Render.assumedMarkup c) (f : BS.Render.Fmt)
    (hf : BS.Render.IsMinimal f) (u : PStr) (hu : ∀ c ∈ u, isSpace c = true) (pwt : Option (List PStr)) (l : Int)
    (ds : List BS.Render.Node) (h : BS.Props.C05.RenderWritable bcfg acfg f ds) (ha : preAgreeL bcfg pwt ds = true) :
    eraseWsL bcfg (BS.Adapter.adapterBuild bcfg acfg (BS.Tokenizer.callbacks (BS.Tokenizer.run P
        (decodeImpl u (some l) (eventsL (toPL ci f pwt none 0 ds)))))).1 =
      eraseWsL bcfg (BS.Adapter.adapterBuild bcfg acfg (BS.Tokenizer.callbacks (BS.Tokenizer.run P
        (decodeImpl u none (eventsL (toPL ci f pwt none 0 ds)))))).1 ∧
    eraseWsL bcfg (BS.Adapter.adapterBuild bcfg acfg (BS.Tokenizer.callbacks (BS.Tokenizer.run P
        (decodeImpl u (some l) (eventsL (toPL ci f pwt none 0 ds)))))).1 =
      eraseWsL bcfg (BS.Writer.normalise bcfg (BS.Render.toWDocL f ds)) := by
  obtain ⟨e1, e2⟩ := pretty_output_is_plain_output ci hci f hf.1 u hu pwt l ds (noHiddenL_of_writable acfg.isVoid f ds h.1)
  have h' := pretty_tree_render_writable bcfg acfg f u pwt l ds h
  rw [e1, e2, BS.Props.C05.reparse_roundtrip_tokenized bcfg acfg hc P hP he ci hci f hf _ h',
    BS.Props.C05.reparse_roundtrip_tokenized bcfg acfg hc P hP he ci hci f hf _ h]
  have hp := pretty_tree_same_parse bcfg hw f u hu pwt l ds ha
  exact ⟨hp, hp⟩

/-- `pre`/`textarea` as the pretty-printer's whitespace-preserving names; C04's sample configuration preserves `pre` -/
def tkPwt : Option (List PStr) := some [ofS "pre", ofS "textarea"]

/-- doctype, attributes, text to strip, a blank string, void element, comment, nested elements, a `<pre>` with an element
    and significant whitespace inside -/
def tkForest : List BS.Render.Node :=
  [.str .doctype (ofS "html"),
   .tag (BS.Props.C05.tg "p" [(ofS "id", .str (ofS "x&y"))])
     [.str .navigable (ofS " a<b  & c "), .tag (BS.Props.C05.tg "br" [] true) [], .str .navigable (ofS " \n"),
      .str .comment (ofS " note "), .tag (BS.Props.C05.tg "b") [.str .navigable (ofS "x")], .tag (BS.Props.C05.tg "i") []],
   .tag (BS.Props.C05.tg "pre") [.str .navigable (ofS " \n k "), .tag (BS.Props.C05.tg "b") [.str .navigable (ofS " y ")]]]

theorem tk_cfg_ws : BS.PrettyReparse.CfgWs BS.Props.C04.xB :=
  -- `xB`'s only container: `rt` ↦ 9
  ⟨by decide, by intro n c h; simp only [BS.Props.C04.xB] at h; split at h <;> simp_all <;> (subst h; decide)⟩

example : BS.Props.C05.RenderWritable BS.Props.C04.xB BS.Props.C05.tkA BS.Props.C05.minimalHtml tkForest := by decide +kernel
example : BS.Props.C05.RenderWritable BS.Props.C04.xB BS.Props.C05.tkA BS.Props.C05.minimalHtml
    (BS.PrettyReparse.prettyTreeL (ofS " ") tkPwt 0 tkForest) := by decide_pstr
example : BS.PrettyReparse.preAgreeL BS.Props.C04.xB tkPwt tkForest = true := by decide +kernel
example : decodeImpl (ofS " ") (some 0) (eventsL (BS.PrettyReparse.toPL BS.Gen.C05.liveClsInfo BS.Props.C05.minimalHtml tkPwt none 0 tkForest)) =
    ofS "<!DOCTYPE html>\n<p id=\"x&amp;y\">\n a&lt;b  &amp; c\n <br/>\n <!-- note -->\n <b>\n  x\n </b>\n <i>\n </i>\n</p>\n<pre> \n k <b> y </b></pre>\n" := by decide_pstr
/-- the theorem on the sample: the parse of the pretty text, erased, is the erased normal form below -/
example : BS.PrettyReparse.eraseWsL BS.Props.C04.xB (BS.Adapter.adapterBuild BS.Props.C04.xB BS.Props.C05.tkA
      (BS.Tokenizer.callbacks (BS.Tokenizer.run BS.Props.C04.xP (decodeImpl (ofS " ") (some 0)
        (eventsL (BS.PrettyReparse.toPL BS.Gen.C05.liveClsInfo BS.Props.C05.minimalHtml tkPwt none 0 tkForest)))))).1 =
    BS.PrettyReparse.eraseWsL BS.Props.C04.xB
      (BS.Writer.normalise BS.Props.C04.xB (BS.Render.toWDocL BS.Props.C05.minimalHtml tkForest)) :=
  (prettify_reparse_tokenized _ BS.Props.C05.tkA (by decide +kernel) tk_cfg_ws _ BS.Props.C04.xP_ok ⟨rfl, rfl, rfl⟩
    BS.Gen.C05.liveClsInfo BS.Props.C05.class_table_live _ BS.Props.C05.minimal_is_minimal.1 (ofS " ") (by decide +kernel) tkPwt 0
    tkForest (by decide +kernel) (by decide +kernel)).2
/-- what both parses are, after erasing -/
example : BS.PrettyReparse.eraseWsL BS.Props.C04.xB
      (BS.Writer.normalise BS.Props.C04.xB (BS.Render.toWDocL BS.Props.C05.minimalHtml tkForest)) =
    [.text 5 (ofS "html"),
     .elem (ofS "p") none [.text 0 (ofS "a<b&c"), .elem (ofS "br") none [], .text 1 (ofS " note "),
       .elem (ofS "b") none [.text 0 (ofS "x")], .elem (ofS "i") none []],
     .elem (ofS "pre") none [.text 0 (ofS " \n k "), .elem (ofS "b") none [.text 0 (ofS " y ")]]] := by rfl
/-! Outside `RenderWritable` (script/style, single-quoted values, other formatters, hidden elements, non-whitespace units) the
    clause rests on the harness stream `reparse-model` (real prettify()/decode() text → real parser vs tokenizer model + builder
    model, erased trees compared). -/

/-- script and style (outside `RenderWritable`, which refuses cdata-content names): the text-level bridge and the document-level comparison still apply — their text is not substituted, is stripped
    and indented like any other text, and the two documents build the same tree modulo whitespace -/
def tkScript : List BS.Render.Node :=
  [.tag (BS.Props.C05.tg "div") [.tag (BS.Props.C05.tg "script") [.str .script (ofS " a<b && c ")],
     .tag (BS.Props.C05.tg "style") [.str .stylesheet (ofS "\n")], .str .navigable (ofS " x<y ")]]
example : BS.PrettyReparse.noHiddenL tkScript = true ∧ BS.PrettyReparse.preAgreeL BS.Props.C04.xB tkPwt tkScript = true ∧
    BS.Render.renderWritableL BS.Props.C05.tkA.isVoid BS.Props.C05.minimalHtml tkScript = false := by decide +kernel
example : decodeImpl (ofS " ") (some 0) (eventsL (BS.PrettyReparse.toPL BS.Gen.C05.liveClsInfo BS.Props.C05.minimalHtml tkPwt none 0 tkScript)) =
    ofS "<div>\n <script>\n  a<b && c\n </script>\n <style>\n </style>\n x&lt;y\n</div>\n" := by decide_pstr
/-- a hidden element is outside the bridge: it has no pieces, so no line, while `prettyTree` would give it one -/
example : BS.PrettyReparse.noHiddenL [.tag { BS.Props.C05.tg "p" with hidden := true } []] = false := by decide +kernel

/-- `preAgreeL` is needed: were `p` whitespace-preserving for the builder only, the added whitespace would survive the erasure -/
example : BS.PrettyReparse.preAgreeL { BS.Props.C04.xB with preserve := fun n => n == ofS "p" } tkPwt tkForest = false := by decide_pstr

end BS.Props.C14
