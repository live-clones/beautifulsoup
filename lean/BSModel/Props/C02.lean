import BSModel.Proofs.HeapContig
import BSModel.Proofs.HeapEffects
import BSModel.Proofs.HeapExtract
import BSModel.Proofs.HeapLink
import BSModel.Proofs.HeapSmooth
import BSModel.Proofs.HeapDecomposeEffect
import BSModel.Proofs.HeapCopySpec
import BSModel.Proofs.HeapCopyTotal
import BSModel.Proofs.HeapCopyIso
/-! # C02 — each editing call has exactly its documented effect on tree shape

The forest is the pair (children lists, parent fields) of the pointer heap. The theorems give its closed form after the two
primitives and after each call built from them; `Good` (C01) supplies "no element occupies two places". -/
namespace BS.Props.C02
open BS.Heap

/-- **extract**: on a consistent forest `extract` always succeeds; `x` leaves its parent's children list,
    becomes parentless; no other children list and no other parent field changes — `x` comes back detached
    with its own subtree intact and nothing else moves. -/
theorem extract_effect {h : Heap} (x : Nat) (hg : Good h) :
    ∃ h', extract h x = .ok h' ∧ Good h' ∧
      (∀ n, h'.kids n = if h.parent x = some n then (h.kids n).erase x else h.kids n) ∧
      (∀ n, h'.parent n = if n = x then none else h.parent n) := by
  obtain ⟨h', he⟩ := extract_total x hg
  obtain ⟨hg', hk, hp, _, _⟩ := extract_good hg he
  exact ⟨h', he, hg', hk, hp⟩

/-- **_insert** (one element): whenever it returns, `x` has been removed from wherever it was and sits in `p`'s
    children right before the element that was at index `position` (not counting `x` itself; clamped to the
    end); every other children list only loses `x`; only `x`'s parent changes. -/
theorem insert_one_effect {h h' : Heap} {p position x : Nat}
    (hg : Good h) (hp : (h.kind p).isTag = true) (hx : h.kind x ≠ .soup)
    (hi : insertCore h p position x = .ok h') :
    h'.kids p = ((h.kids p).erase x).insertIdx (((h.kids p).take position).erase x).length x ∧
    (∀ n, n ≠ p → h'.kids n = (h.kids n).erase x) ∧
    (∀ n, h'.parent n = if n = x then some p else h.parent n) := by
  obtain ⟨w, hwf⟩ := hg
  obtain ⟨_, _, _, _, hshape⟩ := insertCore_spec hwf hp hx hi
  exact hshape

/-- **insert** (several elements): the distinct elements `xs` end up contiguous, in the requested order, right
    before the element that was at index `position`, not counting the inserted elements themselves; the other
    children keep their relative order. -/
theorem insert_many_contiguous {h h' : Heap} {p position pos' : Nat}
    {xs : List Nat} (hg : Good2 h) (hp : (h.kind p).isTag = true) (hnd : xs.Nodup)
    (hk : ∀ x ∈ xs, h.kind x ≠ .soup) (hpos : position ≤ (h.kids p).length)
    (hi : insertElems h p position xs = .ok (h', pos')) :
    h'.kids p = ((h.kids p).take position).filter (fun k => !xs.contains k) ++ xs ++
                ((h.kids p).drop position).filter (fun k => !xs.contains k) := by
  have := insertElems_contiguous xs h position h' pos' ((h.kids p).take position) [] ((h.kids p).drop position)
    hg hp hnd hk (fun _ _ hm => by cases hm) (by simp) (by simp [Nat.min_eq_left hpos]) hi
  simpa using this.1

/-- no element occupies two places: children lists are duplicate-free, and an element is in at most one of them -/
theorem no_two_places {h : Heap} (hg : Good h) :
    (∀ n, (h.kids n).Nodup) ∧ (∀ n m k, k ∈ h.kids n → k ∈ h.kids m → n = m) :=
  ⟨good_kids_nodup hg, fun _ _ _ hn hm => some_parent_eq ((good_mem_kids_iff hg).mp hn) ((good_mem_kids_iff hg).mp hm)⟩

/-- **clear()**: every child comes back detached (parentless), the tag is left childless, and no other children
    list and no other parent field changes -/
theorem clear_effect {h h' : Heap} {t : Nat} (hg : Good h) (hc : clear h t = .ok h') :
    Good h' ∧ h'.kids t = [] ∧ (∀ n, n ≠ t → h'.kids n = h.kids n) ∧
    (∀ n, h'.parent n = if n ∈ h.kids t then none else h.parent n) :=
  BS.Heap.clear_effect hg hc

/-- **replace_with(y)** (one element that is not a sibling of `x`): `y` takes exactly `x`'s place among its
    siblings, `x` comes back detached, `y` disappears from wherever it was before, nothing else moves -/
theorem replace_with_one_effect {h h' : Heap} {x y p : Nat} (hg : Good2 h) (hp : h.parent x = some p)
    (hy : h.kind y ≠ .soup) (hxy : y ≠ x) (hyp : y ∉ h.kids p) (hr : replaceWith h x [.node y] = .ok h') :
    Good2 h' ∧ h'.kids p = (h.kids p).map (fun k => if k = x then y else k) ∧
    (∀ n, n ≠ p → h'.kids n = ((h.kids n).erase x).erase y) ∧ h'.parent x = none ∧ h'.parent y = some p :=
  replaceWith_one_effect hg hp hy hxy hyp hr

/-- **unwrap()**: the element is replaced by its children, in order, exactly at its slot; it comes back detached and
    childless; every child's parent is now the former parent; nothing else moves -/
theorem unwrap_effect {h h' : Heap} {x p : Nat} {pre post : List Nat} (hg : Good2 h) (hp : h.parent x = some p)
    (hk : h.kids p = pre ++ x :: post) (hu : unwrap h x = .ok h') :
    Good2 h' ∧ h'.kids p = pre ++ h.kids x ++ post ∧ h'.kids x = [] ∧ h'.parent x = none ∧
    (∀ n, n ≠ p → n ≠ x → h'.kids n = h.kids n) ∧ (∀ c ∈ h.kids x, h'.parent c = some p) :=
  BS.Heap.unwrap_effect hg hp hk hu

/-- **insert_before(y)** (one element): `y` is taken out of wherever it was and lands immediately before `x`; the other
    children of `x`'s parent keep their order; every other children list only loses `y` -/
theorem insert_before_one_effect {h h' : Heap} {x y p : Nat} {pre post : List Nat} (hg : Good2 h)
    (hp : h.parent x = some p) (hy : h.kind y ≠ .soup) (hxy : y ≠ x) (hxs : h.kind x ≠ .soup)
    (hk : (h.kids p).erase y = pre ++ x :: post) (hr : insertBefore h x [.node y] = .ok h') :
    Good2 h' ∧ h'.kids p = pre ++ y :: x :: post ∧ (∀ n, n ≠ p → h'.kids n = (h.kids n).erase y) ∧
    h'.parent y = some p :=
  BS.Heap.insertBefore_one_effect hg hp hy hxy hxs hk hr

/-- **insert_after(y)** (one element): `y` lands immediately after `x` -/
theorem insert_after_one_effect {h h' : Heap} {x y p : Nat} {pre post : List Nat} (hg : Good2 h)
    (hp : h.parent x = some p) (hy : h.kind y ≠ .soup) (hxy : y ≠ x) (hxs : h.kind x ≠ .soup)
    (hk : (h.kids p).erase y = pre ++ x :: post) (hr : insertAfter h x [.node y] = .ok h') :
    Good2 h' ∧ h'.kids p = pre ++ x :: y :: post ∧ (∀ n, n ≠ p → h'.kids n = (h.kids n).erase y) ∧
    h'.parent y = some p :=
  BS.Heap.insertAfter_one_effect hg hp hy hxy hxs hk hr

/-- **append(y)** (one element): `y` is taken out of wherever it was (the same tag included) and becomes the last child -/
theorem append_one_effect {h h' : Heap} {p y : Nat} (hg : Good2 h) (hp : (h.kind p).isTag = true)
    (hy : h.kind y ≠ .soup) (ha : append h p (.node y) = .ok h') :
    Good2 h' ∧ h'.kids p = (h.kids p).erase y ++ [y] ∧ (∀ n, n ≠ p → h'.kids n = (h.kids n).erase y) ∧
    h'.parent y = some p :=
  BS.Heap.append_one_effect hg hp hy ha

/-- **wrap(w)**: `w` takes `x`'s place; `x` becomes the last child of `w`; nothing else moves -/
theorem wrap_effect {h h' : Heap} {x w p : Nat} (hg : Good2 h) (hp : h.parent x = some p)
    (hw : (h.kind w).isTag = true) (hws : h.kind w ≠ .soup) (hxw : w ≠ x) (hwp : w ∉ h.kids p)
    (hr : wrap h x w = .ok h') :
    Good2 h' ∧ h'.kids p = (h.kids p).map (fun k => if k = x then w else k) ∧
    h'.kids w = h.kids w ++ [x] ∧ h'.parent x = some w ∧ h'.parent w = some p ∧
    (∀ n, n ≠ p → n ≠ w → h'.kids n = (h.kids n).erase w) :=
  BS.Heap.wrap_effect hg hp hw hws hxw hwp hr

/-- **extend(xs)** (distinct elements, wherever they were — this tag included): they end up at the end of the tag's children in the
    given order; every other children list only loses them; each has the tag as parent -/
theorem extend_effect {h h' : Heap} {p : Nat} {xs : List Nat} (hg : Good2 h) (hp : (h.kind p).isTag = true)
    (hnd : xs.Nodup) (hk : ∀ x ∈ xs, h.kind x ≠ .soup) (he : extendList h p (xs.map Arg.node) = .ok h') :
    Good2 h' ∧ h'.kids p = (h.kids p).filter (fun k => !xs.contains k) ++ xs ∧
    (∀ n, n ≠ p → h'.kids n = (h.kids n).filter (fun k => !xs.contains k)) ∧ (∀ x ∈ xs, h'.parent x = some p) :=
  BS.Heap.appendAll_effect xs h h' p hg hp hnd hk he

/-- **`tag.string = v`**: the former children come back detached, the tag's only child is a NEW string object (the next unused
    identity), no other children list changes -/
theorem set_string_effect {h h' : Heap} {t : Nat} {k : Kind} {v : PStr} (hg : Good2 h) (ht : (h.kind t).isTag = true)
    (hk : k = .str ∨ k = .pre) (hs : setString h t k v = .ok h') :
    Good2 h' ∧ h'.kids t = [h.next] ∧ h'.parent h.next = some t ∧ (∀ n, n ≠ t → h'.kids n = h.kids n) ∧
    (∀ n, n ≠ h.next → h'.parent n = if n ∈ h.kids t then none else h.parent n) :=
  BS.Heap.setString_effect hg ht hk hs

/-- **insert_before(y₁, …, yₙ)** (distinct elements, none of them the target `x`): all are removed from wherever they were and end
    up, in the given order, immediately before `x`; the other children keep their order; other lists only lose them.
    (`insertBefore h x args` is this loop once the guards — not a BeautifulSoup object, has a parent, not among the arguments — pass.) -/
theorem insert_before_many_effect {h h' : Heap} {x p : Nat} {ys pre post : List Nat} (hg : Good2 h)
    (hp : h.parent x = some p) (hnd : ys.Nodup) (hx : x ∉ ys) (hk : ∀ y ∈ ys, h.kind y ≠ .soup) (hxs : h.kind x ≠ .soup)
    (hsplit : (h.kids p).filter (fun k => !ys.contains k) = pre ++ x :: post)
    (hr : insertBeforeLoop h p x (ys.map Arg.node) = .ok h') :
    Good2 h' ∧ h'.kids p = pre ++ ys ++ x :: post ∧
    (∀ n, n ≠ p → h'.kids n = (h.kids n).filter (fun k => !ys.contains k)) ∧ (∀ y ∈ ys, h'.parent y = some p) :=
  BS.Heap.insertBefore_many_effect ys h h' x p pre post hg hp hnd hx hk hxs hsplit hr

/-- **insert_after(y₁, …, yₙ)**: … immediately after `x`, in the given order -/
theorem insert_after_many_effect {h h' : Heap} {x p : Nat} {ys pre post : List Nat} (hg : Good2 h)
    (hp : h.parent x = some p) (hnd : ys.Nodup) (hx : x ∉ ys) (hk : ∀ y ∈ ys, h.kind y ≠ .soup) (hxs : h.kind x ≠ .soup)
    (hsplit : (h.kids p).filter (fun k => !ys.contains k) = pre ++ x :: post)
    (hr : insertAfterLoop h p x (ys.map Arg.node) = .ok h') :
    Good2 h' ∧ h'.kids p = pre ++ x :: ys ++ post ∧
    (∀ n, n ≠ p → h'.kids n = (h.kids n).filter (fun k => !ys.contains k)) ∧ (∀ y ∈ ys, h'.parent y = some p) :=
  BS.Heap.insertAfter_many_effect ys h h' x p pre post hg hp hnd hx hk hxs hsplit hr

/-- **replace_with(y₁, …, yₙ)** (distinct elements, none of them `x` or `x`'s parent): `x` comes back detached and the `yᵢ` stand
    contiguously, in the given order, where `x` stood; the other children keep their order -/
theorem replace_with_many_effect {h h' : Heap} {x p : Nat} {ys pre post : List Nat} (hg : Good2 h) (hp : h.parent x = some p)
    (hnd : ys.Nodup) (hxy : x ∉ ys) (hpy : p ∉ ys) (hk : ∀ y ∈ ys, h.kind y ≠ .soup) (hne : ys ≠ [])
    (hsplit : h.kids p = pre ++ x :: post) (hr : replaceWith h x (ys.map Arg.node) = .ok h') :
    h'.kids p = pre.filter (fun k => !ys.contains k) ++ ys ++ post.filter (fun k => !ys.contains k) ∧ h'.parent x = none :=
  BS.Heap.replaceWith_many_effect hg hp hnd hxy hpy hk hsplit hr

/-- **a whole BeautifulSoup object as the argument of `insert`** (element.py:1943-1948: "we don't want one BeautifulSoup object to
    contain another"): its children — all of them, in order — are moved to the slot, contiguously; the object itself stays
    where it was, childless; the other children of the target keep their order -/
theorem insert_soup_effect {h h' : Heap} {p s position : Nat} {ins : List Nat} (hg : Good2 h) (hp : (h.kind p).isTag = true)
    (hs : h.kind s = .soup) (hsp : s ≠ p) (hpos : position ≤ (h.kids p).length)
    (hi : insert h p position [.node s] = .ok (h', ins)) :
    ins = h.kids s ∧
    h'.kids p = ((h.kids p).take position).filter (fun k => !(h.kids s).contains k) ++ h.kids s ++
                ((h.kids p).drop position).filter (fun k => !(h.kids s).contains k) ∧
    h'.kids s = [] :=
  BS.Heap.insert_soup_effect hg hp hs hsp hpos hi

/-! ### `smooth()`

`view h t` is the children list of `t` as the property sees it (a plain string — `NavigableString` and its non-Preformatted
subclasses — by its text, anything else by its identity), `squash` the documented effect on it: every maximal run of
adjacent plain strings becomes ONE string, the concatenation, and nothing else moves (`Model/HeapSmooth.lean`).
`idView` / `squashId` are the same with the identity of every child: a child that is not merged stays the same object,
every merged run is a new one. -/

/-- the two equations that pin `squash` down — a child that is not a plain string separates the list, and a run of plain
    strings becomes the one string that concatenates them — and: a list without two adjacent plain strings is left alone -/
theorem squash_characterised :
    squash [] = [] ∧
    (∀ (l₁ l₂ : List Item) (k : Nat), squash (l₁ ++ .other k :: l₂) = squash l₁ ++ .other k :: squash l₂) ∧
    (∀ (v : PStr) (vs : List PStr), squash ((v :: vs).map Item.str) = [.str (v :: vs).flatten]) ∧
    (∀ l, NoAdjStr l → squash l = l) :=
  ⟨rfl, squash_split, squash_run, squash_of_noAdj⟩

/-- `squashId` is `squash` once the identities are forgotten; every identity in its result is that of an old child (in
    which case the child is unchanged) or one allocated by the call -/
theorem squash_id_refines_squash (n : Nat) (l : List IItem) :
    (squashId n l).1.map Prod.snd = squash (l.map Prod.snd) ∧ n ≤ (squashId n l).2 ∧
    (∀ x ∈ (squashId n l).1, x ∈ l ∨ (n ≤ x.1 ∧ x.1 < (squashId n l).2)) :=
  ⟨squashId_snd n l, squashId_counter n l⟩

/-- **`_smooth_children`** (one tag): afterwards the children of `t` are `squash` of what they were — every maximal run of
    adjacent plain strings has become one string, the concatenation, everything else is where it was; the forest is still
    consistent; no other children list has changed; no existing object has changed class or text; everything allocated is a
    plain string; the only existing objects whose parent changed are plain strings that were children of `t` (the merged
    ones: they come back detached) -/
theorem smooth_children_effect {h h' : Heap} {t : Nat} (hg : Good2 h) (hs : smoothChildren h t = .ok h') :
    view h' t = squash (view h t) ∧ Good2 h' ∧
    (∀ q, q ≠ t → h'.kids q = h.kids q ∧ view h' q = view h q) ∧
    (∀ k, k < h.next → h'.kind k = h.kind k ∧ h'.val k = h.val k) ∧
    (∀ k, h.next ≤ k → k < h'.next → h'.kind k = .str) ∧
    (∀ k, k < h.next → h'.parent k = h.parent k ∨ (h.parent k = some t ∧ h.kind k = .str ∧ h'.parent k = none)) := by
  obtain ⟨e, hg', fr⟩ := smoothChildren_effect hg hs
  refine ⟨e, hg', fun q hq => ⟨fr.others q hq, (fr.view_others hg.1 hq).2⟩, fr.old, fr.newStr, ?_⟩
  intro k hk
  rcases fr.parent k hk with a | ⟨q, rfl, b⟩
  · exact Or.inl a
  · exact Or.inr b

/-- **`_smooth_children`, identities included**: a child that is not part of a run of two or more plain strings is the
    SAME object afterwards, in the same place; every run is replaced by one NEW object (`squashId`, from the allocation
    counter of the heap); the allocation counter ends where `squashId` says -/
theorem smooth_children_exact {h h' : Heap} {t : Nat} (hg : Good2 h) (hs : smoothChildren h t = .ok h') :
    (idView h' t, h'.next) = squashId h.next (idView h t) :=
  (smoothChildren_exact hg hs).1

/-- what one can observe of the result without reading `squash`: no two adjacent children are plain strings any more; the
    text of the plain strings, read in order, is what it was; the children that are not plain strings are the same objects
    in the same order -/
theorem smooth_children_observable {h h' : Heap} {t : Nat} (hg : Good2 h) (hs : smoothChildren h t = .ok h') :
    NoAdjStr (view h' t) ∧ strCat (view h' t) = strCat (view h t) ∧ others (view h' t) = others (view h t) := by
  rw [(smoothChildren_effect hg hs).1]
  exact ⟨squash_noAdj _, squash_strCat _, squash_others _⟩

/-- a tag without two adjacent plain strings among its children is not touched at all: the heap is returned as it is -/
theorem smooth_children_noop {h : Heap} {t : Nat} (hn : NoAdjStr (view h t)) : smoothChildren h t = .ok h :=
  smoothChildren_noop hn

/-- **`smooth()`, the whole call** ("this tag and every tag beneath it"): for every object `q` of the subtree of `t` (the
    pre-order walk from `t` before the call) the children of `q` are `squash` of what they were — with identities,
    `squashId` from some allocation counter at or after the one of the heap; the forest is still consistent; outside the
    subtree no children list has changed; no existing object has changed class or text; everything allocated is a plain
    string; the only existing objects whose parent changed are plain strings directly beneath an object of the subtree -/
theorem smooth_effect {h h' : Heap} {t : Nat} (hg : Good2 h) (hs : smooth h t = .ok h') :
    Good2 h' ∧
    (∀ q ∈ docOrder h t, view h' q = squash (view h q)) ∧
    (∀ q ∈ docOrder h t, ∃ n, h.next ≤ n ∧ idView h' q = (squashId n (idView h q)).1) ∧
    (∀ q, q ∉ docOrder h t → h'.kids q = h.kids q ∧ view h' q = view h q) ∧
    (∀ k, k < h.next → h'.kind k = h.kind k ∧ h'.val k = h.val k) ∧
    (∀ k, h.next ≤ k → k < h'.next → h'.kind k = .str) ∧
    (∀ k, k < h.next → h'.parent k = h.parent k ∨
      (∃ q ∈ docOrder h t, h.parent k = some q ∧ h.kind k = .str ∧ h'.parent k = none)) := by
  obtain ⟨hg', fr, hid, hv⟩ := BS.Heap.smooth_effect hg hs
  exact ⟨hg', hv, hid, fun q hq => ⟨fr.others q hq, (fr.view_others hg.1 hq).2⟩, fr.old, fr.newStr, fr.parent⟩

/-- **on a consistent forest `smooth()` never fails**: none of the model's error outcomes (`IndexError`, `ValueError`,
    `AttributeError` on `None`) can occur, whatever the tag and whatever its subtree -/
theorem smooth_never_fails {h : Heap} (t : Nat) (hg : Good2 h) : ∃ h', smooth h t = .ok h' :=
  smooth_total t hg

/-- **`smooth()` is idempotent**: a second call on the result changes nothing at all — the very same heap comes back (no object
    is allocated, no pointer written) -/
theorem smooth_idempotent {h h' : Heap} {t : Nat} (hg : Good2 h) (hs : smooth h t = .ok h') : smooth h' t = .ok h' :=
  BS.Heap.smooth_idempotent hg hs

/-! ### `decompose()` and `clear(decompose=True)`

The model's mark for a destroyed element is `Isolated`: no parent, no children, no sibling and no element links — the state
the wipe-out loop of `decompose` leaves every element of the subtree in. -/

/-- **decompose()**: the element leaves its parent's children list; every element of its subtree (the pre-order walk from
    it before the call) is destroyed; every other element keeps its parent and its children list (the parent's list only
    loses the element); no element changes class or text; nothing is allocated; the forest stays consistent -/
theorem decompose_effect {h h' : Heap} {x : Nat} (hg : Good2 h) (hd : decompose h x = .ok h') :
    Good2 h' ∧
    (∀ m, m ∈ docOrder h x → Isolated h' m) ∧
    (∀ m, m ∉ docOrder h x →
      h'.parent m = h.parent m ∧ h'.kids m = if h.parent x = some m then (h.kids m).erase x else h.kids m) ∧
    h'.kind = h.kind ∧ h'.val = h.val ∧ h'.next = h.next := by
  obtain ⟨a, b, c, d, e, f, _⟩ := BS.Heap.decompose_effect hg hd
  exact ⟨a, b, c, d, e, f⟩

/-- `decompose()` of anything but a BeautifulSoup object never fails on a consistent forest -/
theorem decompose_never_fails {h : Heap} {x : Nat} (hg : Good h) (hx : h.kind x ≠ .soup) : ∃ h', decompose h x = .ok h' :=
  decompose_total hg hx

/-- **clear(decompose=True)**: the tag is left childless and keeps its own place; every element that was beneath it is
    destroyed; every element outside its subtree keeps its parent and its children list; no element changes class or text;
    nothing is allocated; the forest stays consistent -/
theorem clear_decompose_effect {h h' : Heap} {t : Nat} (hg : Good2 h) (hd : clearDecompose h t = .ok h') :
    Good2 h' ∧ h'.kids t = [] ∧ h'.parent t = h.parent t ∧
    (∀ m, m ∈ docOrder h t → m ≠ t → Isolated h' m) ∧
    (∀ m, m ∉ docOrder h t → h'.parent m = h.parent m ∧ h'.kids m = h.kids m) ∧
    h'.kind = h.kind ∧ h'.val = h.val ∧ h'.next = h.next :=
  clearDecompose_effect hg hd

/-- `clear(decompose=True)` never fails on a consistent forest -/
theorem clear_decompose_never_fails {h : Heap} (t : Nat) (hg : Good2 h) : ∃ h', clearDecompose h t = .ok h' :=
  clearDecompose_total t hg

/-! ### copies (`copy.copy(el)` / `copy.deepcopy(el)` / `el.__copy__()`; Model/HeapCopy.lean) -/

/-- **copy**: the call allocates the clone `c` and nothing else moves: every object that existed keeps its parent and its children
    list (and its class and text) — no element is lost; the objects of the copy are exactly the ids allocated by the call, each occurs
    once in the document order of the clone (no element is duplicated: the copy shares no object with any tree), there are as many as
    in the subtree copied, and the clone has no parent; the forest stays consistent -/
theorem copy_effect {h h' : Heap} {x c : Nat} (hg : Good2 h) (hc : copy h x = .ok (h', c)) :
    Good2 h' ∧ c = h.next ∧ h'.parent c = none ∧
    (∀ n, n < h.next → h'.kids n = h.kids n ∧ h'.parent n = h.parent n ∧ h'.kind n = h.kind n ∧ h'.val n = h.val n) ∧
    (docOrder h' c).Nodup ∧ (∀ m, m ∈ docOrder h' c ↔ (h.next ≤ m ∧ m < h'.next)) ∧
    h'.next - h.next = (docOrder h x).length := by
  obtain ⟨rfl, w', st', inv⟩ := copy_cinv hg hc
  obtain ⟨hg', hroot, hdoc, hlen⟩ := cinv_final inv
  refine ⟨hg', rfl, hroot, ?_, docOrder_nodup inv.wf hroot, ?_, by rw [inv.len]⟩
  · intro n hn
    obtain ⟨hparent, hkids, _, _, _, _, hkind, hval⟩ := inv.frame n hn
    exact ⟨hkids, hparent, hkind, hval⟩
  · intro m
    rw [hdoc, List.mem_range'_1]
    have := inv.lt
    omega

/-- **copy, element by element**: the copy of the `i`-th element of the subtree (document order) is the `i`-th object the call
    allocates, it stands at index `i` of the document order of the clone, and it has the class and the text of its original (a copy of
    a string is the case of a one-element subtree: one new parentless object of the same class and text) -/
theorem copy_pointwise {h h' : Heap} {x c : Nat} (hg : Good2 h) (hc : copy h x = .ok (h', c)) :
    ∀ i d, (docOrder h x)[i]? = some d → (docOrder h' c)[i]? = some (h.next + i) ∧ h'.kind (h.next + i) = h.kind d ∧
      h'.val (h.next + i) = h.val d := by
  obtain ⟨rfl, w', st', inv⟩ := copy_cinv hg hc
  obtain ⟨_, hroot, hdoc, hlen⟩ := cinv_final inv
  intro i d hi
  have hlt : i < (docOrder h x).length := (List.getElem?_eq_some_iff.mp hi).1
  refine ⟨?_, inv.img i d hi⟩
  rw [hdoc, List.getElem?_range' (by rw [← inv.len]; exact hlt)]
  simp

/-- **on a consistent forest a copy never fails**: none of the model's error outcomes can occur, whatever is copied (a string, a tag with
    any subtree, a BeautifulSoup object, an id that was never allocated) -/
theorem copy_never_fails {h : Heap} (x : Nat) (hg : Good2 h) : ∃ h' c, copy h x = .ok (h', c) :=
  copy_total x hg

/-! non-vacuity: `t0` with children `[t1, s4]`, `t1` with children `[t2, s3]` (the heap of `wDeep`): the copy of `t1` is `5 [6, 7]` -/
example : ((run (Heap.init [.tag, .tag, .tag, .str, .str])
    [.append 0 (.node 1), .append 1 (.node 2), .append 1 (.node 3), .append 0 (.node 4)]).bind fun h =>
      (copy h 1).map (fun r => (r.2, r.1.kids 5, r.1.kids 1, r.1.kids 0))).toOption = some (5, [6, 7], [2, 3], [1, 4]) := by decide +kernel

/-! ### negative positions: `insert` reads its position the way `list.insert` does -/

/-- a non-negative position is itself -/
theorem normPos_nonneg (n : Nat) (z : Int) (hz : 0 ≤ z) : normPos n z = z.toNat := by
  unfold normPos; simp [Int.not_lt.mpr hz]

/-- `-k` stands for `len - k`, and for `0` when `k` exceeds the length (never an error) -/
theorem normPos_neg (n k : Nat) (hk : 0 < k) : normPos n (-(k : Int)) = n - k := by
  unfold normPos
  have : (-(k : Int)) < 0 := by omega
  simp only [this, if_true, Int.ofNat_eq_natCast]
  omega

/-- whatever the integer, the slot is one of the `len + 1` slots of the children list once clamped (what `insertCore` does next) -/
theorem normPos_clamped (n : Nat) (z : Int) : min (normPos n z) n ≤ n := Nat.min_le_right _ _

/-- `insert` with any Python integer IS an `insert` with a natural position: every theorem about `insert` (consistency: C01
    `every_call_keeps_consistent`; effect: `insert_one_effect`, `insert_many_contiguous`) applies to it verbatim -/
theorem insertZ_is_insert (h : Heap) (p : Nat) (z : Int) (args : List Arg) :
    insertZ h p z args = insert h p (normPos (h.kids p).length z) args := rfl

/-! non-vacuity: the calls on a concrete tree (`t0` with children `[1,2,3,4]`) give the stated lists (`unwrap` of the root `t0`: `ValueError`) -/
def wFour : Except Err Heap :=
  run (Heap.init [.tag, .tag, .tag, .tag, .tag])
    [.append 0 (.node 1), .append 0 (.node 2), .append 0 (.node 3), .append 0 (.node 4)]
example : (wFour.bind fun h => (insertBefore h 2 [.node 4]).map (·.kids 0)).toOption = some [1, 4, 2, 3] := by decide +kernel
example : (wFour.bind fun h => (insertAfter h 2 [.node 1]).map (·.kids 0)).toOption = some [2, 1, 3, 4] := by decide +kernel
example : (wFour.bind fun h => (append h 0 (.node 2)).map (·.kids 0)).toOption = some [1, 3, 4, 2] := by decide +kernel
example : (wFour.bind fun h => (unwrap h 0).map (·.kids 0)).toOption = none := by decide +kernel   -- no parent: ValueError
example : (wFour.bind fun h => (clear h 0).map (·.kids 0)).toOption = some [] := by decide +kernel
example : (wFour.bind fun h => (extendList h 0 [.node 3, .node 1]).map (·.kids 0)).toOption = some [2, 4, 3, 1] := by decide +kernel
example : (wFour.bind fun h => (setString h 0 .str [120]).map (fun h => (h.kids 0, h.parent 2))).toOption = some ([5], none) := by decide +kernel
example : (wFour.bind fun h => (insertBefore h 2 [.node 4, .node 1]).map (·.kids 0)).toOption = some [4, 1, 2, 3] := by decide +kernel
example : (wFour.bind fun h => (insertAfter h 2 [.node 4, .node 1]).map (·.kids 0)).toOption = some [2, 4, 1, 3] := by decide +kernel
example : (wFour.bind fun h => (replaceWith h 2 [.node 4, .node 1]).map (fun h => (h.kids 0, h.parent 2))).toOption = some ([4, 1, 3], none) := by decide +kernel
example : (wFour.bind fun h => (insertZ h 0 (-1) [.node 1]).map (·.1.kids 0)).toOption = some [2, 3, 1, 4] := by decide +kernel
example : (wFour.bind fun h => (insertZ h 0 (-4) [.node 4]).map (·.1.kids 0)).toOption = some [4, 1, 2, 3] := by decide +kernel
example : (wFour.bind fun h => (insertZ h 0 (-9) [.node 3]).map (·.1.kids 0)).toOption = some [3, 1, 2, 4] := by decide +kernel
def wSoup : Except Err Heap :=
  run (Heap.init [.tag, .tag, .tag, .soup, .tag, .tag])
    [.append 0 (.node 1), .append 0 (.node 2), .append 3 (.node 4), .append 3 (.node 5)]
example : (wSoup.bind fun h => (insert h 0 1 [.node 3]).map (fun r => (r.1.kids 0, r.1.kids 3, r.2))).toOption
    = some ([1, 4, 5, 2], [], [4, 5]) := by decide +kernel
-- the same element twice in a row (`x.insert_after(y, y)`): once, in place — not an error (repaired; formerly ValueError after `y` had been extracted)
example : (wFour.bind fun h => (insertAfter h 2 [.node 4, .node 4, .node 1]).map (·.kids 0)).toOption = some [2, 4, 1, 3] := by decide +kernel
def wFive : Except Err Heap :=
  run (Heap.init [.tag, .tag, .tag, .tag, .tag, .tag])
    [.append 0 (.node 1), .append 0 (.node 2), .append 0 (.node 3), .append 5 (.node 4)]
example : (wFive.bind fun h => (wrap h 2 5).map (fun h => (h.kids 0, h.kids 5))).toOption = some ([1, 5, 3], [4, 2]) := by decide +kernel

/-! non-vacuity for `smooth`: `t0` with children `[s1, s2, c3, s4, s5, s6, t7]` (`c3` a Comment), `t7` with children `[s8, s9]`.
    One pass over `t0`: the runs `s1 s2` and `s4 s5 s6` become one string each (the second by two merges from the right: object
    10 = `s5+s6`, discarded again, then 11 = `s4+10`; then 12 = `s1+s2`); the Comment and the tag stay; `t7` is not touched. The whole
    call smooths `t7` as well. -/
def wStr : Except Err Heap :=
  run (Heap.init [.tag, .str, .str, .pre, .str, .str, .str, .tag, .str, .str])
    [.append 0 (.node 1), .append 0 (.node 2), .append 0 (.node 3), .append 0 (.node 4), .append 0 (.node 5),
     .append 0 (.node 6), .append 0 (.node 7), .append 7 (.node 8), .append 7 (.node 9)]
example : (wStr.map fun h => (view h 0, view h 7)).toOption
    = some ([.str [1], .str [2], .other 3, .str [4], .str [5], .str [6], .other 7], [.str [8], .str [9]]) := by decide +kernel
example : (wStr.bind fun h => (smoothChildren h 0).map (fun h' => (view h' 0, h'.kids 0, h'.kids 7, h'.next))).toOption
    = some ([.str [1, 2], .other 3, .str [4, 5, 6], .other 7], [12, 3, 11, 7], [8, 9], 13) := by decide +kernel
example : (wStr.map fun h => squashId h.next (idView h 0)).toOption
    = some ([(12, .str [1, 2]), (3, .other 3), (11, .str [4, 5, 6]), (7, .other 7)], 13) := by decide +kernel
example : (wStr.bind fun h => (smooth h 0).map (fun h' => (view h' 0, view h' 7, h'.parent 1, h'.parent 12))).toOption
    = some ([.str [1, 2], .other 3, .str [4, 5, 6], .other 7], [.str [8, 9]], none, some 0) := by decide +kernel
example : (wStr.bind fun h => (smooth h 0).bind fun h' => (smooth h' 0).map (fun h'' => (h''.next, h''.kids 0, h''.kids 7))).toOption
    = some (14, [12, 3, 11, 7], [13]) := by decide +kernel
/-! non-vacuity for `decompose` / `clear(decompose=True)`: `t0` with children `[t1, s4]`, `t1` with children `[t2, s3]` -/
def wDeep : Except Err Heap :=
  run (Heap.init [.tag, .tag, .tag, .str, .str])
    [.append 0 (.node 1), .append 1 (.node 2), .append 1 (.node 3), .append 0 (.node 4)]
example : (wDeep.bind fun h => (decompose h 1).map (fun h' => (h'.kids 0, h'.kids 1, h'.parent 1, h'.parent 4))).toOption
    = some ([4], [], none, some 0) := by decide +kernel
example : (wDeep.bind fun h => (decompose h 1).map (fun h' => (h'.parent 2, h'.parent 3, h'.ne 2, h'.kids 2))).toOption
    = some (none, none, none, []) := by decide +kernel
example : (wDeep.bind fun h => (clearDecompose h 0).map (fun h' => (h'.kids 0, h'.kids 1, h'.parent 2, h'.parent 4))).toOption
    = some ([], [], none, none) := by decide +kernel
example : (wDeep.map fun h => docOrder h 1).toOption = some [1, 2, 3] := by decide +kernel

/-! ### witness: the slot arithmetic before the repair breaks contiguity

`a = t0` with children `[b,c,d,e] = [1,2,3,4]`; `a.insert(1, e, b, d)`: documented result `[e,b,d,c]`. -/
def wStart : Except Err Heap :=
  run (Heap.init [.tag, .tag, .tag, .tag, .tag])
    [.append 0 (.node 1), .append 0 (.node 2), .append 0 (.node 3), .append 0 (.node 4)]

theorem old_insert_not_contiguous :
    (wStart.bind fun h => (insertElemsOld h 0 1 [4, 1, 3]).map (·.kids 0)).toOption = some [4, 1, 2, 3] := by decide +kernel

theorem new_insert_contiguous :
    (wStart.bind fun h => (insertElems h 0 1 [4, 1, 3]).map (·.1.kids 0)).toOption = some [4, 1, 3, 2] := by decide +kernel

end BS.Props.C02
