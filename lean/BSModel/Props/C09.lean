import BSModel.Proofs.EntitiesLive
import BSModel.Proofs.Html5Agree
import BSModel.Proofs.Html5End
import BSModel.Proofs.EntitiesPopulate
import BSModel.Gen.EntitiesSource
import BSModel.Model.EntitiesGlue
import BSModel.Proofs.EntitiesTokenizer
import BSModel.Gen.EntitiesFormatters
/-! # C09 — entity substitution and attribute quoting are reversible for every string

`T : Tbl` is the data of `EntitySubstitution` (the alternatives parsed back from the two compiled patterns, the three
dictionaries) and of the readers; `X` is `CHARACTER_TO_XML_ENTITY`. Every theorem is for **all** strings (lists of
code points, lone surrogates and out-of-range values included) and for **every** table satisfying the decidable
well-formedness predicates `TblOK` / `XmlOK` (html5: also `Html5FixOK`, `Html5OK`, `AgreeOK`; construction: `itemsOK`);
`tblOK_live` / `xmlOK_live` and their like discharge these for the tables generated
from the working tree by kernel evaluation, so one changed entry breaks a named obligation.

Readers: `readText T late 0` = html.parser (convert_charrefs=False) + bs4's handle_entityref/handle_charref on tag-free
text; `readAttr T` = quote stripping + `html.unescape`. Both are validated against the real parser by the check. -/
namespace BS.Props.C09
open BS.Entities BS.Reader

/-! ## table obligations (re-proved from the live tables on every run) -/

/-- The live tables are well-formed: every alternative of both compiled regexes has a name in
    `CHARACTER_TO_HTML_ENTITY`; the name is `[A-Za-z][A-Za-z0-9]*`, at most 31 long; `HTML_ENTITY_TO_CHARACTER[name]` and
    `html5[name;]` are exactly the matched text; alternatives are mutually exclusive (look-ahead classes cover every
    longer alternative); `&` (ampersand pattern), `<`, `>` are always caught; `html5["quot;"] = '"'`. -/
theorem tblOK_live : TblOK BS.Gen.C09.htmlTable = true := tblOK_htmlTable

/-- `CHARACTER_TO_XML_ENTITY` has `&`, `<`, `>` with names both readers map back. -/
theorem xmlOK_live : XmlOK BS.Gen.C09.xmlTable BS.Gen.C09.htmlTable = true := xmlOK_xmlTable

/-- The two generated patterns consist only of the particle shapes the model knows (re-assembling the parsed particles
    gives the pattern text back), and the three hand-written patterns have the text and flags the model mirrors. -/
theorem patterns_as_modelled : BS.Gen.C09.patternShapeOk = true ∧ BS.Gen.C09.fixedPatternsAsModelled = true := by decide

/-- The registries name the functions the property is about: `minimal` ↦ substitute_xml, `html` ↦ substitute_html,
    `html5` ↦ substitute_html5, `None` ↦ no substitution. -/
theorem registry_live :
    (findFormatter BS.Gen.C09.htmlRegistry true (ofS "minimal")).map (·.fn) = some 1 ∧
    (findFormatter BS.Gen.C09.htmlRegistry true (ofS "html")).map (·.fn) = some 2 ∧
    (findFormatter BS.Gen.C09.htmlRegistry true (ofS "html5")).map (·.fn) = some 3 ∧
    (findFormatter BS.Gen.C09.htmlRegistry false []).map (·.fn) = some 0 ∧
    (findFormatter BS.Gen.C09.xmlRegistry true (ofS "minimal")).map (·.fn) = some 1 ∧
    (findFormatter BS.Gen.C09.xmlRegistry true (ofS "html")).map (·.fn) = some 2 ∧
    (findFormatter BS.Gen.C09.xmlRegistry false []).map (·.fn) = some 0 := by decide_pstr

example : substHtml BS.Gen.C09.htmlTable [60, 233, 38, 8807, 824] =
    ofS "&lt;&eacute;&amp;&ngeqq;" := by rw [substHtml_sorted tblOK_live]; decide_pstr
example : substXml BS.Gen.C09.xmlTable (ofS "a<b>&c") = ofS "a&lt;b&gt;&amp;c" := by decide_pstr

/-! ## substitute_xml ('minimal') -/

/-- `substitute_xml` never raises `KeyError`. -/
theorem xml_no_keyerror (X : List (Nat × PStr)) (T : Tbl) (h : XmlOK X T = true) (s : PStr) :
    xmlKeyError X s = none := xmlKeyError_none h s

/-- No raw `<` or `>` in the output of `substitute_xml`. -/
theorem xml_no_raw_brackets (X : List (Nat × PStr)) (T : Tbl) (h : XmlOK X T = true) (s : PStr) :
    60 ∉ substXml X s ∧ 62 ∉ substXml X s :=
  no_raw_brackets T xmlParticles (xmlRep X) (repOK_xml h) xml_covers.2.1 xml_covers.2.2 s

/-- Every `&` in the output of `substitute_xml` is followed by `name;` for a name known to the reader. -/
theorem xml_amp_only_as_reference (X : List (Nat × PStr)) (T : Tbl) (h : XmlOK X T = true) (s pre post : PStr)
    (hs : substXml X s = pre ++ 38 :: post) :
    ∃ n rest, post = n ++ 59 :: rest ∧ isName n = true ∧ (T.toChar.get n).isSome = true :=
  amp_starts_ref (repOK_xml h) xml_covers.1 s pre post hs

/-- Reading the output of `substitute_xml` back as element text yields the original string. -/
theorem xml_text_roundtrip (X : List (Nat × PStr)) (T : Tbl) (h : XmlOK X T = true) (late : Bool) (s : PStr) :
    readText T late 0 (substXml X s) = s :=
  roundtrip_covered (reads_text T late) (repOK_xml h) xml_covers.1 s

example : readText BS.Gen.C09.htmlTable false 0 (substXml BS.Gen.C09.xmlTable (ofS "&lt;<&#60;")) = ofS "&lt;<&#60;" :=
  xml_text_roundtrip _ _ xmlOK_live _ _

/-! ## substitute_html ('html') -/

/-- No raw `<` or `>` in the output of `substitute_html`. -/
theorem html_no_raw_brackets (T : Tbl) (h : TblOK T = true) (s : PStr) :
    60 ∉ substHtml T s ∧ 62 ∉ substHtml T s :=
  let ⟨hrep, _, h60, h62, _⟩ := tblOK_amp h
  no_raw_brackets T T.particlesAmp (htmlRep T) hrep h60 h62 s

/-- Every `&` in the output of `substitute_html` is followed by `name;` for a name known to the reader: there is no
    ampersand a parser could read differently. -/
theorem html_amp_only_as_reference (T : Tbl) (h : TblOK T = true) (s pre post : PStr)
    (hs : substHtml T s = pre ++ 38 :: post) :
    ∃ n rest, post = n ++ 59 :: rest ∧ isName n = true ∧ (T.toChar.get n).isSome = true :=
  let ⟨hrep, _, _, _, h38⟩ := tblOK_amp h
  amp_starts_ref hrep h38 s pre post hs

/-- Reading the output of `substitute_html` back as element text yields the original string — multi-code-point
    entities, look-alike references (`&lt;` in the input) and all. -/
theorem html_text_roundtrip (T : Tbl) (h : TblOK T = true) (late : Bool) (s : PStr) :
    readText T late 0 (substHtml T s) = s :=
  let ⟨hrep, _, _, _, h38⟩ := tblOK_amp h
  roundtrip_covered (reads_text T late) hrep h38 s

example : readText BS.Gen.C09.htmlTable false 0 (substHtml BS.Gen.C09.htmlTable [8807, 824, 38, 108, 116, 59, 8807]) =
    [8807, 824, 38, 108, 116, 59, 8807] := html_text_roundtrip _ tblOK_live _ _

/-! ## quoted_attribute_value -/

/-- The result is always `q body q` with `q` one of the two quote characters and **no** `q` inside `body`. -/
theorem quote_wellformed (v : PStr) :
    ∃ q body, quoteAttr v = q :: body ++ [q] ∧ (q = 34 ∨ q = 39) ∧ q ∉ body :=
  ⟨quoteChar v, quoteBody v, quoteAttr_eq v, quoteChar_cases v, quoteChar_not_mem_body v⟩

/-- Which quote and which body: double quotes unless the value has `"` and no `'`; when it has both, every `"`
    becomes `&quot;`. -/
theorem quote_choice (v : PStr) :
    quoteAttr v =
      if 34 ∈ v ∧ 39 ∈ v then 34 :: replaceDq v ++ [34]
      else if 34 ∈ v then 39 :: v ++ [39]
      else 34 :: v ++ [34] := by
  unfold quoteAttr
  by_cases h1 : 34 ∈ v <;> by_cases h2 : 39 ∈ v <;> simp [h1, h2]

example : quoteAttr (ofS "a\"b'c") = ofS "\"a&quot;b'c\"" := by decide_pstr
example : quoteAttr (ofS "a\"b") = ofS "'a\"b'" := by decide_pstr

/-- A quoted value is read as one attribute value: the unescaped body. -/
theorem quote_read (T : Tbl) (v : PStr) : readAttr T (quoteAttr v) = some (unescape T 0 (quoteBody v)) :=
  readAttr_quoteAttr T v

/-- Substituted with `substitute_xml`, quoted, and read back as an attribute value: the original string. -/
theorem xml_attr_roundtrip (X : List (Nat × PStr)) (T : Tbl) (hx : XmlOK X T = true) (h : TblOK T = true) (s : PStr) :
    readAttr T (quoteAttr (substXml X s)) = some s :=
  attr_roundtrip_covered (repOK_xml hx) xml_covers.1 (tblOK_quot h) s

/-- Substituted with `substitute_html`, quoted, and read back as an attribute value: the original string. -/
theorem html_attr_roundtrip (T : Tbl) (h : TblOK T = true) (s : PStr) :
    readAttr T (quoteAttr (substHtml T s)) = some s :=
  let ⟨hrep, _, _, _, h38⟩ := tblOK_amp h
  attr_roundtrip_covered hrep h38 (tblOK_quot h) s

example : readAttr BS.Gen.C09.htmlTable (quoteAttr (substHtml BS.Gen.C09.htmlTable (ofS "a\"b'<c&quot;"))) =
    some (ofS "a\"b'<c&quot;") := html_attr_roundtrip _ tblOK_live _

/-! ## the order of the alternation does not matter -/

/-- At every position at most one alternative of a well-formed table matches. -/
theorem alternatives_exclusive (T : Tbl) (h : TblOK T = true) : Excl T.particlesAmp ∧ Excl T.particles :=
  let ⟨_, hexclAmp, _⟩ := tblOK_amp h
  let ⟨_, hexcl, _⟩ := tblOK_plain h
  ⟨hexclAmp, hexcl⟩

/-- Any reordering of the alternation of `CHARACTER_TO_HTML_ENTITY_WITH_AMPERSAND_RE` (it is joined from a `set`, so
    its order depends on the hash seed) gives the same `substitute_html`. -/
theorem order_irrelevant (T : Tbl) (h : TblOK T = true) (ps' : List Particle) (hp : ps'.Perm T.particlesAmp)
    (s : PStr) : substHtmlWith T ps' s = substHtml T s :=
  let ⟨_, hexcl, _⟩ := tblOK_amp h
  reSub_congr (firstMatch_of_same_members hexcl (fun _ => hp.mem_iff)) _ 0 s

/-- The same for `CHARACTER_TO_HTML_ENTITY_RE` and `substitute_html5`. -/
theorem order_irrelevant_html5 (T : Tbl) (h : TblOK T = true) (ps' : List Particle) (hp : ps'.Perm T.particles)
    (s : PStr) : substHtml5With T ps' s = substHtml5 T s :=
  let ⟨_, hexcl, _⟩ := tblOK_plain h
  reSub_congr (firstMatch_of_same_members hexcl (fun _ => hp.mem_iff)) _ 0 _

example : substHtmlWith BS.Gen.C09.htmlTable BS.Gen.C09.htmlTable.particlesAmp.reverse [8807, 824] =
    substHtml BS.Gen.C09.htmlTable [8807, 824] :=
  order_irrelevant _ tblOK_live _ (List.reverse_perm _) _

/-! ## substitute_html5 ('html5')

`substHtml5` is the **repaired** function (fixes/C09-html5-ampersand.diff; -ampersand-eof.diff: "reading contexts" below): its first pass visits every `&` and escapes it
exactly when a parser would read it as the start of a character reference — `#` follows; or `(#\d+|#x[0-9a-fA-F]+|\w+);`;
or a name `[a-zA-Z][-.a-zA-Z0-9]*` that is followed by `;`, or is a known entity name, or begins with one of the names
that need no semicolon. For it the clause "the 'html5' substitution never changes the string a parser reads back" is
proved at full strength, for text and for attribute values. `substHtml5Old` is 4.13.0 as shipped; the clause is false of
it (four decided refutations), and `html5_old_roundtrip_partial` says how far it does hold. -/

/-- The live tables satisfy what the repaired html5 round trip needs beyond `TblOK`: no alternative contains `&` or starts
    with `&`, `;`, `"` or a code point that can occur in an entity name; both readers know `amp` and `quot`; every
    alternative of `SEMICOLON_OPTIONAL_ENTITY_RE` is a well-formed name; and **every** key of `html.entities.html5`
    (checked over the whole dictionary) is `name;` for a well-formed name or one of those alternatives. -/
theorem html5FixOK_live : Html5FixOK BS.Gen.C09.htmlTable = true := html5FixOK_of_fast (by decide +kernel)

/-- No raw `<` or `>` in the output of `substitute_html5`. -/
theorem html5_no_raw_brackets (T : Tbl) (h : TblOK T = true) (s : PStr) :
    60 ∉ substHtml5 T s ∧ 62 ∉ substHtml5 T s :=
  let ⟨hrep, _, h60, h62⟩ := tblOK_plain h
  no_raw_brackets T T.particles (htmlRep T) hrep h60 h62 _

/-- **Every** string written with `substitute_html5` is read back, as element text, as the original. -/
theorem html5_text_roundtrip (T : Tbl) (h : TblOK T = true) (h5 : Html5FixOK T = true) (late : Bool) (s : PStr) :
    readText T late 0 (substHtml5 T s) = s :=
  let h5 := html5FixOK_spec h5
  fix_text_roundtrip_gen T late T.particles (htmlRep T) (tblOK_plain h).1 h5.keys h5.ampChar s

/-- **Every** string written with `substitute_html5`, quoted, is read back as an attribute value as the original —
    including the both-quotes case (`"` ↦ `&quot;`). -/
theorem html5_attr_roundtrip (T : Tbl) (h : TblOK T = true) (h5 : Html5FixOK T = true) (s : PStr) :
    readAttr T (quoteAttr (substHtml5 T s)) = some s :=
  let h5 := html5FixOK_spec h5
  fix_attr_roundtrip_gen T _ _ (tblOK_plain h).1 h5.keys h5.ampChar h5.ampSemi h5.legacy h5.html5Keys (tblOK_quot h) s

example : readText BS.Gen.C09.htmlTable false 0 (substHtml5 BS.Gen.C09.htmlTable (ofS "&lt x &#65 &a-b; &#x &foo bar")) =
    ofS "&lt x &#65 &a-b; &#x &foo bar" := html5_text_roundtrip _ tblOK_live html5FixOK_live _ _
example : readAttr BS.Gen.C09.htmlTable (quoteAttr (substHtml5 BS.Gen.C09.htmlTable (ofS "&ltx \"'&notit;"))) =
    some (ofS "&ltx \"'&notit;") := html5_attr_roundtrip _ tblOK_live html5FixOK_live _
/-- what the repair writes for the four shapes, and what it still leaves alone -/
example : substHtml5 BS.Gen.C09.htmlTable (ofS "&lt x") = ofS "&amp;lt x" ∧
    substHtml5 BS.Gen.C09.htmlTable (ofS "&#65 x") = ofS "&amp;#65 x" ∧
    substHtml5 BS.Gen.C09.htmlTable (ofS "&a-b;") = ofS "&amp;a-b;" ∧
    substHtml5 BS.Gen.C09.htmlTable (ofS "&#x") = ofS "&amp;#x" ∧
    substHtml5 BS.Gen.C09.htmlTable (ofS "&lol & &y=2&1") = ofS "&lol & &y=2&1" := by
  simp only [substHtml5, substHtml5With, tablePass_sorted tblOK_live]
  decide_pstr

/-! ### reading contexts

`readText` reads text that is **followed by a tag** (element text before its end tag or before a child; top-level text before
any later markup): the reader every theorem above is about, and the one proved equal to the tokenizer (`…_tokenized`).
`readTextEnd` reads text that is **the last thing of the document** (top-level text with nothing after it, or text in an
element that is never closed), where html.parser treats an unterminated reference specially at `close()`. It is a reader
model compared with the real parser on every generated case; its equality with `Tokenizer.run` on a bare text is NOT
proved. The theorems below cover this second context, for all strings; attribute values always sit inside a
tag and have the one context. `substHtml5Mid` is the function after the first repair (/repo 3ee7146), which does not
round-trip in the second context; `substHtml5` includes the end-of-document repair
(fixes/C09-html5-ampersand-eof.diff: an `&` is also escaped when its name runs to the end of the string and is a single
letter or has a known entity name before its last `-`/`.`). -/

/-- `minimal`, text at the very end of the document. -/
theorem xml_text_roundtrip_end (X : List (Nat × PStr)) (T : Tbl) (h : XmlOK X T = true) (late : Bool) (s : PStr) :
    readTextEnd T late 0 (substXml X s) = s :=
  roundtrip_covered (reads_textEnd T late) (repOK_xml h) xml_covers.1 s

/-- `html`, text at the very end of the document. -/
theorem html_text_roundtrip_end (T : Tbl) (h : TblOK T = true) (late : Bool) (s : PStr) :
    readTextEnd T late 0 (substHtml T s) = s :=
  let ⟨hrep, _, _, _, h38⟩ := tblOK_amp h
  roundtrip_covered (reads_textEnd T late) hrep h38 s

/-- `html5`, text at the very end of the document: **every** string reads back as the original there too. -/
theorem html5_text_roundtrip_end (T : Tbl) (h : TblOK T = true) (h5 : Html5FixOK T = true) (late : Bool) (s : PStr) :
    readTextEnd T late 0 (substHtml5 T s) = s :=
  let h5 := html5FixOK_spec h5
  fix_text_roundtrip_end_gen T late T.particles (htmlRep T) (tblOK_plain h).1 h5.keys h5.ampChar s

example : readTextEnd BS.Gen.C09.htmlTable false 0 (substHtml5 BS.Gen.C09.htmlTable (ofS "x &Lt-x &y &a-b &Lt-x")) =
    ofS "x &Lt-x &y &a-b &Lt-x" := html5_text_roundtrip_end _ tblOK_live html5FixOK_live _ _

/-- Refutation for the first repair alone (finding `C09-html5-eof-entity-prefix`): at the very end of the document
    `&Lt-x` is written unchanged and read back as `≪-x`, and `x&a` is read back as `xa`; inside an element both are fine;
    the extended repair escapes both. -/
theorem html5_mid_not_reversible_at_end :
    substHtml5Mid BS.Gen.C09.htmlTable (ofS "&Lt-x") = ofS "&Lt-x" ∧
    readTextEnd BS.Gen.C09.htmlTable false 0 (substHtml5Mid BS.Gen.C09.htmlTable (ofS "&Lt-x")) = [8810] ++ ofS "-x" ∧
    readTextEnd BS.Gen.C09.htmlTable false 0 (substHtml5Mid BS.Gen.C09.htmlTable (ofS "x&a")) = ofS "xa" ∧
    readText BS.Gen.C09.htmlTable false 0 (substHtml5Mid BS.Gen.C09.htmlTable (ofS "&Lt-x")) = ofS "&Lt-x" ∧
    substHtml5 BS.Gen.C09.htmlTable (ofS "&Lt-x") = ofS "&amp;Lt-x" ∧
    substHtml5 BS.Gen.C09.htmlTable (ofS "x&a") = ofS "x&amp;a" := by
  have h1 : substHtml5Mid BS.Gen.C09.htmlTable (ofS "&Lt-x") = ofS "&Lt-x" := by
    rw [substHtml5Mid, tablePass_sorted tblOK_live]; decide_pstr
  have h2 : substHtml5Mid BS.Gen.C09.htmlTable (ofS "x&a") = ofS "x&a" := by
    rw [substHtml5Mid, tablePass_sorted tblOK_live]; decide_pstr
  simp only [h1, h2, substHtml5, substHtml5With, tablePass_sorted tblOK_live]
  decide_pstr

/-! ### 4.13.0 as shipped (`substHtml5Old`) -/

/-- What the partial round trip of the old function needs of the tables. -/
theorem html5OK_live : Html5OK BS.Gen.C09.htmlTable = true := html5OK_of_fix html5FixOK_live (by decide +kernel)

/-- FULL STATEMENT (false, see the refutations): `∀ s, readText T late 0 (substHtml5Old T s) = s`.
    Proved: for every string whose ampersands are either escaped by the old first pass or followed by something other
    than an ASCII letter or `#`. Missing for an exact domain: a bare `&` before an *unknown* name without `;`
    (`&foo bar`) also round-trips as text. -/
theorem html5_old_roundtrip_partial (T : Tbl) (h : TblOK T = true) (h5 : Html5OK T = true) (late : Bool) (s : PStr)
    (hs : noBareRefStart T s = true) : readText T late 0 (substHtml5Old T s) = s :=
  html5Old_text_roundtrip T late (tblOK_plain h).1 h5 s hs

example : readText BS.Gen.C09.htmlTable false 0 (substHtml5Old BS.Gen.C09.htmlTable (ofS "&lt;<& &&#60;a&;")) = ofS "&lt;<& &&#60;a&;" :=
  html5_old_roundtrip_partial _ tblOK_live html5OK_live _ _ (by decide_pstr)

/-- The old function computes the same output as the repaired one — hence round-trips as text **and** as attribute
    value — on every string where, at each `&`, "an entity body follows" (all the old first pass looked at) coincides
    with the repaired decision; i.e. no `&` is followed by `#` without a complete numeric reference, by a name with `-`/`.`
    and `;`, by a known name without `;`, or by a semicolon-optional name as a prefix. -/
theorem html5_old_eq_fixed (T : Tbl) (h5 : Html5OK T = true) (s : PStr) (hs : ampsAgree T s = true) :
    substHtml5Old T s = substHtml5 T s :=
  let ⟨hw, hd, _, _⟩ := html5OK_spec h5
  old_eq_fixed_of_agree hw hd s hs

/-- `a`, `m`, `p` are word characters for `re` and `;` is not (needed for the converse below). -/
theorem agreeOK_live : AgreeOK BS.Gen.C09.htmlTable = true := by decide +kernel

/-- **Exactly** where the repair changes nothing: the outputs of 4.13.0's function and of the repaired one coincide if and
    only if both take the same decision at every ampersand. (So the repair touches precisely the strings with an `&` before
    `#` without a complete numeric reference, before a name with `-`/`.` and `;`, before a known name without `;`, or before a
    semicolon-optional name as a prefix.) -/
theorem html5_old_eq_fixed_iff (T : Tbl) (h : TblOK T = true) (h5 : Html5OK T = true) (hf : Html5FixOK T = true)
    (ha : AgreeOK T = true) (s : PStr) : substHtml5Old T s = substHtml5 T s ↔ ampsAgree T s = true := by
  constructor
  · intro heq
    -- `hf` is idle: of the keys only `AmpFree` is needed, which `h5` gives
    obtain ⟨hw, hd, hkf, _⟩ := html5OK_spec h5
    unfold substHtml5Old substHtml5 substHtml5With at heq
    rw [escapeEntities_eq_spec hw hd] at heq
    exact agree_of_old_eq_fixed (tblOK_plain h).1 hkf ha s heq
  · exact html5_old_eq_fixed T h5 s

theorem html5_old_roundtrip_of_agree (T : Tbl) (h : TblOK T = true) (h5 : Html5OK T = true) (hf : Html5FixOK T = true)
    (late : Bool) (s : PStr) (hs : ampsAgree T s = true) :
    readText T late 0 (substHtml5Old T s) = s ∧ readAttr T (quoteAttr (substHtml5Old T s)) = some s := by
  rw [html5_old_eq_fixed T h5 s hs]
  exact ⟨html5_text_roundtrip T h hf late s, html5_attr_roundtrip T h hf s⟩

example : ampsAgree BS.Gen.C09.htmlTable (ofS "a &foo b &amp; & &1 <") = true ∧
    ampsAgree BS.Gen.C09.htmlTable (ofS "&lt x") = false := by decide_pstr

/-- Refutation 1 (finding `C09-html5-bare-legacy-ref`): the old function writes `&lt x` unchanged and it is read back as
    `< x`, both as text and as an attribute value. -/
theorem html5_old_not_reversible_legacy_ref :
    substHtml5Old BS.Gen.C09.htmlTable (ofS "&lt x") = ofS "&lt x" ∧
    readText BS.Gen.C09.htmlTable false 0 (substHtml5Old BS.Gen.C09.htmlTable (ofS "&lt x")) = ofS "< x" ∧
    readAttr BS.Gen.C09.htmlTable (quoteAttr (substHtml5Old BS.Gen.C09.htmlTable (ofS "&lt x"))) = some (ofS "< x") := by
  have h : substHtml5Old BS.Gen.C09.htmlTable (ofS "&lt x") = ofS "&lt x" := by
    rw [substHtml5Old, tablePass_sorted tblOK_live]; decide_pstr
  rw [h]; decide_pstr

/-- Refutation 2 (`C09-html5-bare-numeric-ref`): `&#65 x` is read back as `A x`. -/
theorem html5_old_not_reversible_numeric_ref :
    readText BS.Gen.C09.htmlTable false 0 (substHtml5Old BS.Gen.C09.htmlTable (ofS "&#65 x")) = ofS "A x" ∧
    readAttr BS.Gen.C09.htmlTable (quoteAttr (substHtml5Old BS.Gen.C09.htmlTable (ofS "&#65 x"))) = some (ofS "A x") := by
  have h : substHtml5Old BS.Gen.C09.htmlTable (ofS "&#65 x") = ofS "&#65 x" := by
    rw [substHtml5Old, tablePass_sorted tblOK_live]; decide_pstr
  rw [h]; decide_pstr

/-- Refutation 3 (`C09-html5-unknown-ref-semicolon-dropped`): `&a-b;` is read back, as text, as `&a-b`. -/
theorem html5_old_not_reversible_semicolon_dropped :
    readText BS.Gen.C09.htmlTable false 0 (substHtml5Old BS.Gen.C09.htmlTable (ofS "&a-b;")) = ofS "&a-b" := by
  rw [substHtml5Old, tablePass_sorted tblOK_live]; decide_pstr

/-- Refutation 4 (`C09-html5-amp-hash-runaway`): after `&#x` the tokenizer takes the rest of the document for text. -/
theorem html5_old_not_reversible_runaway :
    readText BS.Gen.C09.htmlTable false 0 (substHtml5Old BS.Gen.C09.htmlTable (ofS "&#x")) = ofS "&#x" ++ [RUNAWAY] := by
  rw [substHtml5Old, tablePass_sorted tblOK_live]; decide_pstr

/-! ## `_populate_class_variables`: what the construction of the regexes guarantees for ANY html5 table

`populateParticles items` / `populateParticlesAmp items` mirror dammit.py:139-231 (`items = sorted(html5.items())`). The
correspondence compares them — and `unicodeToName`, `nameToUnicode`, `legacyNames` — with what the real function computes,
exactly, on the live tables and on synthetic html5 tables. The facts below hold by construction; the name round trip
(`HTML_ENTITY_TO_CHARACTER[CHARACTER_TO_HTML_ENTITY[k]] = k`) does not (it depends on html5 and codepoint2name agreeing) and
stays the decided table obligation `tblOK_live`. -/

/-- The live `html.entities.html5`: every character sequence is non-empty, those that enter the regex have at most two code
    points, none of them starts with `&`. -/
theorem itemsOK_live : itemsOK BS.Gen.C09.html5Items = true ∧ itemsNoAmpHead BS.Gen.C09.html5Items = true := by
  decide +kernel

/-- The dictionary the readers use and the item list the construction starts from are the same data. -/
theorem html5_dict_is_items_live : Dict.toList BS.Gen.C09.htmlTable.html5 = BS.Gen.C09.html5Items :=
  eq_of_beq (by decide +kernel)

/-- Look-ahead makes the alternatives mutually exclusive — for every well-formed table, not only the shipped one. -/
theorem populate_alternatives_exclusive (items : Items) (hok : itemsOK items = true)
    (hamp : itemsNoAmpHead items = true) : Excl (populateParticles items) ∧ Excl (populateParticlesAmp items) :=
  ⟨populate_exclusive hok, populateAmp_exclusive hok (itemsNoAmpHead_spec hamp)⟩

/-- Hence the order in which the `set` of particles is joined never matters. -/
theorem populate_order_irrelevant_any_table (items : Items) (hok : itemsOK items = true)
    (hamp : itemsNoAmpHead items = true) (ps' : List Particle) (hp : ps'.Perm (populateParticlesAmp items))
    (rep : PStr → PStr) (s : PStr) : reSub ps' rep 0 s = reSub (populateParticlesAmp items) rep 0 s :=
  populate_order_irrelevant hok (itemsNoAmpHead_spec hamp) ps' hp rep s

/-- `<`, `>` and every non-ASCII character html5 names are always caught by some alternative. -/
theorem populate_catches_named_characters (items : Items) (hok : itemsOK items = true) (c : Nat)
    (hc : ∃ it ∈ items, it.2 = [c] ∧ inRegex [c] = true ∧ c ≠ 38) : coversChar (populateParticles items) c = true :=
  populate_covers hok hc

/-- Every alternative has a name in `unicode_to_name` (so the `&amp;…;` fallback of `_substitute_html_entity` is dead code). -/
theorem populate_alternatives_named (items : Items) (cp2name : List (Nat × PStr)) (p : Particle)
    (hp : p ∈ populateParticles items) : (unicodeToName items cp2name p.key).isSome = true :=
  populate_keys_named cp2name hp

example : coversChar (populateParticles BS.Gen.C09.html5Items) 60 = true :=
  populate_catches_named_characters _ itemsOK_live.1 60 ⟨(ofS "LT", [60]), by decide_pstr, rfl, by decide, by decide⟩
example : populateParticlesAmp [(ofS "lt;", [60]), (ofS "nvlt;", [60, 8402]), (ofS "fjlig;", ofS "fj"), (ofS "amp", [38])] =
    [⟨[60], [8402]⟩, ⟨[60, 8402], []⟩, ⟨[38], []⟩] := by decide

/-! ## the registered formatters -/

/-- The only strings `Formatter.substitute` leaves alone are those whose parent is one of the formatter's
    `cdata_containing_tags`; the shipped configuration names exactly `script` and `style` for HTML and nothing for XML:
    `HTML_DEFAULTS`, a `Formatter` built with the option left at `None` (both languages), and every registered formatter. -/
theorem cdata_defaults_live :
    BS.Gen.C09.htmlDefaultCdata = [ofS "script", ofS "style"] ∧
    BS.Gen.C09.htmlFormatterCdata = [ofS "script", ofS "style"] ∧ BS.Gen.C09.xmlFormatterCdata = [] ∧
    BS.Gen.C09.htmlRegistry.all (fun e => e.cdata == [ofS "script", ofS "style"]) = true ∧
    BS.Gen.C09.xmlRegistry.all (fun e => e.cdata == []) = true := by decide_pstr

/-- A string whose parent is one of the configured `cdata_containing_tags` is returned untouched. -/
theorem substitute_exempt (X : List (Nat × PStr)) (T : Tbl) (e : RegEntry) (t s : PStr) (h : t ∈ e.cdata) :
    formatterSubstitute T X e (some t) s = s := by
  unfold formatterSubstitute
  split
  · rfl
  · simp [h]

example : ∃ e ∈ BS.Gen.C09.htmlRegistry, e.fn = 2 ∧ ofS "script" ∈ e.cdata ∧ ofS "SCRIPT" ∉ e.cdata ∧
    ofS "textarea" ∉ e.cdata := by decide_pstr

/-- Any other parent makes no difference: the string is treated like a plain `str` (an attribute value), i.e. the
    formatter's function is applied. -/
theorem substitute_not_exempt (X : List (Nat × PStr)) (T : Tbl) (e : RegEntry) (t s : PStr) (h : t ∉ e.cdata) :
    formatterSubstitute T X e (some t) s = formatterSubstitute T X e none s := by
  unfold formatterSubstitute
  split
  · rfl
  · simp [h]

/-- `cdata_containing_tags`: an explicit value is what the formatter uses — whatever it is; `None` means the HTML
    defaults for HTML and no tag for XML. -/
theorem cdata_option (d : List PStr) (xml : Bool) (fn : Nat) (v : List PStr) :
    (mkFormatter d xml fn (some v)).cdata = v ∧ (mkFormatter d false fn none).cdata = d ∧
      (mkFormatter d true fn none).cdata = [] := ⟨rfl, rfl, rfl⟩

/-- With an explicitly empty `cdata_containing_tags` every string is substituted, `<script>`/`<style>` content included. -/
theorem empty_cdata_substitutes_everything (X : List (Nat × PStr)) (T : Tbl) (d : List PStr) (xml : Bool) (fn : Nat)
    (p : Option PStr) (s : PStr) :
    formatterSubstitute T X (mkFormatter d xml fn (some [])) p s =
      formatterSubstitute T X (mkFormatter d xml fn (some [])) none s := by
  cases p with
  | none => rfl
  | some t => exact substitute_not_exempt X T _ t s (by simp [mkFormatter, defaultCdata])

example : formatterSubstitute BS.Gen.C09.htmlTable BS.Gen.C09.xmlTable
    (mkFormatter BS.Gen.C09.htmlDefaultCdata false 1 (some [])) (some (ofS "script")) (ofS "a<b") = ofS "a&lt;b" := by
  decide_pstr
example : formatterSubstitute BS.Gen.C09.htmlTable BS.Gen.C09.xmlTable
    (mkFormatter BS.Gen.C09.htmlDefaultCdata false 1 none) (some (ofS "script")) (ofS "a<b") = ofS "a<b" := by
  decide_pstr
example : formatterSubstitute BS.Gen.C09.htmlTable BS.Gen.C09.xmlTable
    (mkFormatter BS.Gen.C09.htmlDefaultCdata false 1 none) (some (ofS "textarea")) (ofS "a<b") = ofS "a&lt;b" := by
  decide_pstr

/-- `Formatter.substitute` / `attribute_value` of a formatter whose function is `substitute_xml` (code 1),
    `substitute_html` (code 2) or `substitute_html5` (code 3), for a plain `str` and for a string under **any** parent that is
    not one of the formatter's `cdata_containing_tags`: the text read back is the original. -/
theorem formatter_text_roundtrip (X : List (Nat × PStr)) (T : Tbl) (hx : XmlOK X T = true) (h : TblOK T = true)
    (h5 : Html5FixOK T = true) (e : RegEntry) (he : e.fn = 1 ∨ e.fn = 2 ∨ e.fn = 3) (p : Option PStr)
    (hp : ∀ t, p = some t → t ∉ e.cdata) (late : Bool) (s : PStr) :
    readText T late 0 (formatterSubstitute T X e p s) = s := by
  have base : readText T late 0 (formatterSubstitute T X e none s) = s := by
    rcases he with he | he | he <;> simp only [formatterSubstitute, he, applyFn] <;> simp
    · exact xml_text_roundtrip X T hx late s
    · exact html_text_roundtrip T h late s
    · exact html5_text_roundtrip T h h5 late s
  cases p with
  | none => exact base
  | some t => rw [substitute_not_exempt X T e t s (hp t rfl)]; exact base

/-- The same for attribute values: substituted by the formatter, quoted, read back. -/
theorem formatter_attr_roundtrip (X : List (Nat × PStr)) (T : Tbl) (hx : XmlOK X T = true) (h : TblOK T = true)
    (h5 : Html5FixOK T = true) (e : RegEntry) (he : e.fn = 1 ∨ e.fn = 2 ∨ e.fn = 3) (s : PStr) :
    readAttr T (quoteAttr (formatterSubstitute T X e none s)) = some s := by
  rcases he with he | he | he <;> simp only [formatterSubstitute, he, applyFn] <;> simp
  · exact xml_attr_roundtrip X T hx h s
  · exact html_attr_roundtrip T h s
  · exact html5_attr_roundtrip T h h5 s

example : ∃ e ∈ BS.Gen.C09.htmlRegistry, e.fn = 3 ∧ ofS "textarea" ∉ e.cdata := by decide_pstr

/-! ## from `decode(formatter=…)` to the substitution (`format_string`, `formatter_for_name`, `_format_tag`) -/

/-- Whatever way the formatter is named — a `Formatter` object, a registry key, a function — a string under a parent that is
    not one of the resulting formatter's `cdata_containing_tags` is written so that it reads back as the original, provided
    the function is one of the three substitutions. -/
theorem formatString_text_roundtrip (X : List (Nat × PStr)) (T : Tbl) (hx : XmlOK X T = true) (h : TblOK T = true)
    (h5 : Html5FixOK T = true) (hreg xreg : List RegEntry) (d : List PStr) (isXml : Bool) (arg : FormatterArg)
    (e : RegEntry) (hf : formatterForName hreg xreg d isXml arg = some e) (he : e.fn = 1 ∨ e.fn = 2 ∨ e.fn = 3)
    (p : Option PStr) (hp : ∀ t, p = some t → t ∉ e.cdata) (late : Bool) (s : PStr) :
    (formatString T X hreg xreg d isXml arg p s).map (readText T late 0) = some s := by
  simp only [formatString, hf, Option.map_some]
  rw [formatter_text_roundtrip X T hx h h5 e he p hp late s]

/-- A function passed as `formatter` gets the default options of its class: `script`/`style` exempt in an HTML tree,
    nothing exempt in an XML tree. -/
theorem formatterForName_callable (hreg xreg : List RegEntry) (d : List PStr) (isXml : Bool) (fn : Nat) :
    ∃ e, formatterForName hreg xreg d isXml (.callable fn) = some e ∧ e.fn = fn ∧
      e.cdata = if isXml then [] else d := by
  refine ⟨_, rfl, rfl, ?_⟩
  cases isXml <;> rfl

/-- A user-built `Formatter(language, …)` with the option left at `None`: nothing is exempt exactly when the language has
    the code points of `"xml"` — whatever object carries them; `None`, `""` and every other string give the HTML defaults. -/
theorem language_decides_by_value (d : List PStr) (language : Option PStr) (fn : Nat) :
    (mkFormatterLang d language fn none).cdata = if language = some (ofS "xml") then [] else d := by
  unfold mkFormatterLang mkFormatter defaultCdata formatterLanguage
  match language with
  | none => simp [ofS]
  | some [] => simp [ofS]
  | some (c :: t) =>
    by_cases h : c :: t = [120, 109, 108]
    · simp [h, ofS]
    · have : (c :: t == [120, 109, 108]) = false := by simpa using h
      simp only [this, Bool.false_eq_true, ↓reduceIte]
      have : ¬ (some (c :: t) = some (ofS "xml")) := by
        intro e; apply h; have := Option.some.inj e; rw [this]; decide
      simp [this]

example : (mkFormatterLang BS.Gen.C09.htmlDefaultCdata (some (ofS "xml")) 1 none).cdata = [] ∧
    (mkFormatterLang BS.Gen.C09.htmlDefaultCdata (some (ofS "XML")) 1 none).cdata = [ofS "script", ofS "style"] ∧
    (mkFormatterLang BS.Gen.C09.htmlDefaultCdata (some []) 1 none).cdata = [ofS "script", ofS "style"] := by decide_pstr

/-- The defaults are the CLASS's: an instance of a subclass that overrides `HTML_DEFAULTS` at class level (`d` = its table)
    exempts exactly `d` when the option is left at `None` — `set()` there means nothing is exempt, `<script>` included. -/
theorem class_defaults_consulted (X : List (Nat × PStr)) (T : Tbl) (d : List PStr) (fn : Nat) (t s : PStr) :
    (mkFormatter d false fn none).cdata = d ∧
    (t ∉ d → formatterSubstitute T X (mkFormatter d false fn none) (some t) s =
      formatterSubstitute T X (mkFormatter d false fn none) none s) :=
  ⟨rfl, fun h => substitute_not_exempt X T _ t s h⟩

example : formatterSubstitute BS.Gen.C09.htmlTable BS.Gen.C09.xmlTable (mkFormatter [] false 1 none) (some (ofS "script"))
    (ofS "a<b") = ofS "a&lt;b" := by decide_pstr

/-- The shipped registries: every named formatter is one of the three substitutions, with the documented exemptions. -/
theorem named_formatters_live :
    ([ofS "minimal", ofS "html", ofS "html5", ofS "html5-4.12"].all fun nm =>
      (findFormatter BS.Gen.C09.htmlRegistry true nm).any fun e =>
        (e.fn == 1 || e.fn == 2 || e.fn == 3) && e.cdata == [ofS "script", ofS "style"]) = true ∧
    ([ofS "minimal", ofS "html"].all fun nm =>
      (findFormatter BS.Gen.C09.xmlRegistry true nm).any fun e => (e.fn == 1 || e.fn == 2) && e.cdata == []) = true := by
  decide_pstr

example : (formatString BS.Gen.C09.htmlTable BS.Gen.C09.xmlTable BS.Gen.C09.htmlRegistry BS.Gen.C09.xmlRegistry
    BS.Gen.C09.htmlDefaultCdata true (.key true (ofS "minimal")) (some (ofS "script")) (ofS "a<b")) = some (ofS "a&lt;b") := by
  decide_pstr

/-- An attribute value goes through the substitution wherever the string object that carries it hangs; 4.13.0 left a
    string object taken from a `<script>` raw (finding `C09-attribute-value-in-cdata-string`), which a parser reads back
    differently: `&amp;` written as `&amp;` comes back as `&`. -/
theorem attribute_value_ignores_parent (X : List (Nat × PStr)) (T : Tbl) (hx : XmlOK X T = true) (h : TblOK T = true)
    (h5 : Html5FixOK T = true) (e : RegEntry) (he : e.fn = 1 ∨ e.fn = 2 ∨ e.fn = 3) (s : PStr) :
    readAttr T (quoteAttr (attributeValue T X e s)) = some s :=
  formatter_attr_roundtrip X T hx h h5 e he s

theorem attribute_value_old_not_reversible :
    (findFormatter BS.Gen.C09.htmlRegistry true (ofS "minimal")).map (fun e =>
      readAttr BS.Gen.C09.htmlTable (quoteAttr (attributeValueOld BS.Gen.C09.htmlTable BS.Gen.C09.xmlTable e
        (some (ofS "script")) (ofS "&amp;")))) = some (some (ofS "&")) := by decide_pstr

/-- `key="value"`: a list-valued attribute is joined with single spaces, substituted, quoted; what is read back from the quoted
    part is the joined value. `None` renders the bare key. -/
theorem formatAttribute_roundtrip (X : List (Nat × PStr)) (T : Tbl) (hx : XmlOK X T = true) (h : TblOK T = true)
    (h5 : Html5FixOK T = true) (e : RegEntry) (he : e.fn = 1 ∨ e.fn = 2 ∨ e.fn = 3) (key : PStr) (v : AttrVal) :
    match v.text with
    | none => formatAttribute T X e key v = key
    | some s => ∃ q, formatAttribute T X e key v = key ++ 61 :: q ∧ readAttr T q = some s := by
  cases hv : v.text with
  | none => simp [formatAttribute, hv]
  | some s =>
    simp only
    exact ⟨_, by simp [formatAttribute, hv], formatter_attr_roundtrip X T hx h h5 e he s⟩

example : (AttrVal.list [ofS "a", ofS "b c"]).text = some (ofS "a b c") := by decide_pstr

/-- A `<meta>` value with its charset rewritten for the output encoding is an attribute value like any other: what is read
    back from the quoted part is the rewritten text. -/
theorem charset_value_goes_through_formatter (X : List (Nat × PStr)) (T : Tbl) (hx : XmlOK X T = true)
    (h : TblOK T = true) (h5 : Html5FixOK T = true) (e : RegEntry) (he : e.fn = 1 ∨ e.fn = 2 ∨ e.fn = 3)
    (key rewritten : PStr) :
    ∃ q, formatAttribute T X e key (.charset rewritten) = key ++ 61 :: q ∧ readAttr T q = some rewritten :=
  formatAttribute_roundtrip X T hx h h5 e he key (.charset rewritten)

/-! ## the readers are the tokenizer

`BS.Tokenizer` (Model/Tokenizer.lean) mirrors CPython's `html.parser` statement by statement and is tied to the real parser
by exact equality of callback streams (`./check TK`, C04, C18). Below, the C09 reader models are **proved equal** to that
tokenizer composed with bs4's handlers (`BS.Adapter.handleEntityref`; `handle_data` appends) on everything the three
substitutions write, and the round trips are re-stated through `Tokenizer.run`. `P` = the tokenizer's parameters
(`html.unescape`, `str.lower`), `cfg` = the adapter's; hypotheses: bs4's handler consults the same table as the reader
(`cfg.entity = T.toChar.get`), `P.lower` leaves the (lower-case) element name alone, and — for attribute values —
`P.unescape` is the reader's model of `html.unescape` (compared with the real `html.unescape` on every generated case).

GENERAL STATEMENT, not proved: for every `s` without `<` and every closing suffix without `;`,
`textOf cfg (callbacks of Tokenizer.run on <name>s</name>) = readText T false 0 s` up to the runaway marker — it needs
in addition the numeric-reference paths (`charRef` = `charrefMatch`, `handleCharref` = `charRef` below 4300 digits), the
`feed`/`close` hand-over at a `&#` bail (`late`) and the final flush. None of these is reachable from a substituted text. -/

open BS.Tokenizer BS.C09Tok in
/-- **The text reader is the tokenizer** on written texts: for `o` of the shapes the substitutions write (`Img`), the
    tokenizer run on `<name>o</name>` yields the start tag, then only data / entity-reference callbacks whose handling by
    bs4 concatenates to exactly `readText T late 0 o`, then the end tag; no error, nothing left unconsumed. -/
theorem reader_text_is_tokenizer_on_substituted (P : Params) (cfg : BS.Adapter.ACfg) (T : Tbl)
    (hcfg : cfg.entity = T.toChar.get) (late : Bool) (name : PStr) (hn : NameOK name) (hl : P.lower name = name)
    (hcd : cdataContentElements.contains name = false) (o : PStr) (himg : Img T o) :
    ∃ E ev1 ev2, (run P (writeStartTag0 name ++ o ++ writeEndTag name)).evs = ev1 :: (E ++ [ev2]) ∧
      ev1.tok = .st name [] ∧ ev2.tok = .et name ∧ (∀ ev ∈ E, ∃ d, ev.tok = .data d ∨ ev.tok = .er d) ∧
      textOf cfg E = readText T late 0 o ∧
      (run P (writeStartTag0 name ++ o ++ writeEndTag name)).flag = .ok ∧
      (run P (writeStartTag0 name ++ o ++ writeEndTag name)).st.s = [] :=
  run_written P cfg T hcfg late name hn hl hcd o himg

/-- what bs4 accumulates as text from the whole callback stream of `<name>o</name>` -/
def readThroughTokenizer (P : BS.Tokenizer.Params) (cfg : BS.Adapter.ACfg) (name o : PStr) : PStr :=
  BS.C09Tok.textOf cfg (BS.Tokenizer.run P (BS.Tokenizer.writeStartTag0 name ++ o ++ BS.Tokenizer.writeEndTag name)).evs

open BS.Tokenizer BS.C09Tok in
theorem readThroughTokenizer_eq (P : Params) (cfg : BS.Adapter.ACfg) (T : Tbl) (hcfg : cfg.entity = T.toChar.get)
    (late : Bool) (name : PStr) (hn : NameOK name) (hl : P.lower name = name)
    (hcd : cdataContentElements.contains name = false) (o : PStr) (himg : Img T o) :
    readThroughTokenizer P cfg name o = readText T late 0 o := by
  obtain ⟨E, ev1, ev2, hev, hstart, hend, _, htx, _, _⟩ := run_written P cfg T hcfg late name hn hl hcd o himg
  unfold readThroughTokenizer
  rw [hev]
  have : textOf cfg (ev1 :: (E ++ [ev2])) = textOf cfg E := by
    have e1 : textOf cfg [ev1] = [] := by simp [textOf, toSEv, hstart, handled]
    have e2 : textOf cfg [ev2] = [] := by simp [textOf, toSEv, hend, handled]
    have : ev1 :: (E ++ [ev2]) = [ev1] ++ E ++ [ev2] := by simp
    rw [this, textOf_append, textOf_append, e1, e2]; simp
  rw [this, htx]

open BS.Tokenizer BS.C09Tok in
/-- `minimal`: written with `substitute_xml`, read back through the tokenizer and bs4's handlers: the original. -/
theorem xml_text_roundtrip_tokenized (P : Params) (cfg : BS.Adapter.ACfg) (X : List (Nat × PStr)) (T : Tbl)
    (hx : XmlOK X T = true) (hcfg : cfg.entity = T.toChar.get) (name : PStr) (hn : NameOK name)
    (hl : P.lower name = name) (hcd : cdataContentElements.contains name = false) (s : PStr) :
    readThroughTokenizer P cfg name (substXml X s) = s := by
  unfold substXml
  rw [readThroughTokenizer_eq P cfg T hcfg false name hn hl hcd _
    (img_reSub T xmlParticles (xmlRep X) (repOK_xml hx) xml_covers.1 xml_covers.2.1 s)]
  exact xml_text_roundtrip X T hx false s

open BS.Tokenizer BS.C09Tok in
/-- `html`: the same for `substitute_html`. -/
theorem html_text_roundtrip_tokenized (P : Params) (cfg : BS.Adapter.ACfg) (T : Tbl) (h : TblOK T = true)
    (hcfg : cfg.entity = T.toChar.get) (name : PStr) (hn : NameOK name) (hl : P.lower name = name)
    (hcd : cdataContentElements.contains name = false) (s : PStr) :
    readThroughTokenizer P cfg name (substHtml T s) = s := by
  obtain ⟨hrep, _, h60, _, h38⟩ := tblOK_amp h
  unfold substHtml substHtmlWith
  rw [readThroughTokenizer_eq P cfg T hcfg false name hn hl hcd _ (img_reSub T T.particlesAmp (htmlRep T) hrep h38 h60 s)]
  exact html_text_roundtrip T h false s

open BS.Tokenizer BS.C09Tok in
/-- `html5` (repaired): the same for `substitute_html5`. -/
theorem html5_text_roundtrip_tokenized (P : Params) (cfg : BS.Adapter.ACfg) (T : Tbl) (h : TblOK T = true)
    (h5 : Html5FixOK T = true) (hcfg : cfg.entity = T.toChar.get) (name : PStr) (hn : NameOK name)
    (hl : P.lower name = name) (hcd : cdataContentElements.contains name = false) (s : PStr) :
    readThroughTokenizer P cfg name (substHtml5 T s) = s := by
  obtain ⟨hrep, _, h60, _⟩ := tblOK_plain h
  unfold substHtml5 substHtml5With
  rw [readThroughTokenizer_eq P cfg T hcfg false name hn hl hcd _
    (img_html5 T T.particles (htmlRep T) hrep (html5FixOK_spec h5).keys h60 s)]
  exact html5_text_roundtrip T h h5 false s

example : BS.Tokenizer.NameOK (ofS "pre") ∧ BS.Tokenizer.cdataContentElements.contains (ofS "pre") = false :=
  ⟨⟨112, ofS "re", rfl, by decide, by decide⟩, by decide⟩

open BS.Tokenizer BS.C09Tok in
/-- **The attribute reader is the tokenizer's `attrValue`** on what `quoted_attribute_value` writes, given that
    `P.unescape` is the reader's model of `html.unescape`; and in the tag source the value is found where the reader
    assumes it: after `=`, from the opening quote to the first matching quote (`valueGroup`). -/
theorem reader_attr_is_tokenizer (P : Params) (T : Tbl) (hP : ∀ x, P.unescape x = unescape T 0 x) (v rest : PStr) :
    attrValue P (some (quoteAttr v)) = readAttr T (quoteAttr v) ∧
      valueGroup (61 :: (quoteAttr v ++ 62 :: rest)) = some (1, (quoteAttr v).length) :=
  ⟨attrValue_quoteAttr P T hP v, valueGroup_quoteAttr v rest⟩

open BS.Tokenizer BS.C09Tok in
/-- the attribute round trips through the tokenizer's `attrValue`, for the three substitutions -/
theorem attr_roundtrip_tokenized (P : Params) (X : List (Nat × PStr)) (T : Tbl) (hx : XmlOK X T = true)
    (h : TblOK T = true) (h5 : Html5FixOK T = true) (hP : ∀ x, P.unescape x = unescape T 0 x) (s : PStr) :
    attrValue P (some (quoteAttr (substXml X s))) = some s ∧ attrValue P (some (quoteAttr (substHtml T s))) = some s ∧
      attrValue P (some (quoteAttr (substHtml5 T s))) = some s := by
  refine ⟨?_, ?_, ?_⟩
  · rw [attrValue_quoteAttr P T hP]; exact xml_attr_roundtrip X T hx h s
  · rw [attrValue_quoteAttr P T hP]; exact html_attr_roundtrip T h s
  · rw [attrValue_quoteAttr P T hP]; exact html5_attr_roundtrip T h h5 s

end BS.Props.C09
