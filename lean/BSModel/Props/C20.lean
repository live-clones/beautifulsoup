import BSModel.Proofs.Registry
import BSModel.Gen.Registry
/-! # C20 — builder selection picks the newest builder offering the requested features

The property theorems, and (for the histories) `ROp`, `runHistory`, `specHistory`.
`lookup`/`register`/`construct` are the code-mirror of `TreeBuilderRegistry` and of the builder decision in
`BeautifulSoup.__init__`; `lookupSpec` is the documented meaning over the plain registration history. -/
namespace BS.Props.C20
open BS.Registry

/-- Refinement: for every registration history (builders advertising feature *sets*) and every request
    list (repeats, unknown features, any length) the code's loop computes the documented answer. -/
theorem lookup_spec (regs : List Builder) (fs : List Nat) (hnd : ∀ b ∈ regs, b.features.Nodup) :
    lookup (registerAll regs) fs = lookupSpec regs.reverse fs := by
  -- `hnd` is idle: `Inv` counts repeats
  obtain ⟨hinv, hb⟩ := inv_registerAll regs
  rw [lookup_of_inv _ hinv, hb]

/-- What the answer means, spelled out: the chosen builder is registered, advertises every requested
    feature that anybody advertises, and no more recently registered builder does. -/
theorem lookup_some_meaning (recentFirst : List Builder) (fs : List Nat) (b : Builder) (hfs : fs ≠ [])
    (h : lookupSpec recentFirst fs = some b) :
    b ∈ recentFirst ∧ (∃ f ∈ fs, offered recentFirst f = true) ∧
    (∀ f ∈ fs, offered recentFirst f = true → f ∈ b.features) ∧
    ∃ pre post, recentFirst = pre ++ b :: post ∧
      ∀ c ∈ pre, ∃ f ∈ fs, offered recentFirst f = true ∧ f ∉ c.features := by
  rw [lookupSpec_of_ne_nil _ _ hfs] at h
  split at h
  · cases h
  · rename_i hoff
    obtain ⟨hsat, pre, post, hsplit, hpre⟩ := List.find?_eq_some_iff_append.mp h
    exact ⟨hsplit ▸ by simp, by simpa using hoff, (all_offers_iff _ _ _).mp hsat, pre, post, hsplit, fun c hc =>
      (not_all_offers_iff _ _ _).mp (by simpa using hpre c hc)⟩

/-- nothing is returned exactly when no requested feature is offered or no single builder offers all the
    offered ones -/
theorem lookup_none_iff (recentFirst : List Builder) (fs : List Nat) (hfs : fs ≠ []) :
    lookupSpec recentFirst fs = none ↔
      (∀ f ∈ fs, offered recentFirst f = false) ∨
      (∀ b ∈ recentFirst, ∃ f ∈ fs, offered recentFirst f = true ∧ f ∉ b.features) := by
  rw [lookupSpec_of_ne_nil _ _ hfs]
  split
  · rename_i hoff
    rw [List.isEmpty_iff, List.filter_eq_nil_iff] at hoff
    exact iff_of_true rfl (.inl fun f hf => by simpa using hoff f hf)
  · rename_i hoff
    rw [List.find?_eq_none]
    constructor
    · exact fun h => .inr fun b hb => (not_all_offers_iff _ _ _).mp (h b hb)
    · rintro (h | h)
      · exact absurd (List.isEmpty_iff.mpr (List.filter_eq_nil_iff.mpr fun f hf => by simp [h f hf])) hoff
      · exact fun b hb => (not_all_offers_iff _ _ _).mpr (h b hb)

/-- features nobody offers are ignored -/
theorem unoffered_ignored (recentFirst : List Builder) (fs : List Nat)
    (h : fs.filter (offered recentFirst) ≠ []) :
    lookupSpec recentFirst fs = lookupSpec recentFirst (fs.filter (offered recentFirst)) := by
  unfold lookupSpec
  have h1 : fs.isEmpty = false := by cases fs <;> simp_all
  have h2 : (fs.filter (offered recentFirst)).isEmpty = false := by
    cases hh : fs.filter (offered recentFirst) <;> simp_all
  simp [h1, h2, List.filter_filter]

/-- the most recent registration when no features are requested -/
theorem lookup_no_features (regs : List Builder) (hnd : ∀ b ∈ regs, b.features.Nodup) :
    lookup (registerAll regs) [] = regs.getLast? := by
  rw [lookup_spec regs [] hnd]; simp [lookupSpec, List.head?_reverse]

/-- the default request `["html","fast"]` falls back to a builder that offers only `html`
    when nobody offers `fast` -/
theorem default_falls_back (regs : List Builder) (hnd : ∀ b ∈ regs, b.features.Nodup)
    (html fast : Nat) (hfast : offered regs.reverse fast = false) (hhtml : offered regs.reverse html = true) :
    lookup (registerAll regs) [html, fast] = regs.reverse.find? (fun b => offers b html) := by
  rw [lookup_spec regs _ hnd]
  simp [lookupSpec, hfast, hhtml]

/-- `FeatureNotFound` is raised exactly when no builder is passed and the lookup returns nothing -/
theorem fnf_iff_none (r : Registry) (dflt : List Nat) (b : BuilderArg) (fa : FeaturesArg) (kw : Bool) :
    construct r dflt b fa kw = .featureNotFound ↔ b = .none ∧ lookup r (normFeatures dflt fa) = none := by
  unfold construct
  cases b <;> simp
  split <;> simp_all

/-- a builder class or instance passed explicitly is used without consulting the registry -/
theorem explicit_builder_bypasses (r r' : Registry) (dflt : List Nat) (b : BuilderArg) (fa fa' : FeaturesArg)
    (kw : Bool) (hb : b ≠ .none) :
    construct r dflt b fa kw = construct r' dflt b fa' kw ∧
    ∃ d, construct r dflt b fa kw = .ok d ∧ d.registryConsulted = false ∧
      (b = .cls d.builder ∨ b = .inst d.builder) := by
  cases b with
  | none => exact absurd rfl hb
  | cls id => exact ⟨rfl, _, rfl, rfl, Or.inl rfl⟩
  | inst id => exact ⟨rfl, _, rfl, rfl, Or.inr rfl⟩

/-- keyword arguments are forwarded to every builder the constructor instantiates itself, and are
    ignored (with a warning iff there are any) exactly when an instance was passed -/
theorem kwargs_forwarded (r : Registry) (dflt : List Nat) (b : BuilderArg) (fa : FeaturesArg) (kw : Bool)
    (d : Decision) (h : construct r dflt b fa kw = .ok d) :
    (d.instantiated = true → d.kwargsForwarded = true) ∧
    (d.instantiated = false ↔ ∃ id, b = .inst id) ∧
    (d.kwargsIgnoredWarning = true ↔ (∃ id, b = .inst id) ∧ kw = true) := by
  unfold construct at h
  cases b with
  | cls id | inst id => simp at h; subst h; simp
  | none =>
    simp only at h
    split at h
    · simp at h
    · simp at h; subst h; simp

/-! non-vacuity: a concrete history and requests exercising every clause -/
def bA : Builder := ⟨1, [0, 1]⟩      -- html, fast
def bB : Builder := ⟨2, [0, 2]⟩      -- html, permissive
def bC : Builder := ⟨3, [3]⟩         -- xml
example : lookup (registerAll [bA, bB, bC]) [0] = some bB := by decide
example : lookup (registerAll [bA, bB, bC]) [0, 1] = some bA := by decide
example : lookup (registerAll [bA, bB, bC]) [0, 9] = some bB := by decide
example : lookup (registerAll [bA, bB, bC]) [1, 2] = none := by decide
example : lookup (registerAll [bA, bB, bC]) [9] = none := by decide
example : lookup (registerAll [bA, bB, bC]) [] = some bC := by decide
example : ∀ b ∈ [bA, bB, bC], b.features.Nodup := by decide

/-! ### histories on one registry: lookups are observations -/

/-- what a program does with one registry object: register a builder, or ask -/
inductive ROp where
  | register (b : Builder)
  | lookup (fs : List Nat)

/-- run a history on a registry; the answers of the lookups, in order -/
def runHistory : Registry → List ROp → List (Option Builder)
  | _, [] => []
  | r, .register b :: ops => runHistory (register r b) ops
  | r, .lookup fs :: ops => lookup r fs :: runHistory r ops

/-- the documented answers: each lookup is answered for the registrations made BEFORE it (newest first), whatever was asked earlier -/
def specHistory : List Builder → List ROp → List (Option Builder)
  | _, [] => []
  | recentFirst, .register b :: ops => specHistory (b :: recentFirst) ops
  | recentFirst, .lookup fs :: ops => lookupSpec recentFirst fs :: specHistory recentFirst ops

theorem history_answers_aux (regs : List Builder) (ops : List ROp) (hnd : ∀ b ∈ regs, b.features.Nodup)
    (hops : ∀ op ∈ ops, ∀ b, op = .register b → b.features.Nodup) :
    runHistory (registerAll regs) ops = specHistory regs.reverse ops := by
  obtain ⟨hinv, hb⟩ := inv_registerAll regs
  rw [← hb]
  clear hb hnd hops
  -- generalise to any registry with `Inv`: `register` keeps it (whatever the feature lists: `hnd`, `hops` are idle)
  generalize registerAll regs = r at hinv ⊢
  induction ops generalizing r with
  | nil => rfl
  | cons op ops ih =>
    cases op with
    | register b => exact ih _ (inv_register r b hinv)
    | lookup fs =>
      simp only [runHistory, specHistory]
      rw [lookup_of_inv r hinv, ih r hinv]

/-- **every interleaving** of registrations and lookups on a fresh registry: each lookup gets the documented answer for the
    registrations made so far — a lookup (or any number of them) never changes what a later lookup answers, and a builder
    registered after a question was asked is seen by the next identical question -/
theorem history_answers (ops : List ROp) (hops : ∀ op ∈ ops, ∀ b, op = .register b → b.features.Nodup) :
    runHistory empty ops = specHistory [] ops := by
  have := history_answers_aux [] ops (by intro b hb; cases hb) hops
  simpa [registerAll] using this

example : runHistory empty [.lookup [0], .register ⟨1, [0, 1]⟩, .lookup [0], .lookup [5], .register ⟨2, [0]⟩, .lookup [0]]
    = [none, some ⟨1, [0, 1]⟩, none, some ⟨2, [0]⟩] := by decide

/-! ### obligations over the generated (live) registry of this working tree -/

/-- with the builders this installation ships, the constructor's default request finds html.parser -/
theorem shipped_default_finds_htmlparser :
    (lookup (registerAll BS.Gen.shippedRegistrations) BS.Gen.defaultFeatures).map (·.id)
      = some BS.Gen.htmlParserId := by decide

/-- `hnd` for the live registry -/
theorem shipped_features_nodup : ∀ b ∈ BS.Gen.shippedRegistrations, b.features.Nodup := by decide

end BS.Props.C20
