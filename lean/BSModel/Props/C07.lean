import BSModel.Proofs.Assoc
import BSModel.Proofs.EncodingIn
import BSModel.Proofs.EncodingDecl
import BSModel.Proofs.EncodingRx
import BSModel.Proofs.PStr
import BSModel.Proofs.Utf8
import BSModel.Gen.EncodingIn
/-! # C07 — encoding detection follows the documented precedence and decodes exactly

Property theorems, and three toy oracles. `encodingsImpl`/`dammit`/`prepareMarkup` are the code-mirror of
`EncodingDetector.encodings`, `UnicodeDammit.__init__` and `HTMLParserTreeBuilder.prepare_markup`
(repaired code, see the model's header); `candidates`/`dammitSpec` are the documented meaning.
Every statement is for ALL inputs and ALL codec oracles `C` (what `codecs.lookup` knows and what
strict / replace decoding return are parameters). -/
namespace BS.Props.C07
open BS BS.EncodingIn

/-! ## the candidate list -/

/-- The generator with its mutable `tried` set, its lower-casing and its exclusion set yields exactly
    the documented list: known definite, BOM, user, declared, chardet's guess, utf-8, windows-1252 — minus excluded,
    first occurrence (ignoring case) only. -/
theorem encodings_eq_candidates (known : List Name) (bom : Option Name) (user : List Name)
    (declared chardet : Option Name) (excl : List Name) :
    encodingsImpl known bom user declared chardet excl = candidates known bom user declared chardet excl := by
  rw [encodingsImpl_eq_yieldAll, yieldAll_fst]
  simp [candidates]

example : encodingsImpl [ofS "Latin-1", ofS "utf-8"] (some utf16le) [ofS "LATIN-1", ofS "koi8-r"] (some (ofS "UTF-8"))
    (some (ofS "Big5")) [ofS "koi8-r"] = [ofS "Latin-1", ofS "utf-8", utf16le, ofS "Big5", ofS "windows-1252"] := by decide_pstr

/-- The generated last-ditch list is the documented one, in the documented order. -/
theorem fallback_is_utf8_then_windows1252 :
    Gen.fallbackEncodings = [utf8, ofS "windows-1252"] := by decide_pstr

/-- Candidates come from the sources, in source order (a sublist), and none is excluded. -/
theorem candidates_in_order (known : List Name) (bom : Option Name) (user : List Name)
    (declared chardet : Option Name) (excl : List Name) :
    (candidates known bom user declared chardet excl).Sublist (sources known bom user declared chardet) ∧
    ∀ c ∈ candidates known bom user declared chardet excl, excl.contains (lower c) = false := by
  constructor
  · exact (dedupLower_sublist _).trans List.filter_sublist
  · intro c hc
    have := (dedupLower_sublist _).subset hc
    simpa using (List.mem_filter.mp this).2

/-- Each encoding is tried once: no two candidates are equal ignoring case. -/
theorem each_candidate_once (known : List Name) (bom : Option Name) (user : List Name)
    (declared chardet : Option Name) (excl : List Name) :
    (candidates known bom user declared chardet excl).Pairwise (fun a b => lower a ≠ lower b) :=
  dedupLower_pairwise _

/-- Nothing is lost: every source that is not excluded is represented (ignoring case) by a
    candidate, and the representative is the FIRST such source. -/
theorem candidates_complete (known : List Name) (bom : Option Name) (user : List Name)
    (declared chardet : Option Name) (excl : List Name) :
    (∀ x ∈ sources known bom user declared chardet, excl.contains (lower x) = false →
      ∃ c ∈ candidates known bom user declared chardet excl, lower c = lower x) ∧
    (∀ pre x post, sources known bom user declared chardet = pre ++ x :: post → excl.contains (lower x) = false →
      (∀ y ∈ pre, lower y ≠ lower x) → x ∈ candidates known bom user declared chardet excl) := by
  constructor
  · intro x hx he
    exact dedupLower_complete _ x (List.mem_filter.mpr ⟨hx, by rw [he]; rfl⟩)
  · intro pre x post hs he hpre
    unfold candidates
    rw [hs, List.filter_append, List.filter_cons]
    simp only [he, Bool.not_false, if_true]
    exact dedupLower_first _ _ x (fun y hy => hpre y (List.mem_filter.mp hy).1)

example : candidates [ofS "A", ofS "a"] none [] none none [] = [ofS "A", utf8, ofS "windows-1252"] := by
  rw [← encodings_eq_candidates]; decide

/-! ## the result of UnicodeDammit -/

/-- Refinement: for non-empty bytes, (unicode_markup, original_encoding,
    contains_replacement_characters) computed by the two loops with `tried_encodings` is the
    documented meaning over the documented candidate list and the BOM-stripped bytes. -/
theorem dammit_eq_spec (C : Codecs) (a : Args) (b : Bytes) (hb : b ≠ []) :
    ((dammit C a (.bytes b)).text, (dammit C a (.bytes b)).originalEncoding,
      (dammit C a (.bytes b)).containsReplacement) =
    dammitSpec C (stripBom b).1
      (candidatesOf C a b) := by
  have hne : b.isEmpty = false := List.isEmpty_eq_false_iff.mpr hb
  have h := (dammitBytes_spec C a (stripBom b).1 (stripBom b).2 (findDeclared (stripBom b).1 a.isHtml)).1
  simp only [detectorEncodings, encodings_eq_candidates] at h
  simpa [dammit, hne, candidatesOf] using h

/-- what "decodes under candidate c" means: `find_codec` resolves the name, and the strict (or
    replace) decoder returns a string -/
theorem attempt_iff (C : Codecs) (data : Bytes) (rep : Bool) (c r : Name) (u : PStr) :
    attempt C data rep c = some (r, u) ↔
      findCodec C c = some r ∧ (if rep then C.decodeReplace r data else C.decodeStrict r data) = some u := by
  rw [attempt_eq]; unfold decodeWith
  cases findCodec C c with
  | none => simp
  | some r' =>
    simp only [Option.bind_some, Option.map_eq_some_iff, Prod.mk.injEq, exists_eq_right_right, Option.some.injEq]
    constructor
    · rintro ⟨h, rfl⟩; exact ⟨rfl, h⟩
    · rintro ⟨rfl, h⟩; exact ⟨h, rfl⟩

/-- The encoding used is the first candidate, in the documented order, under which the bytes decode
    without error; the text is exactly that decoding of the BOM-stripped bytes; original_encoding is
    the codec name the candidate resolves to; no replacement is flagged. -/
theorem dammit_first_clean (C : Codecs) (a : Args) (b : Bytes) (hb : b ≠ [])
    (pre post : List Name) (c r : Name) (u : PStr)
    (hc : candidatesOf C a b
      = pre ++ c :: post)
    (hpre : ∀ x ∈ pre, ∀ r', findCodec C x = some r' → C.decodeStrict r' (stripBom b).1 = none)
    (hr : findCodec C c = some r) (hu : C.decodeStrict r (stripBom b).1 = some u) :
    (dammit C a (.bytes b)).text = some u ∧ (dammit C a (.bytes b)).originalEncoding = some r ∧
    (dammit C a (.bytes b)).containsReplacement = false := by
  have h := dammit_eq_spec C a b hb
  rw [hc, dammitSpec_first_clean (r := r) (u := u) ?_ ((attempt_iff C _ false c r u).mpr ⟨hr, by simpa using hu⟩)] at h
  · simpa using h
  · intro x hx
    cases hx' : attempt C (stripBom b).1 false x with
    | none => rfl
    | some ru =>
      have := (attempt_iff C _ false x ru.1 ru.2).mp hx'
      rw [if_neg Bool.false_ne_true, hpre x hx ru.1 this.1] at this
      exact nomatch this.2

/-- contains_replacement_characters is true exactly when no candidate decodes cleanly and some
    candidate other than "ascii" decodes with replacement characters. -/
theorem replacement_iff (C : Codecs) (a : Args) (b : Bytes) (hb : b ≠ []) :
    (dammit C a (.bytes b)).containsReplacement = true ↔
      (∀ c ∈ candidatesOf C a b,
          attempt C (stripBom b).1 false c = none) ∧
      (∃ c ∈ candidatesOf C a b,
          c ≠ ascii ∧ (attempt C (stripBom b).1 true c).isSome) := by
  have h := dammit_eq_spec C a b hb
  simp only [Prod.ext_iff] at h  -- (text, encoding, flag)
  rw [h.2.2, dammitSpec_flag, List.findSome?_eq_none_iff, List.findSome?_isSome_iff]
  simp only [List.mem_filter, bne_iff_ne, ne_eq, and_assoc]

/-- When nothing decodes even with replacement (e.g. everything is excluded) there is no text and no
    original_encoding — the case `prepare_markup` turns into ParserRejectedMarkup. -/
theorem no_text_iff (C : Codecs) (a : Args) (b : Bytes) (hb : b ≠ []) :
    (dammit C a (.bytes b)).text = none ↔
      (∀ c ∈ candidatesOf C a b,
          attempt C (stripBom b).1 false c = none ∧ (c ≠ ascii → attempt C (stripBom b).1 true c = none)) := by
  have h := dammit_eq_spec C a b hb
  simp only [Prod.ext_iff] at h
  rw [h.1, dammitSpec_text_none, List.findSome?_eq_none_iff, List.findSome?_eq_none_iff]
  simp only [List.mem_filter, bne_iff_ne, ne_eq, and_imp]
  exact ⟨fun ⟨h1, h2⟩ c hc => ⟨h1 c hc, h2 c hc⟩, fun h => ⟨fun c hc => (h c hc).1, fun c hc => (h c hc).2⟩⟩

/-- Each (codec, error mode) pair is attempted at most once: `tried_encodings` has no repeats. -/
theorem each_tried_once (C : Codecs) (a : Args) (m : Markup) : (dammit C a m).tried.Nodup := by
  cases m with
  | str s => simp [dammit]
  | bytes b =>
    unfold dammit
    dsimp only
    split
    · exact List.nodup_nil
    · exact (dammitBytes_spec C a _ _ _).2

/-- str input is passed through untouched, original_encoding None, nothing flagged — whatever the
    arguments and codecs. -/
theorem str_passthrough (C : Codecs) (a : Args) (s : PStr) :
    (dammit C a (.str s)).text = some s ∧ (dammit C a (.str s)).originalEncoding = none ∧
    (dammit C a (.str s)).containsReplacement = false ∧ (dammit C a (.str s)).declaredHtml = none ∧
    ∀ fromEnc excl, prepareMarkup C (.str s) fromEnc excl = .ok s none none false := by
  simp [dammit, prepareMarkup, prepareMarkupFull]

/-- The empty byte string gives the empty text (repaired: the unrepaired code gives `"b''"`). -/
theorem empty_bytes (C : Codecs) (a : Args) :
    (dammit C a (.bytes [])).text = some [] ∧ (dammit C a (.bytes [])).originalEncoding = none ∧
    (dammit C a (.bytes [])).containsReplacement = false := by
  simp [dammit]

/-! ## byte-order marks -/

/-- Each of the five byte-order marks is recognised and stripped, for EVERY payload `p` — including
    the empty one and a single byte (repaired). The only proviso is the one that tells UTF-16 from
    UTF-32LE: a UTF-16 mark is not followed by the two bytes 00 00. -/
theorem bom_spec (p : Bytes) :
    stripBom ([0xef, 0xbb, 0xbf] ++ p) = (p, some utf8) ∧
    stripBom ([0x00, 0x00, 0xfe, 0xff] ++ p) = (p, some utf32be) ∧
    stripBom ([0xff, 0xfe, 0x00, 0x00] ++ p) = (p, some utf32le) ∧
    (p.take 2 ≠ [0, 0] → stripBom ([0xfe, 0xff] ++ p) = (p, some utf16be)) ∧
    (p.take 2 ≠ [0, 0] → stripBom ([0xff, 0xfe] ++ p) = (p, some utf16le)) := by
  refine ⟨by simp [stripBom], by simp [stripBom], by simp [stripBom], ?_, ?_⟩
  · intro h
    simp [stripBom, h]
  · intro h
    simp [stripBom, h]

/-- An empty UTF-16 document that consists of its byte-order mark alone is the empty text under
    UTF-16 (the mark is stripped and its encoding sniffed). -/
theorem bom_only_utf16 :
    stripBom [0xff, 0xfe] = ([], some utf16le) ∧ stripBom [0xfe, 0xff] = ([], some utf16be) ∧
    ∀ x, stripBom [0xff, 0xfe, x] = ([x], some utf16le) ∧ stripBom [0xfe, 0xff, x] = ([x], some utf16be) := by
  refine ⟨by decide_pstr, by decide_pstr, fun x => ?_⟩
  obtain ⟨_, _, _, hbe, hle⟩ := bom_spec [x]
  exact ⟨hle (by simp), hbe (by simp)⟩

/-- Witness of the repaired defect: with the old `len(data) >= 4` test the same inputs kept their
    mark and no encoding was sniffed (so they fell through to windows-1252, "ÿþ"); on four or more
    bytes the old and the repaired function agree. -/
theorem old_length_test_missed_short_utf16 :
    stripBomOld [0xff, 0xfe] = ([0xff, 0xfe], none) ∧ stripBomOld [0xfe, 0xff] = ([0xfe, 0xff], none) ∧
    (∀ x, stripBomOld [0xff, 0xfe, x] = ([0xff, 0xfe, x], none)) ∧
    ∀ b : Bytes, 4 ≤ b.length → stripBomOld b = stripBom b := by
  refine ⟨by decide_pstr, by decide_pstr, ?_, ?_⟩
  · intro x
    simp [stripBomOld]
  · intro b hb
    simp [stripBomOld, stripBom, hb]

/-- Whatever `stripBom` does, what is decoded is a suffix of the input, and a name is sniffed only if
    bytes were removed. -/
theorem bom_stripped_suffix (b : Bytes) :
    (∃ k, (stripBom b).1 = b.drop k ∧ ((stripBom b).2 = none → k = 0)) := by
  unfold stripBom
  split
  · exact ⟨2, rfl, fun h => by cases h⟩
  · split
    · exact ⟨2, rfl, fun h => by cases h⟩
    · split
      · exact ⟨3, rfl, fun h => by cases h⟩
      · split
        · exact ⟨4, rfl, fun h => by cases h⟩
        · split
          · exact ⟨4, rfl, fun h => by cases h⟩
          · exact ⟨0, rfl, fun _ => rfl⟩

/-- The model's BOM function agrees with the real `strip_byte_order_mark` on every generated probe
    (all BOM-like prefixes x short payloads, computed from the live code). -/
theorem bom_probes_agree : Gen.bomProbes.all (fun t => stripBom t.1 == (t.2.1, t.2.2)) = true := by
  decide_pstr

/-- With no known-definite encoding, the BOM's encoding is the first candidate (unless excluded). -/
theorem bom_first_candidate (n : Name) (user : List Name) (declared chardet : Option Name) (excl : List Name)
    (h : excl.contains (lower n) = false) :
    ∃ rest, candidates [] (some n) user declared chardet excl = n :: rest :=
  candidates_head (by simp [sources]) h

example : stripBom [0xff, 0xfe, 0x61, 0x00] = ([0x61, 0x00], some utf16le) := by decide_pstr
example : stripBom [0xff, 0xfe] = ([], some utf16le) := by decide_pstr
example : stripBom [0xff, 0xfe, 0x00, 0x00, 0x61, 0, 0, 0] = ([0x61, 0, 0, 0], some utf32le) := by decide_pstr

/-! ## UTF-8 by default, and what the constructor adds -/

/-- Bytes that are valid UTF-8, with no contrary indication (no known/override/user encodings, no BOM,
    no declaration, no guess from a chardet-like library, utf-8 not excluded), are decoded as UTF-8. -/
theorem utf8_default (C : Codecs) (a : Args) (b : Bytes) (u : PStr) (hb : b ≠ [])
    (hk : a.known = []) (ho : a.override = []) (hu : a.user = [])
    (hbom : stripBom b = (b, none)) (hdecl : findDeclared b a.isHtml = none) (hch : C.chardet b = none)
    (hx : (exclSet a).contains utf8 = false)
    (hex : C.codecExists utf8 = true) (hdec : C.decodeStrict utf8 b = some u) :
    (dammit C a (.bytes b)).text = some u ∧ (dammit C a (.bytes b)).originalEncoding = some utf8 ∧
    (dammit C a (.bytes b)).containsReplacement = false := by
  have hfc : findCodec C utf8 = some utf8 := findCodec_of_exists C utf8 (by decide_pstr) rfl hex
  obtain ⟨rest, hc⟩ : ∃ rest, candidatesOf C a b = utf8 :: rest :=
    candidates_head
      (by simp [sources, hbom, hk, ho, hu, hdecl, hch, fallback_is_utf8_then_windows1252]) hx
  refine dammit_first_clean C a b hb [] rest utf8 utf8 u hc (fun x hx => by cases hx) hfc ?_
  rw [hbom]; exact hdec

/-- `BeautifulSoup(bytes, from_encoding=e)`: `e` is the first candidate (known definite), so if the
    bytes decode under it that is the text and `original_encoding` its codec name. -/
theorem from_encoding_first (C : Codecs) (b : Bytes) (e r : Name) (u : PStr) (excl : List Name) (hb : b ≠ [])
    (he : e ≠ []) (hx : (excl.map lower).contains (lower e) = false)
    (hr : findCodec C e = some r) (hu : C.decodeStrict r (stripBom b).1 = some u) :
    ∃ d, prepareMarkup C (.bytes b) (some e) excl = .ok u (some r) d false := by
  have hne : e.isEmpty = false := List.isEmpty_eq_false_iff.mpr he
  obtain ⟨rest, hc⟩ : ∃ rest, candidatesOf C { known := [e], user := [], exclude := excl, isHtml := true } b = e :: rest :=
    candidates_head (by simp [sources]) hx
  obtain ⟨h1, h2, h3⟩ := dammit_first_clean C _ b hb [] rest e r u hc (fun _ h => nomatch h) hr hu
  refine ⟨(dammit C { known := [e], user := [], exclude := excl, isHtml := true } (.bytes b)).declaredHtml, ?_⟩
  simp only [prepareMarkup, prepareMarkupFull, knownOfFromEncoding, hne, Bool.false_eq_true, if_false, h1, h2, h3]

/-- The constructor rejects the markup (ParserRejectedMarkup) exactly when UnicodeDammit has no text. -/
theorem prepare_rejected_iff (C : Codecs) (b : Bytes) (fromEnc : Option Name) (excl : List Name) :
    prepareMarkup C (.bytes b) fromEnc excl = .rejected ↔
      (dammit C { known := knownOfFromEncoding fromEnc, user := [], exclude := excl, isHtml := true } (.bytes b)).text = none := by
  unfold prepareMarkup prepareMarkupFull
  dsimp only [knownOfFromEncoding]
  split
  · rename_i h; exact ⟨fun _ => h, fun _ => rfl⟩
  · rename_i t h
    constructor
    · intro h'; cases h'
    · intro h'; rw [h] at h'; cases h'

/-- Rejection really happens: exclude the two last-ditch encodings and give nothing else. -/
example : prepareMarkup ⟨fun _ => true, fun _ _ => some [], fun _ _ => some [], fun _ => none⟩ (.bytes [65]) none
    [ofS "UTF-8", ofS "windows-1252"] = .rejected := by decide_pstr

/-- The deprecated `fromEncoding=` keyword means exactly what `from_encoding=` means, also when an empty
    `from_encoding` is given next to it. (Giving BOTH with a non-empty `from_encoding` is outside the
    model: the `or` short-circuits, the deprecated keyword stays among the builder's keyword arguments
    and the TreeBuilder constructor raises TypeError.) -/
theorem deprecated_fromEncoding_alias (C : Codecs) (m : Markup) (e : Name) (excl : List Name) :
    constructorPrepare C m none (some e) excl = constructorPrepare C m (some e) none excl ∧
    constructorPrepare C m (some []) (some e) excl = constructorPrepare C m (some e) none excl := by
  cases he : e.isEmpty <;> simp [constructorPrepare, effectiveFromEncoding, he, prepareMarkup, prepareMarkupFull, knownOfFromEncoding]

/-- FILE-LIKE INPUT. Handing the constructor a file-like object (binary or text file handle, BytesIO,
    StringIO, anything with `read`) gives exactly what handing it the content gives: in particular
    `from_encoding` / `fromEncoding` is honoured for bytes that arrive through a file handle (the
    "Unicode markup" test looks at the argument before it is read, and a handle is not a str), and is
    still ignored for text. -/
theorem file_like_same_as_direct (C : Codecs) (m : Markup) (fe old : Option Name) (excl : List Name) :
    constructorPrepareArg C (.fileLike m) fe old excl = constructorPrepareArg C (.direct m) fe old excl ∧
    constructorPrepareArg C (.direct m) fe old excl = constructorPrepare C m fe old excl := by
  cases m with
  | str s => simp [constructorPrepareArg, constructorPrepare, MarkupArg.content, prepareMarkup, prepareMarkupFull]
  | bytes b => simp [constructorPrepareArg, constructorPrepare, MarkupArg.content]

/-- … so for bytes behind a file handle `from_encoding` is still the first candidate. -/
theorem from_encoding_first_file_like (C : Codecs) (b : Bytes) (e r : Name) (u : PStr) (excl : List Name) (hb : b ≠ [])
    (he : e ≠ []) (hx : (excl.map lower).contains (lower e) = false)
    (hr : findCodec C e = some r) (hu : C.decodeStrict r (stripBom b).1 = some u) :
    ∃ d, constructorPrepareArg C (.fileLike (.bytes b)) (some e) none excl = .ok u (some r) d false := by
  have hne : e.isEmpty = false := List.isEmpty_eq_false_iff.mpr he
  obtain ⟨d, hd⟩ := from_encoding_first C b e r u excl hb he hx hr hu
  exact ⟨d, by rw [(file_like_same_as_direct C _ _ _ _).1, (file_like_same_as_direct C _ _ _ _).2]; simpa [constructorPrepare, effectiveFromEncoding, hne] using hd⟩

/-! ## the declared encoding -/

/-- declared_html_encoding reports what the BOM-stripped document declares, independently of which
    candidate won and of the codecs (repaired behaviour; the unrepaired property returns `None`
    unless the generator got as far as the declaration step); `None` for XML. -/
theorem declared_reported (C : Codecs) (a : Args) (b : Bytes) :
    (dammit C a (.bytes b)).declaredHtml =
      if a.isHtml then findDeclared (stripBom b).1 true else none := by
  have hb : ∀ data bom declared, (dammitBytes C a data bom declared).declaredHtml = if a.isHtml then declared else none := by
    intro data bom declared
    unfold dammitBytes
    dsimp only
    split
    · rfl
    · split <;> rfl
  unfold dammit
  dsimp only
  split
  · cases h : a.isHtml <;> rfl
  · rw [hb]
    cases h : a.isHtml <;> rfl

/-! ### the declaration regexes

`Rx.findDeclaredRx` is the code-mirror of `find_declared_encoding`: Python's `re` search (module
`Model/EncodingRx.lean`: backtracking matcher for the fragment of the regex language the two patterns
use) over the patterns GENERATED from the live `xml_encoding` / `html_meta` sources, with the two
`endpos` windows. `findDeclared` (used by `dammit`) is the hand-written matcher. They are equal on
every input (`declared_regex_refinement`), so every statement below holds of the regex mirror.
What remains outside Lean: that `Rx.search` is what CPython's `re` computes on this fragment — tied
by the `rx` correspondence stream (random patterns of the fragment, bytes and str, versus `re`). -/

/-- REFINEMENT. `find_declared_encoding` as a regex search over the generated patterns (bytes
    flavour) is the hand-written matcher used by the model of UnicodeDammit — for EVERY byte string. -/
theorem declared_regex_refinement (markup : Bytes) (isHtml : Bool) :
    Rx.findDeclaredRx false markup isHtml false = findDeclared markup isHtml :=
  Rx.findDeclaredRx_eq markup isHtml

/-- The generated pattern data (from `re._parser` on the live sources) is what the proofs are about:
    `^\s*<\?.*encoding=['"](.*?)['"].*\?>` and `<\s*meta[^>]+charset\s*=\s*["']?([^>]*?)[ /;'">]`. -/
theorem patterns_are_the_live_ones :
    (Gen.c07XmlAnchored = true ∧ Gen.c07XmlAtoms = Rx.xmlAtomsH) ∧
    (Gen.c07HtmlAnchored = false ∧ Gen.c07HtmlAtoms = Rx.htmlAtomsH) :=
  ⟨Rx.gen_xml_eq, Rx.gen_html_eq⟩

/-- How the two flavours differ on ASCII (whole generated tables, kernel-decided): the str `\s` is the
    bytes `\s` plus the four separators U+001C..U+001F; the case folding of the patterns' literals is
    the same (the str flavour's extra matches — `ſ` for `s`, `ı`/`İ` for `i` — are all non-ASCII). -/
theorem str_flavor_vs_bytes_flavor_on_ascii :
    (List.range 128).all (fun x => Rx.strFlavor.space x == (Rx.bytesFlavor.space x || (28 ≤ x && x ≤ 31))) = true ∧
    (Gen.c07CiTable.all fun e => (List.range 128).all fun x =>
      Rx.strFlavor.ci e.1 x == Rx.bytesFlavor.ci e.1 x) = true := by
  constructor <;> decide_pstr

/-- The result does not depend on anything after the search window: two documents of the same length
    that agree on the first `max(2048, len/20)` characters declare the same encoding — both flavours. -/
theorem declared_window_independent (isStr : Bool) (m1 m2 : List Nat) (isHtml : Bool)
    (hlen : m1.length = m2.length)
    (hw : m1.take (max 2048 (m1.length / 20)) = m2.take (max 2048 (m1.length / 20))) :
    Rx.findDeclaredRx isStr m1 isHtml false = Rx.findDeclaredRx isStr m2 isHtml false := by
  have h1024 : m1.take 1024 = m2.take 1024 := by
    have h1 : m1.take 1024 = (m1.take (max 2048 (m1.length / 20))).take 1024 := by
      rw [List.take_take]; congr 1; omega
    have h2 : m2.take 1024 = (m2.take (max 2048 (m1.length / 20))).take 1024 := by
      rw [List.take_take]; congr 1; omega
    rw [h1, h2, hw]
  unfold Rx.findDeclaredRx Rx.search
  simp only [Bool.false_eq_true, if_false, h1024, ← hlen, hw]

/-- … in particular for the matcher inside `dammit`. -/
theorem declared_window_independent_bytes (m1 m2 : Bytes) (isHtml : Bool) (hlen : m1.length = m2.length)
    (hw : m1.take (max 2048 (m1.length / 20)) = m2.take (max 2048 (m1.length / 20))) :
    findDeclared m1 isHtml = findDeclared m2 isHtml := by
  rw [← declared_regex_refinement, ← declared_regex_refinement]
  exact declared_window_independent false m1 m2 isHtml hlen hw

example : findDeclared (ofS "<meta charset=x>" ++ List.replicate 3000 120 ++ ofS "<meta charset=a>") true
    = findDeclared (ofS "<meta charset=x>" ++ List.replicate 3000 120 ++ ofS "<meta charset=b>") true := by
  have hx : (ofS "<meta charset=x>").length = 16 := by decide_pstr
  have ha : (ofS "<meta charset=a>").length = 16 := by decide_pstr
  have hb : (ofS "<meta charset=b>").length = 16 := by decide_pstr
  apply declared_window_independent_bytes
  · simp only [List.length_append, List.length_replicate, hx, ha, hb]
  · simp only [List.length_append, List.length_replicate, hx, ha]
    rw [List.take_append_of_le_length, List.take_append_of_le_length (l₂ := ofS "<meta charset=b>")]
    all_goals simp only [List.length_append, List.length_replicate, hx]; decide

/-- Nothing is found when the markers are absent: no `<?` at the start (after white space) of the
    first 1024 bytes — or no `encoding=` there — and no `<`+`meta` — or no `charset` — in the HTML window. -/
theorem nothing_declared_without_markers (markup : Bytes) (isHtml : Bool)
    (hxml : (∀ rest, (markup.take 1024).dropWhile isSpace ≠ 60 :: 63 :: rest) ∨
            containsCI litEncodingEq (markup.take 1024) = false)
    (hhtml : hasMetaOpen (markup.take (max 2048 (markup.length / 20))) = false ∨
             containsCI litCharset (markup.take (max 2048 (markup.length / 20))) = false) :
    findDeclared markup isHtml = none ∧ Rx.findDeclaredRx false markup isHtml false = none := by
  have hx : xmlMatch markup = none := by
    unfold xmlMatch
    rcases hxml with h | h
    · split
      · rename_i rest heq; exact absurd heq (h rest)
      · rfl
    · split
      · rename_i rest heq
        apply lastEncoding_none_of_no_encoding
        have h1 := containsCI_suffix (List.dropWhile_suffix isSpace) h
        rw [heq] at h1
        simp only [containsCI, Bool.or_eq_false_iff] at h1
        obtain ⟨-, -, hrest⟩ := h1
        exact containsCI_takeWhile _ _ _ hrest
      · rfl
  have hh : htmlSearch (markup.take (max 2048 (markup.length / 20))) = none := by
    rcases hhtml with h | h
    · exact htmlSearch_none_of_no_meta _ h
    · exact htmlSearch_none_of_no_charset _ h
  have : findDeclared markup isHtml = none := by
    unfold findDeclared
    simp only [hx, hh]
    cases isHtml <;> rfl
  exact ⟨this, by rw [declared_regex_refinement]; exact this⟩

example : findDeclared (ofS "<html><head><title>charset and meta, but no tag</title></head>") true = none :=
  (nothing_declared_without_markers _ true (Or.inr (by decide_pstr)) (Or.inl (by decide_pstr))).1

/-- Both flavours, both `search_entire_document` settings: a text without any `<` declares nothing
    (in the str flavour too only `<` itself matches the literal `<` — decided over the generated
    case-folding table). -/
theorem nothing_declared_without_lt (isStr : Bool) (markup : List Nat) (isHtml entire : Bool)
    (h : ∀ x ∈ markup, x ≠ 60) : Rx.findDeclaredRx isStr markup isHtml entire = none :=
  Rx.findDeclaredRx_none_of_no_lt isStr markup isHtml entire h

example : Rx.findDeclaredRx true (ofS "charset=utf-8 encoding='x' ?> meta") true true = none :=
  nothing_declared_without_lt _ _ _ _ (by decide_pstr)

/-- THE XML DECLARATION WINS. When the XML-declaration pattern matches (within its 1024 bytes), its group
    decides — whatever `<meta>` tags the document also carries, for HTML and XML alike (an empty name
    means "nothing declared", and the `<meta>` is still not consulted). The `<meta>` pattern is
    consulted only when the XML pattern does not match, and only for HTML. Stated for the regex mirror
    (`Rx.search` over the generated patterns), hence by `declared_regex_refinement` for the model's matcher. -/
theorem xml_declaration_wins (markup : Bytes) (isHtml : Bool) :
    (∀ g, Rx.search Rx.bytesFlavor Rx.xmlPattern markup 1024 = some g →
      Rx.findDeclaredRx false markup isHtml false = if g.isEmpty then none else some (lower (asciiReplace g))) ∧
    (Rx.search Rx.bytesFlavor Rx.xmlPattern markup 1024 = none →
      Rx.findDeclaredRx false markup isHtml false =
        if isHtml then
          match Rx.search Rx.bytesFlavor Rx.htmlPattern markup (max 2048 (markup.length / 20)) with
          | some g => if g.isEmpty then none else some (lower (asciiReplace g))
          | none => none
        else none) := by
  constructor
  · intro g hg
    simp [Rx.findDeclaredRx, hg]
  · intro hn
    cases isHtml
    · simp [Rx.findDeclaredRx, hn]
    · simp only [Rx.findDeclaredRx, hn, Bool.false_eq_true, if_false, if_true]
      cases Rx.search Rx.bytesFlavor Rx.htmlPattern markup (max 2048 (markup.length / 20)) <;> rfl

-- an XHTML page whose XML declaration and <meta> disagree: the XML declaration is reported, in both modes
example : findDeclared (ofS "<?xml version=\"1.0\" encoding=\"iso-8859-2\"?>\n<html><head><meta charset=\"iso-8859-1\"></head>") true
      = some (ofS "iso-8859-2") ∧
    findDeclared (ofS "<html><head><meta charset=\"iso-8859-1\"></head><?xml version=\"1.0\" encoding=\"iso-8859-2\"?>") true
      = some (ofS "iso-8859-1") ∧
    findDeclared (ofS "<html><head><meta charset=\"iso-8859-1\"></head><?xml version=\"1.0\" encoding=\"iso-8859-2\"?>") false
      = none := by decide_pstr

/-! #### well-formed declarations inside the window are found -/

/-- `<?xml … encoding="NAME" …?>` at the start (after optional white space) and within the first
    1024 bytes: NAME is quote-free, the rest of the line (`after`: e.g. `?>`, ` standalone="yes"?>`,
    `?><html lang="en">`) contains `?>` and no further `encoding=`, and the line ends with the input or
    a newline. The declared encoding is NAME lower-cased — for XML and HTML documents alike, by the
    hand-written matcher AND by the regex mirror. -/
theorem declared_of_wellformed_xml (ws pre name after tail : Bytes) (q1 q2 : Nat) (isHtml : Bool)
    (hws : ∀ c ∈ ws, isSpace c = true) (hpre : ∀ c ∈ pre, c ≠ 10)
    (hq1 : isQuote q1 = true) (hq2 : isQuote q2 = true) (hne : name ≠ [])
    (hn : ∀ c ∈ name, isQuote c = false ∧ c ≠ 10)
    (ha : ∀ c ∈ after, c ≠ 10) (hqm : containsQmGt after = true)
    (hno : containsCI litEncodingEq (name ++ q2 :: after) = false)
    (ht : tail = [] ∨ ∃ r, tail = 10 :: r)
    (hlen : (ws ++ 60 :: 63 :: (pre ++ (litEncodingEq ++ q1 :: (name ++ q2 :: after)))).length ≤ 1024) :
    findDeclared (ws ++ 60 :: 63 :: (pre ++ (litEncodingEq ++ q1 :: (name ++ q2 :: after))) ++ tail) isHtml
      = some (lower (asciiReplace name)) ∧
    Rx.findDeclaredRx false (ws ++ 60 :: 63 :: (pre ++ (litEncodingEq ++ q1 :: (name ++ q2 :: after))) ++ tail) isHtml false
      = some (lower (asciiReplace name)) := by
  have hne' : name.isEmpty = false := List.isEmpty_eq_false_iff.mpr hne
  rw [declared_regex_refinement, and_self, findDeclared,
    xmlMatch_decl_gen ws pre name after tail q1 q2 hws hpre hq1 hq2 hn ha hqm hno ht hlen]
  simp [hne']

example : findDeclared (ofS "<?xml version=\"1.0\" encoding=\"KOI8-R\"?>\n<a/>") false = some (ofS "koi8-r") := by decide_pstr

/-- `<meta … charset=NAME…>`: covers `<meta charset="NAME">`, unquoted, `/>`-closed,
    `<meta http-equiv=… content="text/html; charset=NAME">`, and further attributes after the value
    (`<meta charset="NAME" id="x">`). Hypotheses: no XML declaration in front; every earlier `<` opens
    something that is visibly not `<meta`; the tag (through its `>`) lies within the first 2048 bytes;
    NAME has no closing-class character and no white space; what follows the value up to `>` starts
    with a closing-class character and does not contain `charset` again. -/
theorem declared_of_wellformed_meta (pre mid qs name close rest : Bytes) (m0 : Nat)
    (hxml : xmlMatch (pre ++ 60 :: (litMeta ++ m0 :: (mid ++ (litCharset ++ 61 :: (qs ++ (name ++ (close ++ [62])))))) ++ rest) = none)
    (hpre : tagsNotMeta pre = true)
    (hm0 : m0 ≠ 62) (hmid : ∀ c ∈ mid, c ≠ 62)
    (hqs : qs = [] ∨ ∃ q, qs = [q] ∧ isQuote q = true) (hne : name ≠ [])
    (hn : ∀ c ∈ name, isTerm c = false ∧ isSpace c = false)
    (hclose : ∀ c ∈ close, c ≠ 62)
    (hno : containsCI litCharset (qs ++ name ++ close) = false)
    (hterm : close = [] ∨ ∃ t r, close = t :: r ∧ isTerm t = true)
    (hlen : (pre ++ 60 :: (litMeta ++ m0 :: (mid ++ (litCharset ++ 61 :: (qs ++ (name ++ (close ++ [62]))))))).length ≤ 2048) :
    findDeclared (pre ++ 60 :: (litMeta ++ m0 :: (mid ++ (litCharset ++ 61 :: (qs ++ (name ++ (close ++ [62])))))) ++ rest) true
      = some (lower (asciiReplace name)) ∧
    Rx.findDeclaredRx false (pre ++ 60 :: (litMeta ++ m0 :: (mid ++ (litCharset ++ 61 :: (qs ++ (name ++ (close ++ [62])))))) ++ rest) true false
      = some (lower (asciiReplace name)) := by
  have _ := hclose  -- not needed: the matcher stops at the first `>`
  have hne' : name.isEmpty = false := List.isEmpty_eq_false_iff.mpr hne
  rw [declared_regex_refinement, and_self, findDeclared, hxml]
  simp only [if_true]
  rw [List.take_append, List.take_of_length_le (Nat.le_trans hlen (Nat.le_max_left _ _))]
  generalize rest.take _ = rest'
  simp only [List.append_assoc, List.cons_append, List.nil_append]
  rw [htmlSearch_skip pre _ hpre, htmlSearch]
  simp only [beq_self_eq_true, if_true]
  rw [metaAt_decl_of m0 mid qs name close rest' hm0 hmid hqs hne hn (containsCharsetEq_of_no_charset _ hno) hterm]
  simp [hne']

example : findDeclared (ofS "<html><head><meta http-equiv=\"Content-Type\" content=\"text/html; charset=Shift_JIS\"></head>") true
    = some (ofS "shift_jis") := by decide_pstr
example : findDeclared (ofS "<html><head><meta charset='x-sjis' /></head>") true = some (ofS "x-sjis") := by decide_pstr
/-- in an XML document a `<meta>` declaration is not looked at -/
example : findDeclared (ofS "<html><head><meta charset='x-sjis' /></head>") false = none := by decide_pstr

/-- so declared_html_encoding reports a well-formed `<meta>` declaration whatever the arguments,
    whatever encoding wins and whatever the codecs do (false of the unrepaired code) -/
theorem declared_html_encoding_of_meta (C : Codecs) (a : Args) (doc name : Bytes) (ha : a.isHtml = true)
    (hbom : stripBom doc = (doc, none)) (hd : findDeclared doc true = some (lower (asciiReplace name))) :
    (dammit C a (.bytes doc)).declaredHtml = some (lower (asciiReplace name)) := by
  rw [declared_reported, ha, hbom]
  simpa using hd

/-- utf-8 and ascii exist and decode (strictly) exactly the 7-bit strings -/
def toy : Codecs where
  codecExists n := n == utf8 || n == ascii
  decodeStrict n b := if (n == utf8 || n == ascii) && b.all (· < 128) then some b else none
  decodeReplace n b := if n == utf8 || n == ascii then some (b.map fun c => if c < 128 then c else 0xFFFD) else none

/-! ## find_codec -/

/-- Over the whole generated alias table: no key and no target is empty, and every entry is lower-case. -/
theorem alias_table_well_formed :
    Gen.charsetAliases.all (fun kv => !kv.1.isEmpty && !kv.2.isEmpty && lower kv.1 == kv.1 && lower kv.2 == kv.2) = true := by
  decide_pstr

/-- `find_codec` spelled out: the first of (alias, dashes removed, dashes as underscores) that is a
    non-empty name `codecs.lookup` knows — else the name itself; always lower-cased. -/
theorem findCodec_spec (C : Codecs) (c : Name) (hc : c ≠ []) :
    findCodec C c = some (lower (([aliasOf c, replaceDash [] c, replaceDash [95] c].find?
      (fun v => !v.isEmpty && C.codecExists v)).getD c)) := by
  have hne : c.isEmpty = false := List.isEmpty_eq_false_iff.mpr hc
  have hcodec : ∀ v, codec C v = if (!v.isEmpty && C.codecExists v) = true then some v else none := by
    intro v
    unfold codec
    cases v.isEmpty <;> cases C.codecExists v <;> rfl
  unfold findCodec
  simp only [hcodec, List.find?_cons, List.find?_nil, hne, Bool.false_eq_true, if_false]
  by_cases h1 : (!(aliasOf c).isEmpty && C.codecExists (aliasOf c)) = true
  · simp only [h1, if_true, Option.getD_some]
  · simp only [h1, Bool.false_eq_true, if_false]
    by_cases h2 : (!(replaceDash [] c).isEmpty && C.codecExists (replaceDash [] c)) = true
    · simp only [h2, if_true, Option.getD_some]
    · simp only [h2, Bool.false_eq_true, if_false]
      by_cases h3 : (!(replaceDash [95] c).isEmpty && C.codecExists (replaceDash [95] c)) = true
      · simp only [h3, if_true, Option.getD_some]
      · simp only [h3, Bool.false_eq_true, if_false, Option.getD_none, lower_idem]

/-- Only the empty name has no codec name; every answer is lower-case (so `original_encoding` is). -/
theorem findCodec_none_iff_empty (C : Codecs) (c : Name) :
    (findCodec C c = none ↔ c = []) ∧ ∀ r, findCodec C c = some r → lower r = r := by
  have hnil : aliasOf [] = [] := by decide_pstr
  constructor
  · constructor
    · intro h
      cases c with
      | nil => rfl
      | cons x t => rw [findCodec_spec C (x :: t) (by simp)] at h; cases h
    · intro h
      subst h
      simp [findCodec, codec, hnil]
  · intro r h
    cases c with
    | nil => simp [findCodec, codec, hnil] at h
    | cons x t =>
      rw [findCodec_spec C (x :: t) (by simp)] at h
      cases h
      exact lower_idem _

example : findCodec toy (ofS "UTF-8") = some utf8 ∧ findCodec toy (ofS "u-t-f-8") = some (ofS "u-t-f-8") ∧
    findCodec ⟨fun n => n == ofS "utf8", fun _ _ => none, fun _ _ => none, fun _ => none⟩ (ofS "UTF-8") = some (ofS "utf-8") ∧
    findCodec ⟨fun n => n == ofS "utf8", fun _ _ => none, fun _ _ => none, fun _ => none⟩ (ofS "ut-f8") = some (ofS "utf8") := by decide_pstr

/-! ## EncodingDetector on a str -/

/-- `EncodingDetector(str, …).encodings` is the documented list with no BOM step and no chardet step,
    the declaration being looked for by the str flavour of the patterns. -/
theorem encodings_str_eq_candidates (a : Args) (s : PStr) :
    Rx.detectorEncodingsStr a s =
      candidates (a.known ++ a.override) none a.user (Rx.findDeclaredRx true s a.isHtml) none (exclSet a) := by
  unfold Rx.detectorEncodingsStr detectorEncodings
  exact encodings_eq_candidates _ _ _ _ _ _

example : Rx.detectorEncodingsStr { isHtml := true } (ofS "<meta char" ++ [0x17F] ++ ofS "et=KOI8-R>") = [ofS "koi8-r", utf8, windows1252] := by
  decide_pstr

/-! ## documents that are empty after their byte-order mark -/

/-- A BOM-only document (`stripBom b = ([], some n)`) with one known-definite name `x` that is not a text
    encoding accepting the empty input (unknown name, `hex`, `undefined`, …): `x` is skipped and the BOM's own
    encoding names the result — exactly as for a document with content. (Instance of `dammit_first_clean`;
    false of the unrepaired `_to_unicode`, see the witness below.) -/
theorem bom_only_skips_what_is_not_a_codec (C : Codecs) (a : Args) (b : Bytes) (x n r : Name) (hb : b ≠ [])
    (hbom : stripBom b = ([], some n)) (hk : a.known = [x]) (ho : a.override = [])
    (hxn : lower x ≠ lower n) (hex : (exclSet a).contains (lower x) = false) (hen : (exclSet a).contains (lower n) = false)
    (hbad : ∀ r', findCodec C x = some r' → C.decodeStrict r' [] = none)
    (hr : findCodec C n = some r) (hok : C.decodeStrict r [] = some []) :
    (dammit C a (.bytes b)).text = some [] ∧ (dammit C a (.bytes b)).originalEncoding = some r ∧
    (dammit C a (.bytes b)).containsReplacement = false := by
  obtain ⟨rest, hc⟩ : ∃ rest, candidatesOf C a b = [x] ++ n :: rest := by
    unfold candidatesOf candidates sources
    rw [hbom]
    have hnx : (lower n != lower x) = true := by simpa using Ne.symm hxn
    simp only [hk, ho, List.append_nil, List.cons_append, List.nil_append, Option.toList_some, List.filter_cons, hex, hen,
      Bool.not_false, if_true, dedupLower.eq_2, hnx]
    exact ⟨_, rfl⟩
  exact dammit_first_clean C a b hb [x] rest n r [] hc
    (fun y hy r' hr' => by
      simp only [List.mem_singleton] at hy
      subst hy
      rw [hbom]; exact hbad r' hr')
    hr (by rw [hbom]; exact hok)

/-- WITNESS of the repaired defect: under the oracle the unrepaired code effectively saw (CPython's
    empty-input fast path), the bogus name wins and becomes `original_encoding`; under the real oracle the
    BOM's encoding does. -/
theorem old_empty_remainder_took_any_name :
    (dammit (withEmptyFastPath toy) { known := [ofS "nosuch"] } (.bytes [0xef, 0xbb, 0xbf])).originalEncoding = some (ofS "nosuch") ∧
    (dammit toy { known := [ofS "nosuch"] } (.bytes [0xef, 0xbb, 0xbf])).originalEncoding = some utf8 ∧
    (dammit (withEmptyFastPath toy) { known := [ofS "hex"], exclude := [utf8, windows1252] } (.bytes [0xff, 0xfe, 0, 0])).originalEncoding
      = some (ofS "hex") := by decide_pstr

example : True := by
  have := bom_only_skips_what_is_not_a_codec toy { known := [ofS "nosuch"] } [0xef, 0xbb, 0xbf] (ofS "nosuch") utf8 utf8 (by decide_pstr)
    (by decide_pstr) rfl rfl (by decide_pstr) (by decide_pstr) (by decide_pstr) (by decide_pstr) (by decide_pstr) (by decide_pstr)
  trivial

/-! ## UnicodeDammit always produces text (for lawful codecs), and where the result comes from -/

/-- Over the WHOLE generated alias table: no key is (a spelling of) one of the two last-ditch names,
    so those are never redirected. -/
theorem alias_keys_are_not_the_fallbacks :
    Gen.charsetAliases.all (fun kv => lower kv.1 != utf8 && lower kv.1 != windows1252) = true := by
  decide_pstr

/-- Any spelling (case) of utf-8 / windows-1252 resolves to the lower-case name, given that
    `codecs.lookup` ignores case and knows the two. -/
theorem fallback_resolves (C : Codecs) (L : Lawful C) (c : Name) (h : lower c = utf8 ∨ lower c = windows1252) :
    findCodec C c = some (lower c) := by
  have hal : aliasOf c = c := by
    unfold aliasOf
    cases hl : Gen.charsetAliases.lookup c with
    | none => rfl
    | some v =>
      have hm := mem_of_lookup hl
      have := List.all_eq_true.mp alias_keys_are_not_the_fallbacks _ hm
      simp only [Bool.and_eq_true, bne_iff_ne, ne_eq] at this
      rcases h with h | h
      · exact absurd h this.1
      · exact absurd h this.2
  have hne : c.isEmpty = false := by
    cases c with
    | nil => rcases h with h | h <;> cases h
    | cons x t => rfl
  have hex : C.codecExists c = true := by
    rw [L.lookup_ignores_case]
    rcases h with h | h
    · rw [h]; exact L.utf8_exists
    · rw [h]; exact L.cp1252_exists
  exact findCodec_of_exists C c hal hne hex

/-- TOTALITY. For lawful codecs, a non-empty byte string always gets a text unless BOTH last-ditch
    encodings are excluded: whatever the arguments, the BOM, the declaration, the chardet guess. -/
theorem dammit_total (C : Codecs) (L : Lawful C) (a : Args) (b : Bytes) (hb : b ≠ [])
    (hx : (exclSet a).contains utf8 = false ∨ (exclSet a).contains windows1252 = false) :
    (dammit C a (.bytes b)).text.isSome = true := by
  obtain ⟨n, hn, hxn, htot⟩ : ∃ n, (n = utf8 ∨ n = windows1252) ∧ (exclSet a).contains n = false ∧
      ∀ d, (C.decodeReplace n d).isSome = true := by
    rcases hx with hx | hx
    · exact ⟨utf8, Or.inl rfl, hx, L.utf8_replace_total⟩
    · exact ⟨windows1252, Or.inr rfl, hx, L.cp1252_replace_total⟩
  have hln : lower n = n := by rcases hn with rfl | rfl <;> decide_pstr
  have hsrc : n ∈ sources (a.known ++ a.override) (stripBom b).2 a.user (findDeclared (stripBom b).1 a.isHtml)
      (C.chardet (stripBom b).1) := by
    rw [sources, fallback_is_utf8_then_windows1252]
    apply List.mem_append_right
    rcases hn with rfl | rfl
    · exact List.mem_cons_self
    · exact List.mem_cons_of_mem _ List.mem_cons_self
  obtain ⟨c, hc, hlc⟩ := (candidates_complete _ _ _ _ _ _).1 n hsrc (hln.symm ▸ hxn)
  rw [hln] at hlc
  have hres : findCodec C c = some n := hlc ▸ fallback_resolves C L c (hlc ▸ hn)
  have hasc : c ≠ ascii := by
    rintro rfl
    rcases hn with rfl | rfl <;> exact absurd hlc (by decide_pstr)
  obtain ⟨u, hu⟩ := Option.isSome_iff_exists.mp (htot (stripBom b).1)
  cases ht : (dammit C a (.bytes b)).text with
  | some t => rfl
  | none =>
    have h2 := ((no_text_iff C a b hb).mp ht c hc).2 hasc
    rw [(attempt_iff C _ true c n u).mpr ⟨hres, by simpa using hu⟩] at h2
    exact nomatch h2

/-- … hence `prepare_markup` (and the BeautifulSoup constructor) never raises ParserRejectedMarkup for
    lawful codecs unless both last-ditch encodings are excluded. -/
theorem prepare_never_rejects (C : Codecs) (L : Lawful C) (m : Markup) (fromEnc docDecl : Option Name) (excl : List Name)
    (hx : (excl.map lower).contains utf8 = false ∨ (excl.map lower).contains windows1252 = false) :
    prepareMarkupFull C m fromEnc docDecl excl ≠ .rejected := by
  cases m with
  | str s => simp [prepareMarkupFull]
  | bytes b =>
    have ht : (dammit C { known := knownOfFromEncoding fromEnc, user := knownOfFromEncoding docDecl, exclude := excl, isHtml := true }
        (.bytes b)).text.isSome = true := by
      by_cases hb : b = []
      · rw [hb, (empty_bytes C _).1]; rfl
      · exact dammit_total C L _ b hb hx
    obtain ⟨t, ht⟩ := Option.isSome_iff_exists.mp ht
    simp [prepareMarkupFull, ht]

/-- a lawful toy: utf-8, windows-1252 and ascii in any case; strict decoding accepts 7-bit strings only -/
def toyLawful : Codecs where
  codecExists n := lower n == utf8 || lower n == windows1252 || lower n == ascii
  decodeStrict n b := if (n == utf8 || n == windows1252 || n == ascii) && b.all (· < 128) then some b else none
  decodeReplace n b := if n == utf8 || n == windows1252 || n == ascii then some (b.map fun c => if c < 128 then c else 0xFFFD) else none

theorem toyLawful_is_lawful : Lawful toyLawful where
  lookup_ignores_case n := by simp [toyLawful, lower_idem]
  utf8_exists := by decide_pstr
  cp1252_exists := by decide_pstr
  utf8_replace_total d := by simp [toyLawful]
  cp1252_replace_total d := by simp [toyLawful, windows1252, utf8]

/-- "No contrary indication", at full strength: if EVERY indication that is present — known definite,
    override and user encodings, the BOM, the declaration, the chardet guess — names UTF-8 (in any
    spelling of case), utf-8 is not excluded and the codecs are lawful, then bytes that are valid UTF-8
    are decoded as UTF-8, `original_encoding == "utf-8"`, no replacement flagged. (`utf8_default` is the
    case where there is no indication at all, and needs no codec laws beyond utf-8 existing.) -/
theorem utf8_when_every_indication_is_utf8 (C : Codecs) (L : Lawful C) (a : Args) (b : Bytes) (u : PStr) (hb : b ≠ [])
    (hall : ∀ x ∈ (a.known ++ a.override) ++ (stripBom b).2.toList ++ a.user ++
        (findDeclared (stripBom b).1 a.isHtml).toList ++ (C.chardet (stripBom b).1).toList, lower x = utf8)
    (hx : (exclSet a).contains utf8 = false)
    (hdec : C.decodeStrict utf8 (stripBom b).1 = some u) :
    (dammit C a (.bytes b)).text = some u ∧ (dammit C a (.bytes b)).originalEncoding = some utf8 ∧
    (dammit C a (.bytes b)).containsReplacement = false := by
  -- the first candidate is a spelling of utf-8
  obtain ⟨c, hlc, hs⟩ : ∃ c, lower c = utf8 ∧ (sources (a.known ++ a.override) (stripBom b).2 a.user
      (findDeclared (stripBom b).1 a.isHtml) (C.chardet (stripBom b).1)).head? = some c := by
    unfold sources
    rw [fallback_is_utf8_then_windows1252]
    generalize (a.known ++ a.override) ++ (stripBom b).2.toList ++ a.user ++
        (findDeclared (stripBom b).1 a.isHtml).toList ++ (C.chardet (stripBom b).1).toList = ind at hall
    cases ind with
    | nil => exact ⟨utf8, by decide_pstr, rfl⟩
    | cons x t => exact ⟨x, hall x List.mem_cons_self, rfl⟩
  obtain ⟨rest, hc⟩ : ∃ rest, candidatesOf C a b = c :: rest := candidates_head hs (hlc ▸ hx)
  have hres : findCodec C c = some utf8 := by
    have := fallback_resolves C L c (Or.inl hlc)
    rw [hlc] at this; exact this
  exact dammit_first_clean C a b hb [] rest c utf8 u hc (fun x hx => by cases hx) hres hdec

-- a UTF-8 BOM, `known_definite_encodings=["UTF-8"]` and a `<meta charset=utf-8>` are no contrary indication
example : True := by
  have := utf8_when_every_indication_is_utf8 toyLawful toyLawful_is_lawful { known := [ofS "UTF-8"], isHtml := true }
    ([0xef, 0xbb, 0xbf] ++ ofS "<meta charset=utf-8>") (ofS "<meta charset=utf-8>") (by decide_pstr) (by decide_pstr) (by decide_pstr) (by decide_pstr)
  trivial

/-- "VALID UTF-8" MADE CONCRETE. `BS.Detwingle.decodeUtf8` is the strict UTF-8 decoder of Unicode Table 3-7
    (model of property C19, proved there to accept exactly the encodings of lists of scalar values, and
    compared there with CPython's). If the codec oracle's strict utf-8 decoding is that decoder, then for
    EVERY text `s` of Unicode scalar values: when what remains after BOM stripping is the UTF-8 encoding
    of `s` and every present indication says UTF-8, UnicodeDammit returns `s` itself, as utf-8, unflagged. -/
theorem valid_utf8_text_is_recovered (C : Codecs) (L : Lawful C) (a : Args) (b : Bytes) (s : PStr) (hb : b ≠ [])
    (hdecoder : ∀ d, C.decodeStrict utf8 d = Detwingle.decodeUtf8 d)
    (hs : ∀ c ∈ s, Detwingle.IsScalar c) (henc : (stripBom b).1 = Detwingle.utf8 s)
    (hall : ∀ x ∈ (a.known ++ a.override) ++ (stripBom b).2.toList ++ a.user ++
        (findDeclared (stripBom b).1 a.isHtml).toList ++ (C.chardet (stripBom b).1).toList, lower x = utf8)
    (hx : (exclSet a).contains utf8 = false) :
    (dammit C a (.bytes b)).text = some s ∧ (dammit C a (.bytes b)).originalEncoding = some utf8 ∧
    (dammit C a (.bytes b)).containsReplacement = false :=
  utf8_when_every_indication_is_utf8 C L a b s hb hall hx (by rw [hdecoder, henc]; exact Detwingle.decodeUtf8_utf8 s hs)

/-- a lawful oracle whose strict utf-8 decoding is the Table 3-7 decoder -/
def toyUtf8 : Codecs where
  codecExists n := lower n == utf8 || lower n == windows1252
  decodeStrict n b := if n == utf8 then Detwingle.decodeUtf8 b else none
  decodeReplace n b := if n == utf8 || n == windows1252 then some (b.map fun c => if c < 128 then c else 0xFFFD) else none

theorem toyUtf8_is_lawful : Lawful toyUtf8 where
  lookup_ignores_case n := by simp [toyUtf8, lower_idem]
  utf8_exists := by decide_pstr
  cp1252_exists := by decide_pstr
  utf8_replace_total d := by simp [toyUtf8]
  cp1252_replace_total d := by simp [toyUtf8, windows1252, utf8]

-- "é€😀" behind a UTF-8 BOM, known_definite_encodings=["UTF-8"]
example : True := by
  have := valid_utf8_text_is_recovered toyUtf8 toyUtf8_is_lawful { known := [ofS "UTF-8"] }
    ([0xef, 0xbb, 0xbf] ++ Detwingle.utf8 [0xE9, 0x20AC, 0x1F600]) [0xE9, 0x20AC, 0x1F600] (by decide_pstr) (fun _ => rfl)
    (by decide_pstr) (by decide_pstr) (by decide_pstr) (by decide_pstr)
  trivial

/-- WHICH ENCODING WINS in the replace pass: when no candidate decodes cleanly, the first candidate other
    than "ascii" that decodes with replacement gives the text and `original_encoding`, flag set. -/
theorem dammit_replace_winner (C : Codecs) (a : Args) (b : Bytes) (hb : b ≠ [])
    (pre post : List Name) (c r : Name) (u : PStr)
    (hstrict : ∀ x ∈ candidatesOf C a b, attempt C (stripBom b).1 false x = none)
    (hc : (candidatesOf C a b).filter (· != ascii) = pre ++ c :: post)
    (hpre : ∀ x ∈ pre, attempt C (stripBom b).1 true x = none)
    (hcu : attempt C (stripBom b).1 true c = some (r, u)) :
    (dammit C a (.bytes b)).text = some u ∧ (dammit C a (.bytes b)).originalEncoding = some r ∧
    (dammit C a (.bytes b)).containsReplacement = true := by
  have h := dammit_eq_spec C a b hb
  have h1 : (candidatesOf C a b).findSome? (attempt C (stripBom b).1 false) = none :=
    List.findSome?_eq_none_iff.mpr hstrict
  have h2 : ((candidatesOf C a b).filter (· != ascii)).findSome? (attempt C (stripBom b).1 true) = some (r, u) := by
    rw [hc, List.findSome?_append, List.findSome?_eq_none_iff.mpr hpre]
    simp [hcu]
  simp only [dammitSpec, h1, h2, Prod.mk.injEq] at h
  exact h

/-- The result never comes from outside the candidate list: whenever there is a text, it is the strict
    or (flag set) the replace decoding of the BOM-stripped bytes under some candidate, and
    `original_encoding` is the codec name that candidate resolves to. -/
theorem result_comes_from_a_candidate (C : Codecs) (a : Args) (b : Bytes) (hb : b ≠ []) (u : PStr)
    (ht : (dammit C a (.bytes b)).text = some u) :
    ∃ c ∈ candidatesOf C a b, ∃ r, findCodec C c = some r ∧ (dammit C a (.bytes b)).originalEncoding = some r ∧
      (if (dammit C a (.bytes b)).containsReplacement then C.decodeReplace r (stripBom b).1 else C.decodeStrict r (stripBom b).1) = some u := by
  have h := dammit_eq_spec C a b hb
  simp only [Prod.ext_iff] at h
  obtain ⟨c, hc, r, hcu, hr⟩ := dammitSpec_text_some (h.1 ▸ ht)
  rw [← h.2.2] at hcu
  exact ⟨c, hc, r, ((attempt_iff C _ _ c r u).mp hcu).1, h.2.1.trans hr, ((attempt_iff C _ _ c r u).mp hcu).2⟩

/-! ## non-vacuity: the hypotheses above on the toy oracles -/

-- clean: first candidate wins, no flag
example : ((dammit toy {} (.bytes [65])).text, (dammit toy {} (.bytes [65])).originalEncoding,
    (dammit toy {} (.bytes [65])).containsReplacement) = (some [65], some utf8, false) := by decide_pstr
-- nothing decodes strictly, utf-8 decodes with replacement: flag set (both sides of `replacement_iff` true)
example : ((dammit toy {} (.bytes [200])).text, (dammit toy {} (.bytes [200])).originalEncoding,
    (dammit toy {} (.bytes [200])).containsReplacement) = (some [0xFFFD], some utf8, true) := by decide_pstr
-- only "ascii" is left and it is skipped in the replace pass: no text (`no_text_iff`), no flag
example : ((dammit toy { known := [ascii], exclude := [utf8, ofS "Windows-1252"] } (.bytes [200])).text,
    (dammit toy { known := [ascii], exclude := [utf8, ofS "Windows-1252"] } (.bytes [200])).containsReplacement)
    = (none, false) := by decide_pstr
-- a BOM-only document is the empty text, cleanly (false of the unrepaired code)
example : ((dammit toy {} (.bytes [0xef, 0xbb, 0xbf])).text, (dammit toy {} (.bytes [0xef, 0xbb, 0xbf])).containsReplacement)
    = (some [], false) := by decide_pstr
-- the hypotheses of `dammit_first_clean` / `utf8_default` / `from_encoding_first` are satisfiable
example : True := by
  have := utf8_default toy {} [65] [65] (by decide_pstr) rfl rfl rfl (by decide_pstr) (by decide_pstr) rfl (by decide_pstr) (by decide_pstr) (by decide_pstr)
  have := from_encoding_first toy [65] (ofS "ASCII") ascii [65] [] (by decide_pstr) (by decide_pstr) (by decide_pstr) (by decide_pstr) (by decide_pstr)
  trivial
-- … and those of the two declaration theorems (realistic declarations with further attributes / pseudo-attributes)
example : True := by
  -- <html><head><meta charset="utf-8" id="m"></head>
  have := declared_of_wellformed_meta (ofS "<html><head>") [] [34] (ofS "utf-8") (ofS "\" id=\"m\"") (ofS "</head>") 32
    (by decide_pstr) (by decide_pstr) (by decide_pstr) (by decide_pstr) (Or.inr ⟨34, rfl, by decide_pstr⟩) (by decide_pstr) (by decide_pstr) (by decide_pstr) (by decide_pstr)
    (Or.inr ⟨34, _, rfl, by decide_pstr⟩) (by decide_pstr)
  -- <!DOCTYPE html>\n<head><title>t</title><meta http-equiv="Content-Type" content="text/html; charset=KOI8-R"></head>
  have := declared_of_wellformed_meta (ofS "<!DOCTYPE html>\n<head><title>t</title>") (ofS "http-equiv=\"Content-Type\" content=\"text/html; ")
    [] (ofS "KOI8-R") [34] (ofS "</head>") 32
    (by decide_pstr) (by decide_pstr) (by decide_pstr) (by decide_pstr) (Or.inl rfl) (by decide_pstr) (by decide_pstr) (by decide_pstr) (by decide_pstr)
    (Or.inr ⟨34, [], rfl, by decide_pstr⟩) (by decide_pstr)
  -- \n <?xml version="1.0" encoding="Big5" standalone="yes"?><a lang="en">\n<b/>
  have := declared_of_wellformed_xml [10, 32] (ofS "xml version=\"1.0\" ") (ofS "Big5") (ofS " standalone=\"yes\"?><a lang=\"en\">") (ofS "\n<b/>") 34 34 false
    (by decide_pstr) (by decide_pstr) (by decide_pstr) (by decide_pstr) (by decide_pstr) (by decide_pstr) (by decide_pstr) (by decide_pstr) (by decide_pstr) (Or.inr ⟨_, rfl⟩) (by decide_pstr)
  trivial

-- the hypotheses of `dammit_total` / `prepare_never_rejects` / `dammit_replace_winner` are satisfiable, and the
-- conclusion is not trivial: the text exists although nothing decodes strictly and utf-8 is excluded
example : (dammit toyLawful { exclude := [ofS "UTF-8"] } (.bytes [200])).text = some [0xFFFD] ∧
    (dammit toyLawful { exclude := [ofS "UTF-8"] } (.bytes [200])).originalEncoding = some windows1252 := by decide_pstr
example : True := by
  have := dammit_total toyLawful toyLawful_is_lawful { exclude := [ofS "UTF-8"] } [200] (by decide_pstr) (Or.inr (by decide_pstr))
  have := prepare_never_rejects toyLawful toyLawful_is_lawful (.bytes [200]) (some ascii) none [ofS "UTF-8"] (Or.inr (by decide_pstr))
  have := dammit_replace_winner toyLawful { known := [ascii] } [200] (by decide_pstr) [] [windows1252] utf8 utf8 [0xFFFD]
    (by rw [candidatesOf, ← encodings_eq_candidates]; decide_pstr) (by rw [candidatesOf, ← encodings_eq_candidates]; decide_pstr) (by decide_pstr) (by decide_pstr)
  have := result_comes_from_a_candidate toyLawful {} [65] (by decide_pstr) [65] (by decide_pstr)
  trivial

-- remaining hypotheses, instantiated on non-trivial data
example : True := by
  have := bom_first_candidate utf16le [ofS "koi8-r"] (some (ofS "big5")) none [ofS "utf-8"] (by decide_pstr)
  have := fallback_resolves toyLawful toyLawful_is_lawful (ofS "Windows-1252") (Or.inr (by decide_pstr))
  have := findCodec_spec toy (ofS "x-sjis") (by decide_pstr)
  have := (candidates_complete [ofS "A", ofS "b"] none [ofS "a"] none none [ofS "b"]).2 [ofS "A", ofS "b"] (ofS "a")
    [utf8, ofS "windows-1252"] (by decide_pstr)
  have := declared_html_encoding_of_meta toy { isHtml := true, known := [utf8] } (ofS "<meta charset=koi8-r>x") (ofS "koi8-r") rfl
    (by decide_pstr) (by decide_pstr)
  trivial
-- `candidates_complete` (second part) really needs "no earlier occurrence ignoring case": here `a` is represented by `A`
example : ofS "a" ∉ encodingsImpl [ofS "A", ofS "b"] none [ofS "a"] none none [ofS "b"] := by decide_pstr

example : True := by
  have := from_encoding_first_file_like toy [65] (ofS "ASCII") ascii [65] [] (by decide_pstr) (by decide_pstr) (by decide_pstr) (by decide_pstr) (by decide_pstr)
  trivial

end BS.Props.C07
