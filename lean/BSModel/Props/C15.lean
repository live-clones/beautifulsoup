import BSModel.Proofs.Formatter
import BSModel.Proofs.FormatterBuild
import BSModel.Proofs.FormatterPopulate
import BSModel.Proofs.FormatterHidden
import BSModel.Gen.FormatterHtml5
import BSModel.Gen.Formatter
/-! # C15 — formatter options take effect and output is deterministic

    Every option accepted by a formatter constructor has its documented effect on output, whichever class is used and
    however the formatter is supplied; a custom substitution function determines the rendered form of every text node and
    attribute value outside cdata-containing tags and of nothing else; attributes come out sorted whatever the insertion
    order; nothing else whose order depends on the hash seed (the alternatives of the entity regex, the
    `cdata_containing_tags` set) reaches the output.

    `toks` is the formatter-independent skeleton of a rendering (`Proofs/Formatter.lean`): literal pieces, ordinary strings
    with their parent's name, attribute values, empty-valued attributes, ends of void-element tags. `render_eq_toks` says
    rendering is the concatenation of the per-token interpretations; each `option_effect_*` says which tokens an option
    re-interprets and how, everything else being interpreted as without the option. -/
namespace BS.Props.C15
open BS BS.Formatter

abbrev SCRIPT : PStr := [115, 99, 114, 105, 112, 116]
abbrev STYLE : PStr := [115, 116, 121, 108, 101]
abbrev SLASH : PStr := [47]
abbrev SP : PStr := [32]

/-- interpretation of the function identities used in the examples: the two modelled built-ins, identity otherwise -/
def builtin : Subst → PStr → PStr
  | .xml => substXml
  | .html => reSub BS.Gen.htmlAlts
  | _ => id

/-- a user function for the examples: wraps its argument in `[` `]` -/
def bracket : Subst → PStr → PStr
  | .custom _ => fun s => [91] ++ s ++ [93]
  | s => builtin s

/-- The signatures of the three live constructors have the defaults the model's `Args` has. -/
theorem defaults_table :
    BS.Gen.formatterDefaults = ({} : Args) ∧ BS.Gen.htmlFormatterDefaults = ({} : Args) ∧
    BS.Gen.xmlFormatterDefaults = ({} : Args) ∧ BS.Gen.formatterDefaultLanguage = none := by decide +kernel

/-- `indent` as documented: a non-negative int is that many spaces, a negative int or `None` nothing, a string itself; any
    other object one space (undocumented, formatter.py:134-135). -/
theorem indent_normalisation :
    (∀ n : Nat, normIndent (.int n) = List.replicate n 32) ∧ (∀ i : Int, i < 0 → normIndent (.int i) = []) ∧
    normIndent .none = [] ∧ (∀ s, normIndent (.str s) = s) ∧ normIndent .other = SP := by
  refine ⟨fun n => by simp [normIndent], fun i hi => ?_, rfl, fun _ => rfl, rfl⟩
  simp [normIndent, Int.toNat_of_nonpos (Int.le_of_lt hi)]

example : normIndent (.int 3) = [32, 32, 32] ∧ normIndent (.int (-1)) = [] ∧ normIndent (.str [9]) = [9] := by decide +kernel

/-- Every option accepted by each of the three constructors reaches the formatter object: the object is exactly the
    normalised options (and the language the class stands for). -/
theorem ctor_forwards_all (a : Args) :
    (∀ l, mkFormatter l a =
      { language := l.getD .html, entity_substitution := a.entity_substitution,
        void_element_close_prefix := a.void_element_close_prefix,
        cdata_containing_tags := a.cdata_containing_tags.getD (if l.getD .html = .xml then [] else [SCRIPT, STYLE]),
        empty_attributes_are_booleans := a.empty_attributes_are_booleans, indent := normIndent a.indent }) ∧
    mkHTMLFormatter a =
      { language := .html, entity_substitution := a.entity_substitution,
        void_element_close_prefix := a.void_element_close_prefix,
        cdata_containing_tags := a.cdata_containing_tags.getD [SCRIPT, STYLE],
        empty_attributes_are_booleans := a.empty_attributes_are_booleans, indent := normIndent a.indent } ∧
    mkXMLFormatter a =
      { language := .xml, entity_substitution := a.entity_substitution,
        void_element_close_prefix := a.void_element_close_prefix,
        cdata_containing_tags := a.cdata_containing_tags.getD [],
        empty_attributes_are_booleans := a.empty_attributes_are_booleans, indent := normIndent a.indent } := by
  refine ⟨fun l => ?_, ?_, ?_⟩ <;>
    cases h : a.cdata_containing_tags <;> simp [mkFormatter, mkFormatterCls, mkHTMLFormatter, mkXMLFormatter, defaultCls, h, BS.Gen.fmtHtmlDefaultCdata]

/-- No two settings that differ after normalisation give the same formatter object (no option is dropped), for each class. -/
theorem ctor_injective (l : Option Lang) (a b : Args) :
    mkFormatter l a = mkFormatter l b ↔
      a.entity_substitution = b.entity_substitution ∧ a.void_element_close_prefix = b.void_element_close_prefix ∧
      default_ (l.getD .html) a.cdata_containing_tags = default_ (l.getD .html) b.cdata_containing_tags ∧
      a.empty_attributes_are_booleans = b.empty_attributes_are_booleans ∧ normIndent a.indent = normIndent b.indent := by
  simp [mkFormatter, mkFormatterCls, default_, Cfg.mk.injEq]

example : mkHTMLFormatter { indent := .int 3 } ≠ mkHTMLFormatter {} := by decide +kernel
example : mkXMLFormatter { indent := .str [9] } ≠ mkXMLFormatter {} := by decide +kernel

/-- Witness of the defect in 4.13.0 as shipped (formatter.py:206-212, :228-234): the subclasses' constructors accept
    `indent` and lose it — whatever is passed, the object has the default unit, and `indent=3` equals no `indent` at all. -/
theorem old_ctor_loses_indent (a : Args) :
    (mkHTMLFormatterOld a).indent = SP ∧ (mkXMLFormatterOld a).indent = SP ∧
    mkHTMLFormatterOld { a with indent := .int 3 } = mkHTMLFormatterOld { a with indent := .str [9] } ∧
    (mkHTMLFormatter { a with indent := .int 3 }).indent = [32, 32, 32] ∧
    (mkXMLFormatter { a with indent := .str [9] }).indent = [9] := by
  simp [mkHTMLFormatterOld, mkXMLFormatterOld, mkHTMLFormatter, mkXMLFormatter, mkFormatter, mkFormatterCls, normIndent]

abbrev N_html : PStr := [104, 116, 109, 108]
abbrev N_html5 : PStr := [104, 116, 109, 108, 53]
abbrev N_html5_412 : PStr := [104, 116, 109, 108, 53, 45, 52, 46, 49, 50]
abbrev N_minimal : PStr := [109, 105, 110, 105, 109, 97, 108]

/-- The live registries hold exactly the documented names, and each registered object is what the (repaired) constructor
    of that registry's class builds from the arguments written in formatter.py:238-263. -/
theorem registry_table :
    BS.Gen.fmtHtmlRegistry =
      [ (none, mkHTMLFormatter {}),
        (some N_html, mkHTMLFormatter { entity_substitution := .html }),
        (some N_html5, mkHTMLFormatter { entity_substitution := .html5, void_element_close_prefix := some [],
                                         empty_attributes_are_booleans := true }),
        (some N_html5_412, mkHTMLFormatter { entity_substitution := .html, void_element_close_prefix := some [],
                                             empty_attributes_are_booleans := true }),
        (some N_minimal, mkHTMLFormatter { entity_substitution := .xml }) ] ∧
    BS.Gen.fmtXmlRegistry =
      [ (none, mkXMLFormatter {}),
        (some N_html, mkXMLFormatter { entity_substitution := .html }),
        (some N_minimal, mkXMLFormatter { entity_substitution := .xml }) ] := by decide +kernel

/-- a registry lookup raises `KeyError` exactly for the keys the registry does not have -/
theorem lookup_keyError_iff (reg : List (Option PStr × Cfg)) (n : Option PStr) :
    lookup reg n = .keyError ↔ n ∉ reg.map (·.1) := by
  rw [lookup_eq_keyError, List.find?_eq_none]
  simp only [beq_iff_eq, List.mem_map, not_exists, not_and]

/-- `formatter_for_name`, for both tree flavours: a `Formatter` object is used as it is; a bare function becomes the
    flavour's class constructed with that function and otherwise default options; a name is looked up in the flavour's
    registry, and `KeyError` is raised exactly for the names that registry does not have (so `"html5"` on an XML tree). -/
theorem formatter_for_name_spec (isXml : Bool) :
    (∀ c, formatterForName BS.Gen.fmtHtmlRegistry BS.Gen.fmtXmlRegistry isXml (.obj c) = .ok c) ∧
    (∀ s, formatterForName BS.Gen.fmtHtmlRegistry BS.Gen.fmtXmlRegistry isXml (.fn s) = .ok
      { language := if isXml then .xml else .html, entity_substitution := s, void_element_close_prefix := some SLASH,
        cdata_containing_tags := if isXml then [] else [SCRIPT, STYLE], empty_attributes_are_booleans := false,
        indent := SP }) ∧
    (∀ n, formatterForName BS.Gen.fmtHtmlRegistry BS.Gen.fmtXmlRegistry isXml (.name n) = .keyError ↔
      n ∉ (if isXml then [none, some N_html, some N_minimal]
           else [none, some N_html, some N_html5, some N_html5_412, some N_minimal])) ∧
    (∀ n c, formatterForName BS.Gen.fmtHtmlRegistry BS.Gen.fmtXmlRegistry isXml (.name n) = .ok c →
      (n, c) ∈ (if isXml then BS.Gen.fmtXmlRegistry else BS.Gen.fmtHtmlRegistry)) := by
  refine ⟨fun _ => rfl, fun s => ?_, fun n => ?_, fun n c h => mem_of_lookup_eq_ok h⟩
  · cases isXml <;> rfl
  · simp only [formatterForName, lookup_keyError_iff]
    cases isXml <;> exact Iff.rfl

example : formatterForName BS.Gen.fmtHtmlRegistry BS.Gen.fmtXmlRegistry true (.name (some N_html5)) = .keyError := by decide +kernel
example : formatterForName BS.Gen.fmtHtmlRegistry BS.Gen.fmtXmlRegistry false (.name (some N_html5))
    = .ok (mkHTMLFormatter { entity_substitution := .html5, void_element_close_prefix := some [],
                             empty_attributes_are_booleans := true }) := by decide +kernel
example : formatterForName BS.Gen.fmtHtmlRegistry BS.Gen.fmtXmlRegistry true (.fn (.custom 0))
    = .ok (mkXMLFormatter { entity_substitution := .custom 0 }) := by decide +kernel

/-! ## effect of each option, per class

    The general statement is about `Formatter(language, …)`; `HTMLFormatter(…)` and `XMLFormatter(…)` are the instances
    `language = HTML`/`XML` because their (repaired) constructors forward every option. -/

/-- Rendering is the concatenation of the formatter's interpretation of a token list that does not depend on the
    formatter. -/
theorem render_skeleton (c : Cfg) (i : Subst → PStr → PStr) (par : Option PStr) (n : Node) :
    render c i par n = (toks par n).flatMap (interpTok c i) := render_eq_toks c i par n

/-- `void_element_close_prefix = p` (base class): exactly the ends of void-element tags are written `p or ""`. -/
theorem option_effect_void_Formatter (l : Option Lang) (a : Args) (p : Option PStr) (i : Subst → PStr → PStr)
    (par : Option PStr) (n : Node) :
    render (mkFormatter l { a with void_element_close_prefix := p }) i par n
      = (toks par n).flatMap (withVoid (p.getD []) (interpTok (mkFormatter l a) i)) := effect_void _ l a p i par n
theorem option_effect_void_HTMLFormatter (a : Args) (p : Option PStr) (i : Subst → PStr → PStr) (par : Option PStr) (n : Node) :
    render (mkHTMLFormatter { a with void_element_close_prefix := p }) i par n
      = (toks par n).flatMap (withVoid (p.getD []) (interpTok (mkHTMLFormatter a) i)) := effect_void _ _ a p i par n
theorem option_effect_void_XMLFormatter (a : Args) (p : Option PStr) (i : Subst → PStr → PStr) (par : Option PStr) (n : Node) :
    render (mkXMLFormatter { a with void_element_close_prefix := p }) i par n
      = (toks par n).flatMap (withVoid (p.getD []) (interpTok (mkXMLFormatter a) i)) := effect_void _ _ a p i par n

/-- `<br/>`, `<br>`, `<br />` and `None` behaving as `""` -/
example :
    let br : Node := .tag [98, 114] [] [] true false []
    render (mkHTMLFormatter {}) builtin none br = [60, 98, 114, 47, 62] ∧
    render (mkHTMLFormatter { void_element_close_prefix := some [] }) builtin none br = [60, 98, 114, 62] ∧
    render (mkXMLFormatter { void_element_close_prefix := some [32, 47] }) builtin none br = [60, 98, 114, 32, 47, 62] ∧
    render (mkFormatter none { void_element_close_prefix := none }) builtin none br = [60, 98, 114, 62] := by decide +kernel

/-- `entity_substitution = s` (base class): exactly the ordinary strings outside the cdata-containing tags, the attribute
    values, and the value of empty attributes that are not written as booleans go through `s` (unchanged if `s` is `None`). -/
theorem option_effect_subst_Formatter (l : Option Lang) (a : Args) (s : Subst) (i : Subst → PStr → PStr) (par : Option PStr) (n : Node) :
    render (mkFormatter l { a with entity_substitution := s }) i par n
      = (toks par n).flatMap (withSubst s i (mkFormatter l a).cdata_containing_tags a.empty_attributes_are_booleans
          (interpTok (mkFormatter l a) i)) := effect_subst _ l a s i par n
theorem option_effect_subst_HTMLFormatter (a : Args) (s : Subst) (i : Subst → PStr → PStr) (par : Option PStr) (n : Node) :
    render (mkHTMLFormatter { a with entity_substitution := s }) i par n
      = (toks par n).flatMap (withSubst s i (mkHTMLFormatter a).cdata_containing_tags a.empty_attributes_are_booleans
          (interpTok (mkHTMLFormatter a) i)) := effect_subst _ _ a s i par n
theorem option_effect_subst_XMLFormatter (a : Args) (s : Subst) (i : Subst → PStr → PStr) (par : Option PStr) (n : Node) :
    render (mkXMLFormatter { a with entity_substitution := s }) i par n
      = (toks par n).flatMap (withSubst s i (mkXMLFormatter a).cdata_containing_tags a.empty_attributes_are_booleans
          (interpTok (mkXMLFormatter a) i)) := effect_subst _ _ a s i par n

/-- `cdata_containing_tags = cd` (base class): exactly the ordinary strings are affected — verbatim when the parent's name
    is in `cd` (or in the language's default when `cd` is `None`), substituted otherwise. -/
theorem option_effect_cdata_Formatter (l : Option Lang) (a : Args) (cd : Option (List PStr)) (i : Subst → PStr → PStr)
    (par : Option PStr) (n : Node) :
    render (mkFormatter l { a with cdata_containing_tags := cd }) i par n
      = (toks par n).flatMap (withCdata (default_ (l.getD .html) cd) a.entity_substitution i (interpTok (mkFormatter l a) i)) :=
  effect_cdata _ l a cd i par n
/-- the same for `HTMLFormatter`, whose default is `{script, style}` -/
theorem option_effect_cdata_HTMLFormatter (a : Args) (cd : Option (List PStr)) (i : Subst → PStr → PStr) (par : Option PStr) (n : Node) :
    render (mkHTMLFormatter { a with cdata_containing_tags := cd }) i par n
      = (toks par n).flatMap (withCdata (cd.getD [SCRIPT, STYLE]) a.entity_substitution i (interpTok (mkHTMLFormatter a) i)) := by
  cases cd <;> exact effect_cdata BS.Gen.fmtHtmlDefaultCdata (some .html) a _ i par n
/-- the same for `XMLFormatter`, whose default is the empty set -/
theorem option_effect_cdata_XMLFormatter (a : Args) (cd : Option (List PStr)) (i : Subst → PStr → PStr) (par : Option PStr) (n : Node) :
    render (mkXMLFormatter { a with cdata_containing_tags := cd }) i par n
      = (toks par n).flatMap (withCdata (cd.getD []) a.entity_substitution i (interpTok (mkXMLFormatter a) i)) := by
  cases cd <;> exact effect_cdata BS.Gen.fmtHtmlDefaultCdata (some .xml) a _ i par n

/-- `empty_attributes_are_booleans = b` (base class): exactly the attributes whose value is `""` are affected — written as
    the bare name when `b`, as `name=<quoted substituted "">` otherwise. -/
theorem option_effect_eab_Formatter (l : Option Lang) (a : Args) (b : Bool) (i : Subst → PStr → PStr) (par : Option PStr) (n : Node) :
    render (mkFormatter l { a with empty_attributes_are_booleans := b }) i par n
      = (toks par n).flatMap (withEab b a.entity_substitution i (interpTok (mkFormatter l a) i)) := effect_eab _ l a b i par n
theorem option_effect_eab_HTMLFormatter (a : Args) (b : Bool) (i : Subst → PStr → PStr) (par : Option PStr) (n : Node) :
    render (mkHTMLFormatter { a with empty_attributes_are_booleans := b }) i par n
      = (toks par n).flatMap (withEab b a.entity_substitution i (interpTok (mkHTMLFormatter a) i)) := effect_eab _ _ a b i par n
theorem option_effect_eab_XMLFormatter (a : Args) (b : Bool) (i : Subst → PStr → PStr) (par : Option PStr) (n : Node) :
    render (mkXMLFormatter { a with empty_attributes_are_booleans := b }) i par n
      = (toks par n).flatMap (withEab b a.entity_substitution i (interpTok (mkXMLFormatter a) i)) := effect_eab _ _ a b i par n

/-- `indent = x` (base class): pretty-printing writes the normalised unit `depth` times wherever an indentation of that
    depth stands (the item list does not depend on `indent`), and plain `decode()` is not affected at all. -/
theorem option_effect_indent_Formatter (l : Option Lang) (a : Args) (x : IndentArg) (i : Subst → PStr → PStr) (lv : Nat)
    (par : Option PStr) (n : Node) :
    pretty (mkFormatter l { a with indent := x }) i lv par n = fillInd (normIndent x) (prettyItems (mkFormatter l a) i lv false par n)
    ∧ render (mkFormatter l { a with indent := x }) i par n = render (mkFormatter l a) i par n := effect_indent _ l a x i lv par n
/-- the same for `HTMLFormatter` — true of the repaired constructor only (see `old_ctor_loses_indent`) -/
theorem option_effect_indent_HTMLFormatter (a : Args) (x : IndentArg) (i : Subst → PStr → PStr) (lv : Nat) (par : Option PStr) (n : Node) :
    pretty (mkHTMLFormatter { a with indent := x }) i lv par n = fillInd (normIndent x) (prettyItems (mkHTMLFormatter a) i lv false par n)
    ∧ render (mkHTMLFormatter { a with indent := x }) i par n = render (mkHTMLFormatter a) i par n := effect_indent _ _ a x i lv par n
/-- the same for `XMLFormatter` — true of the repaired constructor only -/
theorem option_effect_indent_XMLFormatter (a : Args) (x : IndentArg) (i : Subst → PStr → PStr) (lv : Nat) (par : Option PStr) (n : Node) :
    pretty (mkXMLFormatter { a with indent := x }) i lv par n = fillInd (normIndent x) (prettyItems (mkXMLFormatter a) i lv false par n)
    ∧ render (mkXMLFormatter { a with indent := x }) i par n = render (mkXMLFormatter a) i par n := effect_indent _ _ a x i lv par n

/-- the tree of `<p b="&" a=""><br/>x&y<script>1&2</script><!--&--></p>`; below, what each option changes -/
def sample : Node :=
  .tag [112] [] [([98], .str [38]), ([97], .str [])] false false
    [ .tag [98, 114] [] [] true false [], .str .text [120, 38, 121],
      .tag SCRIPT [] [] false false [.str .text [49, 38, 50]], .str .comment [38] ]

example : render (mkHTMLFormatter { entity_substitution := .xml }) builtin none sample
    = ofS "<p a=\"\" b=\"&amp;\"><br/>x&amp;y<script>1&2</script><!--&--></p>" := by decide_pstr
example : render (mkHTMLFormatter { entity_substitution := .xml, void_element_close_prefix := some [] }) builtin none sample
    = ofS "<p a=\"\" b=\"&amp;\"><br>x&amp;y<script>1&2</script><!--&--></p>" := by decide_pstr
example : render (mkHTMLFormatter { entity_substitution := .xml, empty_attributes_are_booleans := true }) builtin none sample
    = ofS "<p a b=\"&amp;\"><br/>x&amp;y<script>1&2</script><!--&--></p>" := by decide_pstr
example : render (mkHTMLFormatter { entity_substitution := .xml, cdata_containing_tags := some [] }) builtin none sample
    = ofS "<p a=\"\" b=\"&amp;\"><br/>x&amp;y<script>1&amp;2</script><!--&--></p>" := by decide_pstr
example : render (mkXMLFormatter { entity_substitution := .xml }) builtin none sample
    = ofS "<p a=\"\" b=\"&amp;\"><br/>x&amp;y<script>1&amp;2</script><!--&--></p>" := by decide_pstr
example : render (mkHTMLFormatter {}) builtin none sample
    = ofS "<p a=\"\" b=\"&\"><br/>x&y<script>1&2</script><!--&--></p>" := by decide_pstr
example : pretty (mkHTMLFormatter { entity_substitution := .xml, indent := .str [9] }) builtin 0 none sample
    = ofS "<p a=\"\" b=\"&amp;\">\n\t<br/>\n\tx&amp;y\n\t<script>\n\t\t1&2\n\t</script>\n\t<!--&-->\n</p>\n" := by decide_pstr
example : pretty (mkHTMLFormatterOld { entity_substitution := .xml, indent := .str [9] }) builtin 0 none sample
    = ofS "<p a=\"\" b=\"&amp;\">\n <br/>\n x&amp;y\n <script>\n  1&2\n </script>\n <!--&-->\n</p>\n" := by decide_pstr

example : render (mkXMLFormatter { entity_substitution := .xml, empty_attributes_are_booleans := true }) builtin none sample
    = ofS "<p a b=\"&amp;\"><br/>x&amp;y<script>1&amp;2</script><!--&--></p>" := by decide_pstr
example : render (mkXMLFormatter { entity_substitution := .xml, cdata_containing_tags := some [SCRIPT] }) builtin none sample
    = ofS "<p a=\"\" b=\"&amp;\"><br/>x&amp;y<script>1&2</script><!--&--></p>" := by decide_pstr
example : pretty (mkXMLFormatter { entity_substitution := .xml, indent := .int 0 }) builtin 0 none sample
    = ofS "<p a=\"\" b=\"&amp;\">\n<br/>\nx&amp;y\n<script>\n1&amp;2\n</script>\n<!--&-->\n</p>\n" := by decide_pstr

/-- `_default` reads the table through the instance: a subclass of `Formatter`/`HTMLFormatter`/`XMLFormatter` whose
    `HTML_DEFAULTS['cdata_containing_tags']` is `hd` gets `hd` when `cdata_containing_tags` is not passed and the language is
    not XML, nothing for XML, and the argument itself (the empty set included) when it is passed. -/
theorem subclass_defaults_take_effect (hd : List PStr) (l : Option Lang) (a : Args) :
    (mkFormatterCls hd l { a with cdata_containing_tags := none }).cdata_containing_tags
      = (if l.getD .html = .xml then [] else hd) ∧
    ∀ cd, (mkFormatterCls hd l { a with cdata_containing_tags := some cd }).cdata_containing_tags = cd := by
  simp [mkFormatterCls, defaultCls]

/-- Every option has the same effect in such a subclass as in the stock classes (the five `option_effect_*` statements with
    the class's own table in the place of `{script, style}`). -/
theorem subclass_option_effects (hd : List PStr) (l : Option Lang) (a : Args) (i : Subst → PStr → PStr) (par : Option PStr) (n : Node) :
    (∀ p, render (mkFormatterCls hd l { a with void_element_close_prefix := p }) i par n
      = (toks par n).flatMap (withVoid (p.getD []) (interpTok (mkFormatterCls hd l a) i))) ∧
    (∀ s, render (mkFormatterCls hd l { a with entity_substitution := s }) i par n
      = (toks par n).flatMap (withSubst s i (mkFormatterCls hd l a).cdata_containing_tags a.empty_attributes_are_booleans
          (interpTok (mkFormatterCls hd l a) i))) ∧
    (∀ cd, render (mkFormatterCls hd l { a with cdata_containing_tags := cd }) i par n
      = (toks par n).flatMap (withCdata (defaultCls hd (l.getD .html) cd) a.entity_substitution i (interpTok (mkFormatterCls hd l a) i))) ∧
    (∀ b, render (mkFormatterCls hd l { a with empty_attributes_are_booleans := b }) i par n
      = (toks par n).flatMap (withEab b a.entity_substitution i (interpTok (mkFormatterCls hd l a) i))) ∧
    (∀ x lv, pretty (mkFormatterCls hd l { a with indent := x }) i lv par n
      = fillInd (normIndent x) (prettyItems (mkFormatterCls hd l a) i lv false par n)) :=
  ⟨fun p => effect_void hd l a p i par n, fun s => effect_subst hd l a s i par n, fun cd => effect_cdata hd l a cd i par n,
   fun b => effect_eab hd l a b i par n, fun x lv => (effect_indent hd l a x i lv par n).1⟩

/-- a subclass of `HTMLFormatter` declaring `{p}`: text in `<p>` verbatim, `<script>` text substituted -/
example : render (mkFormatterCls [[112]] (some .html) { entity_substitution := .xml }) builtin none sample
    = ofS "<p a=\"\" b=\"&amp;\"><br/>x&y<script>1&amp;2</script><!--&--></p>" := by decide_pstr

/-- With a substitution function `f` (any non-`None` value of `entity_substitution`), the output is the output of the
    formatter that substitutes nothing, on the tree in which `f` has been applied to exactly the ordinary strings whose
    parent is not a cdata-containing tag and to the attribute values (a `""` value under `empty_attributes_are_booleans`
    having become `None` first). Comments, CDATA sections, doctypes, declarations, processing instructions and the
    contents of cdata-containing tags are the same in both trees: `f` has no say in how they are written. -/
theorem custom_subst_scope (c : Cfg) (i : Subst → PStr → PStr) (h : c.entity_substitution ≠ .none) (par : Option PStr) (n : Node) :
    render c i par n
      = render (plain c) i par
          (mapScope c.cdata_containing_tags c.empty_attributes_are_booleans (i c.entity_substitution) par n) :=
  render_mapScope c i h par n

theorem custom_subst_scope_positions (cd : List PStr) (eab : Bool) (g : PStr → PStr) (par : Option PStr) :
    (∀ k v, k.verbatim = true → mapScope cd eab g par (.str k v) = .str k v) ∧
    (∀ k v p, p ∈ cd → mapScope cd eab g (some p) (.str k v) = .str k v) ∧
    (∀ v, (∀ p, par = some p → p ∉ cd) → mapScope cd eab g par (.str .text v) = .str .text (g v)) ∧
    (∀ k s, s ≠ [] → mapAttr eab g (k, .str s) = (k, .str (g s))) ∧
    (∀ k, mapAttr eab g (k, .none) = (k, .none)) := by
  refine ⟨fun k v hk => by simp [mapScope, hk], fun k v p hp => by simp [mapScope, inCdata, hp], fun v hp => ?_,
    fun k s hs => by simp [mapAttr, hs], fun k => rfl⟩
  have hv : StrKind.verbatim .text = false := by decide +kernel
  cases par with
  | none => simp [mapScope, hv, inCdata]
  | some p => simp [mapScope, hv, inCdata, hp p rfl]

example : render (mkHTMLFormatter { entity_substitution := .custom 0 }) bracket none sample
    = ofS "<p a=\"[]\" b=\"[&]\"><br/>[x&y]<script>1&2</script><!--&--></p>" := by decide_pstr
example : render (plain (mkHTMLFormatter { entity_substitution := .custom 0 })) bracket none
      (mapScope [SCRIPT, STYLE] false (bracket (.custom 0)) none sample)
    = ofS "<p a=\"[]\" b=\"[&]\"><br/>[x&y]<script>1&2</script><!--&--></p>" := by decide_pstr
example : [StrKind.comment, .cdata, .doctype, .declaration, .pi, .xmlpi, .preformatted].all (·.verbatim) = true
    ∧ StrKind.text.verbatim = false := by decide +kernel

/-- The same for pretty-printing (`prettify`, `decode(indent_level=…)`): the item list — pieces, their stripping, the
    indentation positions — under `f` is the item list of the non-substituting formatter on the mapped tree. -/
theorem custom_subst_scope_pretty (c : Cfg) (i : Subst → PStr → PStr) (h : c.entity_substitution ≠ .none) (lv : Nat)
    (par : Option PStr) (n : Node) :
    pretty c i lv par n
      = pretty (plain c) i lv par
          (mapScope c.cdata_containing_tags c.empty_attributes_are_booleans (i c.entity_substitution) par n) := by
  unfold pretty
  rw [prettyItems_mapScope c i h lv false par n]; rfl

example : pretty (mkHTMLFormatter { entity_substitution := .custom 0 }) bracket 0 none sample
    = ofS "<p a=\"[]\" b=\"[&]\">\n <br/>\n [x&y]\n <script>\n  1&2\n </script>\n <!--&-->\n</p>\n" := by decide_pstr

/-- Attribute values that are not `str` (numbers, bools, path/URL objects, … held raw in a parsed tag's plain dict) are
    stringified BEFORE the substitution: in the token skeleton such a value is indistinguishable from the `str` with the same
    text — same substitution, same quoting, the custom function sees `str(value)` — except that an object whose `str()` is
    empty is never written as a boolean attribute (`obj == ""` is false in `Formatter.attributes`). -/
theorem non_str_attribute_values_are_substituted (k s : PStr) :
    (s ≠ [] → attrToks (k, .other s) = attrToks (k, .str s)) ∧
    attrToks (k, .other []) = [.lit (k ++ [61]), .attrVal []] ∧
    (∀ eab g, mapAttr eab g (k, .other s) = (k, .str (g s))) := by
  refine ⟨fun hs => by simp [attrToks, hs], rfl, fun _ _ => rfl⟩

example : render (mkHTMLFormatter { entity_substitution := .xml, empty_attributes_are_booleans := true }) builtin none
      (.tag [97] [] [([104], .other [47, 38, 60]), ([110], .other [52, 50]), ([101], .other [])] false false [])
    = ofS "<a e=\"\" h=\"/&amp;&lt;\" n=\"42\"></a>" := by decide_pstr
example : render (mkXMLFormatter { entity_substitution := .custom 0 }) bracket none
      (.tag [97] [] [([110], .other [52, 50])] true false []) = ofS "<a n=\"[42]\"/>" := by decide_pstr

/-- A `Formatter` object is used as it is by every output method. -/
theorem supplied_object (regH regX : List (Option PStr × Cfg)) (isXml : Bool) (c : Cfg) (i : Subst → PStr → PStr) (m : Mode)
    (par : Option PStr) (n : Node) : entry regH regX isXml (.obj c) i m par n = renderMode c i m par n := rfl

/-- A bare function: every output method renders as with the tree flavour's class constructed on that function alone, so
    every other option has its default (`/`, the flavour's cdata-containing tags, no boolean attributes, one space). -/
theorem supplied_function (isXml : Bool) (s : Subst) (i : Subst → PStr → PStr) (m : Mode) (par : Option PStr) (n : Node) :
    entry BS.Gen.fmtHtmlRegistry BS.Gen.fmtXmlRegistry isXml (.fn s) i m par n
      = renderMode (if isXml then mkXMLFormatter { entity_substitution := s } else mkHTMLFormatter { entity_substitution := s })
          i m par n := rfl

theorem lookup_html (nm : Option PStr) (c : Cfg) (h : lookup BS.Gen.fmtHtmlRegistry nm = .ok c) (i : Subst → PStr → PStr) (m : Mode)
    (par : Option PStr) (n : Node) :
    entry BS.Gen.fmtHtmlRegistry BS.Gen.fmtXmlRegistry false (.name nm) i m par n = renderMode c i m par n := by
  simp [entry, formatterForName, h]

theorem lookup_xml (nm : Option PStr) (c : Cfg) (h : lookup BS.Gen.fmtXmlRegistry nm = .ok c) (i : Subst → PStr → PStr) (m : Mode)
    (par : Option PStr) (n : Node) :
    entry BS.Gen.fmtHtmlRegistry BS.Gen.fmtXmlRegistry true (.name nm) i m par n = renderMode c i m par n := by
  simp [entry, formatterForName, h]

/-- A registered name: every output method, on every tree, renders as with the documented formatter of the tree's flavour
    (live registries); any other name raises `KeyError` from every output method. -/
theorem supplied_name (i : Subst → PStr → PStr) (m : Mode) (par : Option PStr) (n : Node) :
    entry BS.Gen.fmtHtmlRegistry BS.Gen.fmtXmlRegistry false (.name (some N_html)) i m par n
      = renderMode (mkHTMLFormatter { entity_substitution := .html }) i m par n ∧
    entry BS.Gen.fmtHtmlRegistry BS.Gen.fmtXmlRegistry false (.name (some N_html5)) i m par n
      = renderMode (mkHTMLFormatter { entity_substitution := .html5, void_element_close_prefix := some [],
                                      empty_attributes_are_booleans := true }) i m par n ∧
    entry BS.Gen.fmtHtmlRegistry BS.Gen.fmtXmlRegistry false (.name (some N_html5_412)) i m par n
      = renderMode (mkHTMLFormatter { entity_substitution := .html, void_element_close_prefix := some [],
                                      empty_attributes_are_booleans := true }) i m par n ∧
    entry BS.Gen.fmtHtmlRegistry BS.Gen.fmtXmlRegistry false (.name (some N_minimal)) i m par n
      = renderMode (mkHTMLFormatter { entity_substitution := .xml }) i m par n ∧
    entry BS.Gen.fmtHtmlRegistry BS.Gen.fmtXmlRegistry false (.name none) i m par n = renderMode (mkHTMLFormatter {}) i m par n ∧
    entry BS.Gen.fmtHtmlRegistry BS.Gen.fmtXmlRegistry true (.name (some N_html)) i m par n
      = renderMode (mkXMLFormatter { entity_substitution := .html }) i m par n ∧
    entry BS.Gen.fmtHtmlRegistry BS.Gen.fmtXmlRegistry true (.name (some N_minimal)) i m par n
      = renderMode (mkXMLFormatter { entity_substitution := .xml }) i m par n ∧
    entry BS.Gen.fmtHtmlRegistry BS.Gen.fmtXmlRegistry true (.name none) i m par n = renderMode (mkXMLFormatter {}) i m par n ∧
    (∀ isXml nm, nm ∉ (if isXml then [none, some N_html, some N_minimal]
                        else [none, some N_html, some N_html5, some N_html5_412, some N_minimal]) →
      entry BS.Gen.fmtHtmlRegistry BS.Gen.fmtXmlRegistry isXml (.name nm) i m par n = .keyError) := by
  refine ⟨lookup_html _ _ (by decide) .., lookup_html _ _ (by decide) .., lookup_html _ _ (by decide) ..,
    lookup_html _ _ (by decide) .., lookup_html _ _ (by decide) .., lookup_xml _ _ (by decide) ..,
    lookup_xml _ _ (by decide) .., lookup_xml _ _ (by decide) .., ?_⟩
  intro isXml nm hn
  obtain ⟨-, -, hkeyError, -⟩ := formatter_for_name_spec isXml
  have := (hkeyError nm).2 hn
  simp [entry, this]

example : entry BS.Gen.fmtHtmlRegistry BS.Gen.fmtXmlRegistry false (.name (some N_html5)) builtin .decode none sample
    = .ok (ofS "<p a b=\"&\"><br>x&y<script>1&2</script><!--&--></p>") := by decide_pstr
example : entry BS.Gen.fmtHtmlRegistry BS.Gen.fmtXmlRegistry true (.name (some N_html5)) builtin .decode none sample = .keyError := by
  decide +kernel
example : entry BS.Gen.fmtHtmlRegistry BS.Gen.fmtXmlRegistry true (.fn .xml) builtin (.pretty 0) none sample
    = .ok (ofS "<p a=\"\" b=\"&amp;\">\n <br/>\n x&amp;y\n <script>\n  1&amp;2\n </script>\n <!--&-->\n</p>\n") := by decide_pstr

/-! ## the flavour is that of the element's current position; earlier output calls leave no trace -/

/-- `_is_xml`: the flavour fixed at construction of the nearest element on the way to the root (the element itself
    included) that has one; if none has, the root's `is_xml` attribute (`False` when the root is not a `BeautifulSoup`). -/
theorem flavour_rule (chain : List (Option Bool)) (rootAttr : Bool) :
    isXmlOf chain rootAttr = ((chain.filterMap id).head?).getD rootAttr := by
  induction chain with
  | nil => rfl
  | cons x xs ih => cases x <;> simp [isXmlOf, ih]

example : isXmlOf [none, none, some true, some false] false = true ∧ isXmlOf [none, none] true = true ∧
    isXmlOf [some false, some true] true = false ∧ isXmlOf [none] false = false := by decide +kernel

/-- Output calls do not change the documents: after any session the documents are those produced by the edits alone. -/
theorem output_calls_leave_no_trace (i : Subst → PStr → PStr) (docs : List Doc) (ops : List HOp) :
    (runSession BS.Gen.fmtHtmlRegistry BS.Gen.fmtXmlRegistry i docs ops).1
      = (runSession BS.Gen.fmtHtmlRegistry BS.Gen.fmtXmlRegistry i docs (ops.filter HOp.isEdit)).1 :=
  runSession_docs _ _ i ops docs

/-- Rendering depends only on the current trees and the configuration, not on what was rendered before: an output call
    at the end of any session returns what the same call returns on the documents produced by the session's edits alone —
    with the flavour (formatter class and registry for names and bare functions) found from the element's position in
    those documents. -/
theorem render_depends_on_current_tree_only (i : Subst → PStr → PStr) (docs : List Doc) (ops : List HOp) (d : Nat)
    (p : List Nat) (a : FmtArg) (m : Mode) :
    (runSession BS.Gen.fmtHtmlRegistry BS.Gen.fmtXmlRegistry i docs (ops ++ [.render d p a m])).2.getLast?
      = some (match ((runSession BS.Gen.fmtHtmlRegistry BS.Gen.fmtXmlRegistry i docs (ops.filter HOp.isEdit)).1)[d]? with
              | some doc => doc.renderAt BS.Gen.fmtHtmlRegistry BS.Gen.fmtXmlRegistry p a i m
              | none => .badReceiver) := by
  rw [runSession_append, ← runSession_docs]; simp [runSession]; rfl

/-- a hand-made `<script>` with the text `1&2` (no flavour of its own) -/
def handScript : XNode := .tag none SCRIPT [] [] false false [.str none .text [49, 38, 50]]

/-- under an HTML soup its text is verbatim with "minimal"; moved under an XML-flavoured root (`Tag("root", is_xml=True)`),
    and rendered from the script element itself, it is substituted — whatever was rendered while it sat in the HTML tree -/
example :
    let html : Doc := ⟨.tag (some false) [100] [] [] false false [handScript], false⟩
    let xml : Doc := ⟨.tag (some true) [114] [] [] false false [handScript], false⟩
    let arg := FmtArg.name (some N_minimal)
    (runSession BS.Gen.fmtHtmlRegistry BS.Gen.fmtXmlRegistry builtin [html]
        [.render 0 [0] arg .decode, .edit (fun _ => [xml]), .render 0 [0] arg .decode]).2
      = [.ok (ofS "<script>1&2</script>"), .ok (ofS "<script>1&amp;2</script>")] ∧
    (runSession BS.Gen.fmtHtmlRegistry BS.Gen.fmtXmlRegistry builtin [html]
        [.edit (fun _ => [xml]), .render 0 [0] arg .decode]).2 = [.ok (ofS "<script>1&amp;2</script>")] := by decide_pstr

/-- **A copy renders like its original.** `copy.copy`/`copy.deepcopy` of a tag (`copy_self` records `is_xml=self._is_xml`
    in every copied tag): the detached copy, rendered from its root with any `formatter=` argument through any output
    method, gives what the original gives where it stands — in particular a flavour-less `Tag(name=…)` living in an XML
    tree is copied as XML. -/
theorem copy_renders_like_original (i : Subst → PStr → PStr) (d : Doc) (p : List Nat) (n : XNode) (par : Option PStr)
    (chain : List (Option Bool)) (hd : descend d.root p [] none = some (n, par, chain)) (ht : n.name?.isSome = true)
    (arg : FmtArg) (m : Mode) :
    Doc.renderAt BS.Gen.fmtHtmlRegistry BS.Gen.fmtXmlRegistry ⟨n.copyWith (isXmlOf chain.tail d.rootAttr), false⟩ [] arg i m
      = Doc.renderAt BS.Gen.fmtHtmlRegistry BS.Gen.fmtXmlRegistry d p arg i m :=
  copy_renderAt _ _ i d p n par chain hd ht arg m

/-- Inside the copy, and wherever the copy is put afterwards (`inh'`), every element has the flavour its original had. -/
theorem copy_keeps_flavour_everywhere (q : List Nat) (n : XNode) (inh inh' : Bool) (hs : n.stringsPlain = true)
    (ht : n.name?.isSome = true) : flavAt inh' (n.copyWith inh) q = flavAt inh n q :=
  flavAt_copy q n inh inh' hs (Or.inl ht)

/-- `flavAt` is what the walk computes: the chain `descend` collects on the way to an element resolves to it. -/
theorem flavour_is_positional (r : Bool) (q : List Nat) (n : XNode) (e : XNode) (par : Option PStr)
    (chain : List (Option Bool)) (h : descend n q [] none = some (e, par, chain)) : isXmlOf chain r = flavAt r n q := by
  have := (descend_spec q n [] none e par chain h).2 r
  simpa [isXmlOf] using this

/-- the hand-made `<script>1&2</script>` under an XML-flavoured root, copied: with "minimal" the copy substitutes like the
    original (XML has no cdata-containing tags); with the element's own `known_xml` alone (third line): `1&2` -/
example :
    let xml : Doc := ⟨.tag (some true) [114] [] [] false false [handScript], false⟩
    let arg := FmtArg.name (some N_minimal)
    Doc.renderAt BS.Gen.fmtHtmlRegistry BS.Gen.fmtXmlRegistry ⟨handScript.copyWith true, false⟩ [] arg builtin .decode
      = .ok (ofS "<script>1&amp;2</script>") ∧
    Doc.renderAt BS.Gen.fmtHtmlRegistry BS.Gen.fmtXmlRegistry xml [0] arg builtin .decode = .ok (ofS "<script>1&amp;2</script>") ∧
    Doc.renderAt BS.Gen.fmtHtmlRegistry BS.Gen.fmtXmlRegistry ⟨handScript, false⟩ [] arg builtin .decode
      = .ok (ofS "<script>1&2</script>") := by decide_pstr
example := copy_renders_like_original builtin ⟨.tag (some true) [114] [] [] false false [handScript], false⟩ [0] handScript
  (some [114]) [none, some true] rfl (by decide) (.fn (.custom 0)) (.pretty 0)
example := copy_keeps_flavour_everywhere [0] handScript true false (by decide) (by decide)

/-- At any depth: two trees with the same canonical form (every tag's attributes sorted by key) render the same. -/
theorem attrs_sorted_deep (c : Cfg) (i : Subst → PStr → PStr) (par : Option PStr) (t₁ t₂ : Node) (h : canon t₁ = canon t₂) :
    render c i par t₁ = render c i par t₂ ∧ ∀ lv, pretty c i lv par t₁ = pretty c i lv par t₂ := by
  constructor
  · rw [← render_canon c i par t₁, ← render_canon c i par t₂, h]
  · intro lv; unfold pretty; rw [← prettyItems_canon c i lv false par t₁, ← prettyItems_canon c i lv false par t₂, h]

/-- permuting a tag's attributes (distinct keys) does not change its canonical form -/
theorem canon_perm (n p : PStr) (as₁ as₂ : List (PStr × AttrVal)) (cbe pre : Bool) (ks : List Node)
    (hp : as₁.Perm as₂) (hd : (as₁.map (·.1)).Nodup) :
    canon (.tag n p as₁ cbe pre ks) = canon (.tag n p as₂ cbe pre ks) := by
  simp only [canon, sortAttrs_eq_of_perm as₁ as₂ hp hd]

/-- Attributes come out in key order whatever the insertion order (keys of a dict are distinct): same output, plain and
    pretty. -/
theorem attrs_sorted (c : Cfg) (i : Subst → PStr → PStr) (par : Option PStr) (n p : PStr) (as₁ as₂ : List (PStr × AttrVal))
    (cbe pre : Bool) (ks : List Node) (hp : as₁.Perm as₂) (hd : (as₁.map (·.1)).Nodup) :
    render c i par (.tag n p as₁ cbe pre ks) = render c i par (.tag n p as₂ cbe pre ks) ∧
    ∀ lv, pretty c i lv par (.tag n p as₁ cbe pre ks) = pretty c i lv par (.tag n p as₂ cbe pre ks) :=
  attrs_sorted_deep c i par _ _ (canon_perm n p as₁ as₂ cbe pre ks hp hd)

example : render (mkHTMLFormatter {}) builtin none (.tag [112] [] [([98], .str [49]), ([97], .none), ([97, 97], .list [[120], [121]])] false false [])
    = ofS "<p a aa=\"x y\" b=\"1\"></p>" := by decide_pstr

/-- Every particle of the live entity regex has the shape the model can express: a literal key, optionally followed by a
    negative look-ahead for one code point out of a set (`(?![xy])`). -/
theorem regex_particles_regular : BS.Gen.htmlAltsIrregular = [] := by decide +kernel

/-- The alternatives of the live entity regex (parsed back from `CHARACTER_TO_HTML_ENTITY_WITH_AMPERSAND_RE.pattern`) are
    mutually exclusive at every position: keys are distinct, and a key that starts a longer key carries a negative
    look-ahead for the longer key's next code point. Re-proved from the live table on every run. -/
theorem htmlAlts_exclusive : Exclusive BS.Gen.htmlAlts :=
  exclusiveChk_sound _ (by decide +kernel)

/-- So the order in which `"|".join(set)` happened to list them (hash seed) is irrelevant to `substitute_html`. -/
theorem regex_order_irrelevant (alts' : List Alt) (hp : alts'.Perm BS.Gen.htmlAlts) (s : PStr) :
    reSub alts' s = reSub BS.Gen.htmlAlts s := reSub_perm _ _ htmlAlts_exclusive hp s

/-- the interpretation in which `substitute_html` is `re.sub` over the given listing of the alternatives -/
def withHtml (alts : List Alt) (i : Subst → PStr → PStr) : Subst → PStr → PStr :=
  fun s => if s = .html then reSub alts else i s

/-- Output is a function of the tree alone: the three places where a `set`/`dict` iteration order could enter — the listing
    of the regex alternatives, the listing of `cdata_containing_tags` (only membership is used) and the insertion order of
    a tag's attributes — do not influence it. (`preserve_whitespace_tags`, `HTML_ENTITY_TO_CHARACTER` etc. are only ever
    tested for membership / indexed by key.) -/
theorem hash_seed_independent (alts' : List Alt) (hp : alts'.Perm BS.Gen.htmlAlts) (c : Cfg) (cd' : List PStr)
    (hcd : cd'.Perm c.cdata_containing_tags) (i : Subst → PStr → PStr) (par : Option PStr) (n p : PStr)
    (as₁ as₂ : List (PStr × AttrVal)) (cbe pre : Bool) (ks : List Node) (hpa : as₁.Perm as₂) (hd : (as₁.map (·.1)).Nodup) :
    render { c with cdata_containing_tags := cd' } (withHtml alts' i) par (.tag n p as₁ cbe pre ks)
      = render c (withHtml BS.Gen.htmlAlts i) par (.tag n p as₂ cbe pre ks) := by
  have hf : FmtEquiv { c with cdata_containing_tags := cd' } (withHtml alts' i) c (withHtml BS.Gen.htmlAlts i) :=
    .of_html c (SetEq.of_perm hcd) (regex_order_irrelevant alts' hp) i
  rw [render_congr hf.samePieces]
  exact (attrs_sorted c _ par n p as₁ as₂ cbe pre ks hpa hd).1

example : reSub BS.Gen.htmlAlts [60, 233, 38, 8807, 824, 8807, 120] = ofS "&lt;&eacute;&amp;&ngeqq;&geqq;x" := by
  rw [reSub_narrow]; decide_pstr
example : reSub BS.Gen.htmlAlts.reverse [60, 233, 38, 8807, 824, 8807, 120] = ofS "&lt;&eacute;&amp;&ngeqq;&geqq;x" := by
  rw [reSub_narrow]; decide_pstr
/-- without the look-ahead the order would matter: a two-alternative table that is not exclusive -/
example : reSub [⟨[8807], [], [65]⟩, ⟨[8807, 824], [], [66]⟩] [8807, 824] ≠ reSub [⟨[8807, 824], [], [66]⟩, ⟨[8807], [], [65]⟩] [8807, 824] := by
  decide +kernel

/-! ## from the parse to the bytes: output is a function of the tree and the configuration

    `RawNode` is what html.parser reports (names, `(key, value)` pairs in source order, strings); `build b` is the element
    `handle_starttag` + `Tag.__init__` make under the builder configuration `b`. -/

/-- The set- and dict-typed configuration of a builder (`empty_element_tags`, `preserve_whitespace_tags`,
    `cdata_list_attributes` and the sets in it) is consulted only through membership and key lookup: two configurations that
    denote the same sets and the same mapping build literally the same tree from every parse. -/
theorem builder_sets_are_sets (b b' : BuilderCfg) (h : BuilderEquiv b b') (t : RawNode) : build b t = build b' t :=
  build_equiv b b' h t

/-- In particular any other listing order of those sets and of the dict's entries (what another hash seed, or another way
    of writing the same literal, gives). -/
theorem builder_listing_order_irrelevant (b : BuilderCfg) (e' : Option (List PStr)) (p' : List PStr)
    (c' : List (PStr × List PStr))
    (he : match b.emptyElementTags, e' with | none, none => True | some s, some s' => s'.Perm s | _, _ => False)
    (hp : p'.Perm b.preserveWhitespaceTags) (hc : c'.Perm b.cdataListAttributes)
    (hn : (b.cdataListAttributes.map (·.1)).Nodup) (t : RawNode) :
    build { b with emptyElementTags := e', preserveWhitespaceTags := p', cdataListAttributes := c' } t = build b t :=
  build_equiv _ _ (builderEquiv_of_perm b e' p' c' he hp hc hn) t

/-- the HTML builder's configuration as far as the examples need it: void `br`, preserved `pre`, `class` multi-valued -/
def htmlish : BuilderCfg :=
  { emptyElementTags := some [[98, 114], [104, 114]], preserveWhitespaceTags := [[112, 114, 101], [116, 101, 120, 116, 97, 114, 101, 97]],
    cdataListAttributes := [([42], [[99, 108, 97, 115, 115]]), ([116, 100], [[104, 101, 97, 100, 101, 114, 115]])], onDuplicate := .replace }

/-- the same configuration written in another order -/
def htmlish' : BuilderCfg :=
  { htmlish with emptyElementTags := some [[104, 114], [98, 114]], preserveWhitespaceTags := htmlish.preserveWhitespaceTags, cdataListAttributes := htmlish.cdataListAttributes.reverse }

example : build htmlish'
      (.tag [98, 114] [([99, 108, 97, 115, 115], some [97, 32, 32, 98])] [])
    = build htmlish (.tag [98, 114] [([99, 108, 97, 115, 115], some [97, 32, 32, 98])] []) :=
  builder_listing_order_irrelevant htmlish _ _ _ (List.Perm.swap _ _ _) (List.Perm.refl _) (List.reverse_perm _) (by decide) _

example : render (mkHTMLFormatter {}) builtin none
      (build htmlish (.tag [98, 114] [([99, 108, 97, 115, 115], some [97, 32, 32, 98]), ([105, 100], none), ([105, 100], some [120])] []))
    = ofS "<br class=\"a b\" id=\"x\"/>" := by decide_pstr

/-- A start tag that does not repeat a key: the attribute dict is the source list (a missing value read as `""`), in source
    order, whatever `on_duplicate_attribute` says. -/
theorem duplicate_free_start_tag (od : OnDup) (as : List (PStr × Option PStr)) (h : (as.map (·.1)).Nodup) :
    attrDict od as = as.map (fun e => (e.1, e.2.getD [])) := attrDict_nodup od as h

example : attrDict .replace [([97], some [49]), ([98], none), ([97], some [50])] = [([97], [50]), ([98], [])] ∧
    attrDict .ignore [([97], some [49]), ([98], none), ([97], some [50])] = [([97], [49]), ([98], [])] := by decide +kernel

/-- Attribute order from the source to the output: two parses that differ only in the order in which start tags list their
    (distinct) attributes — at any depth — give the same output from every output method, under every builder configuration
    and formatter. (With a repeated key the order is content: it decides which value survives.) -/
theorem source_attr_order_irrelevant (b : BuilderCfg) (c : Cfg) (i : Subst → PStr → PStr) (m : Mode) (par : Option PStr)
    (t t' : RawNode) (h : SameUpToAttrOrder t t') :
    renderMode c i m par (build b t) = renderMode c i m par (build b t') := by
  rw [← renderMode_canon c i m par (build b t), ← renderMode_canon c i m par (build b t'), canon_build_same b t t' h]

example : SameUpToAttrOrder
    (.tag [112] [([98], some [49]), ([97], none)] [.tag [105] [([120], none), ([121], none)] [], .str .text [116]])
    (.tag [112] [([97], none), ([98], some [49])] [.tag [105] [([121], none), ([120], none)] [], .str .text [116]]) :=
  .tag _ _ _ _ _ (List.Perm.swap _ _ _) (by decide)
    (.cons _ _ _ _ (.tag _ _ _ _ _ (List.Perm.swap _ _ _) (by decide) .nil) (.cons _ _ _ _ (.str _ _) .nil))

/-- **Output is a function of the tree and the configuration.** For every parse, every output method and every
    interpretation of the user functions: the listing order of the entity regex's alternatives (`"|".join(set)`), of the
    formatter's `cdata_containing_tags`, of the builder's sets and dict, and of the attributes within start tags does not
    reach the output. Everything else the output is computed from is an argument of `renderMode`/`build`. -/
theorem output_is_function_of_tree_and_configuration
    (alts' : List Alt) (hp : alts'.Perm BS.Gen.htmlAlts)
    (b b' : BuilderCfg) (hb : BuilderEquiv b b')
    (c : Cfg) (cd' : List PStr) (hcd : SetEq cd' c.cdata_containing_tags)
    (i : Subst → PStr → PStr) (m : Mode) (par : Option PStr) (t t' : RawNode) (ht : SameUpToAttrOrder t t') :
    renderMode { c with cdata_containing_tags := cd' } (withHtml alts' i) m par (build b t)
      = renderMode c (withHtml BS.Gen.htmlAlts i) m par (build b' t') := by
  have hf : FmtEquiv { c with cdata_containing_tags := cd' } (withHtml alts' i) c (withHtml BS.Gen.htmlAlts i) :=
    .of_html c hcd (regex_order_irrelevant alts' hp) i
  rw [renderMode_fmtEquiv hf, build_equiv b b' hb t, source_attr_order_irrelevant b' c _ m par t t' ht]

example : renderMode { mkHTMLFormatter { entity_substitution := .html } with cdata_containing_tags := [STYLE, SCRIPT] }
      (withHtml BS.Gen.htmlAlts.reverse builtin) (.pretty 0) none
      (build { htmlish with preserveWhitespaceTags := htmlish.preserveWhitespaceTags.reverse }
        (.tag [112] [([98], some [233]), ([97], none)] [.tag [98, 114] [] [], .str .text [8807, 824]]))
    = .ok (ofS "<p a=\"\" b=\"&eacute;\">\n <br/>\n &ngeqq;\n</p>\n") := by decide_pstr

/-! ## how the entity regex is assembled (`EntitySubstitution._populate_class_variables`)

    `populateAlts items codepoint2name` mirrors the construction from the two stdlib tables; the sets the code uses
    (`short_entities`, the values of `long_entities_by_first_character`, `particles`) are kept in one particular order there. -/

/-- **For every input table** in which no long key is a proper prefix of another and none starts with `&`, the
    alternatives the construction produces are mutually exclusive at every position: distinct keys, and every one-code-point
    key that starts longer keys carries the look-ahead for each of their second code points. -/
theorem populate_exclusive (items : List (PStr × PStr)) (c2n : List (Nat × PStr)) (h : TableOK items) :
    Exclusive (populateAlts items c2n) := populateAlts_exclusive items c2n h

/-- The whole `html.entities.html5` table of the running interpreter satisfies the hypothesis. -/
theorem html5_table_ok : TableOK BS.Gen.c15Html5Items := tableOKChk_sound _ (by decide +kernel)

/-- Hence, for every such table, `substitute_html` does not depend on the order in which the sets were iterated: any
    relisting of the code points inside the look-ahead classes (`f`) followed by any relisting of the alternatives gives
    the same function. -/
theorem populate_order_irrelevant (items : List (PStr × PStr)) (c2n : List (Nat × PStr)) (h : TableOK items)
    (f : Alt → Alt) (hk : ∀ a, (f a).key = a.key) (hr : ∀ a, (f a).repl = a.repl)
    (hn : ∀ a x, x ∈ (f a).notNext ↔ x ∈ a.notNext)
    (alts' : List Alt) (hp : alts'.Perm ((populateAlts items c2n).map f)) (s : PStr) :
    reSub alts' s = reSub (populateAlts items c2n) s := by
  rw [reSub_perm _ alts' (exclusive_map _ f hk hn (populate_exclusive items c2n h)) hp s,
    reSub_map_congr _ f hk hr hn s]

theorem populate_order_irrelevant_live (f : Alt → Alt) (hk : ∀ a, (f a).key = a.key) (hr : ∀ a, (f a).repl = a.repl)
    (hn : ∀ a x, x ∈ (f a).notNext ↔ x ∈ a.notNext)
    (alts' : List Alt) (hp : alts'.Perm ((populateAlts BS.Gen.c15Html5Items BS.Gen.c15Codepoint2name).map f)) (s : PStr) :
    reSub alts' s = reSub (populateAlts BS.Gen.c15Html5Items BS.Gen.c15Codepoint2name) s :=
  populate_order_irrelevant _ _ html5_table_ok f hk hr hn alts' hp s

/-- a five-entry table: `≧` starts `≧̸`, so it gets the look-ahead; `lt` keeps its name; `&` is always there -/
def tinyTable : List (PStr × PStr) :=
  [([71, 69, 59], [8807]), ([97, 109, 112, 59], [38]), ([101, 97, 99, 117, 116, 101, 59], [233]), ([108, 116, 59], [60]),
   ([110, 103, 69, 59], [8807, 824])]

example : populateAlts tinyTable [] =
    [⟨[8807], [824], ofS "&GE;"⟩, ⟨[233], [], ofS "&eacute;"⟩, ⟨[60], [], ofS "&lt;"⟩, ⟨[8807, 824], [], ofS "&ngE;"⟩,
     ⟨[38], [], ofS "&amp;"⟩] := by decide_pstr
example : TableOK tinyTable := tableOKChk_sound _ (by decide)
example : reSub (populateAlts tinyTable []).reverse [8807, 824, 8807, 38] = ofS "&ngE;&GE;&amp;" := by decide_pstr
/-- the hypothesis is needed: with a long key that is a proper prefix of another the construction has no look-ahead for it -/
example : ¬ TableOK [([97, 59], [8807, 824]), ([98, 59], [8807, 824, 824])] := by
  intro h; have := h.1 [8807, 824] (by decide) [8807, 824, 824] (by decide) (by decide); exact absurd this (by decide)

/-- The base class is the instance "sort, with `empty_attributes_are_booleans` applied" of the hook. -/
theorem attributes_hook_default (c : Cfg) (i : Subst → PStr → PStr) (par : Option PStr) (n : Node) :
    renderHook (attributes c) c i par n = render c i par n := renderHook_default c i par n

/-- Whatever `attributes()` a subclass defines, the output depends on a tag's attribute dict only through what that
    method returns for it: trees whose attribute lists the hook cannot tell apart render the same. -/
theorem attributes_hook_decides (h : AttrHook) (c : Cfg) (i : Subst → PStr → PStr) (par : Option PStr) (t t' : Node)
    (hs : SameUpToHook h t t') : renderHook h c i par t = renderHook h c i par t' := renderHook_congr h c i par t t' hs

/-- So a subclass keeps the "whatever the insertion order" guarantee exactly when its `attributes()` does not look at the
    order; the base implementation is one such (it sorts), … -/
theorem base_attributes_ignore_insertion_order (c : Cfg) (as₁ as₂ : List (PStr × AttrVal)) (hp : as₁.Perm as₂)
    (hd : (as₁.map (·.1)).Nodup) : attributes c as₁ = attributes c as₂ := attributes_perm c as₁ as₂ hp hd

/-- … the documentation's `UnsortedAttributes` (yield the items as they come) is not, and neither
    `empty_attributes_are_booleans` nor sorting is applied for it. -/
example :
    renderHook id (mkHTMLFormatter { empty_attributes_are_booleans := true }) builtin none (.tag [112] [] [([98], .str [49]), ([97], .str [])] false false [])
      = ofS "<p b=\"1\" a=\"\"></p>" ∧
    renderHook id (mkHTMLFormatter { empty_attributes_are_booleans := true }) builtin none (.tag [112] [] [([97], .str []), ([98], .str [49])] false false [])
      = ofS "<p a=\"\" b=\"1\"></p>" ∧
    render (mkHTMLFormatter { empty_attributes_are_booleans := true }) builtin none (.tag [112] [] [([98], .str [49]), ([97], .str [])] false false [])
      = ofS "<p a b=\"1\"></p>" := by decide_pstr

example : SameUpToHook (attributes (mkHTMLFormatter {}))
    (.tag [112] [] [([98], .str [49]), ([97], .none)] false false []) (.tag [112] [] [([97], .none), ([98], .str [49])] false false []) :=
  .tag _ _ _ _ _ _ _ _ (by decide) .nil

/-! ## the hypotheses of the theorems above are satisfiable (instantiations on concrete, non-trivial data) -/

def attrsBA : List (PStr × AttrVal) := [([98], .str [49]), ([97], .none), ([99], .list [[120], [121]])]
def attrsAB : List (PStr × AttrVal) := [([97], .none), ([98], .str [49]), ([99], .list [[120], [121]])]

example := attrs_sorted (mkHTMLFormatter {}) builtin none [112] [] attrsBA attrsAB false false [] (List.Perm.swap _ _ _) (by decide)
example := canon_perm [112] [] attrsBA attrsAB false false [sample] (List.Perm.swap _ _ _) (by decide)
example := attrs_sorted_deep (mkXMLFormatter {}) builtin none _ _ (canon_perm [112] [] attrsBA attrsAB false false [sample] (List.Perm.swap _ _ _) (by decide))
example := base_attributes_ignore_insertion_order (mkHTMLFormatter {}) attrsBA attrsAB (List.Perm.swap _ _ _) (by decide)
example := regex_order_irrelevant BS.Gen.htmlAlts.reverse (List.reverse_perm _) [8807, 824]
example := hash_seed_independent BS.Gen.htmlAlts.reverse (List.reverse_perm _) (mkHTMLFormatter { entity_substitution := .html })
  [STYLE, SCRIPT] (List.Perm.swap _ _ _) builtin none [112] [] attrsBA attrsAB false false [sample] (List.Perm.swap _ _ _) (by decide)
example := custom_subst_scope (mkXMLFormatter { entity_substitution := .custom 3 }) bracket (by decide) none sample
example := custom_subst_scope_pretty (mkXMLFormatter { entity_substitution := .custom 3 }) bracket (by decide) 2 none sample
example := lookup_html (some N_minimal) _ (by decide : lookup BS.Gen.fmtHtmlRegistry (some N_minimal) = .ok (mkHTMLFormatter { entity_substitution := .xml })) builtin .decode none sample
example := lookup_xml none _ (by decide : lookup BS.Gen.fmtXmlRegistry none = .ok (mkXMLFormatter {})) builtin (.pretty 1) none sample
example := duplicate_free_start_tag .ignore [([98], some [49]), ([97], none)] (by decide)

/-- `htmlish'` lists the same sets and the same dict in another order -/
theorem htmlish_equiv : BuilderEquiv htmlish' htmlish :=
  builderEquiv_of_perm htmlish _ _ _ (List.Perm.swap _ _ _) (List.Perm.refl _) (List.reverse_perm _) (by decide)

def rawBA : RawNode := .tag [112] [([98], some [49]), ([97], none)] [.tag [98, 114] [([99, 108, 97, 115, 115], some [120, 32, 121])] [], .str .text [8807, 824]]
def rawAB : RawNode := .tag [112] [([97], none), ([98], some [49])] [.tag [98, 114] [([99, 108, 97, 115, 115], some [120, 32, 121])] [], .str .text [8807, 824]]

/-- two parses of `<p …><br class="x y">≧̸</p>` that list the attributes of `p` in different orders -/
theorem rawBA_AB : SameUpToAttrOrder rawBA rawAB :=
  .tag _ _ _ _ _ (List.Perm.swap _ _ _) (by decide)
    (.cons _ _ _ _ (.tag _ _ _ _ _ (List.Perm.refl _) (by decide) .nil) (.cons _ _ _ _ (.str _ _) .nil))

example := builder_sets_are_sets htmlish' htmlish htmlish_equiv rawBA
example := source_attr_order_irrelevant htmlish (mkHTMLFormatter { entity_substitution := .html }) builtin (.pretty 0) none rawBA rawAB rawBA_AB
example := output_is_function_of_tree_and_configuration BS.Gen.htmlAlts.reverse (List.reverse_perm _) htmlish' htmlish htmlish_equiv
  (mkHTMLFormatter { entity_substitution := .html }) [STYLE, SCRIPT] (SetEq.of_perm (List.Perm.swap _ _ _)) builtin (.pretty 0) none rawBA rawAB rawBA_AB

/-- relisting the look-ahead classes (here: reversed) and the alternatives (here: reversed) of the live construction -/
example := populate_order_irrelevant_live (fun a => { a with notNext := a.notNext.reverse }) (fun _ => rfl) (fun _ => rfl)
  (fun _ _ => List.mem_reverse) _ (List.reverse_perm _) [8810, 824, 8810, 8402]
example := populate_exclusive tinyTable [] (tableOKChk_sound _ (by decide))

/-- On a tree without hidden tags the model with hidden tags is the model above, for every output method. -/
theorem hidden_free_refinement (c : Cfg) (i : Subst → PStr → PStr) (m : Mode) (par : Option PStr) (n : Node) :
    renderModeH c i m par (HNode.ofNode n) = renderMode c i m par n := by
  cases m with
  | decode => simp [renderModeH, renderMode, renderH_ofNode]
  | pretty lv => simp [renderModeH, renderMode, pretty, prettyItemsH_ofNode]
  | contents => cases n <;> simp [renderModeH, renderMode, HNode.ofNode, hkidsOf, kidsOf, renderHL_ofNodeL]
  | prettyContents lv =>
    cases n <;> simp [renderModeH, renderMode, HNode.ofNode, hkidsOf, kidsOf, prettyL, prettyItemsHL_ofNodeL]

/-- A hidden tag writes nothing of its own; its contents are written as if they stood one level deeper (string-literal mode
    switched on if the hidden tag preserves whitespace); and what follows it is written at the level it would have without
    the hidden tag — the hidden tag opens and closes exactly one level. -/
theorem hidden_tag_is_transparent (c : Cfg) (i : Subst → PStr → PStr) (lv : Nat) (lit : Bool) (par : Option PStr)
    (n p : PStr) (as : List (PStr × AttrVal)) (cbe pre : Bool) (k : HNode) (ks rest : List HNode) :
    renderHL c i par (.tag true n p as cbe pre (k :: ks) :: rest) = renderHL c i (some n) (k :: ks) ++ renderHL c i par rest ∧
    prettyItemsHL c i lv lit par (.tag true n p as cbe pre (k :: ks) :: rest)
      = prettyItemsHL c i (lv + 1) (lit || pre) (some n) (k :: ks) ++ prettyItemsHL c i lv lit par rest ∧
    prettyItemsHL c i lv lit par (.tag true n p as true pre [] :: rest) = prettyItemsHL c i lv lit par rest := by
  refine ⟨?_, ?_, ?_⟩ <;> simp [renderHL, renderH, prettyItemsHL, prettyItemsH]

/-- No line of a pretty-printed element is indented less deep than the level the element was printed at, whatever hidden
    tags it contains (the level counter never falls below its starting value). -/
theorem indentation_survives_hidden_tags (c : Cfg) (i : Subst → PStr → PStr) (lv : Nat) (lit : Bool) (par : Option PStr)
    (n : HNode) : ∀ d ∈ indDepths (prettyItemsH c i lv lit par n), lv ≤ d := indDepths_ge c i lv lit par n

/-- `<div><span hidden><b>x</b></span><i>y</i></div>`, the span hidden, unit `--`: `<i>` stays at depth 1 -/
example :
    renderModeH (mkHTMLFormatter { indent := .str [45, 45] }) builtin (.pretty 0) none
      (.tag false [100, 105, 118] [] [] false false
        [.tag true [115] [] [([97], .str [49])] false false [.tag false [98] [] [] false false [.str .text [120]]],
         .tag false [105] [] [] false false [.str .text [121]]])
    = .ok (ofS "<div>\n----<b>\n------x\n----</b>\n--<i>\n----y\n--</i>\n</div>\n") := by decide_pstr

end BS.Props.C15
