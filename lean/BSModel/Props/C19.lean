import BSModel.Proofs.Assoc
import BSModel.Proofs.Detwingle
/-! # C19 — smart-quote conversion and detwingle preserve every character

Property theorems only.  `convertFrom`/`subMsChar` mirror `UnicodeDammit._convert_from`/`_sub_ms_char`,
`detwingleImpl` mirrors the `while` loop of `UnicodeDammit.detwingle` statement by statement and
`detwingle` is its structural specification; all tables (`MS_CHARS`, `MS_CHARS_TO_ASCII`,
`ENCODINGS_WITH_SMART_QUOTES`, `WINDOWS_1252_TO_UTF8`, `MULTIBYTE_MARKERS_AND_SIZES`, CPython's
single-byte decoders, the html5 names involved) are generated from the live objects on every run, so the
table obligations below stop building when an entry is wrong. -/
namespace BS.Props.C19
open BS BS.Detwingle

/-! ## Smart quotes -/

/-- `smart_quotes_to="xml"`: for each of the three carrier encodings and each byte 0x80–0x9F that
    Windows-1252 defines, what the code emits for that byte is a reference `&#xH;` whose value `H` is the
    byte's Windows-1252 character.  (False on a tree where `MS_CHARS[b"\x9f"] = ("Yuml", "")`.) -/
theorem xml_reference_denotes_cp1252 (enc : PStr) (he : enc ∈ carriers) (b : Nat) (hb : isSmart b = true)
    (ch : Nat) (hch : cp1252At b = some ch) :
    (convertFrom enc .xml [b]).bind unescapeRef = some ch := by
  obtain ⟨t, ht⟩ := live_carriers enc he
  obtain ⟨hp, hr⟩ := ht.convert_ref liveTables b hb (live_smart_rows b hb) .xml (.inl rfl)
  rw [convertFrom, hp]; exact hch ▸ (hr.defined (by simp [hch])).2

example : convertFrom nWindows1252 .xml [0x93] = some (ofS "&#x201C;") := eq_of_beq (by decide_pstr)
example : cp1252At 0x93 = some 0x201C ∧ isSmart 0x93 = true ∧ nWindows1252 ∈ carriers := by decide +kernel

/-- `smart_quotes_to="html"`: the named (or, for Ž/ž, numeric) reference emitted for the byte denotes,
    by the html5 entity table, the byte's Windows-1252 character. -/
theorem html_reference_denotes_cp1252 (enc : PStr) (he : enc ∈ carriers) (b : Nat) (hb : isSmart b = true)
    (ch : Nat) (hch : cp1252At b = some ch) :
    (convertFrom enc .html [b]).bind unescapeRef = some ch := by
  obtain ⟨t, ht⟩ := live_carriers enc he
  obtain ⟨hp, hr⟩ := ht.convert_ref liveTables b hb (live_smart_rows b hb) .html (.inr rfl)
  rw [convertFrom, hp]; exact hch ▸ (hr.defined (by simp [hch])).2

example : convertFrom nIso88592 .html [0x9F] = some (ofS "&Yuml;") := eq_of_beq (by decide_pstr)
example : unescapeRef (ofS "&Yuml;") = some 0x178 := eq_of_beq (by decide_pstr)
example : cp1252At 0x9F = some 0x178 := eq_of_beq (by decide +kernel)
example : convertFrom nIso88591 .html [0x8E] = some (ofS "&#x17D;") := eq_of_beq (by decide_pstr)

/-- The five bytes Windows-1252 leaves undefined (0x81 0x8D 0x8F 0x90 0x9D) denote no character, so they
    are outside the claim; what the code does with them, stated explicitly: in `xml` and `html` mode it
    emits the table's plain placeholder string, which contains no `&`. -/
theorem undefined_bytes_get_placeholder (enc : PStr) (he : enc ∈ carriers) (b : Nat) (hb : isSmart b = true)
    (hch : cp1252At b = none) (mode : Mode) (hm : mode = .xml ∨ mode = .html) :
    ∃ s, liveTables.msChars.lookup b = some (.inl s) ∧ convertFrom enc mode [b] = some s ∧ 38 ∉ s := by
  obtain ⟨t, ht⟩ := live_carriers enc he
  obtain ⟨hp, hr⟩ := ht.convert_ref liveTables b hb (live_smart_rows b hb) mode hm
  exact ⟨_, (hr.undefined hch).1, hp, (hr.undefined hch).2⟩

example : smartBytes.filter (fun b => (cp1252At b).isNone) = [0x81, 0x8D, 0x8F, 0x90, 0x9D] := eq_of_beq (by decide +kernel)
example : convertFrom nWindows1252 .xml [0x81] = some (ofS " ") := eq_of_beq (by decide_pstr)

/-- `smart_quotes_to="ascii"`: every byte 0x80–0x9F has an entry in `MS_CHARS_TO_ASCII` (the "shouldn't
    happen" branch is dead) and the output is exactly that documented substitute, which is non-empty
    printable ASCII without `&`. -/
theorem ascii_emits_documented_substitute (enc : PStr) (he : enc ∈ carriers) (b : Nat) (hb : isSmart b = true) :
    ∃ s, liveTables.toAscii.lookup b = some s ∧ convertFrom enc .ascii [b] = some s ∧ s ≠ [] ∧
      ∀ c ∈ s, 0x20 ≤ c ∧ c < 0x7F ∧ c ≠ 38 := by
  obtain ⟨t, ht⟩ := live_carriers enc he
  exact ht.convert_ascii liveTables b hb (live_smart_rows b hb)

example : convertFrom nWindows1252 .ascii [0x99] = some (ofS "(TM)") := eq_of_beq (by decide_pstr)

/-- The documented substitutes, pinned: the 32 entries of `MS_CHARS_TO_ASCII` that can ever be used
    (keys 0x80–0x9F) are the ones bs4 4.13.0 documents in its source — EUR , f ,, ... + ++ ^ % S < OE ? Z ? ?
    ' ' " " * - -- ~ (TM) s > oe ? z Y (and a blank for 0x81).  Any change of an entry breaks this. -/
theorem ascii_substitutes_are_the_documented_ones :
    smartBytes.map (fun b => liveTables.toAscii.lookup b) =
      [some [69, 85, 82], some [32], some [44], some [102], some [44, 44], some [46, 46, 46], some [43], some [43, 43],
       some [94], some [37], some [83], some [60], some [79, 69], some [63], some [90], some [63],
       some [63], some [39], some [39], some [34], some [34], some [42], some [45], some [45, 45],
       some [126], some [40, 84, 77, 41], some [115], some [62], some [111, 101], some [63], some [122], some [89]] :=
  eq_of_beq (by decide +kernel)

/-- No conversion requested: the result is the plain strict decoding in the proposed codec, for every
    codec name and every input. -/
theorem none_mode_is_plain_decode (enc : PStr) (markup : Bytes) :
    convertFrom enc .none markup = (codecOf enc).bind (fun c => decodeStrict c markup) := by
  unfold convertFrom convertWith
  cases codecOf enc <;> simp

/-- …so under `windows-1252` each byte 0x80–0x9F appears as its Windows-1252 character itself
    (conversion fails for the five undefined bytes), and under the two ISO carriers as the C1 control
    character with the byte's own number, which is what those codecs assign to it. -/
theorem none_mode_character (b : Nat) (hb : isSmart b = true) :
    convertFrom nWindows1252 .none [b] = (cp1252At b).map ([·]) ∧
    convertFrom nIso88591 .none [b] = some [b] ∧
    convertFrom nIso88592 .none [b] = some [b] := by
  have hiso : c1Identity nIso88591 = true ∧ c1Identity nIso88592 = true := by decide +kernel
  exact ⟨convertWith_plain liveTables _ _ .none b live_codec_windows1252 (.inl rfl),
    convertWith_c1Identity liveTables _ hiso.1 b hb, convertWith_c1Identity liveTables _ hiso.2 b hb⟩

example : convertFrom nWindows1252 .none [0x93] = some [0x201C] := eq_of_beq (by decide +kernel)

/-- The substitution is applied only for the encodings named in `ENCODINGS_WITH_SMART_QUOTES`: for any
    other codec name the mode makes no difference. -/
theorem noncarrier_ignores_mode (enc : PStr) (h : isCarrier enc = false) (mode : Mode) (markup : Bytes) :
    convertFrom enc mode markup = convertFrom enc .none markup := by
  unfold convertFrom convertWith
  simp [h]

example : isCarrier nLatin1 = false ∧ isCarrier nCp1252 = false := by decide +kernel
example : convertFrom nCp1252 .xml [0x93] = some [0x201C] := eq_of_beq (by decide +kernel)

/-- The three encodings the property names are in the live `ENCODINGS_WITH_SMART_QUOTES`. -/
theorem documented_carriers_present :
    nWindows1252 ∈ carriers ∧ nIso88591 ∈ carriers ∧ nIso88592 ∈ carriers := by decide +kernel

/-- Bytes outside 0x80–0x9F are never touched by the substitution. -/
theorem other_bytes_untouched (enc : PStr) (mode : Mode) (b : Nat) (hb : isSmart b = false) :
    convertFrom enc mode [b] = convertFrom enc .none [b] := by
  unfold convertFrom convertWith
  cases codecOf enc with
  | none => rfl
  | some c => simp [substituteWith, hb]

example : isSmart 0xE9 = false ∧ convertFrom nWindows1252 .xml [0xE9] = convertFrom nWindows1252 .none [0xE9] :=
  ⟨by decide, other_bytes_untouched _ _ _ (by decide)⟩

/-- Conversion by a single-byte codec is byte-wise: if every byte on its own converts to its piece, the
    whole input converts to the concatenation of the pieces, in order.  (All modes, all table codecs.) -/
theorem convert_is_bytewise (enc : PStr) (t : List (Option Nat)) (hc : codecOf enc = some (.table t)) (mode : Mode)
    (markup : Bytes) (pieces : List PStr)
    (h : Bytewise (fun b p => convertFrom enc mode [b] = some p) markup pieces) :
    convertFrom enc mode markup = some pieces.flatten :=
  convertWith_bytewise liveTables enc t mode hc markup pieces h

example : Bytewise (fun b p => convertFrom nWindows1252 .html [b] = some p) [0x61, 0x93] [[0x61], ofS "&ldquo;"] :=
  .cons (eq_of_beq (by decide_pstr)) (.cons (eq_of_beq (by decide_pstr)) .nil)

/-- Under a carrier encoding with a mode set, every byte 0–255 converts (no input is rejected). -/
theorem carrier_conversion_total (enc : PStr) (he : enc ∈ carriers) (mode : Mode) (hm : mode ≠ .none)
    (b : Nat) (hb : b < 256) :
    (∃ t, codecOf enc = some (.table t)) ∧ (convertFrom enc mode [b]).isSome = true := by
  obtain ⟨t, ht⟩ := live_carriers enc he
  exact ⟨⟨t, ht.codec⟩, ht.convert_total liveTables live_smart_rows mode hm b hb⟩

example : nIso88592 ∈ carriers ∧ Mode.ascii ≠ .none ∧ (0xFF : Nat) < 256 := by decide +kernel

/-- For a carrier with a mode set the conversion of a whole input is the concatenation of the
    conversions of its bytes (a total function of the input). -/
theorem carrier_conversion_flatten (enc : PStr) (he : enc ∈ carriers) (mode : Mode) (hm : mode ≠ .none)
    (markup : Bytes) (hbytes : ∀ b ∈ markup, b < 256) :
    convertFrom enc mode markup = some ((markup.map fun b => (convertFrom enc mode [b]).getD []).flatten) := by
  have hf : ∀ b ∈ markup, convertFrom enc mode [b] = some ((convertFrom enc mode [b]).getD []) := by
    intro b hb
    obtain ⟨_, hs⟩ := carrier_conversion_total enc he mode hm b (hbytes b hb)
    obtain ⟨p, hp⟩ := Option.isSome_iff_exists.mp hs
    simp [hp]
  obtain ⟨⟨t, ht⟩, _⟩ := carrier_conversion_total enc he mode hm 0 (by omega)
  exact convert_is_bytewise enc t ht mode markup _
    (Bytewise.of_total (R := fun b p => convertFrom enc mode [b] = some p) _ markup hf)

/-- **The smart-quote half of the property for whole inputs.**  For a carrier encoding and mode `xml`
    or `html`, any byte string converts, and the result is a concatenation of one piece per input byte
    where: the piece of a byte 0x80–0x9F that Windows-1252 defines is a character reference that
    un-escapes to exactly that character; the piece of an undefined one is a placeholder without `&`;
    and every other byte's piece is what plain decoding gives (the surrounding text is untouched). -/
theorem smart_quotes_preserve_characters (enc : PStr) (he : enc ∈ carriers) (mode : Mode)
    (hm : mode = .xml ∨ mode = .html) (markup : Bytes) (hbytes : ∀ b ∈ markup, b < 256) :
    ∃ pieces, convertFrom enc mode markup = some pieces.flatten ∧
      Bytewise (fun b p =>
        if isSmart b = true then
          (match cp1252At b with
           | some ch => unescapeRef p = some ch
           | none => 38 ∉ p)
        else convertFrom enc .none [b] = some p) markup pieces := by
  have hne : mode ≠ .none := by rcases hm with rfl | rfl <;> simp
  refine ⟨_, carrier_conversion_flatten enc he mode hne markup hbytes, Bytewise.of_total _ markup fun b hb => ?_⟩
  obtain ⟨p, hp⟩ := Option.isSome_iff_exists.mp (carrier_conversion_total enc he mode hne b (hbytes b hb)).2
  rw [hp, Option.getD_some]
  by_cases hs : isSmart b = true
  · simp only [hs, if_true]
    cases hch : cp1252At b with
    | some ch =>
      have : (convertFrom enc mode [b]).bind unescapeRef = some ch := by
        rcases hm with rfl | rfl
        · exact xml_reference_denotes_cp1252 enc he b hs ch hch
        · exact html_reference_denotes_cp1252 enc he b hs ch hch
      simpa [hp] using this
    | none =>
      obtain ⟨s, _, h2, h3⟩ := undefined_bytes_get_placeholder enc he b hs hch mode hm
      rw [hp] at h2
      simp only [Option.some.injEq] at h2
      subst h2; exact h3
  · simp only [hs, Bool.false_eq_true, if_false]
    rw [← other_bytes_untouched enc mode b (by simpa using hs)]
    exact hp

/-- **"Un-escaping what was produced gives exactly the character the byte denotes" for whole strings.**
    For a carrier encoding (whose byte table is `t`), mode `xml` or `html`, and any input without a literal
    `&` whose bytes 0x80–0x9F are all defined in Windows-1252: un-escaping the converted text gives, character
    for character, the input read with Windows-1252 for 0x80–0x9F and with the carrier's own table for every
    other byte. -/
theorem unescaping_the_conversion_gives_the_characters (enc : PStr) (he : enc ∈ carriers) (t : List (Option Nat))
    (ht : codecOf enc = some (.table t)) (mode : Mode) (hm : mode = .xml ∨ mode = .html) (markup : Bytes)
    (h : ∀ b ∈ markup, b < 256 ∧ b ≠ 38 ∧ (isSmart b = true → (cp1252At b).isSome = true)) :
    ∃ u, convertFrom enc mode markup = some u ∧ unescapeAll u = markup.map (meantChar t) := by
  obtain ⟨t', ht'⟩ := live_carriers enc he
  obtain rfl : t' = t := by simpa [ht] using ht'.codec.symm
  have hne : mode ≠ .none := by rcases hm with rfl | rfl <;> simp
  exact ⟨_, carrier_conversion_flatten enc he mode hne markup (fun b hb => (h b hb).1),
    unescape_flatten liveTables live_smart_rows mode hm enc t' ht' markup h⟩

example : unescapeAll (ofS "a&ldquo;" ++ ofS "b&#x178;") = [0x61, 0x201C, 0x62, 0x178] := eq_of_beq (by decide_pstr)

/-- In particular for `windows-1252`: converting to references and un-escaping them again is the same as
    not converting at all — plain Windows-1252 decoding of the input. -/
theorem windows1252_conversion_unescapes_to_plain_decoding (mode : Mode) (hm : mode = .xml ∨ mode = .html) (markup : Bytes)
    (h : ∀ b ∈ markup, b ≠ 38 ∧ (cp1252At b).isSome = true) :
    ∃ u, convertFrom nWindows1252 mode markup = some u ∧ convertFrom nWindows1252 .none markup = some (unescapeAll u) := by
  have hc := live_codec_windows1252
  have hw : nWindows1252 ∈ carriers := documented_carriers_present.1
  obtain ⟨u, h1, h2⟩ := unescaping_the_conversion_gives_the_characters nWindows1252 hw _ hc mode hm markup
    (fun b hb => ⟨cp1252At_lt b live_standard.length (h b hb).2, (h b hb).1, fun _ => (h b hb).2⟩)
  refine ⟨u, h1, ?_⟩
  rw [none_mode_is_plain_decode, hc]
  simp only [Option.bind_some, decodeStrict]
  rw [decodeTable_map _ markup (fun b hb => (h b hb).2), h2]
  congr 1
  apply List.map_congr_left
  intro b _
  unfold meantChar cp1252At
  split <;> rfl

example : convertFrom nWindows1252 .none [0x61, 0x93, 0xE9, 0x9F] = some [0x61, 0x201C, 0xE9, 0x178] :=
  eq_of_beq (by decide +kernel)
example : ∀ b ∈ [0x61, 0x93, 0xE9, 0x9F], b ≠ 38 ∧ (cp1252At b).isSome = true := by decide +kernel

/-! ### The constructor: byte-order marks, declarations, spellings of encoding names, history -/

/-- The observable `UnicodeDammit(markup, [enc, …], smart_quotes_to=mode)`: when `find_codec` resolves the
    first known encoding to `r` and `r` converts the BOM-stripped markup, that conversion is
    `unicode_markup` (no replacement characters, `original_encoding = r`) — whatever byte-order mark the
    input starts with, whatever encoding the document declares, whatever other encodings were passed. -/
theorem unicode_markup_is_first_conversion (enc r : PStr) (rest : List PStr) (declared : Option PStr) (mode : Mode)
    (markup : Bytes) (u : PStr) (hne : markup ≠ []) (hf : findCodec enc = some r)
    (h : convertFrom r mode (stripBom markup).1 = some u) :
    unicodeDammit (enc :: rest) declared mode markup = .ok u false (some r) :=
  unicodeDammitWithU_first liveTables (enc :: rest) [] declared mode markup enc r _ u hne rfl hf h

example : findCodec (ofS "ISO-8859-1") = some nIso88591 := eq_of_beq (by decide_pstr)
example : convertFrom nIso88591 .xml (stripBom [0xEF, 0xBB, 0xBF, 0x93]).1 = some (ofS "&#x201C;") :=
  eq_of_beq (by decide_pstr)
example : unicodeDammit [nWindows1252] none .none [0x61, 0x81] = .ok [0x61, 0xFFFD] true (some nWindows1252) :=
  eq_of_beq (by decide +kernel)

/-- `strip_byte_order_mark` removes at most one of the five byte-order marks from the front and nothing
    else; bytes 0x80–0x9F are never part of what is removed. -/
theorem stripBom_removes_only_a_bom (markup : Bytes) :
    ∃ pre, markup = pre ++ (stripBom markup).1 ∧
      pre ∈ [[], [0xFE, 0xFF], [0xFF, 0xFE], [0xEF, 0xBB, 0xBF], [0, 0, 0xFE, 0xFF], [0xFF, 0xFE, 0, 0]] := by
  unfold stripBom
  split
  · rename_i h; exact ⟨[0xFE, 0xFF], by rw [← h.1, List.take_append_drop], by simp⟩
  · split
    · rename_i h; exact ⟨[0xFF, 0xFE], by rw [← h.1, List.take_append_drop], by simp⟩
    · split
      · rename_i h; exact ⟨[0xEF, 0xBB, 0xBF], by rw [← h, List.take_append_drop], by simp⟩
      · split
        · rename_i h; exact ⟨[0, 0, 0xFE, 0xFF], by rw [← h, List.take_append_drop], by simp⟩
        · split
          · rename_i h; exact ⟨[0xFF, 0xFE, 0, 0], by rw [← h, List.take_append_drop], by simp⟩
          · exact ⟨[], rfl, by simp⟩

example : (stripBom [0xFF, 0xFE, 0x93, 0x00]).1 = [0x93, 0x00] := by decide
example : (stripBom [0xFF, 0xFE, 0x00, 0x00, 0x93]).1 = [0x93] := by decide

/-- Input that does not start with FE, FF, EF or 00 has no byte-order mark: nothing is stripped. -/
theorem stripBom_id (b : Nat) (rest : Bytes) (h : b ≠ 0xFE ∧ b ≠ 0xFF ∧ b ≠ 0xEF ∧ b ≠ 0) :
    stripBom (b :: rest) = (b :: rest, none) := by
  obtain ⟨h1, h2, h3, h4⟩ := h
  simp only [stripBom, List.take_succ_cons, List.cons.injEq, h1, h2, h3, h4, false_and, if_false]

example : stripBom [0x93, 0xFE, 0xFF] = ([0x93, 0xFE, 0xFF], none) := stripBom_id _ _ (by decide)

/-- A spelling CPython's registry accepts as it stands (and that is not one of the two `CHARSET_ALIASES`
    keys) is resolved to its lower-cased self — so `ISO-8859-1` or `Windows-1252` in any letter case
    reach the carrier test as the documented names, while `ISO_8859-1`, `latin-1`, `cp1252` stay what they
    are and are *not* carriers (the test at dammit.py:942 compares names, not codecs). -/
theorem findCodec_of_accepted_spelling (name : PStr) (hk : codecKnown name = true)
    (ha : Gen.Detwingle.charsetAliases.lookup name = none) : findCodec name = some (asciiLower name) := by
  have hne : name ≠ [] := by
    intro h; subst h; revert hk; decide +kernel
  unfold findCodec pyCodec
  simp [ha, hne, hk]

example : codecKnown (ofS "Windows-1252") = true ∧ Gen.Detwingle.charsetAliases.lookup (ofS "Windows-1252") = none ∧
    asciiLower (ofS "Windows-1252") = nWindows1252 := by decide_pstr
example : findCodec (ofS "ISO_8859-1") = some (ofS "iso_8859-1") := eq_of_beq (by decide_pstr)
example : isCarrier (ofS "iso_8859-1") = false := by decide_pstr

/-- **The smart-quote half of the property at the observable, at full strength.**  For every spelling
    `enc` that `find_codec` resolves to one of the carrier names, every mode `xml`/`html`, every non-empty
    byte string `markup` — with or without a byte-order mark, with or without `<`, declarations, other
    known encodings after the first — `UnicodeDammit(markup, [enc, …], smart_quotes_to=mode).unicode_markup`
    is the in-order concatenation of one piece per byte of the BOM-stripped markup: a reference
    un-escaping to the byte's Windows-1252 character for a defined byte 0x80–0x9F, an `&`-free placeholder
    for an undefined one, the plain decoding for every other byte; no replacement characters. -/
theorem constructor_preserves_characters (enc r : PStr) (rest : List PStr) (declared : Option PStr)
    (hf : findCodec enc = some r) (hr : r ∈ carriers) (mode : Mode) (hm : mode = .xml ∨ mode = .html)
    (markup : Bytes) (hne : markup ≠ []) (hbytes : ∀ b ∈ markup, b < 256) :
    ∃ pieces, unicodeDammit (enc :: rest) declared mode markup = .ok pieces.flatten false (some r) ∧
      Bytewise (fun b p =>
        if isSmart b = true then
          (match cp1252At b with
           | some ch => unescapeRef p = some ch
           | none => 38 ∉ p)
        else convertFrom r .none [b] = some p) (stripBom markup).1 pieces := by
  have hsub : ∀ b ∈ (stripBom markup).1, b < 256 := by
    obtain ⟨pre, hpre, _⟩ := stripBom_removes_only_a_bom markup
    intro b hb
    exact hbytes b (by rw [hpre]; simp [hb])
  obtain ⟨pieces, h1, h2⟩ := smart_quotes_preserve_characters r hr mode hm (stripBom markup).1 hsub
  exact ⟨pieces, unicode_markup_is_first_conversion enc r rest declared mode markup _ hne hf h1, h2⟩

example : unicodeDammit [ofS "ISO-8859-2", nUtf8] (some nUtf8) .html ([0xEF, 0xBB, 0xBF] ++ ofS "<?xml?>" ++ [0x93])
    = .ok (ofS "<?xml?>&ldquo;") false (some nIso88592) := eq_of_beq (by decide_pstr)

/-- The same for `ascii`: each byte 0x80–0x9F becomes its documented substitute, every other byte its
    plain decoding. -/
theorem constructor_ascii_substitutes (enc r : PStr) (rest : List PStr) (declared : Option PStr)
    (hf : findCodec enc = some r) (hr : r ∈ carriers) (markup : Bytes) (hne : markup ≠ []) (hbytes : ∀ b ∈ markup, b < 256) :
    ∃ pieces, unicodeDammit (enc :: rest) declared .ascii markup = .ok pieces.flatten false (some r) ∧
      Bytewise (fun b p =>
        if isSmart b = true then liveTables.toAscii.lookup b = some p
        else convertFrom r .none [b] = some p) (stripBom markup).1 pieces := by
  have hsub : ∀ b ∈ (stripBom markup).1, b < 256 := by
    obtain ⟨pre, hpre, _⟩ := stripBom_removes_only_a_bom markup
    intro b hb
    exact hbytes b (by rw [hpre]; simp [hb])
  refine ⟨_, unicode_markup_is_first_conversion enc r rest declared .ascii markup _ hne hf
    (carrier_conversion_flatten r hr .ascii (by simp) _ hsub), Bytewise.of_total _ _ fun b hb => ?_⟩
  obtain ⟨p, hp⟩ := Option.isSome_iff_exists.mp (carrier_conversion_total r hr .ascii (by simp) b (hsub b hb)).2
  rw [hp, Option.getD_some]
  by_cases hs : isSmart b = true
  · simp only [hs, if_true]
    obtain ⟨s, h1, h2, _⟩ := ascii_emits_documented_substitute r hr b hs
    rw [hp] at h2; simp only [Option.some.injEq] at h2; subst h2; exact h1
  · simp only [hs, Bool.false_eq_true, if_false]
    rw [← other_bytes_untouched r .ascii b (by simpa using hs)]
    exact hp

example : unicodeDammit [nWindows1252] none .ascii (ofS "a" ++ [0x99, 0x85])
    = .ok (ofS "a(TM)...") false (some nWindows1252) := eq_of_beq (by decide_pstr)

/-- No conversion requested, at the observable: when `find_codec` resolves the first known encoding to a
    single-byte codec that decodes the BOM-stripped input, `unicode_markup` is that plain decoding — each
    byte 0x80–0x9F appears as the character the codec assigns to it (the Windows-1252 character itself under
    `windows-1252`). -/
theorem constructor_no_conversion (enc r : PStr) (rest : List PStr) (declared : Option PStr) (t : List (Option Nat))
    (hf : findCodec enc = some r) (ht : codecOf r = some (.table t)) (markup : Bytes) (hne : markup ≠ []) (u : PStr)
    (hu : decodeTable t (stripBom markup).1 = some u) :
    unicodeDammit (enc :: rest) declared .none markup = .ok u false (some r) := by
  apply unicode_markup_is_first_conversion enc r rest declared .none markup u hne hf
  rw [none_mode_is_plain_decode, ht]
  simpa [decodeStrict] using hu

example : unicodeDammit [nWindows1252] none .none [0x93, 0xE9, 0x9F] = .ok [0x201C, 0xE9, 0x178] false (some nWindows1252) :=
  eq_of_beq (by decide +kernel)
example : decodeTable Gen.Detwingle.cp1252 (stripBom [0x93, 0xE9, 0x9F]).1 = some [0x201C, 0xE9, 0x178] :=
  eq_of_beq (by decide +kernel)

/-- The other routes by which an encoding reaches the constructor.  (i) `override_encodings` (deprecated) is
    appended to the known encodings and `user_encodings` comes after the byte-order mark: whenever the first
    of `known ++ override` resolves and converts, that is the result, whatever `user_encodings` holds.
    (ii) With no known encodings and no byte-order mark, the first `user_encodings` entry plays that role.
    (iii) With no encodings at all, no byte-order mark, no declaration and input that is not valid UTF-8, the
    documented last resort `windows-1252` converts the input — smart quotes included. -/
theorem constructor_routes (mode : Mode) (markup : Bytes) (u : PStr) :
    (∀ known override user declared enc rest r, known ++ override = enc :: rest → markup ≠ [] → findCodec enc = some r →
        convertFrom r mode (stripBom markup).1 = some u →
        unicodeDammitFull known override user declared mode markup = .ok u false (some r)) ∧
    (∀ enc rest declared r, markup ≠ [] → stripBom markup = (markup, none) → findCodec enc = some r →
        convertFrom r mode markup = some u →
        unicodeDammitFull [] [] (enc :: rest) declared mode markup = .ok u false (some r)) ∧
    (stripBom markup = (markup, none) → decodeUtf8 markup = none → convertFrom nWindows1252 mode markup = some u →
        unicodeDammitFull [] [] [] none mode markup = .ok u false (some nWindows1252)) := by
  refine ⟨?_, ?_, ?_⟩
  · intro known override user declared enc rest r hk hne hf h
    exact unicodeDammitWithU_first liveTables _ user declared mode markup enc r _ u hne (by rw [hk]; rfl) hf h
  · intro enc rest declared r hne hb hf h
    exact unicodeDammitWithU_first liveTables [] _ declared mode markup enc r rest u hne (by rw [hb]; rfl) hf (by rw [hb]; exact h)
  · intro hb hd h
    exact unicodeDammitWithU_default_route liveTables mode markup u (hfu := eq_of_beq (by decide +kernel))
      (hiu := by decide +kernel) (hcu := by decide +kernel) (hfw := eq_of_beq (by decide +kernel)) hb hd h

example : unicodeDammitFull [] [nLatin1] [nIso88592] none .html [0x93] = .ok [0x93] false (some nLatin1) :=
  eq_of_beq (by decide +kernel)
example : unicodeDammitFull [] [] [nIso88592] none .html [0x93] = .ok (ofS "&ldquo;") false (some nIso88592) :=
  eq_of_beq (by decide_pstr)
example : unicodeDammitFull [] [] [] none .html [0x93] = .ok (ofS "&ldquo;") false (some nWindows1252) :=
  eq_of_beq (by decide_pstr)
example : stripBom [0x93] = ([0x93], none) ∧ decodeUtf8 [0x93] = none := ⟨by decide, eq_of_beq (by decide +kernel)⟩
/-- valid UTF-8 on the default route is read as UTF-8: no byte is a smart quote then -/
example : unicodeDammitFull [] [] [] none .html [0xC2, 0x93] = .ok [0x93] false (some nUtf8) := eq_of_beq (by decide +kernel)

/-- A process as a sequence of constructor calls.  The code-mirror threads the only state the calls
    could share — none: `tried_encodings` is reset per object (dammit.py:778) and `find_codec` reads only
    class constants — so every call's outcome is what the same call gives on its own, whatever came
    before it.  (The harness runs real call histories in one process against fresh-process runs.) -/
theorem call_outcome_independent_of_history (before : List DammitCall) (c : DammitCall) (after : List DammitCall) :
    (runCalls (before ++ c :: after))[before.length]? = some (runCall c) := by
  rw [runCalls_eq_map]; simp

example : runCalls [{ known := [ofS "ISO_8859-1"], declared := none, mode := .xml, markup := [0x93] },
      { known := [nIso88591], declared := none, mode := .xml, markup := [0x93] }]
    = [.ok [0x93] false (some (ofS "iso_8859-1")), .ok (ofS "&#x201C;") false (some nIso88591)] :=
  eq_of_beq (by decide_pstr)
/-- an earlier call with `override_encodings` leaves nothing behind for a later default-route call -/
example : runCalls [{ known := [], declared := none, mode := .none, markup := [0x93], override := [nLatin1] },
      { known := [], declared := none, mode := .html, markup := [0x93] }]
    = [.ok [0x93] false (some nLatin1), .ok (ofS "&ldquo;") false (some nWindows1252)] :=
  eq_of_beq (by decide_pstr)

example : convertFrom nWindows1252 .html (ofS "a" ++ [0x93, 0xE9, 0x94]) =
    some (ofS "a&ldquo;" ++ [0xE9] ++ ofS "&rdquo;") := eq_of_beq (by decide_pstr)

/-! ## detwingle -/

/-- Table obligation: `MULTIBYTE_MARKERS_AND_SIZES`, `FIRST_…`, `LAST_…` make the scan step over
    UTF-8 correctly: every byte C2–F4 is taken as a lead byte with the size UTF-8 assigns to it, and no
    ASCII byte is. -/
theorem live_markers_sound : liveCfg.Sound where
  lead b h1 h2 := (by decide +kernel : ∀ b, b < 0xF5 → 0xC2 ≤ b →
    liveCfg.isMarker b = true ∧ liveCfg.sizeOf? b = some (stdSize b)) b (by omega) h1
  ascii := by decide +kernel

/-- Table obligation: every byte in FIRST..LAST is covered by a range of positive size — otherwise the
    `while` loop would never advance.  Hence `detwingle` terminates with a result on every input. -/
theorem detwingle_total (bs : Bytes) : (detwingle bs).isSome = true :=
  scan_total liveCfg (live_markers_sound.total (marker_range_of liveCfg (by decide +kernel) (by decide +kernel))) 0 bs

/-- Refinement: the index loop of the Python (`pos`, `chunk_start`, `byte_chunks`, the
    `chunk_start == 0` shortcut, the final slice) computes the structural scan — for every
    configuration of the class attributes and every byte list, hanging exactly when the scan does. -/
theorem detwingleImpl_refines (c : Cfg) (bs : Bytes) : detwingleImplWith c bs = detwingleWith c bs :=
  detwingleImplWith_eq c bs

/-- The same for the live class attributes: the code-mirror and the specification agree on every input. -/
theorem detwingleImpl_eq (bs : Bytes) : detwingleImpl bs = detwingle bs := detwingleImplWith_eq liveCfg bs

example : detwingleImpl [0x61, 0x93, 0xE2, 0x82, 0xAC, 0x94] =
    some [0x61, 0xE2, 0x80, 0x9C, 0xE2, 0x82, 0xAC, 0xE2, 0x80, 0x9D] := eq_of_beq (by decide +kernel)

example : detwingleCall [0x61, 0x93] (ofS "latin-1") (ofS "windows-1252") = .notImplemented := eq_of_beq (by decide_pstr)
example : detwingleCall [0x61, 0x93] (ofS "UTF-8") (ofS "WINDOWS_1252") = .ok [0x61, 0xE2, 0x80, 0x9C] := eq_of_beq (by decide_pstr)

/-- Letter case and `_` for `-` do not matter in an encoding name: the normal form of a spelling. -/
def normName (s : PStr) : PStr := s.map fun c => let c := if c = 95 then 45 else c; if 65 ≤ c && c ≤ 90 then c + 32 else c

/-- **Every accepted spelling of the optional arguments**: when `embedded_encoding` is `windows-1252`
    written in any letter case and with `_` or `-`, and `main_encoding` is `utf8` or `utf-8` in any letter
    case, the call passes the argument checks and returns what the loop computes — the same as the
    one-argument call.  (No `NotImplementedError` for `"windows_1252"`, `"Windows-1252"`, `"UTF-8"`, ….) -/
theorem detwingle_call_accepted_spellings (bs : Bytes) (mainEnc embEnc : PStr)
    (he : normName embEnc = nWindows1252)
    (hm : asciiLower mainEnc = ofS "utf8" ∨ asciiLower mainEnc = ofS "utf-8") :
    ∃ out, detwingle bs = some out ∧ detwingleCall bs mainEnc embEnc = .ok out := by
  obtain ⟨out, hout⟩ := Option.isSome_iff_exists.mp (detwingle_total bs)
  refine ⟨out, hout, ?_⟩
  have h1 : asciiLower (embEnc.map fun c => if c = 95 then 45 else c) = ofS "windows-1252" := by
    have : ofS "windows-1252" = nWindows1252 := by decide_pstr
    rw [this, ← he]
    simp [normName, asciiLower, List.map_map, Function.comp_def]
  exact detwingleCall_ok bs mainEnc embEnc out h1 hm ((detwingleImpl_eq bs).trans hout)

example : normName (ofS "Windows_1252") = nWindows1252 ∧ normName (ofS "WINDOWS-1252") = nWindows1252 ∧
    asciiLower (ofS "UTF-8") = ofS "utf-8" := by decide_pstr
example : detwingleCall [0x61, 0x93] (ofS "utf8") (ofS "windows_1252") = .ok [0x61, 0xE2, 0x80, 0x9C] := eq_of_beq (by decide_pstr)
example : detwingleCall [0x61, 0x93] (ofS "utf8") (ofS "cp1252") = .notImplemented := eq_of_beq (by decide_pstr)

/-- The public entry point with its default arguments (`main_encoding="utf8"`,
    `embedded_encoding="windows-1252"`) passes the argument checks and returns what the loop computes; so
    every theorem below about `detwingle` is a theorem about `UnicodeDammit.detwingle(in_bytes)`. -/
theorem detwingle_call_default (bs : Bytes) :
    ∃ out, detwingle bs = some out ∧ detwingleCall bs (ofS "utf8") (ofS "windows-1252") = .ok out :=
  detwingle_call_accepted_spellings bs _ _ (by decide_pstr) (.inl (by decide_pstr))

/-- **Valid UTF-8 is returned unchanged** — for every byte list that is the UTF-8 encoding of a
    sequence of Unicode scalar values. -/
theorem detwingle_valid_id (bs : Bytes) (h : ValidUtf8 bs) : detwingle bs = some bs := by
  obtain ⟨s, hs, rfl⟩ := h
  have := scan_pieces liveCfg live_markers_sound (s.map .ch) (List.forall_mem_map.mpr hs)
  rwa [List.flatMap_map, List.flatMap_map] at this

example : ValidUtf8 [0x61, 0xC3, 0xA9, 0xE2, 0x82, 0xAC, 0xF0, 0x9F, 0x98, 0x80] :=
  ⟨[0x61, 0xE9, 0x20AC, 0x1F600], by decide, by decide⟩

/-- The strongest form of the same fact: `detwingle` looks only at lead bytes and the sizes they
    announce, so *any* input that splits into chunks — a byte that is neither lead byte nor convertible,
    or a lead byte followed by exactly as many arbitrary bytes as announced — possibly followed by a
    truncated last chunk, is returned unchanged (continuation bytes are never inspected). -/
theorem detwingle_inert_id (chunks : List Bytes) (tail : Bytes) (h : ∀ s ∈ chunks, Chunk liveCfg s)
    (ht : Tail liveCfg tail) : detwingle (chunks.flatten ++ tail) = some (chunks.flatten ++ tail) :=
  scan_chunks liveCfg chunks tail h ht

example : Chunk liveCfg [0x41] ∧ Chunk liveCfg [0x81] ∧ Chunk liveCfg [0xE2, 0x93, 0x93] ∧ Tail liveCfg [0xF0, 0x93] :=
  ⟨.plain _ (by decide +kernel) (by decide +kernel), .plain _ (by decide +kernel) (by decide +kernel),
   .multi _ 2 _ (by decide +kernel) (eq_of_beq (by decide +kernel)) rfl,
   .trunc _ 3 _ (by decide +kernel) (eq_of_beq (by decide +kernel)) (by decide)⟩

example : detwingle [0xE2, 0x93, 0x93, 0x41, 0xF0, 0x93] = some [0xE2, 0x93, 0x93, 0x41, 0xF0, 0x93] :=
  eq_of_beq (by decide +kernel)

/-- Table obligation: wherever `WINDOWS_1252_TO_UTF8` can be consulted — the key is ≥ 0x80 and not in
    the lead-byte range — its value is the UTF-8 encoding of the byte's Windows-1252 character (CPython's
    cp1252 codec), which exists and is a scalar value. -/
theorem table_agrees_with_cp1252_where_reachable (b : Nat) (hb : liveCfg.Convertible b) :
    ∃ ch, cp1252At b = some ch ∧ IsScalar ch ∧ liveCfg.conv? b = some (encodeUtf8 ch) :=
  live_standard.conv_of_convertible b hb

example : liveCfg.Convertible 0x93 ∧ liveCfg.Convertible 0xA9 ∧ liveCfg.Convertible 0xFE := by decide +kernel

/-- The table's entries whose key lies in the lead-byte range C2–F4 are dead: `detwingle` computes the
    same function for any other table that agrees outside that range.  In particular a wrong value
    there (such as `0xE1 ↦ b"\xa1"`) cannot show. -/
theorem lead_byte_entries_are_dead (table' : List (Nat × Bytes))
    (h : ∀ b, liveCfg.isMarker b = false → liveCfg.table.lookup b = table'.lookup b) (bs : Bytes) :
    detwingleWith { liveCfg with table := table' } bs = detwingle bs := by
  unfold detwingle detwingleWith
  symm
  apply scan_congr liveCfg { liveCfg with table := table' } rfl rfl rfl
  intro b hb
  simp only [Cfg.conv?, h b hb]

/-- e.g. putting the correct value for 0xE1 (`á` = C3 A1) in front changes nothing, for any input -/
example (bs : Bytes) : detwingleWith { liveCfg with table := (0xE1, [0xC3, 0xA1]) :: liveCfg.table } bs = detwingle bs :=
  lead_byte_entries_are_dead _ (by
    intro b hb
    have hne : (b == 0xE1) = false := by
      cases h : b == 0xE1
      · rfl
      · have : b = 0xE1 := by simpa using h
        subst this; revert hb; decide +kernel
    simp [List.lookup_cons, hne]) bs

/-- 0xE1 is in the lead-byte range, so its entry is one of the dead ones. -/
theorem entry_E1_unreachable : liveCfg.isMarker 0xE1 = true ∧ ¬ liveCfg.Convertible 0xE1 := by decide +kernel

/-- **Every embeddable Windows-1252 byte is mapped per the standards** (whole-range table obligation,
    independent of which keys the library's table happens to have): a byte ≥ 0x80 that Windows-1252 defines
    and that is not a possible UTF-8 lead byte (C2–F4) is *not* taken as a lead byte by the scan and *is*
    mapped to the UTF-8 encoding of its Windows-1252 character.  Fails to build if an entry is missing
    (0xFF in 4.13.0), wrong, or if the lead-byte ranges swallow such a byte (C0/C1). -/
theorem embeddable_bytes_converted (b : Nat) (hb : Embeddable b) :
    liveCfg.isMarker b = false ∧ ∃ ch, cp1252At b = some ch ∧ IsScalar ch ∧ liveCfg.conv? b = some (encodeUtf8 ch) :=
  live_standard.embed b hb

example : Embeddable 0x80 ∧ Embeddable 0xC0 ∧ Embeddable 0xC1 ∧ Embeddable 0xFF ∧ ¬ Embeddable 0x81 ∧ ¬ Embeddable 0xE1 := by
  decide +kernel
example : (List.range 256).filter (fun b => decide (Embeddable b)) = (List.range 256).filter (fun b => decide (liveCfg.Convertible b)) :=
  List.filter_congr fun b _ => decide_eq_decide.mpr (live_standard.convertible_iff b).symm

/-- …and nothing else is ever converted: the bytes the scan replaces are exactly the embeddable ones. -/
theorem convertible_iff_embeddable (b : Nat) : liveCfg.Convertible b ↔ Embeddable b :=
  live_standard.convertible_iff b

/-- Whole-table obligation on `WINDOWS_1252_TO_UTF8` as generated: every one of its entries has a key in
    0x80–0xFF, no key occurs twice, and every entry either sits in the dead lead-byte range or is the UTF-8
    encoding of the key's Windows-1252 character. -/
theorem windows1252_table_whole :
    (liveCfg.table.map (·.1)).Nodup ∧
    ∀ kv ∈ liveCfg.table, 0x80 ≤ kv.1 ∧ kv.1 < 256 ∧
      (liveCfg.isMarker kv.1 = true ∨ ∃ ch, cp1252At kv.1 = some ch ∧ kv.2 = encodeUtf8 ch) := by
  have hn : (liveCfg.table.map (·.1)).Nodup := nodup_of_ascending _ (by decide +kernel)
  have hlo : liveCfg.table.all (fun kv => 0x80 ≤ kv.1) = true := by decide +kernel
  refine ⟨hn, fun kv hkv => ?_⟩
  have h80 : 0x80 ≤ kv.1 := by simpa using List.all_eq_true.mp hlo kv hkv
  have h256 : kv.1 < 256 := by simpa using List.all_eq_true.mp live_standard.keys kv hkv
  have hl : liveCfg.conv? kv.1 = some kv.2 := by rw [Cfg.conv?, if_pos h80, lookup_of_mem hn hkv]
  refine ⟨h80, h256, ?_⟩
  cases hm : liveCfg.isMarker kv.1 with
  | true => exact .inl rfl
  | false =>
    obtain ⟨ch, h1, _, h3⟩ := table_agrees_with_cp1252_where_reachable kv.1 ⟨hm, by rw [hl]; rfl⟩
    exact .inr ⟨ch, h1, Option.some.inj (hl.symm.trans h3)⟩

/-- The class attributes are exactly what the standards say: lead bytes are C2–F4 with UTF-8's sizes. -/
theorem live_cfg_exact : liveCfg.Exact where
  sound := live_markers_sound
  marker_range := marker_range_of liveCfg (by decide +kernel) (by decide +kernel)
  conv_ok := fun b hb => by
    obtain ⟨ch, _, h2, h3⟩ := table_agrees_with_cp1252_where_reachable b hb
    exact ⟨ch, h2, h3⟩

/-- **For every byte list**: `detwingle` only ever replaces embeddable bytes by their table value —
    `Replaced` says the output is the input, in order, with some bytes `b` (not lead bytes, having a table
    entry) swapped for that entry; nothing is dropped, duplicated, reordered or otherwise altered.  This is
    "all surrounding text is untouched" without any assumption on the input. -/
theorem detwingle_only_replaces_embedded_bytes (bs out : Bytes) (h : detwingle bs = some out) :
    Replaced liveCfg bs out :=
  scan_replaced liveCfg 0 bs out h

example : detwingle [0xE0, 0x80, 0x80, 0xC0, 0x80, 0xF0, 0x93] =
    some [0xE0, 0x80, 0x80, 0xC3, 0x80, 0xE2, 0x82, 0xAC, 0xF0, 0x93] := eq_of_beq (by decide +kernel)

/-- **For every byte list**: `detwingle` is idempotent — valid or not, truncated or not, whatever it
    returns is returned unchanged when fed back. -/
theorem detwingle_idempotent (bs out : Bytes) (h : detwingle bs = some out) : detwingle out = some out :=
  scan_idem liveCfg (Cfg.selfInert_of_exact liveCfg live_cfg_exact) 0 bs out h

example : detwingle [0x93, 0xE2, 0x93] = some [0xE2, 0x80, 0x9C, 0xE2, 0x93] := eq_of_beq (by decide +kernel)
example : detwingle [0xE2, 0x80, 0x9C, 0xE2, 0x93] = some [0xE2, 0x80, 0x9C, 0xE2, 0x93] := eq_of_beq (by decide +kernel)

/-- **UTF-8 text with embedded single Windows-1252 bytes.**  For every input that is a concatenation of
    segments, each the UTF-8 encoding of a scalar value or a single convertible byte, the result is the
    UTF-8 encoding of the text in which each embedded byte has become its Windows-1252 character and
    every other character is unchanged, in order. -/
theorem detwingle_embedded (ps : List Piece)
    (h : ∀ p ∈ ps, match p with | .ch c => IsScalar c | .emb b => Embeddable b) :
    detwingle (ps.flatMap Piece.src)
      = some (utf8 (ps.map fun p => match p with | .ch c => c | .emb b => (cp1252At b).getD 0xFFFD)) := by
  have hok : ∀ p ∈ ps, p.Good liveCfg := fun p hp => (Piece.good_live_iff p).mpr (h p hp)
  unfold detwingle detwingleWith
  rw [scan_pieces liveCfg live_markers_sound ps hok]
  congr 1
  unfold utf8
  rw [List.flatMap_map, List.flatMap_def, List.flatMap_def]
  congr 1
  apply List.map_congr_left
  intro p hp
  cases p with
  | ch c => rfl
  | emb b =>
    obtain ⟨ch, h1, _, h3⟩ := table_agrees_with_cp1252_where_reachable b ((convertible_iff_embeddable b).mpr (h _ hp))
    simp [Piece.out, h1, h3]

/-- …and that result is valid UTF-8 (and each embedded byte's character exists in Windows-1252). -/
theorem detwingle_embedded_valid (ps : List Piece)
    (h : ∀ p ∈ ps, match p with | .ch c => IsScalar c | .emb b => Embeddable b) :
    ∃ out, detwingle (ps.flatMap Piece.src) = some out ∧ ValidUtf8 out := by
  refine ⟨_, detwingle_embedded ps h, _, ?_, rfl⟩
  intro c hc
  simp only [List.mem_map] at hc
  obtain ⟨p, hp, rfl⟩ := hc
  have := h p hp
  cases p with
  | ch c => exact this
  | emb b =>
    obtain ⟨ch, h1, h2, _⟩ := table_agrees_with_cp1252_where_reachable b ((convertible_iff_embeddable b).mpr this)
    simpa [h1] using h2

example : detwingle ([Piece.ch 0x61, .emb 0x93, .ch 0x20AC, .emb 0xA9].flatMap Piece.src)
    = some (utf8 [0x61, 0x201C, 0x20AC, 0xA9]) := eq_of_beq (by decide +kernel)

/-- The existential notion of validity used above is exactly that of the executable strict decoder
    (Unicode Table 3-7; the harness compares it with CPython's `bytes.decode("utf-8")`): a byte list
    decodes to `s` iff it is the encoding of `s` and `s` consists of scalar values. -/
theorem decodeUtf8_iff (bs : Bytes) (s : PStr) :
    decodeUtf8 bs = some s ↔ bs = utf8 s ∧ ∀ c ∈ s, IsScalar c :=
  ⟨decodeUtf8_sound bs s, fun ⟨h1, h2⟩ => h1 ▸ decodeUtf8_utf8 s h2⟩

example : decodeUtf8 (utf8 [0x61, 0x20AC, 0x10FFFF]) = some [0x61, 0x20AC, 0x10FFFF] := eq_of_beq (by decide +kernel)

/-- `ValidUtf8` (existential) and the decidable scanner coincide. -/
theorem valid_utf8_iff_decodes (bs : Bytes) : ValidUtf8 bs ↔ (decodeUtf8 bs).isSome = true := by
  constructor
  · rintro ⟨s, hs, rfl⟩; simp [decodeUtf8_utf8 s hs]
  · intro h
    obtain ⟨s, hs⟩ := Option.isSome_iff_exists.mp h
    obtain ⟨h1, h2⟩ := decodeUtf8_sound bs s hs
    exact ⟨s, h2, h1⟩

example : decodeUtf8 [0xED, 0xA0, 0x80] = none := eq_of_beq (by decide +kernel)
example : decodeUtf8 [0xC0, 0x80] = none := eq_of_beq (by decide +kernel)
example : decodeUtf8 [0xF4, 0x90, 0x80, 0x80] = none := eq_of_beq (by decide +kernel)
example : decodeUtf8 [0xE2, 0x82, 0xAC] = some [0x20AC] := eq_of_beq (by decide +kernel)

/-- **For every byte list**: the result is valid UTF-8 *exactly when* the input is UTF-8 text with
    embedded Windows-1252 bytes — a concatenation of encodings of scalar values and single embeddable
    bytes.  (So overlong forms after a lead byte, truncated sequences, the five undefined bytes, stray
    continuation-range bytes inside a multi-byte slot all leave the result invalid, and nothing else does.) -/
theorem detwingle_output_valid_iff (bs out : Bytes) (h : detwingle bs = some out) :
    ValidUtf8 out ↔ ∃ ps : List Piece, (∀ p ∈ ps, match p with | .ch c => IsScalar c | .emb b => Embeddable b) ∧
      bs = ps.flatMap Piece.src := by
  constructor
  · intro hv
    obtain ⟨t, ht⟩ := Option.isSome_iff_exists.mp ((valid_utf8_iff_decodes out).mp hv)
    obtain ⟨ps, hps, hbs⟩ := scan_valid_inv liveCfg live_cfg_exact bs.length bs out t (Nat.le_refl _) h ht
    exact ⟨ps, fun p hp => (Piece.good_live_iff p).mp (hps p hp), hbs⟩
  · rintro ⟨ps, hps, rfl⟩
    obtain ⟨out', h1, h2⟩ := detwingle_embedded_valid ps hps
    rw [h] at h1
    simp only [Option.some.injEq] at h1
    subst h1; exact h2

example : ¬ ValidUtf8 [0xE0, 0x80, 0x80] := by
  rw [valid_utf8_iff_decodes]; decide +kernel

/-- both sides of the equivalence are inhabited: a valid result comes from a piece list … -/
example : detwingle ([Piece.ch 0x1F600, .emb 0xFF, .emb 0xC0].flatMap Piece.src) = some (utf8 [0x1F600, 0xFF, 0xC0]) :=
  eq_of_beq (by decide +kernel)
/-- … and an input that is no such concatenation (an overlong form in a 3-byte slot, a truncated tail, an
    undefined byte) gives an invalid result -/
example : detwingle [0xE0, 0x80, 0x80] = some [0xE0, 0x80, 0x80] ∧ detwingle [0x81] = some [0x81] ∧
    detwingle [0x93, 0xE2, 0x82] = some [0xE2, 0x80, 0x9C, 0xE2, 0x82] :=
  ⟨eq_of_beq (by decide +kernel), eq_of_beq (by decide +kernel), eq_of_beq (by decide +kernel)⟩
example : decodeUtf8 [0x81] = none ∧ decodeUtf8 [0xE2, 0x80, 0x9C, 0xE2, 0x82] = none :=
  ⟨eq_of_beq (by decide +kernel), eq_of_beq (by decide +kernel)⟩

end BS.Props.C19
