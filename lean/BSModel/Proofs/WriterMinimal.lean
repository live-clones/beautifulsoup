import BSModel.Proofs.TokenizerWholeRun
/-! C05 — the writer's choices that make `writeText` the text the 'minimal' renderer writes, and the structural form of
    that text.

    `minimalChoices W`: every void element `<br/>`; `&`, `<`, `>` as `&amp;`, `&lt;`, `&gt;`, every other character
    literally (never cut); keywords `DOCTYPE` / `CDATA` in upper case. `wrenderL` is the text these choices give, by
    structural recursion over the document. -/
namespace BS.WriterMin
open BS.Builder BS.Writer BS.Adapter BS.WriterText

def nAmp : PStr := [97, 109, 112]
def nLt : PStr := [108, 116]
def nGt : PStr := [103, 116]

/-- how the 'minimal' formatter spells a character of text -/
def spell (ch : Nat) : CharSp :=
  if ch = 38 then .named nAmp else if ch = 60 then .named nLt else if ch = 62 then .named nGt else .lit false

/-- the text of that spelling -/
def escW (ch : Nat) : PStr :=
  if ch = 38 then erefText nAmp else if ch = 60 then erefText nLt else if ch = 62 then erefText nGt else [ch]

def nth : List WDoc → Nat → Option WDoc
  | [], _ => none
  | d :: _, 0 => some d
  | _ :: ds, i + 1 => nth ds i

/-- the node at a path given outermost index first -/
def lookL : List WDoc → List Nat → Option WDoc
  | _, [] => none
  | ds, i :: rest =>
    match nth ds i with
    | none => none
    | some d =>
      match rest with
      | [] => some d
      | k :: r =>
        match d with
        | .elem _ _ ks => lookL ks (k :: r)
        | _ => none

theorem lookL_zero (d : WDoc) (ds : List WDoc) : lookL (d :: ds) [0] = some d := rfl
theorem lookL_into (n : Name) (a : List (PStr × Option PStr)) (ks ds : List WDoc) (k : Nat) (r : List Nat) :
    lookL (.elem n a ks :: ds) (0 :: k :: r) = lookL ks (k :: r) := rfl
theorem lookL_succ (d : WDoc) (ds : List WDoc) (i : Nat) (rest : List Nat) :
    lookL (d :: ds) ((i + 1) :: rest) = lookL ds (i :: rest) := by
  rw [lookL, lookL]; rfl

/-- the `j`-th character of the text at path `p` (innermost index first, as the writer numbers occurrences) -/
def charAt (W : List WDoc) (p : Path) (j : Nat) : Option Nat :=
  match lookL W p.reverse with
  | some (.text s) => s[j]?
  | _ => none

/-- **the choices of the 'minimal' renderer** for the document `W` -/
def minimalChoices (W : List WDoc) : Choices :=
  { void := fun _ => .slash
    pos := fun _ => (0, 0)      -- plays no part: readers take `withDerivedPos`
    char := fun p j => match charAt W p j with | some ch => spell ch | none => .lit false
    kwCase := fun _ _ => true }

mutual
/-- the text of the document under those choices, structurally -/
def wrender (iv : Name → Bool) : WDoc → PStr
  | .elem n a ks => if iv n then openText n a true else openText n a false ++ (wrenderL iv ks ++ closeText n)
  | .text s => s.flatMap escW
  | .special k s => specialMarkup k (fun _ => true) s
def wrenderL (iv : Name → Bool) : List WDoc → PStr
  | [] => []
  | d :: ds => wrender iv d ++ wrenderL iv ds
end

mutual
/-- the choices `c` are the minimal ones for the node `d` standing at path `p` -/
def Agree (c : Choices) : Path → WDoc → Prop
  | p, .elem _ _ ks => c.void p = .slash ∧ AgreeL c p 0 ks
  | p, .text s => ∀ j ch, s[j]? = some ch → c.char p j = spell ch
  | p, .special _ _ => ∀ n, c.kwCase p n = true
def AgreeL (c : Choices) : Path → Nat → List WDoc → Prop
  | _, _, [] => True
  | p, i, d :: ds => Agree c (i :: p) d ∧ AgreeL c p (i + 1) ds
end

theorem spell_cases (ch : Nat) :
    (∃ nm, spell ch = .named nm ∧ escW ch = erefText nm) ∨ (spell ch = .lit false ∧ escW ch = [ch]) := by
  unfold spell escW
  split
  · exact Or.inl ⟨_, rfl, rfl⟩
  · split
    · exact Or.inl ⟨_, rfl, rfl⟩
    · split
      · exact Or.inl ⟨_, rfl, rfl⟩
      · exact Or.inr ⟨rfl, rfl⟩

theorem spelt_cons (sp : Nat → CharSp) (i ch : Nat) (rest : PStr)
    (h : ∀ j c, (ch :: rest)[j]? = some c → sp (i + j) = spell c) :
    sp i = spell ch ∧ ∀ j c, rest[j]? = some c → sp (i + 1 + j) = spell c :=
  ⟨h 0 ch rfl, fun j c hj => by rw [← h (j + 1) c (by simpa using hj)]; congr 1; omega⟩

theorem charToks_text (sp : Nat → CharSp) : ∀ (s : PStr) (i : Nat) (cur : PStr),
    (∀ j ch, s[j]? = some ch → sp (i + j) = spell ch) → textOf (charToks sp i cur s) = cur ++ s.flatMap escW
  | [], _, cur, _ => by simp [charToks, textOf_flush]
  | ch :: rest, i, cur, h => by
    obtain ⟨h0, hr⟩ := spelt_cons sp i ch rest h
    simp only [charToks, h0, List.flatMap_cons]
    rcases spell_cases ch with ⟨nm, e1, e2⟩ | ⟨e1, e2⟩
    · simp [e1, e2, textOf_append, textOf_cons, textOf_flush, erefTok, charToks_text sp rest (i + 1) [] hr]
    · simp [e1, e2, charToks_text sp rest (i + 1) (cur ++ [ch]) hr, List.append_assoc]

mutual
theorem wtoks_text (iv : Name → Bool) (c : Choices) : ∀ (d : WDoc) (p : Path), Agree c p d →
    textOf (wtoks iv c p d) = wrender iv d
  | .text s, p, h => by
    simp only [wtoks, wrender]
    have := charToks_text (c.char p) s 0 [] (by intro j ch hj; simpa using h j ch hj)
    simpa using this
  | .special k s, p, h => by
    have hk : c.kwCase p = fun _ => true := funext h
    simp [wtoks, wrender, textOf, specialWTok, hk]
  | .elem n a ks, p, h => by
    obtain ⟨hv, hk⟩ := h
    simp only [wtoks, wrender]
    by_cases hn : iv n = true
    · simp [hn, hv, textOf, openTok]
    · simp only [hn, Bool.false_eq_true, if_false, textOf_cons, textOf_append, wtoksL_text iv c ks p 0 hk]
      simp [openTok, closeTok, textOf]
theorem wtoksL_text (iv : Name → Bool) (c : Choices) : ∀ (ds : List WDoc) (p : Path) (i : Nat), AgreeL c p i ds →
    textOf (wtoksL iv c p i ds) = wrenderL iv ds
  | [], _, _, _ => by simp [wtoksL, wrenderL, textOf]
  | d :: ds, p, i, h => by
    simp only [wtoksL, wrenderL, textOf_append, wtoks_text iv c d (i :: p) h.1, wtoksL_text iv c ds p (i + 1) h.2]
end

/-! ### the minimal choices agree with the document they are read off -/

/-- the sub-forest `ds` stands at path `p` of `W`, its first node having index `i` -/
def Located (W : List WDoc) (p : Path) (i : Nat) (ds : List WDoc) : Prop :=
  ∀ j rest, lookL W (p.reverse ++ (i + j) :: rest) = lookL ds (j :: rest)

/- `h` serves the text case, the implication from `d = .elem …` the element case: one statement for `agreeL_min` -/
mutual
theorem agree_min (W : List WDoc) : ∀ (d : WDoc) (p : Path), lookL W p.reverse = some d →
    (∀ ks n a, d = .elem n a ks → Located W p 0 ks) → Agree (minimalChoices W) p d
  | .text s, p, h, _ => by
    intro j ch hj
    simp [minimalChoices, charAt, h, hj]
  | .special _ _, _, _, _ => by intro n; rfl
  | .elem n a ks, p, _, hl => ⟨rfl, agreeL_min W ks p 0 (hl ks n a rfl)⟩
theorem agreeL_min (W : List WDoc) : ∀ (ds : List WDoc) (p : Path) (i : Nat), Located W p i ds →
    AgreeL (minimalChoices W) p i ds
  | [], _, _, _ => trivial
  | d :: ds, p, i, h => by
    -- `d` stands at `i :: p`; so do its children; the rest from `i + 1`
    refine ⟨agree_min W d (i :: p) ?_ ?_, agreeL_min W ds p (i + 1) ?_⟩
    · have := h 0 []
      rw [lookL_zero] at this
      simpa using this
    · intro ks n a hd j rest
      have := h 0 (j :: rest)
      subst hd
      rw [lookL_into] at this
      simpa [List.append_assoc] using this
    · intro j rest
      have := h (j + 1) rest
      rw [lookL_succ] at this
      have e : i + (j + 1) = i + 1 + j := by omega
      rw [e] at this; exact this
end

theorem located_root (W : List WDoc) : Located W [] 0 W := by
  intro j rest; simp

/-- **the writer's text under the minimal choices is the structural text** -/
theorem writeText_minimal (iv : Name → Bool) (W : List WDoc) :
    writeText iv (minimalChoices W) W = wrenderL iv W :=
  wtoksL_text iv (minimalChoices W) W [] 0 (agreeL_min W W [] 0 (located_root W))

/-! ### every reference of the minimal choices denotes its character -/

/-- the three references the minimal writer uses mean what XML says -/
def EntOK (cfg : ACfg) : Prop :=
  cfg.entity nAmp = some [38] ∧ cfg.entity nLt = some [60] ∧ cfg.entity nGt = some [62]

theorem charOK_spell (cfg : ACfg) (he : EntOK cfg) (ch : Nat) : charOK cfg ch (spell ch) = true := by
  unfold spell
  split
  · subst_vars; simp [charOK, he.1]
  · split
    · subst_vars; simp [charOK, he.2.1]
    · split
      · subst_vars; simp [charOK, he.2.2]
      · rfl

theorem charsOK_min (cfg : ACfg) (he : EntOK cfg) (sp : Nat → CharSp) : ∀ (s : PStr) (i : Nat),
    (∀ j ch, s[j]? = some ch → sp (i + j) = spell ch) → charsOK cfg sp i s = true
  | [], _, _ => rfl
  | ch :: rest, i, h => by
    obtain ⟨h0, hr⟩ := spelt_cons sp i ch rest h
    simp only [charsOK, h0, charOK_spell cfg he ch, charsOK_min cfg he sp rest (i + 1) hr, Bool.and_self]

mutual
theorem wellSpelt_agree (cfg : ACfg) (he : EntOK cfg) (c : Choices) : ∀ (d : WDoc) (p : Path), Agree c p d →
    wellSpelt cfg c.char p d = true
  | .text s, p, h => by
    simp only [wellSpelt]
    exact charsOK_min cfg he (c.char p) s 0 (by intro j ch hj; simpa using h j ch hj)
  | .special _ _, _, _ => rfl
  | .elem _ _ ks, p, h => by simp only [wellSpelt]; exact wellSpeltL_agree cfg he c ks p 0 h.2
theorem wellSpeltL_agree (cfg : ACfg) (he : EntOK cfg) (c : Choices) : ∀ (ds : List WDoc) (p : Path) (i : Nat), AgreeL c p i ds →
    wellSpeltL cfg c.char p i ds = true
  | [], _, _, _ => rfl
  | d :: ds, p, i, h => by
    simp only [wellSpeltL, wellSpelt_agree cfg he c d (i :: p) h.1, wellSpeltL_agree cfg he c ds p (i + 1) h.2, Bool.and_self]
end

theorem wellSpelt_minimal (cfg : ACfg) (he : EntOK cfg) (W : List WDoc) : WellSpelt cfg (minimalChoices W).char W :=
  wellSpeltL_agree cfg he (minimalChoices W) W [] 0 (agreeL_min W W [] 0 (located_root W))

end BS.WriterMin
