import BSModel.Model.WriterText
import BSModel.Proofs.TokenizerTerm
import BSModel.Proofs.TokenizerRound
/-! The tokenizer on a sequence of well-formed tokens: every token whose `chooseAct` is as intended (`Good`) is consumed
whole and reported by its callback, literal data in between is reported in maximal chunks (`runToks`). -/
namespace BS.WriterText
open BS.Writer BS.Tokenizer BS.SourcePos

/-- a token is good for the tokenizer (outside CDATA mode, during `feed`): literal data contains no `&`/`<`; a markup
    token begins with `<` or `&` and, whatever follows it, is consumed whole with exactly its callback -/
def Good (P : Params) (t : WTok) : Prop :=
  match t.tok with
  | none => ∀ x ∈ t.text, isPlain x = true
  | some k => (t.text.head? = some 60 ∨ t.text.head? = some 38) ∧
      ∀ rest, chooseAct P false none (t.text ++ rest) = .adv k t.text.length none true

/-- `pre` = the text before `l`, only for its position -/
def dataEv (pre l : PStr) : List Ev := if l.isEmpty then [] else [⟨.data l, l, posOf pre⟩]

/-- what the tokenizer reports for a token sequence; `l` = literal data already seen but not yet reported -/
def runToks : PStr → PStr → List WTok → List Ev
  | pre, l, [] => dataEv pre l
  | pre, l, t :: ts =>
    match t.tok with
    | none => runToks pre (l ++ t.text) ts
    | some k => dataEv pre l ++ ⟨k, t.text, posOf (pre ++ l)⟩ :: runToks (pre ++ l ++ t.text) [] ts

theorem textOf_cons (t : WTok) (ts : List WTok) : textOf (t :: ts) = t.text ++ textOf ts := by simp [textOf]
theorem textOf_nil : textOf [] = [] := rfl
theorem textOf_append (a b : List WTok) : textOf (a ++ b) = textOf a ++ textOf b := by simp [textOf]
theorem textOf_flush (cur : PStr) : textOf (flushLitTok cur) = cur := by
  cases cur <;> simp [flushLitTok, textOf, litTok]

/-- one turn: pending data `l`, then a token with known `chooseAct`; `cd`: the mode it leaves -/
theorem step_tok (P : Params) (k : Tok) (cd : Option PStr) (tx rest pre l : PStr)
    (hhead : tx.head? = some 60 ∨ tx.head? = some 38)
    (hact : chooseAct P false none (tx ++ rest) = .adv k tx.length cd true) (hl : ∀ x ∈ l, isPlain x = true) :
    step P false ⟨l ++ (tx ++ rest), posOf pre, none⟩ =
      (dataEv pre l ++ [⟨k, tx, posOf (pre ++ l)⟩], ⟨rest, posOf (pre ++ l ++ tx), cd⟩, none) := by
  have hne : (tx ++ rest).isEmpty = false := by cases tx <;> simp at hhead ⊢
  have hr : ∀ c, (tx ++ rest).head? = some c → isPlain c = false := by
    cases tx with
    | nil => simp at hhead
    | cons c tx' => rcases hhead with h | h <;> (simp at h; subst h; rintro _ ⟨⟩; decide)
  have hd : (if 0 < l.length then [(⟨.data l, l, posOf pre⟩ : Ev)] else []) = dataEv pre l := by cases l <;> simp [dataEv]
  simp only [step_plain P false _ l _ hl hr, hne, Bool.false_eq_true, if_false, hact, applyAct, updatepos_posOf, if_true,
    hd, List.append_assoc, List.take_left, List.drop_left]

/-- the loop reads the token sequence as intended; `l` = literal data pending before it -/
def Loops (P : Params) (ts : List WTok) : Prop :=
  ∀ (pre l : PStr), (∀ x ∈ l, isPlain x = true) →
    Runs P false ⟨l ++ textOf ts, posOf pre, none⟩ (runToks pre l ts) ⟨[], posOf (pre ++ l ++ textOf ts), none⟩ .ok

theorem Loops.nil (P : Params) : Loops P [] := by
  intro pre l hl
  simp only [textOf_nil, List.append_nil, runToks]
  cases l with
  | nil => simpa [dataEv] using Runs.done (P := P) (end_ := false) ⟨[], posOf pre, none⟩ rfl
  | cons x xs =>
    refine .stop _ _ _ _ (List.cons_ne_nil x xs) ?_
    simpa [updatepos_posOf, dataEv] using step_plain P false (posOf pre) (x :: xs) [] hl (by simp)

/-- for a token good only in front of what follows it here -/
theorem Loops.cons_tok (P : Params) (t : WTok) (ts : List WTok) (k : Tok) (htok : t.tok = some k)
    (hhead : t.text.head? = some 60 ∨ t.text.head? = some 38)
    (hact : chooseAct P false none (t.text ++ textOf ts) = .adv k t.text.length none true)
    (ih : Loops P ts) : Loops P (t :: ts) := by
  intro pre l hl
  have hne : l ++ (t.text ++ textOf ts) ≠ [] := by
    cases htx : t.text with
    | nil => simp [htx] at hhead
    | cons c tx' => simp
  have := Runs.more _ _ _ _ _ _ hne (step_tok P k none t.text (textOf ts) pre l hhead hact hl) (ih (pre ++ l ++ t.text) [] (by simp))
  simpa only [textOf_cons, runToks, htok, List.nil_append, List.append_nil, List.append_assoc, List.singleton_append] using this

theorem Loops.cons (P : Params) (t : WTok) (ts : List WTok) (hg : Good P t) (ih : Loops P ts) : Loops P (t :: ts) := by
  cases htok : t.tok with
  | none =>
    intro pre l hl
    simp only [Good, htok] at hg
    have := ih pre (l ++ t.text) (fun x hx => (List.mem_append.mp hx).elim (hl x) (hg x))
    simpa only [textOf_cons, runToks, htok, List.append_assoc] using this
  | some k =>
    simp only [Good, htok] at hg
    exact .cons_tok P t ts k htok hg.1 (hg.2 _) ih

theorem loops_of_good (P : Params) : ∀ (ts : List WTok), (∀ t ∈ ts, Good P t) → Loops P ts
  | [], _ => .nil P
  | t :: ts, hg => .cons P t ts (hg t List.mem_cons_self) (loops_of_good P ts fun t' h => hg t' (List.mem_cons_of_mem t h))

theorem loop_toks (P : Params) : ∀ (ts : List WTok) (pre l : PStr) (f : Nat), (∀ t ∈ ts, Good P t) →
    (∀ x ∈ l, isPlain x = true) → (l ++ textOf ts).length < f →
    loop P false f ⟨l ++ textOf ts, posOf pre, none⟩ =
      ⟨runToks pre l ts, ⟨[], posOf (pre ++ l ++ textOf ts), none⟩, .ok⟩ :=
  fun ts pre l f hg hl hf => (loops_of_good P ts hg pre l hl).loop_eq f hf

theorem run_of_loops (P : Params) (ts : List WTok) (h : Loops P ts) :
    (run P (textOf ts)).evs = runToks [] [] ts ∧ (run P (textOf ts)).flag = .ok ∧ (run P (textOf ts)).st.s = [] := by
  have h1 := (h [] [] (by simp)).loop_eq ((textOf ts).length + 1) (by simp)
  simp only [List.nil_append] at h1
  -- `hg1`: `feed`; `hg2`: `close`, on the empty rest
  have hinit : init (textOf ts) = ⟨textOf ts, posOf [], none⟩ := by simp [init, posOf, lineCol]
  have hg1 : goahead P false (init (textOf ts)) = ⟨runToks [] [] ts, ⟨[], posOf (textOf ts), none⟩, .ok⟩ := by
    simp only [goahead, hinit, h1, flush]
    simp
  have hg2 : goahead P true ⟨[], posOf (textOf ts), none⟩ = ⟨[], ⟨[], posOf (textOf ts), none⟩, .ok⟩ := by
    simp [goahead, loop, flush]
  simp only [run, hg1, hg2]
  simp

theorem run_toks (P : Params) (ts : List WTok) (hg : ∀ t ∈ ts, Good P t) :
    (run P (textOf ts)).evs = runToks [] [] ts ∧ (run P (textOf ts)).flag = .ok ∧ (run P (textOf ts)).st.s = [] :=
  run_of_loops P ts (loops_of_good P ts hg)

end BS.WriterText
