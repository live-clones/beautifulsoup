import BSModel.Model.Heap
/-! # The well-formedness invariant of the pointer heap (C01), as a nested-set witness

`WF h w`: the witness `w` assigns every node its tree (the id of its root), its pre-order position in that tree
and the size of its subtree, such that the children lists tile the parent's interval and *every* pointer field is
characterised arithmetically by positions. All tree relations (ancestor, subtree, last descendant, document-order
successor) are then linear arithmetic.

This file fixes the definitions and the *interface statements* of the two pillars (`ExtractSpec`, `LinkChildSpec`). -/
namespace BS.Heap

structure Wit where
  tree : Nat → Nat          -- id of the root of the node's tree
  pos : Nat → Nat           -- pre-order position inside that tree (root = 0)
  size : Nat → Nat          -- number of nodes of the node's subtree
  unl : Nat → Bool          -- a BeautifulSoup root that currently stands outside the element chain

/-- the children `ks` occupy consecutive intervals `[pos k, pos k + size k)` from `s` to `e` -/
def Tiles (pos size : Nat → Nat) : List Nat → Nat → Nat → Prop
  | [], s, e => s = e
  | k :: ks, s, e => pos k = s ∧ 1 ≤ size k ∧ Tiles pos size ks (s + size k) e

structure WF (h : Heap) (w : Wit) : Prop where
  size_pos : ∀ n, 1 ≤ w.size n
  size_cap : ∀ n, w.size n ≤ h.cap
  str_leaf : ∀ n, (h.kind n).isTag = false → h.kids n = []
  tiles : ∀ n, Tiles w.pos w.size (h.kids n) (w.pos n + 1) (w.pos n + w.size n)
  kid_parent : ∀ n k, k ∈ h.kids n → h.parent k = some n
  kid_tree : ∀ n k, k ∈ h.kids n → w.tree k = w.tree n
  parent_kid : ∀ c p, h.parent c = some p → c ∈ h.kids p
  root_tree : ∀ r, h.parent r = none → w.tree r = r ∧ w.pos r = 0
  tree_root : ∀ n, h.parent (w.tree n) = none
  bound : ∀ n, w.pos n + w.size n ≤ w.size (w.tree n)
  inj : ∀ a b, w.tree a = w.tree b → w.pos a = w.pos b → a = b
  laminar : ∀ a b, w.tree a = w.tree b → w.pos a ≤ w.pos b → w.pos b < w.pos a + w.size a →
      w.pos b + w.size b ≤ w.pos a + w.size a
  /-- `next_element` is the document-order successor (except out of an unlinked BeautifulSoup root) -/
  chain_ne : ∀ a b, h.ne a = some b ↔ (w.unl a = false ∧ w.tree a = w.tree b ∧ w.pos b = w.pos a + 1)
  chain_pe : ∀ a b, h.pe b = some a ↔ (w.unl a = false ∧ w.tree a = w.tree b ∧ w.pos b = w.pos a + 1)
  /-- sibling links are adjacency among the children of one parent -/
  sib_ns : ∀ a b, h.ns a = some b ↔ ((∃ p, h.parent a = some p ∧ h.parent b = some p) ∧ w.pos b = w.pos a + w.size a)
  sib_ps : ∀ a b, h.ps b = some a ↔ ((∃ p, h.parent a = some p ∧ h.parent b = some p) ∧ w.pos b = w.pos a + w.size a)
  unl_soup : ∀ r, w.unl r = true → h.kind r = .soup ∧ h.parent r = none
  soup_root : ∀ n, h.kind n = .soup → h.parent n = none
  fresh : ∀ n, h.next ≤ n → h.parent n = none ∧ h.kids n = [] ∧ w.unl n = false

/-- the fuel of a well-formed heap is never exhausted at the start: `cap ≥ size 0 ≥ 1` -/
theorem wf_cap_succ {h : Heap} {w : Wit} (hwf : WF h w) : ∃ c, h.cap = c + 1 :=
  ⟨h.cap - 1, by have := hwf.size_pos 0; have := hwf.size_cap 0; omega⟩

/-- the heap describes one consistent forest -/
def Good (h : Heap) : Prop := ∃ w, WF h w

/-- `x` lies in the subtree of `a` (ancestor-or-self), arithmetically -/
def Wit.inSub (w : Wit) (a x : Nat) : Prop :=
  w.tree x = w.tree a ∧ w.pos a ≤ w.pos x ∧ w.pos x < w.pos a + w.size a

/-- witness after cutting the subtree of `x` out of its tree: the segment `[pos x, pos x + size x)` becomes the
    tree named `x`, later positions shift down, proper ancestors shrink -/
def cutWit (w : Wit) (x : Nat) : Wit where
  tree := fun m => if w.tree m = w.tree x ∧ w.pos x ≤ w.pos m ∧ w.pos m < w.pos x + w.size x then x else w.tree m
  pos := fun m =>
    if w.tree m = w.tree x then
      if w.pos m < w.pos x then w.pos m
      else if w.pos m < w.pos x + w.size x then w.pos m - w.pos x
      else w.pos m - w.size x
    else w.pos m
  size := fun m =>
    if w.tree m = w.tree x ∧ w.pos m < w.pos x ∧ w.pos x < w.pos m + w.size m then w.size m - w.size x
    else w.size m
  unl := w.unl

/-- witness after pasting the tree rooted at `x` under `p` at pre-order position `P` of `p`'s tree
    (`P = 1`: `x` becomes the first child of a root `p`, whose `next_element` is written: an unlinked root is linked) -/
def pasteWit (w : Wit) (x p P : Nat) : Wit where
  tree := fun m => if w.tree m = x then w.tree p else w.tree m
  pos := fun m =>
    if w.tree m = x then P + w.pos m
    else if w.tree m = w.tree p ∧ P ≤ w.pos m then w.pos m + w.size x
    else w.pos m
  size := fun m =>
    if w.tree m = w.tree p ∧ w.pos m ≤ w.pos p ∧ w.pos p < w.pos m + w.size m then w.size m + w.size x
    else w.size m
  unl := fun m => w.unl m && !(P = 1 && m = p)

/-- pre-order position of slot `i` among children `ks` that start at `s` -/
def boundary (size : Nat → Nat) : List Nat → Nat → Nat → Nat
  | _, s, 0 => s
  | [], s, _ => s
  | k :: ks, s, i + 1 => boundary size ks (s + size k) i

/-- **Pillar 1** (`PageElement.extract`). On a well-formed heap `extract` never fails, yields a well-formed
    heap (cut witness), removes `x` from its parent's children and changes no other children list. -/
def ExtractSpec : Prop :=
  ∀ (h : Heap) (w : Wit) (x : Nat), WF h w →
    ∃ h', extract h x = .ok h' ∧ WF h' (cutWit w x) ∧
      (∀ n, h'.kids n = if h.parent x = some n then (h.kids n).erase x else h.kids n) ∧
      (∀ n, h'.parent n = if n = x then none else h.parent n) ∧
      h'.kind = h.kind ∧ h'.val = h.val ∧ h'.next = h.next ∧ h'.cap = h.cap

/-- **Pillar 2** (the linking part of `Tag._insert`). Linking a detached non-soup root `x` under a tag `p` that
    is not inside `x`'s tree, at a position `i ≤ len(contents)`, never fails, yields a well-formed heap (paste
    witness) whose children list of `p` has `x` at index `i`, and changes no other children list. -/
def LinkChildSpec : Prop :=
  ∀ (h : Heap) (w : Wit) (p i x : Nat), WF h w →
    h.parent x = none → h.kind x ≠ .soup → (h.kind p).isTag = true → w.tree p ≠ x → i ≤ (h.kids p).length →
    x < h.next → p < h.next →
    ∃ h', linkChild h p i x = .ok h' ∧
      WF h' (pasteWit w x p (boundary w.size (h.kids p) (w.pos p + 1) i)) ∧
      (∀ n, h'.kids n = if n = p then (h.kids p).insertIdx i x else h.kids n) ∧
      (∀ n, h'.parent n = if n = x then some p else h.parent n) ∧
      h'.kind = h.kind ∧ h'.val = h.val ∧ h'.next = h.next

end BS.Heap
