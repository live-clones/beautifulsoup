import BSModel.Proofs.HeapEffects
/-! # Copies at the pointer level: the step lemma

`alloc` of ANY kind keeps the nested-set invariant (the fresh id is an isolated one-node tree whatever its class), and
`tag.append(fresh)` — the only linking statement of `__deepcopy__` — is `linkChild` at the end of the tag's children with the paste
witness (`append_leaf_spec`); everything outside the tag's tree keeps its four sibling/element links (`append_leaf_frame`). -/
namespace BS.Heap

theorem forall_mem_ite_cons {α : Type} {c : Prop} [Decidable c] {a : α} {l : List α} {P : α → Prop}
    (ha : c → P a) (hl : ∀ e ∈ l, P e) : ∀ e ∈ (if c then a :: l else l), P e := by
  split
  · rename_i hc; exact List.forall_mem_cons.mpr ⟨ha hc, hl⟩
  · exact hl

theorem pairwise_ite_cons {α : Type} {c : Prop} [Decidable c] {a : α} {l : List α} {R : α → α → Prop}
    (ha : ∀ e ∈ l, R a e) (hl : l.Pairwise R) : (if c then a :: l else l).Pairwise R := by
  split
  · exact List.pairwise_cons.mpr ⟨ha, hl⟩
  · exact hl

theorem getElem?_snoc {α : Type} {l : List α} {d d' : α} {i : Nat} (h : (l ++ [d])[i]? = some d') :
    l[i]? = some d' ∨ (i = l.length ∧ d' = d) := by
  by_cases hlt : i < l.length
  · rw [List.getElem?_append_left hlt] at h; exact Or.inl h
  · rw [List.getElem?_append_right (Nat.le_of_not_lt hlt)] at h
    obtain ⟨hk, rfl⟩ := List.getElem?_eq_some_iff.mp h
    have : i - l.length = 0 := by simpa using hk
    exact Or.inr ⟨by omega, by simp only [this, List.getElem_cons_zero]⟩

theorem wf_leaf_root {h : Heap} {w : Wit} (hwf : WF h w) {c : Nat} (hp : h.parent c = none) (hk : h.kids c = []) :
    w.tree c = c ∧ w.pos c = 0 ∧ w.size c = 1 ∧ ∀ m, w.tree m = c → m = c := by
  have hr := hwf.root_tree c hp
  have hs := wf_leaf_size_one hwf hk
  refine ⟨hr.1, hr.2, hs, ?_⟩
  intro m hm
  have hb := hwf.bound m
  have hsm := hwf.size_pos m
  rw [hm, hs] at hb
  exact hwf.inj m c (by rw [hm, hr.1]) (by omega)

/-- `hP`: pasted at or past the end of `p`'s whole tree, so nobody is shifted and only the ancestors-or-self of `p` grow -/
theorem pasteWit_leaf {h : Heap} {w : Wit} (hwf : WF h w) {c p P : Nat} (hc : h.parent c = none) (hkc : h.kids c = [])
    (hpc : w.tree p ≠ c) (hP : w.size (w.tree p) ≤ P) :
    ((pasteWit w c p P).tree c = w.tree p ∧ (pasteWit w c p P).pos c = P ∧ (pasteWit w c p P).size c = 1) ∧
    ∀ m, m ≠ c → (pasteWit w c p P).tree m = w.tree m ∧ (pasteWit w c p P).pos m = w.pos m ∧
      (pasteWit w c p P).size m =
        if w.tree m = w.tree p ∧ w.pos m ≤ w.pos p ∧ w.pos p < w.pos m + w.size m then w.size m + 1 else w.size m := by
  obtain ⟨htc, hpc0, hsc, honly⟩ := wf_leaf_root hwf hc hkc
  constructor
  · have : ¬ (c = w.tree p ∧ 0 ≤ w.pos p ∧ w.pos p < 0 + 1) := fun e => hpc e.1.symm
    simp only [pasteWit, htc, hpc0, hsc, if_true, if_neg this, Nat.add_zero, and_self]
  · intro m hm
    have hmc : w.tree m ≠ c := fun e => hm (honly m e)
    have hlt : ¬ (w.tree m = w.tree p ∧ P ≤ w.pos m) := by
      rintro ⟨e, hle⟩
      have := wf_pos_lt hwf m
      rw [e] at this; omega
    simp only [pasteWit, if_neg hmc, if_neg hlt, hsc, and_self]

theorem pasteWit_elsewhere (w : Wit) (x p P : Nat) {a : Nat} (hax : w.tree a ≠ x) (hap : w.tree a ≠ w.tree p) (b : Nat) :
    ((pasteWit w x p P).tree b = (pasteWit w x p P).tree a ↔ w.tree b = w.tree a) ∧
    (w.tree b = w.tree a → (pasteWit w x p P).unl b = w.unl b ∧ (pasteWit w x p P).pos b = w.pos b ∧
      (pasteWit w x p P).size b = w.size b) := by
  by_cases hb : w.tree b = x
  · have hne : w.tree b ≠ w.tree a := fun e => hax (e.symm.trans hb)
    simp only [pasteWit, if_neg hax, if_pos hb]
    exact ⟨⟨fun e => absurd e.symm hap, fun e => absurd e hne⟩, fun e => absurd e hne⟩
  · simp only [pasteWit, if_neg hax, if_neg hb, true_and]
    intro e
    have hbp : w.tree b ≠ w.tree p := fun e' => hap (e.symm.trans e')
    have hbp' : b ≠ p := fun e' => hbp (by rw [e'])
    simp only [hbp, hbp', false_and, if_false, and_self, decide_false, Bool.and_false, Bool.not_false, Bool.and_true]

/-- the four links of `a` are a function of the witness on `a`'s tree and the parent fields there -/
theorem wf_links_eq {h h' : Heap} {w w' : Wit} (hwf : WF h w) (hwf' : WF h' w') {a : Nat}
    (ht : ∀ b, w'.tree b = w'.tree a ↔ w.tree b = w.tree a)
    (hv : ∀ b, w.tree b = w.tree a → w'.unl b = w.unl b ∧ w'.pos b = w.pos b ∧ w'.size b = w.size b)
    (hp : ∀ b, w.tree b = w.tree a → h'.parent b = h.parent b) :
    h'.ne a = h.ne a ∧ h'.pe a = h.pe a ∧ h'.ns a = h.ns a ∧ h'.ps a = h.ps a := by
  -- an element of another tree is no neighbour of `a`, before or after
  have same := fun b (e : w.tree b = w.tree a) => And.intro (hv b e) (And.intro (hp b e) ((ht b).mpr e))
  have other : ∀ b, ¬ w.tree b = w.tree a → ¬ w'.tree b = w'.tree a := fun b e x => e ((ht b).mp x)
  have hsib : ∀ {g : Heap} {v : Wit}, WF g v → ∀ {x y q : Nat}, g.parent x = some q → g.parent y = some q → v.tree x = v.tree y :=
    fun hg _ _ _ hx hy => (wf_parent_pos hg hx).1.trans (wf_parent_pos hg hy).1.symm
  refine ⟨Option.ext fun b => ?_, Option.ext fun b => ?_, Option.ext fun b => ?_, Option.ext fun b => ?_⟩
  · rw [hwf'.chain_ne, hwf.chain_ne]
    by_cases e : w.tree b = w.tree a
    · simp only [same a rfl, same b e, e]
    · exact ⟨fun x => absurd x.2.1.symm (other b e), fun x => absurd x.2.1.symm e⟩
  · rw [hwf'.chain_pe, hwf.chain_pe]
    by_cases e : w.tree b = w.tree a
    · simp only [same a rfl, same b e, e]
    · exact ⟨fun x => absurd x.2.1 (other b e), fun x => absurd x.2.1 e⟩
  · rw [hwf'.sib_ns, hwf.sib_ns]
    by_cases e : w.tree b = w.tree a
    · simp only [same a rfl, same b e]
    · exact ⟨fun ⟨⟨_, x, y⟩, _⟩ => absurd (hsib hwf' y x) (other b e), fun ⟨⟨_, x, y⟩, _⟩ => absurd (hsib hwf y x) e⟩
  · rw [hwf'.sib_ps, hwf.sib_ps]
    by_cases e : w.tree b = w.tree a
    · simp only [same a rfl, same b e]
    · exact ⟨fun ⟨⟨_, x, y⟩, _⟩ => absurd (hsib hwf' x y) (other b e), fun ⟨⟨_, x, y⟩, _⟩ => absurd (hsib hwf x y) e⟩

/-- `p.append(c)` for a parentless non-BeautifulSoup `c`, read off the call chain `append → insert → _insert`: it IS the linking
    part of `_insert` at the end of `p`'s children, and the guards that let it return say `c ≠ p`, `p` is a tag, and both are
    allocated -/
theorem append_root_is_linkChild {h h' : Heap} {p c : Nat} (hc : h.parent c = none) (hks : h.kind c ≠ .soup)
    (hs : step h (.append p (.node c)) = .ok h') :
    (h.kind p).isTag = true ∧ c ≠ p ∧ c < h.next ∧ p < h.next ∧
    linkChild h p (h.kids p).length c = .ok h' := by
  have happ : (if (h.kind p).isTag then append h p (.node c) else .error .crash) = .ok h' := hs
  by_cases hp : (h.kind p).isTag = true
  case neg => rw [if_neg hp] at happ; cases happ
  rw [if_pos hp] at happ
  have hcore := append_insertCore hks happ
  rw [insertCore_root hc, Nat.min_self] at hcore
  by_cases hcp : c = p
  case pos => rw [if_pos hcp] at hcore; cases hcore
  rw [if_neg hcp] at hcore
  by_cases hguard : isAnc h c h.cap p = true ∨ h.next ≤ c ∨ h.next ≤ p
  case pos => rw [if_pos hguard] at hcore; cases hcore
  rw [if_neg hguard] at hcore
  simp only [not_or, Nat.not_le, Bool.not_eq_true] at hguard
  exact ⟨hp, hcp, hguard.2.1, hguard.2.2, hcore⟩

/-- **the step of the copy loop.** Appending a parentless leaf `c` (not a BeautifulSoup object) to `p`: the paste witness with `c` at
    the very end of `p`'s interval; `c` becomes the last child of `p`; no other children list, no other parent field, no class, no text
    and not the allocation counter change; with the guards that let the call return -/
theorem append_leaf_spec {h h' : Heap} {w : Wit} {p c : Nat} (hwf : WF h w) (hc : h.parent c = none) (hkc : h.kids c = [])
    (hks : h.kind c ≠ .soup) (hs : step h (.append p (.node c)) = .ok h') :
    WF h' (pasteWit w c p (w.pos p + w.size p)) ∧ w.tree p ≠ c ∧ (h.kind p).isTag = true ∧ p < h.next ∧ c < h.next ∧
    (∀ n, h'.kids n = if n = p then h.kids p ++ [c] else h.kids n) ∧
    (∀ n, h'.parent n = if n = c then some p else h.parent n) ∧
    h'.kind = h.kind ∧ h'.val = h.val ∧ h'.next = h.next := by
  obtain ⟨hp, hcp, hcn, hpn, hl⟩ := append_root_is_linkChild hc hks hs
  -- `c` is alone in its tree
  have htree : w.tree p ≠ c := fun e => hcp ((wf_leaf_root hwf hc hkc).2.2.2 p e).symm
  obtain ⟨h2, h2e, hwf2, hk2, hp2, hkind, hval, hnext⟩ :=
    linkChild_spec h w p (h.kids p).length c hwf hc hks hp htree (Nat.le_refl _) hcn hpn
  rw [h2e] at hl; cases hl
  have hb := (boundary_spec w.pos w.size (h.kids p) (w.pos p + 1) (w.pos p + w.size p) (h.kids p).length (hwf.tiles p)
    (Nat.le_refl _)).2.1 rfl
  rw [hb] at hwf2
  exact ⟨hwf2, htree, hp, hpn, hcn, fun n => by rw [hk2 n, List.insertIdx_length_self], hp2, hkind, hval, hnext⟩

/-- **frame of the step**: an element `a` outside `p`'s tree (and other than `c`) keeps all four sibling/element links (its parent and
    children are in `append_leaf_spec`'s closed forms) -/
theorem append_leaf_frame {h h' : Heap} {w : Wit} {p c : Nat} {P : Nat} (hwf : WF h w) (hwf' : WF h' (pasteWit w c p P))
    (hc : h.parent c = none) (hkc : h.kids c = [])
    (hpar : ∀ n, h'.parent n = if n = c then some p else h.parent n)
    {a : Nat} (hat : w.tree a ≠ w.tree p) (hac : a ≠ c) :
    h'.ne a = h.ne a ∧ h'.pe a = h.pe a ∧ h'.ns a = h.ns a ∧ h'.ps a = h.ps a := by
  obtain ⟨htc, _, _, honly⟩ := wf_leaf_root hwf hc hkc
  have hta : w.tree a ≠ c := fun e => hac (honly a e)
  refine wf_links_eq hwf hwf' (fun b => (pasteWit_elsewhere w c p P hta hat b).1)
    (fun b => (pasteWit_elsewhere w c p P hta hat b).2) (fun b e => ?_)
  rw [hpar, if_neg (fun e' => hta (by rw [← e, e', htc]))]

end BS.Heap
