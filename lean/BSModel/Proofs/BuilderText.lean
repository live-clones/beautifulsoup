import BSModel.Proofs.BuilderRefine
/-! # C03: what a flush appends (`sFlush_eq`); re-chunking pending text is invisible (`SameText`) -/
namespace BS.Builder

/-- the value rule: whitespace-only text outside whitespace-preserving elements collapses -/
def wsVal (cfg : Cfg) (pres : Bool) (s : PStr) : PStr :=
  if !pres && s.all (fun c => cfg.asciiSpaces.contains c) then (if s.contains 10 then [10] else [32]) else s

/-- the class rule on the names of the enclosing open elements (innermost first) -/
def classN (cfg : Cfg) (ctx : List Name) (base : Option Cls) : Cls :=
  if base.getD 0 = 0 then
    ((ctx.find? (fun n => (cfg.container n).isSome)).bind cfg.container).getD 0
  else base.getD 0

/-- what a flush of pending chunks `b` appends when the enclosing open elements are named `ctx` -/
def txtN (cfg : Cfg) (ctx : List Name) (b : List PStr) (cls : Option Cls) : List Doc :=
  match b with
  | [] => []
  | _ :: _ => [Doc.text (classN cfg ctx cls) (wsVal cfg (ctx.any cfg.preserve) b.flatten)]

theorem preserving_names (cfg : Cfg) (s : List Frame) :
    preserving cfg s = (s.map (·.name)).any cfg.preserve := by
  simp [preserving, List.any_map, Function.comp_def]

theorem nearest_names (cfg : Cfg) (s : List Frame) :
    nearest cfg s = ((s.map (·.name)).find? (fun n => (cfg.container n).isSome)).bind cfg.container := by
  simp [nearest, List.find?_map, Option.bind_map, Function.comp_def]

theorem classFor_names (cfg : Cfg) (s : List Frame) (base : Option Cls) :
    classFor cfg s base = classN cfg (s.map (·.name)) base := by
  rw [classFor_eq, nearest_names]; rfl

theorem sFlush_eq (cfg : Cfg) (top : Frame) (rest : List Frame) (b : List PStr) (cls : Option Cls) :
    sFlush cfg ⟨top :: rest, b⟩ cls =
      ⟨{ top with kids := top.kids ++ txtN cfg ((top :: rest).map (·.name)) b cls } :: rest, []⟩ := by
  cases b with
  | nil => simp [sFlush, txtN]
  | cons x xs =>
    simp only [sFlush, txtN, classFor_names, preserving_names, wsVal]

theorem nearest_of_split (cfg : Cfg) (pre : List Frame) (f : Frame) (post : List Frame) (k : Cls)
    (hpre : ∀ g ∈ pre, cfg.container g.name = none) (hf : cfg.container f.name = some k) :
    nearest cfg (pre ++ f :: post) = some k := by
  have : pre.find? (fun f => (cfg.container f.name).isSome) = none :=
    List.find?_eq_none.mpr fun x hx => by simp [hpre x hx]
  simp [nearest, List.find?_append, this, hf]

theorem nearest_none (cfg : Cfg) (s : List Frame) (h : ∀ g ∈ s, cfg.container g.name = none) :
    nearest cfg s = none := by
  have : s.find? (fun f => (cfg.container f.name).isSome) = none := by
    rw [List.find?_eq_none]; intro x hx; simp [h x hx]
  simp [nearest, this]

theorem preserving_eq_false {cfg : Cfg} {s : List Frame} (h : ∀ g ∈ s, cfg.preserve g.name = false) :
    preserving cfg s = false := by
  simp only [preserving, List.any_eq_false]
  intro g hg; simp [h g hg]

theorem wsVal_keep (cfg : Cfg) (pres : Bool) (s : PStr)
    (h : pres = true ∨ ¬ (∀ c ∈ s, c ∈ cfg.asciiSpaces)) : wsVal cfg pres s = s := by
  unfold wsVal
  rcases h with h | h
  · simp [h]
  · have : s.all (fun c => cfg.asciiSpaces.contains c) = false := by
      cases hb : s.all (fun c => cfg.asciiSpaces.contains c) with
      | false => rfl
      | true => exact absurd (by simpa using hb) h
    simp only [this, Bool.and_false, Bool.false_eq_true, if_false]

theorem wsVal_collapse (cfg : Cfg) (s : PStr) (h : ∀ c ∈ s, c ∈ cfg.asciiSpaces) :
    wsVal cfg false s = if 10 ∈ s then [10] else [32] := by
  have : s.all (fun c => cfg.asciiSpaces.contains c) = true := by simpa using h
  simp only [wsVal, this, Bool.not_false, Bool.and_self, if_true, List.contains_iff_mem]

/-- two spec states that differ only in how the pending text is cut into chunks (`[[]]` flushes a space, `[]` nothing) -/
def SameText (s1 s2 : SSt) : Prop :=
  s1.stack = s2.stack ∧ s1.buf.flatten = s2.buf.flatten ∧ (s1.buf = [] ↔ s2.buf = [])

theorem SameText.refl (s : SSt) : SameText s s := ⟨rfl, rfl, Iff.rfl⟩

theorem sFlush_sameText {cfg : Cfg} {s1 s2 : SSt} (h : SameText s1 s2) (cls : Option Cls) :
    sFlush cfg s1 cls = sFlush cfg s2 cls := by
  obtain ⟨st1, b1⟩ := s1
  obtain ⟨st2, b2⟩ := s2
  obtain ⟨hstack, hflat, hnil⟩ := h
  simp only at hstack hflat hnil
  subst hstack
  cases b1 with
  | nil =>
    have : b2 = [] := hnil.mp rfl
    subst this; rfl
  | cons x xs =>
    cases b2 with
    | nil => simp at hnil
    | cons y ys =>
      cases st1 with
      | nil => rfl
      | cons top rest => simp only [sFlush, hflat]

theorem sStep_sameText {cfg : Cfg} {s1 s2 : SSt} (h : SameText s1 s2) (ev : Ev) :
    SameText (sStep cfg s1 ev) (sStep cfg s2 ev) := by
  cases ev with
  | data s =>
    obtain ⟨hstack, hflat, _⟩ := h
    exact ⟨hstack, by simp [sStep, hflat], by simp [sStep]⟩
  -- every other event flushes first: the states are then equal
  | _ => simp only [sStep, sFlush_sameText h]; exact SameText.refl _

theorem sRun_sameText {cfg : Cfg} (evs : List Ev) : ∀ {s1 s2 : SSt}, SameText s1 s2 →
    SameText (sRun cfg s1 evs) (sRun cfg s2 evs) := by
  induction evs with
  | nil => intro _ _ h; exact h
  | cons e es ih => intro _ _ h; exact ih (sStep_sameText h e)

theorem sRun_append (cfg : Cfg) (s : SSt) (a b : List Ev) : sRun cfg s (a ++ b) = sRun cfg (sRun cfg s a) b := by
  simp [sRun, List.foldl_append]

theorem buildSpec_chunking (cfg : Cfg) (pre post : List Ev) (a b : PStr) :
    buildSpec cfg (pre ++ [.data a, .data b] ++ post) = buildSpec cfg (pre ++ [.data (a ++ b)] ++ post) := by
  have key : ∀ s : SSt, SameText (sRun cfg s [.data a, .data b]) (sRun cfg s [.data (a ++ b)]) := by
    intro s
    exact ⟨rfl, by simp [sRun, sStep], by simp [sRun, sStep]⟩
  have h := sRun_sameText (cfg := cfg) post (key (sRun cfg ⟨[⟨cfg.rootName, none, []⟩], []⟩ pre))
  simp only [buildSpec, sRun_append, sFlush_sameText h]

end BS.Builder
