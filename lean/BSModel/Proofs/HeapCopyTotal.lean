import BSModel.Proofs.HeapCopySpec
/-! # One iteration of the copy loop returns (`copy_total` itself stands in `HeapCopyIso`)

`tag.append(fresh leaf)` passes every guard of `append → insert → _insert` (`append_leaf_total`), the clone on top of the stack is always
a tag (`TInv`), hence every iteration of the loop returns. -/
namespace BS.Heap

theorem append_leaf_total {h : Heap} {w : Wit} {p c : Nat} (hwf : WF h w) (hc : h.parent c = none) (hkc : h.kids c = [])
    (hks : h.kind c ≠ .soup) (hp : (h.kind p).isTag = true) (hcp : c ≠ p) (hcn : c < h.next) (hpn : p < h.next) :
    ∃ h', step h (.append p (.node c)) = .ok h' := by
  have hnk : ∀ k, h.parent k ≠ some c := by
    intro k hk
    have := hwf.parent_kid k c hk
    rw [hkc] at this; cases this
  obtain ⟨h2, hi, _⟩ := insert_root_total (i := (h.kids p).length) hks hc hcp hnk hcn hpn
  exact ⟨h2, by simp [step, hp, append, hi]⟩

/-- the clones a clone can be appended to are tags: the root clone and every open clone -/
structure TInv (N0 : Nat) (h : Heap) (st : List (Nat × Nat)) : Prop where
  root : (h.kind N0).isTag = true
  open_ : ∀ e ∈ st, (h.kind e.2).isTag = true

theorem copyStep_total {h0 : Heap} {N0 : Nat} {h : Heap} {w : Wit} {st : List (Nat × Nat)} {srcs : List Nat} {d : Nat}
    (inv : CInv h0 N0 h w st srcs) (tinv : TInv N0 h st) (hd : d < N0) (hds : h0.kind d ≠ .soup) :
    ∃ h2 st2, copyStep h N0 st d = .ok (h2, st2) ∧ TInv N0 h2 st2 := by
  obtain ⟨st1, hst1⟩ : ∃ st1, popClosed (h.parent d) st = st1 := ⟨_, rfl⟩
  obtain ⟨p, hp⟩ : ∃ p, topClone N0 st1 = p := ⟨_, rfl⟩
  have hsuf : st1 <:+ st := hst1 ▸ popClosed_suffix _ _
  have hkd : h.kind d = h0.kind d := (inv.kind_val hd).1
  have hlt := inv.lt
  obtain ⟨_, hpn, _, _⟩ := inv.top hsuf hp
  have hpk : (h.kind p).isTag = true := by
    rw [← hp]
    cases st1 with
    | nil => exact tinv.root
    | cons e tl => exact tinv.open_ e (hsuf.subset List.mem_cons_self)
  have hf := inv.wf.fresh h.next (Nat.le_refl _)
  have hpne : p ≠ h.next := Nat.ne_of_lt hpn
  obtain ⟨h2, hap⟩ := append_leaf_total (p := p) (c := h.next) (alloc_wf_any inv.wf (h.kind d) (h.val d)) hf.1 hf.2.1
    (fun e => hds (hkd ▸ (if_pos rfl).symm.trans e)) ((congrArg Kind.isTag (if_neg hpne)).trans hpk) hpne.symm (Nat.lt_succ_self _)
    (Nat.lt_succ_of_lt hpn)
  have hs : copyStep h N0 st d = .ok (h2, if (h.kind d).isTag then (d, h.next) :: st1 else st1) := by
    simp only [copyStep, hst1, hp, hap]
  have hkind := (copyStep_spec inv.wf (hkd ▸ hds) hs hst1 hp).kind
  have hkeep : ∀ n, n < h.next → (h.kind n).isTag = true → (h2.kind n).isTag = true := fun n hn ht => by
    rw [hkind, if_neg (Nat.ne_of_lt hn)]; exact ht
  refine ⟨h2, _, hs, hkeep N0 hlt tinv.root, forall_mem_ite_cons (fun htag => ?_) fun e he => ?_⟩
  · show (h2.kind h.next).isTag = true
    rw [hkind, if_pos rfl]; exact htag
  · exact hkeep _ (inv.stack e (hsuf.subset he)).2.1 (tinv.open_ e (hsuf.subset he))

end BS.Heap
