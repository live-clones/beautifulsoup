import BSModel.Model.Detwingle
/-! UTF-8 once, for every decoder of the model (`encodeUtf8`, `decodeUtf8`, `IsScalar` are C19's, `Model/Detwingle.lean`).
    `Enc c bs` lists the well-formed sequences (Unicode Table 3-7) and is the graph of `encodeUtf8` on scalar values. A
    decoder that reads one `Enc` sequence in front of anything (`Enc.decode`; `Enc.utf8Go` in `Proofs/EncodingOutUtf.lean`
    for C08's automaton) reads back every encoded string (`flatMap_roundTrip`). -/
namespace BS

theorem flatMap_roundTrip (encC : Nat → List Nat) (dec : List Nat → Option (List Nat)) (ok : Nat → Prop)
    (h0 : dec [] = some []) (h1 : ∀ c rest, ok c → dec (encC c ++ rest) = (dec rest).map (c :: ·)) :
    ∀ s, (∀ c ∈ s, ok c) → dec (s.flatMap encC) = some s := by
  intro s hs
  induction s with
  | nil => exact h0
  | cons c cs ih =>
    rw [List.flatMap_cons, h1 c _ (hs c (by simp)), ih (fun x hx => hs x (by simp [hx]))]
    rfl

end BS
namespace BS.Detwingle
open BS

theorem isCont_iff (b : Nat) : isCont b = true ↔ 128 ≤ b ∧ b ≤ 191 := by
  unfold isCont; simp

theorem cont_digit {b : Nat} (h : isCont b = true) : ∃ d, d < 64 ∧ b = 0x80 + d :=
  ⟨b - 0x80, by rw [isCont_iff] at h; omega, by rw [isCont_iff] at h; omega⟩

theorem isCont_digit (l : Nat) (h : l < 64) : isCont (0x80 + l) = true := (isCont_iff _).mpr (by omega)

theorem digit (x l : Nat) (h : l < 64) : (x * 64 + l) / 64 = x ∧ (x * 64 + l) % 64 = l := by omega

theorem split64 (c : Nat) : ∃ x l, l < 64 ∧ c = x * 64 + l :=
  ⟨c / 64, c % 64, Nat.mod_lt _ (by decide), (Nat.div_add_mod' c 64).symm⟩

/-- `bs` is a well-formed UTF-8 sequence for the value `c`: the rows of Unicode Table 3-7 over the payload `a` of the lead
    byte and the 6-bit payloads `k m l` of the continuation bytes (second-byte ranges narrowed after E0, ED, F0, F4). -/
inductive Enc : Nat → Bytes → Prop
  | one (c : Nat) : c < 0x80 → Enc c [c]
  | two (a l : Nat) : 2 ≤ a → a < 32 → l < 64 → Enc (a * 64 + l) [0xC0 + a, 0x80 + l]
  | three (a m l : Nat) : a < 16 → m < 64 → l < 64 → (a = 0 → 32 ≤ m) → (a = 13 → m < 32) →
      Enc ((a * 64 + m) * 64 + l) [0xE0 + a, 0x80 + m, 0x80 + l]
  | four (a k m l : Nat) : a < 5 → k < 64 → m < 64 → l < 64 → (a = 0 → 16 ≤ k) → (a = 4 → k < 16) →
      Enc (((a * 64 + k) * 64 + m) * 64 + l) [0xF0 + a, 0x80 + k, 0x80 + m, 0x80 + l]

theorem rng2 {a l : Nat} (ha : 2 ≤ a) (ha' : a < 32) (hl : l < 64) : 0x80 ≤ a * 64 + l ∧ a * 64 + l < 0x800 := by omega

theorem rng3 {a m l : Nat} (ha : a < 16) (hm : m < 64) (hl : l < 64) (lo : a = 0 → 32 ≤ m) :
    0x800 ≤ (a * 64 + m) * 64 + l ∧ (a * 64 + m) * 64 + l < 0x10000 := by omega

theorem rng4 {a k m l : Nat} (lo : a = 0 → 16 ≤ k) : 0x10000 ≤ ((a * 64 + k) * 64 + m) * 64 + l := by omega

theorem enc2 {c : Nat} (h : 0x80 ≤ c ∧ c < 0x800) : encodeUtf8 c = [0xC0 + c / 64, 0x80 + c % 64] := by
  rw [encodeUtf8, if_neg (by omega), if_pos h.2]

/-- with `c / 64 / 64` for `c / 4096`, so that `digit` peels one digit per rewrite -/
theorem enc3 {c : Nat} (h : 0x800 ≤ c ∧ c < 0x10000) :
    encodeUtf8 c = [0xE0 + c / 64 / 64, 0x80 + c / 64 % 64, 0x80 + c % 64] := by
  rw [encodeUtf8, if_neg (by omega), if_neg (by omega), if_pos h.2, show c / 4096 = c / 64 / 64 from (Nat.div_div_eq_div_mul c 64 64).symm]

theorem enc4 {c : Nat} (h : 0x10000 ≤ c) :
    encodeUtf8 c = [0xF0 + c / 64 / 64 / 64, 0x80 + c / 64 / 64 % 64, 0x80 + c / 64 % 64, 0x80 + c % 64] := by
  rw [encodeUtf8, if_neg (by omega), if_neg (by omega), if_neg (by omega),
    show c / 262144 = c / 64 / 64 / 64 from ((Nat.div_div_eq_div_mul _ 64 64).trans (Nat.div_div_eq_div_mul c 64 4096)).symm,
    show c / 4096 = c / 64 / 64 from (Nat.div_div_eq_div_mul c 64 64).symm]

theorem Enc.encode {c : Nat} {bs : Bytes} (h : Enc c bs) : encodeUtf8 c = bs := by
  cases h with
  | one c h => rw [encodeUtf8, if_pos h]
  | two a l ha ha' hl => rw [enc2 (rng2 ha ha' hl), (digit a l hl).1, (digit a l hl).2]
  | three a m l ha hm hl lo hi =>
    rw [enc3 (rng3 ha hm hl lo), (digit _ l hl).1, (digit _ l hl).2, (digit a m hm).1, (digit a m hm).2]
  | four a k m l ha hk hm hl lo hi =>
    rw [enc4 (rng4 lo), (digit _ l hl).1, (digit _ l hl).2, (digit _ m hm).1, (digit _ m hm).2, (digit a k hk).1,
      (digit a k hk).2]

theorem Enc.of_scalar {c : Nat} (h : IsScalar c) : Enc c (encodeUtf8 c) := by
  suffices ∃ bs, Enc c bs by obtain ⟨bs, h⟩ := this; rwa [h.encode]
  unfold IsScalar at h
  by_cases h1 : c < 0x80
  · exact ⟨_, .one c h1⟩
  obtain ⟨c, l, hl, rfl⟩ := split64 c
  by_cases h2 : c < 32
  · exact ⟨_, .two c l (by omega) h2 hl⟩
  obtain ⟨c, m, hm, rfl⟩ := split64 c
  by_cases h3 : c < 16
  · exact ⟨_, .three c m l h3 hm hl (by omega) (by omega)⟩
  obtain ⟨c, k, hk, rfl⟩ := split64 c
  exact ⟨_, .four c k m l (by omega) hk hm hl (by omega) (by omega)⟩

theorem Enc.scalar {c : Nat} {bs : Bytes} (h : Enc c bs) : IsScalar c := by
  cases h with
  | one c h => exact .inl (Nat.lt_trans h (by decide))
  | two a l ha ha' hl => exact .inl (Nat.lt_trans (rng2 ha ha' hl).2 (by decide))
  | three a m l ha hm hl lo hi => unfold IsScalar; omega  -- `hi`: the ED row stops below D800
  | four a k m l ha hk hm hl lo hi => exact .inr ⟨Nat.le_trans (by decide) (rng4 lo), by omega⟩  -- `hi`: ≤ 10FFFF

/-! ### the strict decoder reads every sequence -/

/-- `decodeUtf8`'s guards are `decide p && decide q` -/
theorem guard_pos {p q : Prop} [Decidable p] [Decidable q] (hp : p) (hq : q) : (decide p && decide q) = true := by
  rw [decide_eq_true hp, decide_eq_true hq]; rfl

theorem guard_neg {p q : Prop} [Decidable p] [Decidable q] (h : ¬ (p ∧ q)) : ¬ (decide p && decide q) = true := by
  rwa [Bool.and_eq_true, decide_eq_true_eq, decide_eq_true_eq]

theorem Enc.decode {c : Nat} {bs : Bytes} (h : Enc c bs) (r : Bytes) :
    decodeUtf8 (bs ++ r) = (decodeUtf8 r).map (c :: ·) := by
  cases h with
  | one c h => rw [List.singleton_append, decodeUtf8.eq_def]; dsimp only; rw [if_pos h]
  | two a l ha ha' hl =>
    rw [List.cons_append, List.cons_append, List.nil_append, decodeUtf8, if_neg (by omega),
      if_pos (guard_pos (by omega) (by omega)), if_pos (isCont_digit l hl), Nat.add_sub_cancel_left, Nat.add_sub_cancel_left]
  | three a m l ha hm hl lo hi =>
    rw [List.cons_append, List.cons_append, List.cons_append, List.nil_append, decodeUtf8, if_neg (by omega),
      if_neg (guard_neg (by omega)), if_pos (guard_pos (by omega) (by omega))]
    dsimp only
    -- `split`: the decoder's second-byte bounds are `lo`, `hi`; `Nat.add_mul, Nat.mul_assoc`: 4096 = 64 * 64
    rw [isCont_digit l hl, Bool.and_true, if_pos (guard_pos (by split <;> omega) (by split <;> omega)),
      Nat.add_sub_cancel_left, Nat.add_sub_cancel_left, Nat.add_sub_cancel_left,
      Nat.add_mul, Nat.mul_assoc]
  | four a k m l ha hk hm hl lo hi =>
    rw [List.cons_append, List.cons_append, List.cons_append, List.cons_append, List.nil_append, decodeUtf8,
      if_neg (by omega), if_neg (guard_neg (by omega)), if_neg (guard_neg (by omega)), if_pos (guard_pos (by omega) (by omega))]
    dsimp only
    rw [isCont_digit l hl, isCont_digit m hm, Bool.and_true, Bool.and_true, if_pos (guard_pos (by split <;> omega) (by split <;> omega)),
      Nat.add_sub_cancel_left, Nat.add_sub_cancel_left, Nat.add_sub_cancel_left, Nat.add_sub_cancel_left,
      Nat.add_mul, Nat.add_mul, Nat.add_mul, Nat.mul_assoc, Nat.mul_assoc, Nat.mul_assoc]

theorem decodeUtf8_encode (ch : Nat) (h : IsScalar ch) (r : Bytes) :
    decodeUtf8 (encodeUtf8 ch ++ r) = (decodeUtf8 r).map (ch :: ·) :=
  (Enc.of_scalar h).decode r

theorem decodeUtf8_utf8 (s : PStr) (h : ∀ c ∈ s, IsScalar c) : decodeUtf8 (utf8 s) = some s :=
  flatMap_roundTrip encodeUtf8 decodeUtf8 IsScalar (by rw [decodeUtf8]) (fun c r hc => decodeUtf8_encode c hc r) s h

/-! ### and accepts nothing else -/

theorem sound_step {pre r : Bytes} {c : Nat} {s : PStr} (he : Enc c pre)
    (ih : ∀ s', decodeUtf8 r = some s' → r = utf8 s' ∧ ∀ x ∈ s', IsScalar x)
    (h : (decodeUtf8 r).map (c :: ·) = some s) : pre ++ r = utf8 s ∧ ∀ x ∈ s, IsScalar x := by
  obtain ⟨s', hd, rfl⟩ := Option.map_eq_some_iff.mp h
  obtain ⟨h1, h2⟩ := ih s' hd
  exact ⟨by rw [h1]; simp [utf8, he.encode], List.forall_mem_cons.mpr ⟨he.scalar, h2⟩⟩

theorem decodeUtf8_sound (bs : Bytes) (s : PStr) (h : decodeUtf8 bs = some s) :
    bs = utf8 s ∧ ∀ c ∈ s, IsScalar c := by
  fun_induction decodeUtf8 bs generalizing s with
  | case1 => simp at h; subst h; simp [utf8]
  | case2 b0 rest hb ih => exact sound_step (.one b0 hb) ih h
  | case3 b0 hn hb b1 r hc ih =>  -- two bytes
    simp only [Bool.and_eq_true, decide_eq_true_eq] at hb
    obtain ⟨a, rfl⟩ := Nat.exists_eq_add_of_le (Nat.le_trans (by decide : 0xC0 ≤ 0xC2) hb.1)
    obtain ⟨l, hl, rfl⟩ := cont_digit hc
    rw [Nat.add_sub_cancel_left, Nat.add_sub_cancel_left] at h
    exact sound_step (.two a l (by omega) (by omega) hl) ih h
  | case6 b0 hn hn2 hb b1 b2 r hc ih =>  -- three bytes
    simp only [Bool.and_eq_true, decide_eq_true_eq] at hb hc
    obtain ⟨⟨lo, hi⟩, h2⟩ := hc
    obtain ⟨a, rfl⟩ := Nat.exists_eq_add_of_le hb.1
    obtain ⟨m, hm, rfl⟩ := cont_digit ((isCont_iff b1).mpr
      ⟨Nat.le_trans (by split <;> decide) lo, Nat.le_trans hi (by split <;> decide)⟩)
    obtain ⟨l, hl, rfl⟩ := cont_digit h2
    rw [Nat.add_sub_cancel_left, Nat.add_sub_cancel_left, Nat.add_sub_cancel_left] at h
    have he := Enc.three a m l (by omega) hm hl (by intro h; rw [h, if_pos rfl] at lo; omega)
      (by intro h; rw [h, if_pos rfl] at hi; omega)
    rw [Nat.add_mul, Nat.mul_assoc] at he
    exact sound_step he ih h
  | case9 b0 hn hn2 hn3 hb b1 b2 b3 r hc ih =>  -- four bytes
    simp only [Bool.and_eq_true, decide_eq_true_eq] at hb hc
    obtain ⟨⟨⟨lo, hi⟩, h2⟩, h3⟩ := hc
    obtain ⟨a, rfl⟩ := Nat.exists_eq_add_of_le hb.1
    obtain ⟨k, hk, rfl⟩ := cont_digit ((isCont_iff b1).mpr
      ⟨Nat.le_trans (by split <;> decide) lo, Nat.le_trans hi (by split <;> decide)⟩)
    obtain ⟨m, hm, rfl⟩ := cont_digit h2
    obtain ⟨l, hl, rfl⟩ := cont_digit h3
    rw [Nat.add_sub_cancel_left, Nat.add_sub_cancel_left, Nat.add_sub_cancel_left, Nat.add_sub_cancel_left] at h
    have he := Enc.four a k m l (by omega) hk hm hl (by intro h; rw [h, if_pos rfl] at lo; omega)
      (by intro h; rw [h, if_pos rfl] at hi; omega)
    rw [Nat.add_mul, Nat.add_mul, Nat.add_mul, Nat.mul_assoc, Nat.mul_assoc, Nat.mul_assoc] at he
    exact sound_step he ih h
  | case4 | case5 | case7 | case8 | case10 | case11 | case12 => simp at h

/-! ### the lead byte announces the length (what `detwingle`'s scan goes by) -/

/-- Number of bytes the UTF-8 lead byte `b` announces (0: no lead byte): what `MULTIBYTE_MARKERS_AND_SIZES` should hold. -/
def stdSize (b : Nat) : Nat :=
  if 0xC2 ≤ b ∧ b ≤ 0xDF then 2 else if 0xE0 ≤ b ∧ b ≤ 0xEF then 3 else if 0xF0 ≤ b ∧ b ≤ 0xF4 then 4 else 0

theorem stdSize_lead2 : ∀ a < 32, 2 ≤ a → 0xC2 ≤ 0xC0 + a ∧ 0xC0 + a ≤ 0xF4 ∧ stdSize (0xC0 + a) = 2 := by decide

theorem stdSize_lead3 : ∀ a < 16, 0xC2 ≤ 0xE0 + a ∧ 0xE0 + a ≤ 0xF4 ∧ stdSize (0xE0 + a) = 3 := by decide

theorem stdSize_lead4 : ∀ a < 5, 0xC2 ≤ 0xF0 + a ∧ 0xF0 + a ≤ 0xF4 ∧ stdSize (0xF0 + a) = 4 := by decide

theorem Enc.lead {c : Nat} {bs : Bytes} (h : Enc c bs) :
    (c < 0x80 ∧ bs = [c]) ∨ ∃ b tl, bs = b :: tl ∧ 0xC2 ≤ b ∧ b ≤ 0xF4 ∧ stdSize b = tl.length + 1 := by
  cases h with
  | one c h => exact .inl ⟨h, rfl⟩
  | two a l ha ha' => exact .inr ⟨_, _, rfl, stdSize_lead2 a ha' ha⟩
  | three a m l ha => exact .inr ⟨_, _, rfl, stdSize_lead3 a ha⟩
  | four a k m l ha => exact .inr ⟨_, _, rfl, stdSize_lead4 a ha⟩

end BS.Detwingle
