import BSModel.Proofs.HeapDecompose
import BSModel.Proofs.HeapContig
/-! # C02: the exact effect of `decompose()` and of `clear(decompose=True)` on the forest

`decompose()` = `extract()` + the wipe-out loop. In forest terms (children lists, parent fields): the element leaves its
parent's children list; every element of its subtree — the pre-order walk from it before the call — ends up destroyed:
the model's mark for "destroyed" is the state of an isolated one-node tree (no parent, no children, all four sibling /
element links `none`); nothing else changes. `clear(decompose=True)` does this to every child in turn. Core Lean only. -/
namespace BS.Heap

/-- the state the wipe-out loop leaves an element in -/
def Isolated (h : Heap) (m : Nat) : Prop :=
  h.parent m = none ∧ h.ps m = none ∧ h.ns m = none ∧ h.pe m = none ∧ h.ne m = none ∧ h.kids m = []

theorem good_isolated {h : Heap} (hg : Good h) {m : Nat} (hp : h.parent m = none) (hk : h.kids m = []) :
    Isolated h m := by
  obtain ⟨w, hwf⟩ := hg
  obtain ⟨h3, -, h1, h2⟩ := root_links hwf hp
  have hrt := hwf.root_tree m hp
  -- in a one-node tree the element is the last
  exact ⟨hp, h1, h2, h3, ne_last hwf (by rw [hrt.1, hrt.2, wf_leaf_size_one hwf hk]), hk⟩

theorem decompose_effect {h h' : Heap} {x : Nat} (hg : Good2 h) (hd : decompose h x = .ok h') :
    Good2 h' ∧
    (∀ m, m ∈ docOrder h x → Isolated h' m) ∧
    (∀ m, m ∉ docOrder h x →
      h'.parent m = h.parent m ∧ h'.kids m = if h.parent x = some m then (h.kids m).erase x else h.kids m) ∧
    h'.kind = h.kind ∧ h'.val = h.val ∧ h'.next = h.next ∧ h'.cap = h.cap := by
  obtain ⟨w, hwf⟩ := hg.1
  obtain ⟨h1, w1, he, hwf1, _, hkind, hval, hnext, hW, hmem⟩ := decompose_wiped hwf hd
  obtain ⟨h1', he', _, hk1, hp1, _, _, _, hcap1⟩ := extract_spec h w x hwf
  rw [he] at he'; cases he'
  refine ⟨(decompose_good2 hg hd).1, ?_, ?_, hW.kind.trans hkind, hW.val.trans hval, hW.next.trans hnext,
    hW.cap.trans hcap1⟩
  · intro m hm
    exact hW.inside ((hmem m).mpr hm)
  · intro m hm
    have hmx : m ≠ x := fun e => hm (e ▸ docOrder_self_mem h x)
    have hm' : ¬ w1.tree m = x := fun hc => hm ((hmem m).mp hc)
    exact ⟨by rw [hW.parent m, if_neg hm', hp1 m, if_neg hmx], by rw [hW.kids m, if_neg hm', hk1 m]⟩

theorem decompose_total {h : Heap} {x : Nat} (hg : Good h) (hx : h.kind x ≠ .soup) : ∃ h', decompose h x = .ok h' := by
  obtain ⟨h1, he⟩ := extract_total x hg
  refine ⟨wipe h1 h1.cap (some x), ?_⟩
  unfold decompose
  rw [if_neg (fun hc => hx hc.1)]
  simp only [he]

/-- the walk depends only on the children lists of the nodes it visits -/
theorem pre_congr (kids kids' : Nat → List Nat) : ∀ (f n : Nat), (∀ m ∈ pre kids f n, kids' m = kids m) →
    pre kids' f n = pre kids f n := by
  intro f
  induction f with
  | zero => intro n _; rfl
  | succ f ih =>
    intro n hm
    simp only [pre] at hm ⊢
    rw [hm n (by simp)]
    congr 1
    apply flatMap_congr'
    intro k hk
    apply ih k
    intro m hmk
    exact hm m (List.mem_cons_of_mem _ (List.mem_flatMap.mpr ⟨k, hk, hmk⟩))

theorem sibling_subtrees_disjoint {h : Heap} {w : Wit} (hwf : WF h w) {t c c' : Nat} (hc : c ∈ h.kids t)
    (hc' : c' ∈ h.kids t) (hne : c ≠ c') (m : Nat) (hm : m ∈ docOrder h c) : m ∉ docOrder h c' := by
  intro hm'
  have a := (docOrder_mem_inSub hwf c m).mp hm
  have b := (docOrder_mem_inSub hwf c' m).mp hm'
  -- different children stand on disjoint intervals, and `m` lies in both
  rcases tiles_apart (hwf.tiles t) hc hc' with e | d | d
  · exact hne e
  all_goals have := a.2.1; have := a.2.2; have := b.2.1; have := b.2.2; omega

/-- destroying one child leaves its siblings attached, with their subtrees as they were -/
theorem decompose_sibling {h h1 : Heap} {t c c' : Nat} (hg : Good2 h) (hct : h.parent c = some t)
    (hd : decompose h c = .ok h1) (hc't : h.parent c' = some t) (hne : c ≠ c') :
    h1.parent c' = some t ∧ docOrder h1 c' = docOrder h c' := by
  obtain ⟨w, hwf⟩ := hg.1
  obtain ⟨_, _, hE3, _, _, _, hcap⟩ := decompose_effect hg hd
  have hc := hwf.parent_kid c t hct
  have hc' := hwf.parent_kid c' t hc't
  have hnot : c' ∉ docOrder h c := fun hm => sibling_subtrees_disjoint hwf hc hc' hne c' hm (docOrder_self_mem h c')
  refine ⟨by rw [(hE3 c' hnot).1]; exact hc't, ?_⟩
  unfold docOrder
  rw [hcap]
  apply pre_congr
  intro m hm
  have hm1 : m ∉ docOrder h c := fun hmc => sibling_subtrees_disjoint hwf hc hc' hne m hmc hm
  have hmt : m ≠ t := fun e => parent_not_in_subtree hwf hc' (e ▸ hm)
  rw [(hE3 m hm1).2, hct]
  have : ¬ (some t = some m) := fun e => hmt (Option.some.inj e).symm
  rw [if_neg this]

/-- the loop of `clear(decompose=True)` over distinct children of `t` -/
theorem decomposeAll_children : ∀ (cs : List Nat) (h : Heap) (t : Nat), Good2 h → cs.Nodup →
    (∀ c ∈ cs, h.parent c = some t) → ∃ h', decomposeAll h cs = .ok h' ∧
    Good2 h' ∧ h'.kids t = (h.kids t).filter (fun k => !cs.contains k) ∧
    (∀ m, (∃ c ∈ cs, m ∈ docOrder h c) → h'.parent m = none ∧ h'.kids m = []) ∧
    (∀ m, m ≠ t → (∀ c ∈ cs, m ∉ docOrder h c) → h'.parent m = h.parent m ∧ h'.kids m = h.kids m) ∧
    h'.parent t = h.parent t ∧ h'.kind = h.kind ∧ h'.val = h.val ∧ h'.next = h.next ∧ h'.cap = h.cap := by
  intro cs
  induction cs with
  | nil =>
    intro h t hg _ _
    refine ⟨h, rfl, hg, (filter_not_mem_nil _).symm, ?_, fun _ _ _ => ⟨rfl, rfl⟩, rfl, rfl, rfl, rfl, rfl⟩
    rintro m ⟨c, hc, _⟩
    cases hc
  | cons c cs ih =>
    intro h t hg hnd hpar
    obtain ⟨w, hwf⟩ := hg.1
    have hnd' := List.nodup_cons.mp hnd
    have hct := hpar c (by simp)
    obtain ⟨h1, hc1⟩ := decompose_total hg.1
      (fun hk => by have := hwf.soup_root c hk; rw [hct] at this; cases this)
    have hcmem := hwf.parent_kid c t hct
    obtain ⟨hg1, hE2, hE3, hkind1, hval1, hnext1, hcap1⟩ := decompose_effect hg hc1
    have hsib : ∀ c' ∈ cs, h1.parent c' = some t ∧ docOrder h1 c' = docOrder h c' := fun c' hc' =>
      decompose_sibling hg hct hc1 (hpar c' (by simp [hc'])) (fun e => hnd'.1 (e ▸ hc'))
    obtain ⟨h', hd, hg', hkt, hwiped, hsame, hpt, hkind', hval', hnext', hcap'⟩ :=
      ih h1 t hg1 hnd'.2 (fun c' hc' => (hsib c' hc').1)
    have htc : t ∉ docOrder h c := parent_not_in_subtree hwf hcmem
    have hdisj : ∀ m, m ∈ docOrder h c → ∀ c' ∈ cs, m ∉ docOrder h1 c' := by
      intro m hm c' hc'
      rw [(hsib c' hc').2]
      exact sibling_subtrees_disjoint hwf hcmem (hwf.parent_kid c' t (hpar c' (by simp [hc'])))
        (fun e => hnd'.1 (e ▸ hc')) m hm
    refine ⟨h', by simp only [decomposeAll, hc1]; exact hd, hg', ?_, ?_, ?_, ?_, hkind'.trans hkind1, hval'.trans hval1, hnext'.trans hnext1, hcap'.trans hcap1⟩
    · rw [hkt, (hE3 t htc).2, hct, if_pos rfl, filter_erase_cons (good_kids_nodup hg.1 t)]
    · rintro m ⟨c'', hc'', hm⟩
      rcases List.mem_cons.mp hc'' with rfl | hc''
      · have hmt : m ≠ t := fun e => htc (e ▸ hm)
        have := hsame m hmt (hdisj m hm)
        obtain ⟨hparent, _, _, _, _, hkids⟩ := hE2 m hm
        exact ⟨this.1.trans hparent, this.2.trans hkids⟩
      · exact hwiped m ⟨c'', hc'', by rw [(hsib c'' hc'').2]; exact hm⟩
    · intro m hmt hall
      have hmc : m ∉ docOrder h c := hall c (by simp)
      have h1m := hE3 m hmc
      have : ¬ (h.parent c = some m) := by rw [hct]; intro e; exact hmt (Option.some.inj e).symm
      rw [if_neg this] at h1m
      have := hsame m hmt (fun c' hc' => by rw [(hsib c' hc').2]; exact hall c' (by simp [hc']))
      exact ⟨this.1.trans h1m.1, this.2.trans h1m.2⟩
    · rw [hpt, (hE3 t htc).1]

/-- **clear(decompose=True)**: the tag is left childless; every element that was beneath it is destroyed; the tag keeps
    its own place; every element outside its subtree keeps its parent and its children list; no element changes class or
    text, nothing is allocated; the forest stays consistent -/
theorem clearDecompose_effect {h h' : Heap} {t : Nat} (hg : Good2 h) (hd : clearDecompose h t = .ok h') :
    Good2 h' ∧ h'.kids t = [] ∧ h'.parent t = h.parent t ∧
    (∀ m, m ∈ docOrder h t → m ≠ t → Isolated h' m) ∧
    (∀ m, m ∉ docOrder h t → h'.parent m = h.parent m ∧ h'.kids m = h.kids m) ∧
    h'.kind = h.kind ∧ h'.val = h.val ∧ h'.next = h.next := by
  obtain ⟨w, hwf⟩ := hg.1
  obtain ⟨h'', hd', hg', hkt, hwiped, hsame, hpt, hkind, hval, hnext, _⟩ :=
    decomposeAll_children (h.kids t) h t hg (good_kids_nodup hg.1 t) (fun c hc => hwf.kid_parent t c hc)
  rw [clearDecompose, hd'] at hd; cases hd
  refine ⟨hg', ?_, hpt, ?_, ?_, hkind, hval, hnext⟩
  · rw [hkt, filter_not_mem_self]
  · intro m hm hmt
    rcases (docOrder_mem_iff hwf t m).mp hm with e | hc
    · exact absurd e hmt
    · have := hwiped m hc
      exact good_isolated hg'.1 this.1 this.2
  · intro m hm
    have hmt : m ≠ t := fun e => hm (e ▸ docOrder_self_mem h m)
    exact hsame m hmt (fun c hc hmc => hm ((docOrder_mem_iff hwf t m).mpr (Or.inr ⟨c, hc, hmc⟩)))

theorem clearDecompose_total {h : Heap} (t : Nat) (hg : Good2 h) : ∃ h', clearDecompose h t = .ok h' := by
  obtain ⟨w, hwf⟩ := hg.1
  obtain ⟨h', hd, _⟩ :=
    decomposeAll_children (h.kids t) h t hg (good_kids_nodup hg.1 t) (fun c hc => hwf.kid_parent t c hc)
  exact ⟨h', hd⟩

end BS.Heap
