import BSModel.Proofs.TokenizerExact
import BSModel.Proofs.TokenizerRoundAttrs
/-! `chooseAct` on `token ++ rest`, per kind of written token: the `parse_*` round trips behind `parseLt`'s dispatch.
`end_ = false` throughout: `end_` matters only for an incomplete construct. -/
namespace BS.Tokenizer

theorem chooseAct_of_parseLt {P : Params} {e : Bool} {cd : Option PStr} {s : PStr} {tok : Tok} {len : Nat} {cd' : Option PStr}
    (hh : s.head? = some 60) (h : parseLt P cd s = some (.ok tok len cd')) : chooseAct P e cd s = .adv tok len cd' true := by
  simp [chooseAct, hh, actLt, h]

/-! ### `parseLt`'s dispatch (parser.py:169-184) -/

theorem parseLt_startTag (P : Params) (cd : Option PStr) (c : Nat) (t : PStr) (hc : isAlpha c = true) :
    parseLt P cd (60 :: c :: t) = some (parseStartTag P cd (60 :: c :: t)) := by simp [parseLt, hc]

theorem parseLt_endTag (P : Params) (cd : Option PStr) (t : PStr) :
    parseLt P cd (60 :: 47 :: t) = some (parseEndTag P cd (60 :: 47 :: t)) := by simp [parseLt, sw, isAlpha]

theorem parseLt_comment (P : Params) (cd : Option PStr) (t : PStr) :
    parseLt P cd (60 :: 33 :: 45 :: 45 :: t) = some (parseComment cd (60 :: 33 :: 45 :: 45 :: t)) := by simp [parseLt, sw, isAlpha]

theorem parseLt_pi (P : Params) (cd : Option PStr) (t : PStr) :
    parseLt P cd (60 :: 63 :: t) = some (parsePi cd (60 :: 63 :: t)) := by simp [parseLt, sw, isAlpha]

theorem parseLt_decl (P : Params) (cd : Option PStr) (c : Nat) (t : PStr) (hc : c ≠ 45) :
    parseLt P cd (60 :: 33 :: c :: t) = some (parseHtmlDeclaration cd (60 :: 33 :: c :: t)) := by simp [parseLt, sw, isAlpha, hc]

theorem parseLt_marked (P : Params) (cd : Option PStr) (t : PStr) :
    parseLt P cd (60 :: 33 :: 91 :: t) = some (parseMarkedSection cd (60 :: 33 :: 91 :: t)) := by
  simp [parseLt, parseHtmlDeclaration, sw, isAlpha]

theorem chooseAct_writeTag (P : Params) (cd : Option PStr) (name rest : PStr) (attrs : List (PStr × Option PStr))
    (slash : Bool) (hn : NameOK name) (hl : P.lower name = name) (ha : ∀ kv ∈ attrs, AttrOK kv)
    (hP : ∀ kv ∈ attrs, P.lower kv.1 = kv.1) :
    chooseAct P false cd (writeTag name attrs slash ++ rest) =
      .adv (startTok slash name (attrs.map fun kv => (kv.1, kv.2.map (valOf P)))) (writeTag name attrs slash).length
        (if slash then cd else if cdataContentElements.contains name then some name else cd) true := by
  have hps := parseStartTag_write P cd name rest attrs slash hn hl ha hP
  obtain ⟨c, t, rfl, hc, _⟩ := hn
  exact chooseAct_of_parseLt rfl ((parseLt_startTag P cd c _ (isLower_facts c hc).1).trans (congrArg some hps))

theorem chooseAct_writeEndTag (P : Params) (cd : Option PStr) (name rest : PStr) (hn : NameOK name)
    (hl : P.lower name = name) (hcd : cd = none ∨ cd = some name) :
    chooseAct P false cd (writeEndTag name ++ rest) = .adv (.et name) (writeEndTag name).length none true :=
  chooseAct_of_parseLt rfl
    ((parseLt_endTag P cd _).trans (congrArg some (parseEndTag_write P cd name rest hn hl hcd)))

theorem chooseAct_writeComment (P : Params) (cd : Option PStr) (body rest : PStr) (hb : CommentBodyOK body) :
    chooseAct P false cd (writeComment body ++ rest) = .adv (.cm body) (writeComment body).length cd true :=
  chooseAct_of_parseLt rfl
    ((parseLt_comment P cd _).trans (congrArg some (parseComment_write_exact cd body rest hb)))

theorem chooseAct_writePi (P : Params) (cd : Option PStr) (body rest : PStr) (hb : NoGt body) :
    chooseAct P false cd (writePi body ++ rest) = .adv (.pi body) (writePi body).length cd true :=
  chooseAct_of_parseLt rfl ((parseLt_pi P cd _).trans (congrArg some (parsePi_write_exact cd body rest hb)))

/-- `kw`: `DOCTYPE` in any mixture of cases -/
theorem chooseAct_writeDoctype (P : Params) (cd : Option PStr) (kw body rest : PStr) (hkw : asciiLower kw = kwdoctype)
    (hb : NoGt body) :
    chooseAct P false cd (writeDoctype kw body ++ rest) = .adv (.dl (kw ++ body)) (writeDoctype kw body).length cd true := by
  have hpd := parseHtmlDeclaration_write_exact cd kw body rest hkw hb
  match kw, hkw with
  | c :: kw', hkw =>
    have hc : c ≠ 45 := (asciiLowerC_ne c 100 (by simpa [asciiLower, kwdoctype] using (List.cons.inj hkw).1) (by omega)).1
    exact chooseAct_of_parseLt rfl ((parseLt_decl P cd c _ hc).trans (congrArg some hpd))

/-! ### marked sections `<![D close` -/

theorem mMsMarkedClose_none_inside (d rest : PStr) (hd : d ≠ []) (h62 : ∀ x ∈ d, x ≠ 62) :
    mMsMarkedClose (d ++ 93 :: 62 :: rest) = none := by
  match d, hd with
  | y :: d', _ =>
    have := nogt_after_ws 93 (by decide) (by decide) d' (62 :: rest) (fun x hx => h62 x (by simp [hx]))
    simp only [mMsMarkedClose, List.cons_append, List.head?_cons, List.drop_succ_cons, List.drop_zero, drop_cons_add]
    split
    · simpa using this
    · rfl

/-- after a candidate first `]` and its whitespace: again a `>`-free text, then `]` (the two 93s: the writer's `]]`) -/
theorem after_first_bracket (a b0 : PStr) (ha : ∀ x ∈ a, x ≠ 62) :
    ∃ a' b', (a ++ 93 :: 93 :: b0).drop (spanLen isWs (a ++ 93 :: 93 :: b0) + 1) = a' ++ 93 :: b' ∧ ∀ x ∈ a', x ≠ 62 := by
  rw [spanLen_stopped isWs 93 (by decide)]
  -- whitespace stops inside `a` / `a` all whitespace
  rcases after_span_cases isWs 93 a (93 :: b0) with ⟨_, h⟩ | ⟨_, h⟩
  · exact ⟨_, 93 :: b0, h, fun x hx => ha x (List.mem_of_mem_drop hx)⟩
  · exact ⟨[], b0, by rw [← List.drop_drop, h]; rfl, by simp⟩

theorem mMarkedClose_none_inside (d rest : PStr) (hd : d ≠ []) (h62 : ∀ x ∈ d, x ≠ 62) :
    mMarkedClose (d ++ 93 :: 93 :: 62 :: rest) = none := by
  match d, hd with
  | y :: d', _ =>
    obtain ⟨a', b', h1, h2⟩ := after_first_bracket d' (62 :: rest) (fun x hx => h62 x (by simp [hx]))
    have hng := nogt_after_ws 93 (by decide) (by decide) a' b' h2
    simp only [List.cons_append, mMarkedClose_cons, h1, hng, if_false, ite_self]

theorem scanName_stopped (c stop : Nat) (t X : PStr) (hc : isAlpha c = true) (h1 : isDeclNameCh stop = false)
    (h2 : isWs stop = false) :
    scanName (c :: t ++ stop :: X) = .ok (asciiLower (c :: t.take (spanLen isDeclNameCh t)))
      (1 + spanLen isDeclNameCh t + spanLen isWs (t.drop (spanLen isDeclNameCh t))) := by
  have hnle : spanLen isDeclNameCh t ≤ t.length := spanLen_le _ _
  have hw : spanLen isWs (t.drop (spanLen isDeclNameCh t)) ≤ (t.drop (spanLen isDeclNameCh t)).length := spanLen_le _ _
  have hne : ((t ++ stop :: X).drop (spanLen isDeclNameCh t + spanLen isWs (t.drop (spanLen isDeclNameCh t)))).isEmpty = false := by
    rw [List.isEmpty_eq_false_iff, ← List.length_pos_iff]
    simp only [List.length_drop, List.length_append, List.length_cons] at hw ⊢
    omega
  simp only [scanName, List.cons_append, hc, if_true, spanLen_stopped _ stop h1, List.drop_append_of_le_length hnle,
    spanLen_stopped _ stop h2, List.take_append_of_le_length hnle, hne, Bool.false_eq_true, if_false]

/-- `D`'s keyword selects the matcher `m` of `close` -/
theorem chooseAct_writeMarked (P : Params) (cd : Option PStr) (D close rest name : PStr) (len : Nat) (m : PStr → Option Nat)
    (hscan : scanName (D ++ (close ++ rest)) = .ok name len)
    (hm : sectStd.contains name = true ∧ m = mMarkedClose ∨
      sectStd.contains name = false ∧ sectMs.contains name = true ∧ m = mMsMarkedClose)
    (hclose : m (close ++ rest) = some close.length)
    (hin : ∀ k, k < D.length → m (D.drop k ++ (close ++ rest)) = none) :
    chooseAct P false cd ([60, 33, 91] ++ D ++ close ++ rest) = .adv (.ud D) ([60, 33, 91] ++ D ++ close).length cd true := by
  have hsearch := search_of_least m (D ++ (close ++ rest)) D.length close.length (by simp) (by rwa [List.drop_left])
    fun k hk => by rw [(drop_written D (close ++ rest) k hk).1]; exact hin k hk
  have e : List.drop 3 (60 :: 33 :: 91 :: D ++ close ++ rest) = D ++ (close ++ rest) := by simp
  have hd := parseLt_marked P cd (D ++ close ++ rest)
  simp only [← List.cons_append] at hd
  refine chooseAct_of_parseLt (by simp) (hd.trans (congrArg some ?_))
  rw [show (([60, 33, 91] : PStr) ++ D ++ close).length = 3 + D.length + close.length by simp; omega]
  rcases hm with ⟨h1, rfl⟩ | ⟨h1, h2, rfl⟩
  · simp only [parseMarkedSection, e, hscan, h1, if_true, hsearch, List.take_left]
  · simp only [parseMarkedSection, e, hscan, h1, h2, Bool.false_eq_true, if_false, if_true, hsearch, List.take_left]

/-! ### references (parser.py:200-241) -/

theorem charRef_dec (nm rest : PStr) (hd : ∀ x ∈ nm, isDigit x = true) (hne : nm ≠ []) :
    charRef (38 :: 35 :: (nm ++ 59 :: rest)) = some (nm, 2 + nm.length + 1) := by
  have hsp : spanLen isDigit (nm ++ 59 :: rest) = nm.length :=
    spanLen_append_stop _ _ _ hd (by intro c h; simp at h; subst h; decide)
  have hpos : 0 < nm.length := List.length_pos_iff.mpr hne
  simp only [charRef, List.drop_succ_cons, List.drop_zero, hsp, hpos, if_true, List.drop_left, List.head?_cons, List.take_left]
  simp [show isHex 59 = false by decide]

theorem charRef_hex (x : Nat) (body rest : PStr) (hx : x = 120 ∨ x = 88) (hh : ∀ c ∈ body, isHex c = true) (hne : body ≠ []) :
    charRef (38 :: 35 :: ((x :: body) ++ 59 :: rest)) = some (x :: body, 2 + (x :: body).length + 1) := by
  have hsp : spanLen isHex (body ++ 59 :: rest) = body.length :=
    spanLen_append_stop _ _ _ hh (by intro c h; simp at h; subst h; decide)
  have hpos : 0 < body.length := List.length_pos_iff.mpr hne
  have htake : List.take (1 + body.length) (x :: (body ++ 59 :: rest)) = x :: body := by
    rw [Nat.add_comm, List.take_succ_cons, List.take_left]
  have hnum : 2 + 1 + body.length + 1 = 2 + (body.length + 1) + 1 := by omega
  rcases hx with rfl | rfl <;>
    simp [charRef, spanLen, isDigit, hsp, hpos, htake, hnum]

theorem chooseAct_charRef (P : Params) (nm rest : PStr)
    (hcr : charRef (38 :: 35 :: (nm ++ 59 :: rest)) = some (nm, 2 + nm.length + 1)) :
    chooseAct P false none (38 :: 35 :: (nm ++ 59 :: rest)) = .adv (.cr nm) (nm.length + 3) none true := by
  have hsemi : ((38 :: 35 :: (nm ++ 59 :: rest)).drop (2 + nm.length + 1 - 1)).head? = some 59 := by
    rw [show (38 :: 35 :: (nm ++ 59 :: rest)) = (38 :: 35 :: nm) ++ 59 :: rest by simp, List.drop_left' (by simp; omega)]
    rfl
  have hch : chooseAct P false none (38 :: 35 :: (nm ++ 59 :: rest)) = actCharRef none (38 :: 35 :: (nm ++ 59 :: rest)) := by
    simp [chooseAct, sw]
  simp only [hch, actCharRef, hcr, hsemi]
  simp; omega

theorem chooseAct_amp (P : Params) (s : PStr) (h38 : s.head? = some 38) (hsw : sw [38, 35] s = false) :
    chooseAct P false none s = actEntityRef false none s := by
  simp [chooseAct, h38, hsw]

/-- `y` ends the name run and is consumed when it is `;` -/
theorem chooseAct_entityRef (P : Params) (a : Nat) (t : PStr) (y : Nat) (X : PStr) (ha : isAlpha a = true)
    (ht : ∀ x ∈ t, isEntCh x = true) (hy : isEntCh y = false) :
    chooseAct P false none (38 :: ((a :: t) ++ y :: X)) =
      .adv (.er (a :: t)) ((a :: t).length + (if y = 59 then 2 else 1)) none true := by
  have ha35 : a ≠ 35 := by rintro rfl; cases ha
  have hspan : spanLen isEntCh (t ++ y :: X) = t.length :=
    spanLen_append_stop isEntCh t (y :: X) ht (fun c' hc' => by simp at hc'; subst hc'; exact hy)
  have : (1 + 1 + t.length + 1 - 1) = (t.length + 1) + 1 := by omega
  rw [chooseAct_amp P _ rfl (by simp [sw, ha35])]
  simp only [actEntityRef, entityRef, List.cons_append, List.drop_succ_cons, List.drop_zero, ha, ↓reduceIte, hspan,
    List.drop_left, List.head?_cons, List.take_left, this]
  by_cases hy59 : y = 59
  · simp [hy59]; omega
  · simp [hy59]

theorem chooseAct_bareAmp (P : Params) (y : Nat) (X : PStr) (hy : isAlpha y = false) (hy35 : y ≠ 35) :
    chooseAct P false none (38 :: y :: X) = .adv (.data [38]) 1 none true := by
  rw [chooseAct_amp P _ rfl (by simp [sw, hy35])]
  simp [actEntityRef, entityRef, hy, hy35]

end BS.Tokenizer
