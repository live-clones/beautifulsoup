import BSModel.Proofs.TokenizerRawText
import BSModel.Proofs.TokenizerWholeEmit
/-! The tokenizer on the token sequence of a `WritableRaw` document: `Loops` for sequences in which a raw-text element
(start tag, literal tokens, end tag) may stand wherever a good token may. -/
namespace BS.WriterText
open BS.Writer BS.Tokenizer BS.SourcePos BS.Adapter

/-- a token sequence the tokenizer reads as intended: good tokens, and raw-text elements -/
inductive GoodL (P : Params) : List WTok → Prop
  | nil : GoodL P []
  | tok (t : WTok) (ts : List WTok) : Good P t → GoodL P ts → GoodL P (t :: ts)
  | raw (p : Path) (n : PStr) (a : List (PStr × Option PStr)) (lits ts : List WTok) :
      cdataContentElements.contains n = true → (∀ kv ∈ a, nameOK kv.1 = true) → (∀ t ∈ lits, t.tok = none) →
      rawTextOK n (textOf lits) = true → GoodL P ts → GoodL P (openTok p n a false :: (lits ++ closeTok n :: ts))

theorem GoodL_of_forall (P : Params) : ∀ (ts : List WTok), (∀ t ∈ ts, Good P t) → GoodL P ts
  | [], _ => .nil
  | t :: ts, h => .tok t ts (h t (by simp)) (GoodL_of_forall P ts fun t' ht' => h t' (by simp [ht']))

theorem GoodL_append (P : Params) (xs ys : List WTok) (hx : GoodL P xs) (hy : GoodL P ys) : GoodL P (xs ++ ys) := by
  induction hx with
  | nil => simpa using hy
  | tok t ts ht _ ih => exact .tok t (ts ++ ys) ht ih
  | raw p n a lits ts h1 h2 h3 h4 _ ih =>
    have := GoodL.raw (P := P) p n a lits (ts ++ ys) h1 h2 h3 h4 ih
    simpa [List.append_assoc] using this

theorem runToks_lits : ∀ (lits : List WTok) (pre l : PStr) (ts : List WTok), (∀ t ∈ lits, t.tok = none) →
    runToks pre l (lits ++ ts) = runToks pre (l ++ textOf lits) ts := by
  intro lits
  induction lits with
  | nil => intro pre l ts _; simp [textOf_nil]
  | cons t lits ih =>
    intro pre l ts h
    have ht : t.tok = none := h t (by simp)
    simp only [List.cons_append, runToks, ht, textOf_cons]
    rw [ih pre (l ++ t.text) ts (fun t' ht' => h t' (by simp [ht']))]
    simp [List.append_assoc]

theorem step_raw_open_pending (P : Params) (hP : ParamsOK P) (n : PStr) (a : List (PStr × Option PStr)) (rest pre l : PStr)
    (hcd : cdataContentElements.contains n = true) (ha : ∀ kv ∈ a, nameOK kv.1 = true) (hl : ∀ x ∈ l, isPlain x = true) :
    step P false ⟨l ++ (openText n a false ++ rest), posOf pre, none⟩ =
      (dataEv pre l ++ [⟨.st n a, openText n a false, posOf (pre ++ l)⟩],
        ⟨rest, posOf (pre ++ l ++ openText n a false), some n⟩, none) :=
  step_tok P (.st n a) (some n) _ rest pre l (Or.inl rfl) (chooseAct_open_raw P hP n a hcd ha rest) hl

theorem Loops.raw (P : Params) (hP : ParamsOK P) (p : Path) (n : PStr) (a : List (PStr × Option PStr)) (lits ts : List WTok)
    (hcd : cdataContentElements.contains n = true) (ha : ∀ kv ∈ a, nameOK kv.1 = true) (hlits : ∀ t ∈ lits, t.tok = none)
    (hraw : rawTextOK n (textOf lits) = true) (ih : Loops P ts) :
    Loops P (openTok p n a false :: (lits ++ closeTok n :: ts)) := by
  intro pre l hl
  have htx : textOf (openTok p n a false :: (lits ++ closeTok n :: ts)) =
      openText n a false ++ (textOf lits ++ (closeText n ++ textOf ts)) := by
    simp [textOf_cons, textOf_append, openTok, closeTok]
  rw [htx]
  have h2 := step_raw_body P hP n (textOf lits) (textOf ts) (posOf (pre ++ l ++ openText n a false)) hcd
    (search_raw_text n (textOf lits) (textOf ts) hcd hraw)
  have ih' := ih (pre ++ l ++ openText n a false ++ textOf lits ++ closeText n) [] (by simp)
  simp only [List.nil_append, List.append_nil, updatepos_posOf] at ih' h2
  have := Runs.more _ _ _ _ _ _ (by simp [openText])
    (step_raw_open_pending P hP n a _ pre l hcd ha hl)
    (Runs.more _ _ _ _ _ _ (by simp [closeText]) h2 ih')
  simpa [runToks, openTok, closeTok, runToks_lits lits _ _ _ hlits, dataEv, rawDataEv, List.append_assoc] using this

theorem loops_of_goodL (P : Params) (hP : ParamsOK P) (ts : List WTok) (hg : GoodL P ts) : Loops P ts := by
  induction hg with
  | nil => exact .nil P
  | tok t ts hgt _ ih => exact .cons P t ts hgt ih
  | raw p n a lits ts hcd ha hlits hraw _ ih => exact .raw P hP p n a lits ts hcd ha hlits hraw ih

theorem loop_toksL (P : Params) (hP : ParamsOK P) (ts : List WTok) (hg : GoodL P ts) : ∀ (pre l : PStr) (f : Nat),
    (∀ x ∈ l, isPlain x = true) → (l ++ textOf ts).length < f →
    loop P false f ⟨l ++ textOf ts, posOf pre, none⟩ =
      ⟨runToks pre l ts, ⟨[], posOf (pre ++ l ++ textOf ts), none⟩, .ok⟩ :=
  fun pre l f hl hf => (loops_of_goodL P hP ts hg pre l hl).loop_eq f hf

theorem run_toksL (P : Params) (hP : ParamsOK P) (ts : List WTok) (hg : GoodL P ts) :
    (run P (textOf ts)).evs = runToks [] [] ts ∧ (run P (textOf ts)).flag = .ok ∧ (run P (textOf ts)).st.s = [] :=
  run_of_loops P ts (loops_of_goodL P hP ts hg)

theorem lits_flushLitTok (cur : PStr) : ∀ t ∈ flushLitTok cur, t.tok = none := by
  cases cur <;> simp [flushLitTok, litTok]

theorem lits_charToks (sp : Nat → CharSp) : ∀ (s : PStr) (i : Nat) (cur : PStr), allLit sp i s = true →
    (∀ t ∈ charToks sp i cur s, t.tok = none) ∧ textOf (charToks sp i cur s) = cur ++ s := by
  intro s i cur h
  -- end; literal cut / appended; the reference cases contradict `allLit` (closed by `all_goals`)
  fun_induction charToks sp i cur s
  case case1 => exact ⟨lits_flushLitTok _, by simp [textOf_flush]⟩
  all_goals
    rename_i hsp ih
    simp only [allLit, hsp, Bool.and_eq_true, Bool.false_eq_true, false_and] at h
  case case2 =>
    obtain ⟨ia, ib⟩ := ih h.2
    exact ⟨List.forall_mem_append.mpr ⟨lits_flushLitTok _, ia⟩, by simp [textOf_append, textOf_flush, ib]⟩
  case case3 hsp' =>
    simp only [hsp'] at h
    obtain ⟨ia, ib⟩ := ih h.2
    exact ⟨ia, by simpa [List.append_assoc] using ib⟩

mutual
theorem writableR_of_writable (iv : BS.Builder.Name → Bool) (c : Choices) : ∀ (d : WDoc) (p : Path),
    writable iv c p d = true → writableR iv c p d = true
  | .text _, _, h => h
  | .special _ _, _, h => h
  | .elem n a ks, p, h => by
    simp only [writable, Bool.and_eq_true, Bool.not_eq_true', Bool.or_eq_true] at h
    obtain ⟨⟨⟨hn, hcd⟩, ha⟩, hk⟩ := h
    simp only [writableR, hcd, Bool.false_eq_true, if_false, hn, ha, Bool.true_and, Bool.or_eq_true]
    exact hk.imp id (writableRL_of_writableL iv c ks p 0)
theorem writableRL_of_writableL (iv : BS.Builder.Name → Bool) (c : Choices) : ∀ (ds : List WDoc) (p : Path) (i : Nat),
    writableL iv c p i ds = true → writableRL iv c p i ds = true
  | [], _, _, _ => rfl
  | d :: ds, p, i, h => by
    simp only [writableL, Bool.and_eq_true] at h
    simp only [writableRL, writableR_of_writable iv c d (i :: p) h.1, writableRL_of_writableL iv c ds p (i + 1) h.2, Bool.and_self]
end

mutual
theorem goodL_wtoks (P : Params) (hP : ParamsOK P) (iv : BS.Builder.Name → Bool) (c : Choices) : ∀ (d : WDoc) (p : Path),
    writableR iv c p d = true → GoodL P (wtoks iv c p d)
  | .text s, p, hw => by
    simp only [writableR] at hw
    simp only [wtoks]
    exact GoodL_of_forall P _ (good_charToks P (c.char p) s 0 [] (by simp) hw)
  | .special k s, p, hw => .tok _ _ (good_special P k _ s hw) .nil
  | .elem n a ks, p, hw => by
    by_cases hcd : cdataContentElements.contains n = true
    · simp only [writableR, hcd, if_true, Bool.and_eq_true, Bool.not_eq_true', List.all_eq_true] at hw
      obtain ⟨⟨hiv, ha⟩, hk⟩ := hw
      -- any other `ks`: `hk : false = true`
      match ks, hk with
      | [.text s], hk =>
        simp only [Bool.and_eq_true] at hk
        obtain ⟨il, it⟩ := lits_charToks (c.char (0 :: p)) s 0 [] hk.2
        have := GoodL.raw (P := P) p n a (charToks (c.char (0 :: p)) 0 [] s) [] hcd ha il
          (by rw [it]; simpa using hk.1) .nil
        simpa [wtoks, wtoksL, hiv] using this
    · have hcd' : cdataContentElements.contains n = false := by simpa using hcd
      simp only [writableR, hcd', Bool.false_eq_true, if_false, Bool.and_eq_true, List.all_eq_true, Bool.or_eq_true] at hw
      obtain ⟨⟨hn, ha⟩, hk⟩ := hw
      have hopen : ∀ sl, Good P (openTok p n a sl) := fun sl => good_open P hP p n a sl hn hcd' ha
      have hclose : Good P (closeTok n) := good_close P hP n hn
      simp only [wtoks]
      split
      · exact GoodL_of_forall P _ (by cases c.void p <;> simp [hopen, hclose])
      · rename_i hv
        exact .tok _ _ (hopen false)
          (GoodL_append P _ _ (goodL_wtoksL P hP iv c ks p 0 (hk.resolve_left hv)) (.tok _ _ hclose .nil))
theorem goodL_wtoksL (P : Params) (hP : ParamsOK P) (iv : BS.Builder.Name → Bool) (c : Choices) :
    ∀ (ds : List WDoc) (p : Path) (i : Nat), writableRL iv c p i ds = true → GoodL P (wtoksL iv c p i ds)
  | [], _, _, _ => by simp only [wtoksL]; exact .nil
  | d :: ds, p, i, hw => by
    simp only [writableRL, Bool.and_eq_true] at hw
    simp only [wtoksL]
    exact GoodL_append P _ _ (goodL_wtoks P hP iv c d (i :: p) hw.1) (goodL_wtoksL P hP iv c ds p (i + 1) hw.2)
end

end BS.WriterText
