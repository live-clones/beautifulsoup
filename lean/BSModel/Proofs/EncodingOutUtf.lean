import BSModel.Model.EncodingOutUtf
import BSModel.Proofs.EncodingOut
import BSModel.Proofs.Utf8
/-! laws of the concrete UTF codecs: each decoder reads back one encoded item with any rest (for UTF-8 any `Detwingle.Enc`
    sequence), and `flatMap_roundTrip` lifts that to the round-trip law -/
namespace BS.EncodingOut
open BS

theorem isScalar_lt (c : Nat) (h : isScalar c = true) : c < 0x110000 := by
  simp [isScalar] at h; exact h.1

theorem isScalar_not_surr (c : Nat) (h : isScalar c = true) : ¬ (0xD800 ≤ c ∧ c ≤ 0xDFFF) := by
  simp [isScalar, isSurr] at h; omega

/-- `AsciiOK` of all seven records: each has `canEnc := isScalar` -/
theorem utf_asciiOK (c : Nat) (hc : c < 128) : isScalar c = true := by
  simp [isScalar, isSurr]; omega

/-! ### UTF-8 -/

theorem utf8Go_ascii (b : Nat) (bs : Bytes) (h : b < 0x80) : utf8Go 0 0 0 (b :: bs) = (utf8Go 0 0 0 bs).map (b :: ·) := by
  simp [utf8Go, h]

theorem utf8Go_lead2 (x : Nat) (bs : Bytes) (h1 : 2 ≤ x) (h2 : x < 32) :
    utf8Go 0 0 0 ((0xC0 + x) :: bs) = utf8Go 1 x 0x80 bs := by
  have a1 : ¬ 0xC0 + x < 0x80 := by omega
  have a2 : 0xC2 ≤ 0xC0 + x := by omega
  have a3 : 0xC0 + x < 0xE0 := by omega
  simp [utf8Go, a1, a2, a3]

theorem utf8Go_lead3 (x : Nat) (bs : Bytes) (h : x < 16) :
    utf8Go 0 0 0 ((0xE0 + x) :: bs) = utf8Go 2 x 0x800 bs := by
  have a1 : ¬ 0xE0 + x < 0x80 := by omega
  have a2 : ¬ 0xE0 + x < 0xE0 := by omega
  have a3 : 0xE0 + x < 0xF0 := by omega
  simp [utf8Go, a1, a2, a3]

theorem utf8Go_lead4 (x : Nat) (bs : Bytes) (h : x < 5) :
    utf8Go 0 0 0 ((0xF0 + x) :: bs) = utf8Go 3 x 0x10000 bs := by
  have a1 : ¬ 0xF0 + x < 0x80 := by omega
  have a2 : ¬ 0xF0 + x < 0xE0 := by omega
  have a3 : ¬ 0xF0 + x < 0xF0 := by omega
  have a4 : 0xF0 + x < 0xF5 := by omega
  simp [utf8Go, a1, a2, a3, a4]

theorem utf8Char_eq : utf8Char = Detwingle.encodeUtf8 := rfl

theorem isScalar_iff (c : Nat) : isScalar c = true ↔ Detwingle.IsScalar c := by
  simp only [isScalar, isSurr, Detwingle.IsScalar, Bool.and_eq_true, Bool.not_eq_true', decide_eq_true_eq,
    Bool.and_eq_false_iff, decide_eq_false_iff_not]
  omega

theorem isCont_eq (b : Nat) : isCont b = Detwingle.isCont b := by
  simp only [isCont, Detwingle.isCont, Nat.lt_succ_iff.symm]

theorem utf8Go_cont (k acc mn l : Nat) (bs : Bytes) (h : l < 64) :
    utf8Go (k + 2) acc mn ((0x80 + l) :: bs) = utf8Go (k + 1) (acc * 64 + l) mn bs := by
  rw [utf8Go, if_pos ((isCont_eq _).trans (Detwingle.isCont_digit l h)), if_neg (Nat.succ_ne_zero k), Nat.add_sub_cancel_left]

theorem utf8Go_last (acc mn l : Nat) (bs : Bytes) (hl : l < 64) (hmn : mn ≤ acc * 64 + l)
    (hs : isScalar (acc * 64 + l) = true) :
    utf8Go 1 acc mn ((0x80 + l) :: bs) = (utf8Go 0 0 0 bs).map ((acc * 64 + l) :: ·) := by
  rw [utf8Go, if_pos ((isCont_eq _).trans (Detwingle.isCont_digit l hl)), if_pos rfl, Nat.add_sub_cancel_left,
    if_pos (by rw [Bool.and_eq_true, decide_eq_true_eq]; exact ⟨hmn, hs⟩)]

theorem _root_.BS.Detwingle.Enc.utf8Go {c : Nat} {bs : Bytes} (h : Detwingle.Enc c bs) (r : Bytes) :
    utf8Go 0 0 0 (bs ++ r) = (utf8Go 0 0 0 r).map (c :: ·) := by
  have hs := (isScalar_iff c).mpr h.scalar
  cases h with
  | one c h => exact utf8Go_ascii c r h
  | two a l ha ha' hl =>
    exact (utf8Go_lead2 a _ ha ha').trans (utf8Go_last _ _ l _ hl (Detwingle.rng2 ha ha' hl).1 hs)
  | three a m l ha hm hl lo hi =>
    rw [List.cons_append, utf8Go_lead3 _ _ ha, List.cons_append, utf8Go_cont _ _ _ m _ hm]
    exact utf8Go_last _ _ l _ hl (Detwingle.rng3 ha hm hl lo).1 hs
  | four a k m l ha hk hm hl lo hi =>
    rw [List.cons_append, utf8Go_lead4 _ _ ha, List.cons_append, utf8Go_cont _ _ _ k _ hk, List.cons_append,
      utf8Go_cont _ _ _ m _ hm]
    exact utf8Go_last _ _ l _ hl (Detwingle.rng4 lo) hs

theorem utf8_char (c : Nat) (rest : Bytes) (hc : isScalar c = true) :
    utf8Go 0 0 0 (utf8Char c ++ rest) = (utf8Go 0 0 0 rest).map (c :: ·) :=
  utf8Char_eq ▸ (Detwingle.Enc.of_scalar ((isScalar_iff c).mp hc)).utf8Go rest

theorem utf8_roundTrip : utf8Codec.RoundTrip :=
  flatMap_roundTrip utf8Char (utf8Go 0 0 0) (isScalar · = true) rfl utf8_char

theorem utf8_asciiCompat : utf8Codec.AsciiCompat := by
  intro a s ha _
  show utf8Enc (a ++ s) = a ++ utf8Enc s
  simp only [utf8Enc, List.flatMap_append]
  congr 1
  exact flatMap_self a _ fun c hc => by simp [utf8Char, ha c hc]

/-! ### UTF-32 -/

theorem bytes4 (c : Nat) (h : c < 0x110000) :
    c % 256 + 256 * (c / 256 % 256) + 65536 * (c / 65536 % 256) + 16777216 * (c / 16777216 % 256) = c := by
  omega

theorem utf32le_char (c : Nat) (rest : Bytes) (hc : isScalar c = true) :
    utf32leDec (utf32leChar c ++ rest) = (utf32leDec rest).map (c :: ·) := by
  simp [utf32leChar, utf32leDec, bytes4 c (isScalar_lt c hc), hc, Nat.mod_lt]

theorem utf32be_char (c : Nat) (rest : Bytes) (hc : isScalar c = true) :
    utf32beDec (utf32beChar c ++ rest) = (utf32beDec rest).map (c :: ·) := by
  simp [utf32beChar, utf32beDec, bytes4 c (isScalar_lt c hc), hc, Nat.mod_lt]

theorem utf32le_roundTrip : utf32leCodec.RoundTrip :=
  flatMap_roundTrip utf32leChar utf32leDec (isScalar · = true) rfl utf32le_char

theorem utf32be_roundTrip : utf32beCodec.RoundTrip :=
  flatMap_roundTrip utf32beChar utf32beDec (isScalar · = true) rfl utf32be_char

/-- the decoder's `match` on the mark just written reduces by computation -/
theorem utf32_roundTrip : utf32Codec.RoundTrip :=
  fun s hs => utf32le_roundTrip s hs

/-! ### UTF-16 -/

theorem unitsLE_unit (u : Nat) (rest : Bytes) (hu : u < 65536) :
    unitsLE ([u % 256, u / 256] ++ rest) = (unitsLE rest).map (u :: ·) := by
  have h2 : u / 256 < 256 := by omega
  simp [unitsLE, Nat.mod_lt, h2, Nat.mod_add_div]

theorem unitsBE_unit (u : Nat) (rest : Bytes) (hu : u < 65536) :
    unitsBE ([u / 256, u % 256] ++ rest) = (unitsBE rest).map (u :: ·) := by
  have h2 : u / 256 < 256 := by omega
  simp [unitsBE, Nat.mod_lt, h2, Nat.mod_add_div]

theorem utf16Units_lt (c : Nat) (hc : isScalar c = true) : ∀ u ∈ utf16Units c, u < 65536 := by
  have hlt := isScalar_lt c hc
  intro u hu
  unfold utf16Units at hu
  split at hu <;> simp at hu <;> omega

theorem utf16_units_char (c : Nat) (rest : List Nat) (hc : isScalar c = true) :
    utf16FromUnits (utf16Units c ++ rest) = (utf16FromUnits rest).map (c :: ·) := by
  have hlt := isScalar_lt c hc
  have hns := isScalar_not_surr c hc
  unfold utf16Units
  split
  · have hsu : isSurr c = false := by simp [isSurr]; omega
    have hhi : ¬ (0xD800 ≤ c ∧ c < 0xDC00) := by omega
    cases rest <;> simp [utf16FromUnits, hsu, hhi]
  · have e : 0x10000 + (0xD800 + (c - 0x10000) / 1024 - 0xD800) * 1024 + (0xDC00 + (c - 0x10000) % 1024 - 0xDC00) = c := by
      omega
    have a2 : 0xD800 + (c - 0x10000) / 1024 < 0xDC00 := by omega
    have a4 : 0xDC00 + (c - 0x10000) % 1024 < 0xE000 := by omega
    simp only [List.cons_append, List.nil_append, utf16FromUnits, e]
    simp [a2, a4]

theorem utf16_bytes_roundTrip (pair : Nat → Bytes) (units : Bytes → Option (List Nat))
    (h0 : units [] = some []) (h1 : ∀ u rest, u < 65536 → units (pair u ++ rest) = (units rest).map (u :: ·))
    (s : PStr) (hs : ∀ c ∈ s, isScalar c = true) :
    (units (s.flatMap fun c => (utf16Units c).flatMap pair)).bind utf16FromUnits = some s := by
  rw [← List.flatMap_assoc, flatMap_roundTrip pair units (· < 65536) h0 h1]
  · exact flatMap_roundTrip utf16Units utf16FromUnits (isScalar · = true) rfl utf16_units_char s hs
  · intro u hu
    obtain ⟨c, hc, hu⟩ := List.mem_flatMap.mp hu
    exact utf16Units_lt c (hs c hc) u hu

theorem utf16le_roundTrip : utf16leCodec.RoundTrip :=
  utf16_bytes_roundTrip _ unitsLE rfl unitsLE_unit

theorem utf16be_roundTrip : utf16beCodec.RoundTrip :=
  utf16_bytes_roundTrip _ unitsBE rfl unitsBE_unit

theorem utf16_roundTrip : utf16Codec.RoundTrip :=
  fun s hs => utf16le_roundTrip s hs

/-! ### byte-order marks -/

theorem sniff_utf32 (s : PStr) : sniffBom (utf32Codec.enc s) = some .utf32le := by
  show sniffBom (bom32le ++ s.flatMap utf32leChar) = _
  simp [sniffBom, bom32le]

/-- `utf-16` output is recognised by its BOM unless the document starts with U+0000 (then the first four bytes are the
    UTF-32-LE mark) -/
theorem sniff_utf16 (s : PStr) : sniffBom (utf16Codec.enc s) = some .utf16le ↔ s.head? ≠ some 0 := by
  show sniffBom (bom16le ++ s.flatMap utf16leChar) = _ ↔ _
  cases s with
  | nil => simp [bom16le, sniffBom]
  | cons c cs =>
    -- after the mark come the two bytes of the first unit: both zero only for `c = 0` (a surrogate is at least `0xD800`)
    simp only [bom16le, List.flatMap_cons, utf16leChar, utf16Units]
    split <;> simp [sniffBom] <;> omega

end BS.EncodingOut
