import BSModel.Model.Copy
import BSModel.Proofs.PStr
/-! C12: the loop of `Tag.__deepcopy__` computes the pre-order recursion `copySpec`; what the attribute dict classes store;
    the identities of a copy are exactly the next unused ones, in pre-order -/
namespace BS.Copy

theorem run_append (s : St) (a b : List Ev) : run s (a ++ b) = (run s a).bind fun s' => run s' b := by
  fun_induction run s a with
  | case1 s => rfl
  | case2 s e es ih =>
    rw [List.cons_append, run]
    cases step s e with
    | none => rfl
    | some s' => exact ih s'

mutual
theorem run_forest : ∀ (ks : List Node) (inh : Option Bool) (n : Nat) (top : Frame) (rest : List Frame),
    run ⟨n, top :: rest⟩ (eventsL inh ks) =
      some ⟨(copySpecL inh n ks).2, { top with kids := top.kids ++ (copySpecL inh n ks).1 } :: rest⟩
  | [], inh, n, top, rest => by simp [eventsL, run, copySpecL]
  | k :: ks, inh, n, top, rest => by
    simp only [eventsL, run_append, copySpecL]
    rw [run_node k inh n top rest]
    simp only [Option.bind_some]
    rw [run_forest ks inh _ _ rest]
    simp [List.append_assoc]
theorem run_node : ∀ (k : Node) (inh : Option Bool) (n : Nat) (top : Frame) (rest : List Frame),
    run ⟨n, top :: rest⟩ (events inh k) =
      some ⟨(copySpec inh n k).2, { top with kids := top.kids ++ [(copySpec inh n k).1] } :: rest⟩
  | .str i c v, inh, n, top, rest => by simp [events, run, step, pushKid, copySpec]
  | .tag i d ks, inh, n, top, rest => by
    simp only [events]
    split
    · rename_i h
      have hk : ks = [] := by
        simp only [isEmptyElement, Bool.and_eq_true, List.isEmpty_iff] at h
        exact h.1
      subst hk
      simp [run, step, pushKid, copySpec, copySpecL]
    · have h1 : ∀ s, run s (Ev.start d (isXml inh d) :: (eventsL (isXml inh d) ks ++ [Ev.stop])) =
          (step s (Ev.start d (isXml inh d))).bind fun s1 =>
            (run s1 (eventsL (isXml inh d) ks)).bind fun s2 => run s2 [Ev.stop] := by
        intro s
        simp only [run, run_append]
      rw [h1]
      simp only [step, Option.bind_some]
      rw [run_forest ks (isXml inh d) _ _ (top :: rest)]
      simp [run, step, Frame.close, copySpec]
end

theorem collapse_nil (top : Frame) : collapse top [] = top.close := by simp [collapse]

theorem copyImpl_eq_spec (inh : Option Bool) (next : Nat) (t : Node) :
    copyImpl inh next t = some (copySpec inh next t) := by
  cases t with
  | str i c v => simp [copyImpl, copySpec]
  | tag i d ks =>
    simp only [copyImpl, copySpec]
    rw [run_forest]
    simp [collapse, Frame.close]

theorem copySoupImpl_eq_spec (fresh : TagData) (inh : Option Bool) (next : Nat) (i : Nat) (d : TagData) (ks : List Node) :
    copySoupImpl fresh inh next (.tag i d ks) =
      some (.tag next fresh (copySpecL (isXml inh d) (next + 1) ks).1, (copySpecL (isXml inh d) (next + 1) ks).2) := by
  simp only [copySoupImpl]
  rw [run_forest]
  simp [collapse, Frame.close]

theorem settled_plain (cls : Nat) (l : Attrs) (h1 : cls ≠ 1) (h2 : cls ≠ 2) : Settled cls l := by
  intro e _
  simp [coerce, h1, h2]

theorem coerce_str (cls : Nat) (k : PStr) (m : KMeta) (c : Nat) (s : PStr) : coerce cls k m (.str c s) = some (.str c s) := by
  unfold coerce
  split
  · rfl
  · split <;> rfl

theorem coerce_list (cls : Nat) (k : PStr) (m : KMeta) (lid c : Nat) (items : List PStr) :
    coerce cls k m (.list lid c items) = some (.list lid c items) := by
  unfold coerce
  split
  · rfl
  · split <;> rfl

/-- what an `HTMLAttributeDict` stored it stores unchanged when set again, except `None` (which it produces for `True`
    under a key whose `name` is `None`, and then removes) -/
theorem coerceHtml_idem {k : PStr} {m : KMeta} {v v' : AVal} (h : coerceHtml k m v = some v') (hn : v' ≠ .none) :
    coerceHtml k m v' = some v' := by
  cases v with
  | bool b =>
    cases b with
    | false => cases h
    | true =>
      cases h
      rcases m with _ | ⟨p, _ | nm, ns⟩
      · rfl
      · exact absurd rfl hn
      · rfl
  | none => cases h
  | _ => cases h; rfl

theorem coerceXml_idem {v v' : AVal} (h : coerceXml v = some v') : coerceXml v' = some v' := by
  cases v <;> cases h <;> rfl

def AVal.isList : AVal → Bool
  | .list _ _ _ => true
  | _ => false

theorem boolName_nonlist (k : PStr) (m : KMeta) : (boolName k m).isList = false := by
  rcases m with _ | ⟨p, _ | nm, ns⟩ <;> rfl

theorem coerceHtml_nonlist {k : PStr} {m : KMeta} {v v' : AVal} (h : coerceHtml k m v = some v')
    (hv : v.isList = false) : v'.isList = false := by
  cases v with
  | list lid c items => cases hv
  | none => cases h
  | bool b =>
    cases b with
    | false => cases h
    | true => cases h; exact boolName_nonlist k m
  | _ => cases h; rfl

theorem coerceXml_nonlist {v v' : AVal} (h : coerceXml v = some v') (hv : v.isList = false) : v'.isList = false := by
  cases v with
  | list lid c items => cases hv
  | _ => cases h; rfl

theorem coerce_nonlist {cls : Nat} {k : PStr} {m : KMeta} {v v' : AVal} (h : coerce cls k m v = some v')
    (hv : v.isList = false) : v'.isList = false := by
  simp only [coerce] at h
  split at h
  · exact coerceHtml_nonlist h hv
  · split at h
    · exact coerceXml_nonlist h hv
    · cases h; exact hv

theorem attrIds_cons_nonlist (k : PStr) (m : KMeta) {v : AVal} (r : Attrs) (h : v.isList = false) :
    attrIds ((k, m, v) :: r) = attrIds r := by
  cases v <;> first | rfl | cases h

theorem attrIds_copyAttrs (cls n : Nat) (l : Attrs) :
    attrIds (copyAttrs cls n l).1 = List.range' n (attrIds (copyAttrs cls n l).1).length ∧
    (copyAttrs cls n l).2 = n + (attrIds (copyAttrs cls n l).1).length := by
  fun_induction copyAttrs cls n l with
  | case1 n => exact ⟨rfl, rfl⟩
  | case2 n k m lid c items r q ih =>
    obtain ⟨h1, h2⟩ := ih
    constructor
    · simp only [attrIds, List.length_cons, List.range'_succ, q]
      rw [← h1]
    · simp only [attrIds, List.length_cons, q]
      omega
  | case3 n k m v r hv ih =>
    have hl : v.isList = false := by
      cases v <;> first | rfl | exact (hv _ _ _ rfl).elim
    -- what is stored is no list either: the entry, if any, adds no id
    cases hc : coerce cls k m v with
    | none => exact ih
    | some v' =>
      simp only [pushEntry, attrIds_cons_nonlist k m _ (coerce_nonlist hc hl)]
      exact ih

theorem ids_pos (t : Node) : 0 < (ids t).length := by
  cases t <;> simp [ids]

theorem length_copySpecL (inh : Option Bool) : ∀ (ks : List Node) (n : Nat), (copySpecL inh n ks).1.length = ks.length
  | [], _ => rfl
  | k :: ks, n => by simp only [copySpecL, List.length_cons, length_copySpecL inh ks]

theorem range'_glue {l1 l2 : List Nat} {n m : Nat} (h1 : l1 = List.range' n l1.length) (hm : m = n + l1.length)
    (h2 : l2 = List.range' m l2.length) : l1 ++ l2 = List.range' n (l1 ++ l2).length := by
  subst hm
  rw [List.length_append, ← List.range'_append (step := 1)]
  simp only [Nat.one_mul]
  rw [← h1, ← h2]

mutual
theorem ids_copySpec : ∀ (t : Node) (inh : Option Bool) (n : Nat),
    ids (copySpec inh n t).1 = List.range' n (ids (copySpec inh n t).1).length ∧
    (copySpec inh n t).2 = n + (ids (copySpec inh n t).1).length
  | .str i c v, inh, n => by simp [copySpec, ids]
  | .tag i d ks, inh, n => by
    obtain ⟨a1, a2⟩ := attrIds_copyAttrs d.dictCls (n + 1) d.attrs
    obtain ⟨k1, k2⟩ := idsL_copySpecL ks (isXml inh d) (copyAttrs d.dictCls (n + 1) d.attrs).2
    have hg := range'_glue a1 a2 k1
    simp only [copySpec, ids, copySelf] at *
    constructor
    · simp only [List.length_cons, List.range'_succ]
      rw [← hg]
    · simp only [List.length_cons, List.length_append] at *
      omega
theorem idsL_copySpecL : ∀ (ks : List Node) (inh : Option Bool) (n : Nat),
    idsL (copySpecL inh n ks).1 = List.range' n (idsL (copySpecL inh n ks).1).length ∧
    (copySpecL inh n ks).2 = n + (idsL (copySpecL inh n ks).1).length
  | [], inh, n => by simp [copySpecL, idsL]
  | k :: ks, inh, n => by
    obtain ⟨a1, a2⟩ := ids_copySpec k inh n
    obtain ⟨k1, k2⟩ := idsL_copySpecL ks inh (copySpec inh n k).2
    have hg := range'_glue a1 a2 k1
    simp only [copySpecL, idsL] at *
    constructor
    · exact hg
    · simp only [List.length_append] at *
      omega
end

end BS.Copy
