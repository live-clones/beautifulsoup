import BSModel.Model.Depth
/-! C11 — the code mirror of `_event_stream` (a loop with an explicit tag stack, `Model/Depth.lean` `eventStreamImpl`)
    refines the recursive skeleton (`evSpecN`) and its deepest comparison is exactly the recursive characterisation
    `evCmp` the accounting of decode / deepcopy / pickle uses. -/
namespace BS.Depth

mutual
/-- the events of a subtree with the ENDs of its still-open right spine withheld (they are yielded only when the next
    element arrives, or at the very end) -/
def openN (i : Nat) : Node → List Evt
  | .str _ => [Evt.string i]
  | .tag _ _ _ v ks => if v && ks.isEmpty then [Evt.empty i] else Evt.start i :: evsL [] (i + 1) ks
/-- the events yielded while the children `ks` arrive, `s` being what the previous child left open -/
def evsL (s : TagStack) (j : Nat) : List Node → List Evt
  | [] => []
  | k :: ks => ends s ++ openN j k ++ evsL (spineS j k) (j + sizeN k) ks
/-- what a subtree leaves on `tag_stack` (top first) -/
def spineS (i : Nat) : Node → TagStack
  | .str _ => []
  | .tag n a kx v ks => if v && ks.isEmpty then [] else lastSpine [] (i + 1) ks ++ [(i, .tag n a kx v ks)]
/-- what the last of `ks` leaves open (`s` if none) -/
def lastSpine (s : TagStack) (j : Nat) : List Node → TagStack
  | [] => s
  | k :: ks => lastSpine (spineS j k) (j + sizeN k) ks
end

mutual
theorem openN_spec (i : Nat) (t : Node) : openN i t ++ ends (spineS i t) = evSpecN i t := by
  cases t with
  | str v => simp [openN, spineS, evSpecN, ends]
  | tag n a kx v ks =>
    simp only [openN, spineS, evSpecN]
    split
    · simp [ends]
    · have := evsL_spec [] (i + 1) ks
      simp only [ends, List.map_append, List.cons_append, ← List.append_assoc] at this ⊢
      simp [this]
theorem evsL_spec (s : TagStack) (j : Nat) (ks : List Node) :
    evsL s j ks ++ ends (lastSpine s j ks) = ends s ++ evSpecL j ks := by
  cases ks with
  | nil => simp [evsL, lastSpine, evSpecL]
  | cons k ks =>
    simp only [evsL, lastSpine, evSpecL, List.append_assoc]
    rw [evsL_spec (spineS j k) (j + sizeN k) ks, ← List.append_assoc (openN j k), openN_spec j k]
end

mutual
theorem spineS_nodes (i : Nat) (t : Node) : (spineS i t).map (·.2) = spineD t := by
  cases t with
  | str v => simp [spineS, spineD]
  | tag n a kx v ks =>
    simp only [spineS, spineD]
    split
    · rfl
    · rw [List.map_append, lastSpine_nodes [] (i + 1) ks]
      cases ks <;> simp_all [spineDL]
theorem lastSpine_nodes (s : TagStack) (j : Nat) (ks : List Node) :
    (lastSpine s j ks).map (·.2) = if ks.isEmpty then s.map (·.2) else spineDL ks := by
  cases ks with
  | nil => simp [lastSpine]
  | cons k ks =>
    simp only [lastSpine, spineDL, List.isEmpty_cons, Bool.false_eq_true, ↓reduceIte]
    rw [lastSpine_nodes (spineS j k) (j + sizeN k) ks, spineS_nodes j k]
end

mutual
theorem spineS_ids (i : Nat) (t : Node) : ∀ x ∈ spineS i t, i ≤ x.1 := by
  cases t with
  | str v => simp [spineS]
  | tag n a kx v ks =>
    simp only [spineS]
    split
    · simp
    · intro x hx
      rcases List.mem_append.mp hx with h | h
      · rcases lastSpine_ids [] (i + 1) ks x h with h' | h'
        · simp at h'
        · omega
      · simp at h; rw [h]; exact Nat.le_refl i
theorem lastSpine_ids (s : TagStack) (j : Nat) (ks : List Node) : ∀ x ∈ lastSpine s j ks, x ∈ s ∨ j ≤ x.1 := by
  cases ks with
  | nil => intro x hx; left; simpa [lastSpine] using hx
  | cons k ks =>
    intro x hx
    simp only [lastSpine] at hx
    rcases lastSpine_ids (spineS j k) (j + sizeN k) ks x hx with h | h
    · right; exact spineS_ids j k x h
    · right; omega
end

theorem closeWhile_append (cfg : Cfg) (c : Elem) (S B : TagStack) (hS : ∀ x ∈ S, x.1 ≠ c.parent) :
    closeWhile cfg c (S ++ B) =
      ((closeWhile cfg c B).1, ends S ++ (closeWhile cfg c B).2.1,
       max (loopMax (S.map (·.2)) (cmpCost cfg c.parentNode)) (closeWhile cfg c B).2.2) := by
  induction S with
  | nil => simp [ends, loopMax]
  | cons x S ih =>
    obtain ⟨xid, xn⟩ := x
    have hx : c.parent ≠ xid := fun e => hS (xid, xn) (by simp) e.symm
    simp only [List.cons_append, closeWhile, hx, ↓reduceIte, ih (fun y hy => hS y (by simp [hy])), ends, List.map_cons,
      loopMax, Nat.max_assoc]

theorem evRun_append (cfg : Cfg) (st : TagStack) (l1 l2 : List Elem) :
    evRun cfg st (l1 ++ l2) =
      ((evRun cfg (evRun cfg st l1).1 l2).1, (evRun cfg st l1).2.1 ++ (evRun cfg (evRun cfg st l1).1 l2).2.1,
       max (evRun cfg st l1).2.2 (evRun cfg (evRun cfg st l1).1 l2).2.2) := by
  induction l1 generalizing st with
  | nil => simp [evRun]
  | cons c cs ih =>
    simp only [List.cons_append, evRun]
    rcases evStep cfg st c with ⟨st1, e1, c1⟩
    simp only [ih]
    rcases evRun cfg st1 cs with ⟨st2, e2, c2⟩
    rcases evRun cfg st2 l2 with ⟨st3, e3, c3⟩
    simp [Nat.max_assoc]

mutual
/-- `B`: a stack bottom at which the pop loop stops at once (it begins with the parent, or is empty when the parent
    is not part of the iteration), `cB` the cost of that one test (`sameCost`; 0 for `[]`); `S`: what the previous
    sibling left open -/
theorem evRun_nodeG (cfg : Cfg) (t : Node) (pid : Nat) (pn : Node) (i : Nat) (S B : TagStack) (cB : Nat)
    (hB : ∀ c : Elem, c.parent = pid → closeWhile cfg c B = (B, [], cB)) (hS : ∀ x ∈ S, x.1 ≠ pid) :
    evRun cfg (S ++ B) (flatN pid pn i t) =
      (spineS i t ++ B, ends S ++ openN i t, max (max (loopMax (S.map (·.2)) (cmpCost cfg pn)) cB) (evCmp cfg t)) := by
  cases t with
  | str v =>
    have hc := closeWhile_append cfg ⟨i, pid, .str v, pn⟩ S B hS
    rw [hB _ rfl] at hc
    simp only [flatN, evRun, evStep, hc, spineS, openN, evCmp]
    simp
  | tag n a kx v ks =>
    have hc := closeWhile_append cfg ⟨i, pid, .tag n a kx v ks, pn⟩ S B hS
    rw [hB _ rfl] at hc
    simp only [flatN, evRun, evStep, hc]
    by_cases hv : (v && ks.isEmpty) = true
    · have hk : ks = [] := by
        cases ks with
        | nil => rfl
        | cons _ _ => simp at hv
      subst hk
      simp only [hv, ↓reduceIte, flatL, evRun, spineS, openN, evCmp, evKids]
      simp
    · have hl := evRun_kids cfg ks (.tag n a kx v ks) i (i + 1) [] B (by simp) (by omega)
      simp only [List.nil_append] at hl
      simp only [hv, Bool.false_eq_true, ↓reduceIte, hl, spineS, openN, evCmp, List.map_nil]
      simp [Nat.max_assoc]
theorem evRun_kids (cfg : Cfg) (ks : List Node) (P : Node) (i j : Nat) (S st : TagStack)
    (hS : ∀ x ∈ S, x.1 ≠ i) (hj : i < j) :
    evRun cfg (S ++ (i, P) :: st) (flatL i P j ks) =
      (lastSpine S j ks ++ (i, P) :: st, evsL S j ks, evKids cfg P (S.map (·.2)) ks) := by
  cases ks with
  | nil => simp [flatL, evRun, lastSpine, evsL, evKids]
  | cons k ks =>
    have hn := evRun_nodeG cfg k i P j S ((i, P) :: st) (sameCost cfg) (fun c hc => by simp [closeWhile, hc]) hS
    have hS' : ∀ x ∈ spineS j k, x.1 ≠ i := fun x hx => by have := spineS_ids j k x hx; omega
    have hl := evRun_kids cfg ks P i (j + sizeN k) (spineS j k) st hS' (by omega)
    simp only [flatL, evRun_append, hn, hl, lastSpine, evsL, evKids, spineS_nodes]
    simp [Nat.max_assoc]
end

/-- one subtree, its parent `(pid, pn)` on the stack below what the previous sibling left open (`S`) -/
theorem evRun_node (cfg : Cfg) (t : Node) (pid : Nat) (pn : Node) (i : Nat) (S st : TagStack)
    (hS : ∀ x ∈ S, x.1 ≠ pid) (hi : pid < i) :
    evRun cfg (S ++ (pid, pn) :: st) (flatN pid pn i t) =
      (spineS i t ++ (pid, pn) :: st, ends S ++ openN i t,
       max (max (loopMax (S.map (·.2)) (cmpCost cfg pn)) (sameCost cfg)) (evCmp cfg t)) :=
  evRun_nodeG cfg t pid pn i S _ _ (fun c hc => by simp [closeWhile, hc]) hS

theorem evRun_kids_top (cfg : Cfg) (ks : List Node) (P : Node) (i j : Nat) (S : TagStack)
    (hS : ∀ x ∈ S, x.1 ≠ i) (hj : i < j) :
    evRun cfg S (flatL i P j ks) = (lastSpine S j ks, evsL S j ks, evKidsTop cfg P (S.map (·.2)) ks) := by
  induction ks generalizing S j with
  | nil => simp [flatL, evRun, lastSpine, evsL, evKidsTop]
  | cons k ks ih =>
    have hn := evRun_nodeG cfg k i P j S [] 0 (fun _ _ => rfl) hS
    simp only [List.append_nil, Nat.max_zero] at hn
    have hS' : ∀ x ∈ spineS j k, x.1 ≠ i := fun x hx => by have := spineS_ids j k x hx; omega
    have hl := ih (j + sizeN k) (spineS j k) hS' (by omega)
    simp only [flatL, evRun_append, hn, hl, lastSpine, evsL, evKidsTop, spineS_nodes]
    simp [Nat.max_assoc]

theorem eventStreamContentsImpl_spec (cfg : Cfg) (t : Node) :
    (eventStreamContentsImpl cfg t).1 = evSpecL 1 (kidsOf t) ∧ (eventStreamContentsImpl cfg t).2 = evCmpContents cfg t := by
  have hl := evRun_kids_top cfg (kidsOf t) t 0 1 [] (by simp) (by omega)
  have hs := evsL_spec [] 1 (kidsOf t)
  simp only [eventStreamContentsImpl, evCmpContents, hl, List.map_nil, and_true]
  rw [hs]; simp [ends]

/-- **Refinement.** For every tree and both variants of the test, the loop with its tag stack yields exactly the
    recursive skeleton (START, the children's events in order, END; EMPTY for an empty-element tag; STRING), … -/
theorem eventStreamImpl_events (cfg : Cfg) (t : Node) : (eventStreamImpl cfg t).1 = evSpecN 0 t := by
  have h := evRun_nodeG cfg t 0 t 0 [] [] 0 (fun _ _ => rfl) (by simp)
  simp only [eventStreamImpl, List.nil_append] at h ⊢
  rw [h]
  simpa [ends] using openN_spec 0 t

/-- … and the deepest comparison it makes is the recursive characterisation `evCmp` the accounting uses. -/
theorem eventStreamImpl_cost (cfg : Cfg) (t : Node) : (eventStreamImpl cfg t).2 = evCmp cfg t := by
  have h := evRun_nodeG cfg t 0 t 0 [] [] 0 (fun _ _ => rfl) (by simp)
  simp only [eventStreamImpl, List.nil_append] at h ⊢
  rw [h]
  simp [loopMax]

/-! ### structural equality of two trees forces equal sizes (why the structural `!=` and `is not` agree on the pairs
    `_event_stream` compares: an element's parent properly contains every tag still open below it) -/

mutual
theorem beqN_sizeN (a b : Node) (h : beqN a b = true) : sizeN a = sizeN b := by
  cases a with
  | str v => cases b <;> simp_all [beqN, sizeN]
  | tag n x kx v ks =>
    cases b with
    | str _ => simp [beqN] at h
    | tag n' x' kx' v' ks' =>
      simp only [beqN, Bool.and_eq_true] at h
      simp only [sizeN, beqL_sizeL ks ks' h.2]
theorem beqL_sizeL (a b : List Node) (h : beqL a b = true) : sizeL a = sizeL b := by
  cases a with
  | nil => cases b <;> simp_all [beqL, sizeL]
  | cons k ks =>
    cases b with
    | nil => simp [beqL] at h
    | cons k' ks' =>
      simp only [beqL, Bool.and_eq_true] at h
      simp only [sizeL, beqN_sizeN k k' h.1, beqL_sizeL ks ks' h.2]
end

end BS.Depth
