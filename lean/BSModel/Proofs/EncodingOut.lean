import BSModel.Model.EncodingOut
import BSModel.Proofs.PStr
import BSModel.Proofs.Digits
/-! C08's lemmas: each fact is proved for one character (one match) before an arbitrary rest, then lifted by induction. -/
namespace BS.EncodingOut
open BS BS.Gen.EncodingOut

/-! ### decimal numerals -/

theorem toDec_eq (n : Nat) : toDec n = Writer.digits 10 (48 + ·) (n + 1) n :=
  (Writer.digits_acc 10 _ toDecAux (fun _ _ => rfl) (fun _ _ _ => rfl) (n + 1) n []).trans (List.append_nil _)

theorem ofDec_toDec (n : Nat) : ofDec (toDec n) = n := by
  simp only [ofDec, toDec_eq, Nat.mul_comm 10]
  exact Writer.foldl_digits 10 _ (by omega) (· - 48) (fun k _ => by simp) _ n (Writer.lt_pow_succ_self 10 n (by omega))

theorem toDec_digits (n : Nat) : ∀ d ∈ toDec n, isDigit d = true :=
  toDec_eq n ▸ Writer.digits_mem 10 _ _ (by omega)
    (fun k hk => by simp only [isDigit, Bool.and_eq_true, decide_eq_true_eq]; omega) _ n

theorem toDec_ne_nil (n : Nat) : toDec n ≠ [] := toDec_eq n ▸ Writer.digits_ne_nil 10 _ n n

theorem toDec_lt128 (n : Nat) : ∀ d ∈ toDec n, d < 128 :=
  toDec_eq n ▸ Writer.digits_mem 10 _ (· < 128) (by omega) (fun k hk => by omega) _ n

/-- a reference to a code point of the Unicode range has at most 7 digits: `&#1114111;` is the longest -/
theorem toDec_length_le (n : Nat) (h : n < 0x110000) : (toDec n).length ≤ 7 :=
  toDec_eq n ▸ Writer.digits_length 10 _ _ n 6 (by simp; omega)

/-! ### xmlcharrefreplace and the other error handlers -/

theorem flatMap_self (s : PStr) (f : Nat → PStr) (h : ∀ c ∈ s, f c = [c]) : s.flatMap f = s := by
  rw [List.flatMap_def, List.map_congr_left h, ← List.flatMap_def, List.flatMap_singleton']

theorem xcr_append (C : Codec) (a b : PStr) :
    xmlcharrefreplace C (a ++ b) = xmlcharrefreplace C a ++ xmlcharrefreplace C b := by
  simp [xmlcharrefreplace, List.flatMap_append]

theorem xcr_encodable_id (C : Codec) (s : PStr) (h : C.Encodable s) : xmlcharrefreplace C s = s :=
  flatMap_self s _ fun c hc => by simp [xcrChar, h c hc]

theorem xcr_ascii (C : Codec) (h : C.AsciiOK) (a : PStr) (ha : ∀ c ∈ a, c < 128) : xmlcharrefreplace C a = a :=
  xcr_encodable_id C a fun c hc => h c (ha c hc)

theorem handled_encodable_id (C : Codec) (h : Handler) (s : PStr) (hs : C.Encodable s) : handled C h s = s :=
  flatMap_self s _ fun c hc => by simp [hs c hc]

theorem handled_xcr (C : Codec) (s : PStr) : handled C .xmlcharrefreplace s = xmlcharrefreplace C s := by
  simp only [handled, xmlcharrefreplace, replacementFor, Option.getD_some]
  congr 1

theorem charref_lt128 (c : Nat) : ∀ d ∈ charref c, d < 128 := by
  simp only [charref, List.forall_mem_append, List.forall_mem_cons]
  exact ⟨⟨⟨by omega, by omega, nofun⟩, toDec_lt128 c⟩, by omega, nofun⟩

theorem firstBad_isSome_iff (C : Codec) (s : PStr) (i : Nat) :
    (firstBad C i s).isSome = true ↔ ∃ c ∈ s, C.canEnc c = false := by
  fun_induction firstBad C i s with
  | case1 => simp
  | case2 i c cs hc ih => simp [hc, ih]
  | case3 i c cs hc => simp [hc]

theorem firstBad_none (C : Codec) (s : PStr) (i : Nat) (h : C.Encodable s) : firstBad C i s = none := by
  apply Option.not_isSome_iff_eq_none.mp
  intro hs
  obtain ⟨c, hc, hf⟩ := (firstBad_isSome_iff C s i).mp hs
  rw [h c hc] at hf; cases hf

theorem hexDigit_lt128 (d : Nat) (h : d < 16) : hexDigit d < 128 := by
  unfold hexDigit; split <;> omega

theorem toHexFixed_lt128 (w : Nat) : ∀ (n : Nat), ∀ d ∈ toHexFixed w n, d < 128 := by
  induction w with
  | zero => nofun
  | succ w ih =>
    intro n
    simp only [toHexFixed, List.forall_mem_append, List.forall_mem_singleton]
    exact ⟨ih _, hexDigit_lt128 _ (Nat.mod_lt _ (by omega))⟩

theorem backslashEscape_lt128 (c : Nat) : ∀ d ∈ backslashEscape c, d < 128 := by
  -- `\x`, `\u`, `\U`
  have esc (x w : Nat) (hx : x < 128) : ∀ d ∈ [92, x] ++ toHexFixed w c, d < 128 := by
    simp only [List.forall_mem_append, List.forall_mem_cons]
    exact ⟨⟨by omega, hx, nofun⟩, toHexFixed_lt128 w c⟩
  unfold backslashEscape
  split
  · exact esc 120 2 (by omega)
  · split
    · exact esc 117 4 (by omega)
    · exact esc 85 8 (by omega)

theorem replacement_lt128 (h : Handler) (c : Nat) : ∀ d ∈ (replacementFor h c).getD [], d < 128 := by
  cases h with
  | strict => nofun
  | ignore => nofun
  | replace => simp [replacementFor]
  | xmlcharrefreplace => exact charref_lt128 c
  | backslashreplace => exact backslashEscape_lt128 c

/-- whatever a handler substitutes is ASCII, so the handled string is encodable as soon as ASCII is -/
theorem handled_encodable (C : Codec) (hA : C.AsciiOK) (h : Handler) (s : PStr) : C.Encodable (handled C h s) := by
  intro d hd
  simp only [handled, List.mem_flatMap] at hd
  obtain ⟨c, _, hd⟩ := hd
  split at hd
  · rename_i hc
    rw [List.mem_singleton.mp hd]; exact hc
  · exact hA d (replacement_lt128 h c d hd)

theorem xcr_encodable (C : Codec) (h : C.AsciiOK) (s : PStr) : C.Encodable (xmlcharrefreplace C s) :=
  handled_xcr C s ▸ handled_encodable C h .xmlcharrefreplace s

theorem pyEncode_nonstrict (C : Codec) (hA : C.AsciiOK) (h : Handler) (hs : h ≠ .strict) (s : PStr) :
    pyEncode C h s = .bytes (C.enc (handled C h s)) := by
  cases h with
  | strict => exact absurd rfl hs
  | _ => simp only [pyEncode, firstBad_none C _ 0 (handled_encodable C hA _ s)]

/-! ### the reader on the writer's image -/

/-- what the writer makes of one character: `&amp; &lt; &gt;`, `&quot;` when the value is double-quoted and holds both
    quotes (`q`), the character itself when encodable, else its decimal reference -/
def wChar (C : Codec) (q : Bool) (c : Nat) : PStr :=
  if c = 38 then [38, 97, 109, 112, 59]
  else if c = 60 then [38, 108, 116, 59]
  else if c = 62 then [38, 103, 116, 59]
  else if q && c = 34 then [38, 113, 117, 111, 116, 59]
  else xcrChar C c

theorem readGo_skip (rule : Nat → PStr) : ∀ (pre rest : PStr), readGo rule pre.length (pre ++ rest) = readGo rule 0 rest := by
  intro pre
  induction pre with
  | nil => intro rest; rfl
  | cons c cs ih =>
    intro rest
    rw [List.length_cons, List.cons_append, readGo]
    exact ih rest

theorem takeWhile_upto (p : Nat → Bool) (l : PStr) (stop : Nat) (r : PStr) (hl : ∀ x ∈ l, p x = true) (hs : p stop = false) :
    (l ++ stop :: r).takeWhile p = l := by
  rw [List.takeWhile_append_of_pos hl, List.takeWhile_cons_of_neg (ne_true_of_eq_false hs), List.append_nil]

theorem matchRef_charref (rule : Nat → PStr) (c : Nat) (rest : PStr) :
    matchRef rule (35 :: (toDec c ++ 59 :: rest)) = some (rule c, (toDec c).length + 2) := by
  simp only [matchRef, takeWhile_upto isDigit _ 59 _ (toDec_digits c) rfl, List.isEmpty_eq_false_iff.mpr (toDec_ne_nil c),
    List.drop_left, ofDec_toDec]
  rfl

theorem read_charref (rule : Nat → PStr) (c : Nat) (rest : PStr) :
    readGo rule 0 (charref c ++ rest) = rule c ++ readGo rule 0 rest := by
  have e : charref c ++ rest = 38 :: 35 :: (toDec c ++ 59 :: rest) := by simp [charref]
  rw [e, readGo]
  simp only [if_true]
  rw [matchRef_charref]
  simp only
  -- `(toDec c).length + 2` is the length of `#digits;`
  have := readGo_skip rule (35 :: (toDec c ++ [59])) rest
  simp only [List.length_cons, List.length_append, List.length_nil, List.cons_append, List.append_assoc,
    List.nil_append] at this
  rw [← this]

theorem read_wChar (C : Codec) (h : C.AsciiOK) (rule : Nat → PStr) (q : Bool) (c : Nat) (rest : PStr) :
    readGo rule 0 (wChar C q c ++ rest) = (if C.canEnc c then [c] else rule c) ++ readGo rule 0 rest := by
  unfold wChar
  by_cases h38 : c = 38
  · subst h38; rw [if_pos rfl, h 38 (by omega)]; rfl
  rw [if_neg h38]
  by_cases h60 : c = 60
  · subst h60; rw [if_pos rfl, h 60 (by omega)]; rfl
  rw [if_neg h60]
  by_cases h62 : c = 62
  · subst h62; rw [if_pos rfl, h 62 (by omega)]; rfl
  rw [if_neg h62]
  by_cases hq : (q && decide (c = 34)) = true
  · obtain rfl : c = 34 := by simpa using (Bool.and_eq_true_iff.mp hq).2
    rw [if_pos hq, h 34 (by omega)]; rfl
  rw [if_neg hq]
  unfold xcrChar
  cases hc : C.canEnc c
  · exact read_charref rule c rest
  · simp [readGo, h38]

theorem readGo_nil (rule : Nat → PStr) (k : Nat) : readGo rule k [] = [] := by
  cases k <;> rfl

/-- reading what the writer wrote: encodable characters as they are, the others through the reader's numeric rule -/
theorem read_written (C : Codec) (h : C.AsciiOK) (rule : Nat → PStr) (q : Bool) (s : PStr) :
    readCharrefs rule (s.flatMap (wChar C q)) = s.flatMap (fun c => if C.canEnc c then [c] else rule c) := by
  induction s with
  | nil => rfl
  | cons c cs ih =>
    rw [List.flatMap_cons, List.flatMap_cons, ← ih]
    exact read_wChar C h rule q c _

theorem flatMap_rule_self (C : Codec) (rule : Nat → PStr) (s : PStr) (hs : ∀ c ∈ s, C.canEnc c = false → rule c = [c]) :
    s.flatMap (fun c => if C.canEnc c then [c] else rule c) = s := by
  apply flatMap_self
  intro c hc
  cases hce : C.canEnc c
  · simp [hs c hc hce]
  · simp

/-! ### the writer as one pass -/

theorem esc_xcr (C : Codec) (h : C.AsciiOK) (c : Nat) : (escXml c).flatMap (xcrChar C) = wChar C false c := by
  unfold escXml wChar
  split
  · exact xcr_ascii C h _ (by decide)
  · split
    · exact xcr_ascii C h _ (by decide)
    · split
      · exact xcr_ascii C h _ (by decide)
      · simp

theorem esc_quot_xcr (C : Codec) (h : C.AsciiOK) (c : Nat) :
    ((escXml c).flatMap escQuot).flatMap (xcrChar C) = wChar C true c := by
  by_cases h34 : c = 34
  · subst h34; exact xcr_ascii C h _ (by decide)
  · have e : (escXml c).flatMap escQuot = escXml c := by
      unfold escXml; (repeat' split) <;> simp [escQuot, h34]
    rw [e, esc_xcr C h c]
    simp [wChar, h34]

theorem written_text (C : Codec) (h : C.AsciiOK) (s : PStr) :
    xmlcharrefreplace C (substituteXml s) = s.flatMap (wChar C false) := by
  simp only [xmlcharrefreplace, substituteXml, List.flatMap_assoc]
  congr 1
  funext c
  exact esc_xcr C h c

theorem written_quot (C : Codec) (h : C.AsciiOK) (s : PStr) :
    xmlcharrefreplace C ((substituteXml s).flatMap escQuot) = s.flatMap (wChar C true) := by
  simp only [xmlcharrefreplace, substituteXml, List.flatMap_assoc]
  congr 1
  funext c
  simpa [List.flatMap_assoc] using esc_quot_xcr C h c

theorem xcr_quoted (C : Codec) (h : C.AsciiOK) (quote : Nat) (hq : quote < 128) (body : PStr) :
    xmlcharrefreplace C ([quote] ++ body ++ [quote]) = [quote] ++ xmlcharrefreplace C body ++ [quote] := by
  rw [xcr_append, xcr_append, xcr_ascii C h [quote] (by simpa using hq)]

theorem readAttr_quoted (quote : Nat) (body : PStr) :
    readAttr ([quote] ++ body ++ [quote]) = readCharrefs attrCharref body := by
  simp [readAttr]

theorem readText_written (C : Codec) (h : C.AsciiOK) (orig : Nat → Option Nat) (s : PStr) :
    readText orig (xmlcharrefreplace C (substituteXml s))
      = s.flatMap (fun c => if C.canEnc c then [c] else textCharref orig c) := by
  rw [written_text C h]
  exact read_written C h _ false s

theorem readAttr_written (C : Codec) (h : C.AsciiOK) (v : PStr) :
    readAttr (xmlcharrefreplace C (quotedAttributeValue (substituteXml v)))
      = v.flatMap (fun c => if C.canEnc c then [c] else attrCharref c) := by
  unfold quotedAttributeValue
  split
  · split
    · rw [xcr_quoted C h 34 (by omega), readAttr_quoted, written_quot C h, read_written C h]
    · rw [xcr_quoted C h 39 (by omega), readAttr_quoted, written_text C h, read_written C h]
  · rw [xcr_quoted C h 34 (by omega), readAttr_quoted, written_text C h, read_written C h]

/-! ### single-byte table codecs -/

theorem tableCodec_roundTrip (tbl : List Nat) : (tableCodec tbl).RoundTrip := by
  intro s hs
  have key : ∀ c ∈ s, tbl.idxOf c < tbl.length ∧ tbl.getD (tbl.idxOf c) undef = c ∧ c < undef := by
    intro c hc
    obtain ⟨h3, hm⟩ : c < undef ∧ c ∈ tbl := by simpa [tableCodec] using hs c hc
    have hl : tbl.idxOf c < tbl.length := List.idxOf_lt_length_iff.mpr hm
    exact ⟨hl, by simp [List.getD_eq_getElem?_getD, hl], h3⟩
  have hall : (s.map (fun c => tbl.idxOf c)).all (fun x => decide (x < tbl.length) && decide (tbl.getD x undef < undef)) = true := by
    simp only [List.all_map, List.all_eq_true]
    intro c hc
    obtain ⟨h1, -, h3⟩ := key c hc
    simp [h1, h3]
  simp only [tableCodec, if_pos hall, List.map_map]
  exact congrArg some ((List.map_congr_left fun c hc => (key c hc).2.1).trans (List.map_id s))

/-- checkers for a decode table: every ASCII code point is in it -/
def tableAsciiOK (tbl : List Nat) : Bool := (List.range 128).all (fun c => tbl.contains c)
/-- … at its own index -/
def tableAsciiAt (tbl : List Nat) : Bool := (List.range 128).all (fun c => tbl.idxOf c == c)

theorem tableCodec_asciiOK (tbl : List Nat) (h : tableAsciiOK tbl = true) : (tableCodec tbl).AsciiOK := by
  intro c hc
  have := List.all_eq_true.mp h c (List.mem_range.mpr hc)
  simp only [tableCodec, Bool.and_eq_true, decide_eq_true_eq]
  exact ⟨by simp [undef]; omega, this⟩

theorem tableCodec_asciiCompat (tbl : List Nat) (h : tableAsciiAt tbl = true) : (tableCodec tbl).AsciiCompat := by
  intro a s ha _
  show (a ++ s).map (fun c => tbl.idxOf c) = a ++ s.map (fun c => tbl.idxOf c)
  rw [List.map_append]
  congr 1
  refine (List.map_congr_left fun c hc => ?_).trans (List.map_id a)
  simpa using List.all_eq_true.mp h c (List.mem_range.mpr (ha c hc))

theorem idxOf_range (n c : Nat) (h : c < n) : (List.range n).idxOf c = c := by
  have := (List.nodup_range (n := n)).idxOf_getElem c (by rwa [List.length_range])
  rwa [List.getElem_range] at this

/-- the table begins with the 128 ASCII code points in order -/
def asciiPrefix (tbl : List Nat) : Bool := tbl.take 128 == List.range 128

theorem tableAsciiAt_of_prefix (tbl : List Nat) (h : asciiPrefix tbl = true) : tableAsciiAt tbl = true := by
  apply List.all_eq_true.mpr
  intro c hc
  rw [← List.take_append_drop 128 tbl, eq_of_beq h, List.idxOf_append, if_pos hc, idxOf_range 128 c (List.mem_range.mp hc)]
  exact beq_self_eq_true c

theorem tableAsciiOK_of_prefix (tbl : List Nat) (h : asciiPrefix tbl = true) : tableAsciiOK tbl = true := by
  apply List.all_eq_true.mpr
  intro c hc
  rw [← List.take_append_drop 128 tbl, eq_of_beq h]
  simp [List.contains_eq_mem, List.mem_append, hc]

/-- `tableCodec tbl` for a table that begins with ASCII in order (all generated ones but cp500): ASCII is its own byte, only
    the upper half is searched. `tableCodec` scans the table per character (`contains`, `idxOf`), so the evaluated vectors
    of `Props/C08` rewrite `asciiCodec` / `latin1Codec` to this form first. -/
def asciiFirst (tbl : List Nat) : Codec where
  canEnc c := c < 128 || (c < undef && (tbl.drop 128).contains c)
  enc s := s.map fun c => if c < 128 then c else 128 + (tbl.drop 128).idxOf c
  dec := (tableCodec tbl).dec

theorem tableCodec_eq_asciiFirst (tbl : List Nat) (h : asciiPrefix tbl = true) : tableCodec tbl = asciiFirst tbl := by
  have ht : tbl = List.range 128 ++ tbl.drop 128 := by
    conv => lhs; rw [← List.take_append_drop 128 tbl, eq_of_beq h]
  unfold tableCodec asciiFirst
  congr 1
  · funext c  -- `canEnc`
    conv => lhs; rw [ht]
    by_cases h1 : c < 128
    · have : c < undef := by simp [undef]; omega
      simp [h1, this]
    · simp [h1]
  · funext s  -- `enc`
    refine List.map_congr_left fun c _ => ?_
    conv => lhs; rw [ht]
    rw [List.idxOf_append]
    split
    · rename_i hm; rw [if_pos (List.mem_range.mp hm), idxOf_range 128 c (List.mem_range.mp hm)]
    · rename_i hm; rw [if_neg (fun h => hm (List.mem_range.mpr h)), List.length_range, Nat.add_comm]

theorem asciiCodec_fast : asciiCodec = asciiFirst sb_ascii := tableCodec_eq_asciiFirst _ (by decide +kernel)
theorem latin1Codec_fast : latin1Codec = asciiFirst sb_latin_1 := tableCodec_eq_asciiFirst _ (by decide +kernel)

/-- which ASCII code points occur in the table, as a bit mask (the kernel computes on numerals) -/
def asciiMask (tbl : List Nat) : Nat := tbl.foldl (fun m c => if c < 128 then m ||| 1 <<< c else m) 0

theorem testBit_foldl_mask (c : Nat) (hc : c < 128) : ∀ (tbl : List Nat) (m : Nat),
    (tbl.foldl (fun m c => if c < 128 then m ||| 1 <<< c else m) m).testBit c = (m.testBit c || tbl.contains c) := by
  intro tbl
  induction tbl with
  | nil => intro m; simp
  | cons x xs ih =>
    intro m
    rw [List.foldl_cons, ih, List.contains_cons]
    by_cases hx : x < 128
    · rw [if_pos hx, Nat.testBit_or, Nat.one_shiftLeft, Nat.testBit_two_pow, Bool.or_assoc]
      congr 2
      rw [Bool.eq_iff_iff, decide_eq_true_iff, beq_iff_eq]
      exact eq_comm
    · rw [if_neg hx]
      have : (c == x) = false := by simp; omega
      rw [this, Bool.false_or]

theorem tableAsciiOK_of_mask (tbl : List Nat) (h : asciiMask tbl = 2 ^ 128 - 1) : tableAsciiOK tbl = true := by
  apply List.all_eq_true.mpr
  intro c hc
  have hc := List.mem_range.mp hc
  have := testBit_foldl_mask c hc tbl 0
  rw [← asciiMask, h, Nat.testBit_two_pow_sub_one] at this
  simpa [hc] using this.symm

/-! ### numeric references the readers give back unchanged -/

def isC1 (c : Nat) : Bool := 128 ≤ c && c ≤ 159
def isSurrogate (c : Nat) : Bool := 0xD800 ≤ c && c ≤ 0xDFFF
/-- U+FDD0–U+FDEF and the last two code points of every plane -/
def isNonchar (c : Nat) : Bool := (0xFDD0 ≤ c && c ≤ 0xFDEF) || (c % 0x10000 ≥ 0xFFFE)

/-- Text survives unless it holds a C1 control, or a number beyond Unicode, that the target cannot carry (decidable
    given the codec). -/
def CharrefSafeText (C : Codec) (s : PStr) : Bool := s.all (fun c => C.canEnc c || (!isC1 c && c < undef))

/-- Attribute values: additionally no unencodable noncharacter or surrogate. -/
def CharrefSafeAttr (C : Codec) (s : PStr) : Bool :=
  s.all (fun c => C.canEnc c || (!isC1 c && c < undef && !isNonchar c && !isSurrogate c))

/-- `p index value` -/
theorem getD_of_zipIdx (l : List Nat) (p : Nat → Nat → Bool) (d : Nat)
    (h : l.zipIdx.all (fun x => p x.2 x.1) = true) (n : Nat) (hn : n < l.length) : p n (l.getD n d) = true := by
  have hm : (l[n], n) ∈ l.zipIdx := List.mem_zipIdx_iff_getElem?.mpr (List.getElem?_eq_getElem hn)
  rw [List.getD_eq_getElem?_getD, List.getElem?_eq_getElem hn]
  exact List.all_eq_true.mp h _ hm

theorem cp1252_table :
    (List.range 256).all (fun n => isC1 n || cp1252Decode.getD n undef == n) = true := by
  have hl : cp1252Decode.length = 256 := by decide +kernel
  have h : cp1252Decode.zipIdx.all (fun x => isC1 x.2 || x.1 == x.2) = true := by decide +kernel
  exact List.all_eq_true.mpr fun n hn =>
    getD_of_zipIdx _ (fun n v => isC1 n || v == n) undef h n (by rw [hl]; exact List.mem_range.mp hn)

theorem unescape_tables :
    invalidCharrefs.all (fun kv => kv.1 < 160) = true ∧ invalidCodepoints.all (fun c => c < 160 || isNonchar c) = true := by
  constructor <;> decide +kernel

theorem textCharref_safe (orig : Nat → Option Nat) (n : Nat) (h1 : isC1 n = false) (h2 : n < undef) :
    textCharref orig n = [n] := by
  unfold textCharref
  by_cases hn : n < 256
  · have := List.all_eq_true.mp cp1252_table n (List.mem_range.mpr hn)
    simp only [h1, Bool.false_or, beq_iff_eq] at this
    simp only [hn, if_true, this, h2]
  · simp only [hn, if_false, h2, if_true]

theorem lookupCharref_none (n : Nat) (l : List (Nat × PStr)) (h : l.all (fun kv => kv.1 < 160) = true) (hn : 160 ≤ n) :
    lookupCharref n l = none := by
  fun_induction lookupCharref n l
  case case1 => rfl
  case case2 =>  -- key found
    simp only [List.all_cons, Bool.and_eq_true, decide_eq_true_eq] at h
    omega
  case case3 ih =>
    simp only [List.all_cons, Bool.and_eq_true] at h
    exact ih h.2

theorem attrCharref_safe (n : Nat) (h160 : 160 ≤ n) (hlt : n < undef) (hnc : isNonchar n = false) (hsur : isSurrogate n = false) :
    attrCharref n = [n] := by
  unfold attrCharref
  rw [lookupCharref_none n _ unescape_tables.1 h160]
  have hs : ((0xD800 ≤ n && n ≤ 0xDFFF) || decide (n > 0x10FFFF)) = false := by
    simp only [isSurrogate] at hsur
    simp only [undef] at hlt
    simp only [hsur, Bool.false_or, decide_eq_false_iff_not]
    omega
  have hc : invalidCodepoints.contains n = false := by
    cases hcon : invalidCodepoints.contains n
    · rfl
    · have hm := List.contains_iff_mem.mp hcon
      have := List.all_eq_true.mp unescape_tables.2 n hm
      simp only [hnc, Bool.or_false, decide_eq_true_eq] at this
      omega
  simp only [hs, hc, Bool.false_eq_true, if_false]

theorem textCharref_of_safe (C : Codec) (orig : Nat → Option Nat) (s : PStr) (hs : CharrefSafeText C s = true) :
    ∀ c ∈ s, C.canEnc c = false → textCharref orig c = [c] := by
  intro c hc hce
  have := List.all_eq_true.mp hs c hc
  simp only [hce, Bool.false_or, Bool.and_eq_true, Bool.not_eq_true', decide_eq_true_eq] at this
  exact textCharref_safe orig c this.1 this.2

theorem attrCharref_of_safe (C : Codec) (h : C.AsciiOK) (v : PStr) (hs : CharrefSafeAttr C v = true) :
    ∀ c ∈ v, C.canEnc c = false → attrCharref c = [c] := by
  intro c hc hce
  have := List.all_eq_true.mp hs c hc
  simp only [hce, Bool.false_or, Bool.and_eq_true, Bool.not_eq_true', decide_eq_true_eq] at this
  obtain ⟨⟨⟨h1, h2⟩, h3⟩, h4⟩ := this
  have h0 : 160 ≤ c := by
    have : ¬ c < 128 := fun hlt => by rw [h c hlt] at hce; cases hce
    simp only [isC1, Bool.and_eq_false_iff, decide_eq_false_iff_not] at h1
    omega
  exact attrCharref_safe c h0 h2 h3 h4

/-! ### attribute lookup after `set_up_substitutions`, `new_tag`, item assignment -/

theorem lookup_setAttr (k : PStr) (v : AttrVal) (l : List (PStr × AttrVal)) : lookupAttr k (setAttr k v l) = some v := by
  fun_induction setAttr k v l <;> simp [lookupAttr, *]

theorem lookup_setAttr_ne (k k' : PStr) (v : AttrVal) (hk : k ≠ k') (l : List (PStr × AttrVal)) :
    lookupAttr k (setAttr k' v l) = lookupAttr k l := by
  fun_induction setAttr k' v l <;> simp [lookupAttr, Ne.symm hk, *]

theorem lookup_subCharsetStep (k : PStr) (hk : k ≠ ofS "charset") (l : List (PStr × AttrVal)) :
    lookupAttr k (subCharsetStep l) = lookupAttr k l := by
  unfold subCharsetStep
  split
  · rfl
  · exact lookup_setAttr_ne k _ _ hk l
  · rfl

theorem lookup_subContentStep (k : PStr) (hk : k ≠ ofS "content") (l : List (PStr × AttrVal)) :
    lookupAttr k (subContentStep l) = lookupAttr k l := by
  unfold subContentStep
  split
  · rfl
  · split
    · exact lookup_setAttr_ne k _ _ hk l
    · rfl
  · rfl

theorem subCharsetStep_some (attrs : List (PStr × AttrVal)) (old : AttrVal)
    (h : lookupAttr (ofS "charset") attrs = some old) (hn : old ≠ .novalue) :
    subCharsetStep attrs = setAttr (ofS "charset") (.charsetMeta old.str) attrs := by
  unfold subCharsetStep
  rw [h]
  cases old <;> first | rfl | exact absurd rfl hn

theorem subCharsetStep_none (attrs : List (PStr × AttrVal)) (h : lookupAttr (ofS "charset") attrs = none) :
    subCharsetStep attrs = attrs := by
  unfold subCharsetStep; rw [h]

theorem subContentStep_some (attrs : List (PStr × AttrVal)) (ct he : AttrVal)
    (h1 : lookupAttr (ofS "content") attrs = some ct) (hn : ct ≠ .novalue)
    (h2 : lookupAttr (ofS "http-equiv") attrs = some he) (h3 : isContentType he = true) :
    subContentStep attrs = setAttr (ofS "content") (.contentMeta ct.str) attrs := by
  unfold subContentStep
  rw [h1, h2]
  cases ct <;> first | exact absurd rfl hn | (simp only [h3, if_true])

theorem subContentStep_of_missing (attrs : List (PStr × AttrVal))
    (h : lookupAttr (ofS "content") attrs = none ∨ lookupAttr (ofS "http-equiv") attrs = none) :
    subContentStep attrs = attrs := by
  unfold subContentStep
  rcases h with h | h
  · rw [h]
  · rw [h]
    cases lookupAttr (ofS "content") attrs with
    | none => rfl
    | some ct => cases ct <;> rfl

/-- `metaCharset`, `metaContent` of Props/C08 as parsed -/
theorem setUp_charset_utf8 : setUpSubstitutions (ofS "meta") [(ofS "charset", .plain (ofS "utf8"))]
    = [(ofS "charset", .charsetMeta (ofS "utf8"))] := by decide_pstr

theorem setUp_content_utf8 : setUpSubstitutions (ofS "meta")
    [(ofS "http-equiv", .plain (ofS "Content-Type")), (ofS "content", .plain (ofS "text/html; charset=utf8"))]
    = [(ofS "http-equiv", .plain (ofS "Content-Type")), (ofS "content", .contentMeta (ofS "text/html; charset=utf8"))] := by
  decide_pstr

theorem lookup_mergeAttrs_last (k : PStr) (v : AttrVal) (kw attrs : List (PStr × AttrVal)) :
    lookupAttr k (mergeAttrs kw (attrs ++ [(k, v)])) = some v := by
  simp [mergeAttrs, List.foldl_append, lookup_setAttr]

theorem lookup_mergeAttrs_absent (k : PStr) : ∀ (attrs kw : List (PStr × AttrVal)), (∀ a ∈ attrs, a.1 ≠ k) →
    lookupAttr k (mergeAttrs kw attrs) = lookupAttr k kw := by
  intro attrs
  induction attrs with
  | nil => intro kw _; rfl
  | cons a rest ih =>
    intro kw h
    have ha : k ≠ a.1 := fun e => h a (by simp) e.symm
    simp only [mergeAttrs, List.foldl_cons] at ih ⊢
    rw [ih _ (fun b hb => h b (by simp [hb])), lookup_setAttr_ne k a.1 a.2 ha]

/-! ### `CHARSET_RE.sub` (the general shape: `EncodingOutSub`) -/

theorem subGo_drop (repl : PStr → PStr) : ∀ (l : PStr) (b : Bool), subGo repl l.length b l = [] := by
  intro l
  induction l with
  | nil => intro b; rfl
  | cons c cs ih => intro b; simp only [List.length_cons, subGo]; exact ih _

theorem matchAt_false_ne (c : Nat) (t : PStr) (h : c ≠ 59) : matchAt false (c :: t) = none := by
  unfold matchAt
  simp only [Bool.false_eq_true, if_false]
  split
  · rename_i heq; cases heq; exact absurd rfl h
  · rfl

theorem subGo_plain (repl : PStr → PStr) : ∀ (m rest : PStr), (∀ c ∈ m, c ≠ 59 ∧ c ≠ 10) →
    subGo repl 0 false (m ++ rest) = m ++ subGo repl 0 false rest := by
  intro m
  induction m with
  | nil => intro rest _; rfl
  | cons c cs ih =>
    intro rest h
    have hc := h c (by simp)
    have h10 : (c == 10) = false := by simp [hc.2]
    simp only [List.cons_append, subGo, matchAt_false_ne c _ hc.1, h10, Bool.and_false]
    rw [ih rest (fun x hx => h x (by simp [hx]))]

/-- a media type as it stands before the `;`: no `;`, no line feed, and its first character is neither white space nor
    one the live pattern accepts for the `c` of `charset` -/
def MimeLike (m : PStr) : Prop :=
  (∀ c ∈ m, c ≠ 59 ∧ c ≠ 10) ∧ ∃ c cs, m = c :: cs ∧ isReSpace c = false ∧ (charsetReLiteral.headD []).contains c = false

/-- ` charset=` (after a `;`) is accepted whatever follows, unless it begins with white space, which the tolerant pattern
    counts to the key -/
theorem key_accepted (old : PStr) (h : old.dropWhile isReSpace = old) : matchKey (ofS " charset=" ++ old) = some old := by
  simp [matchKey, ofS, List.dropWhile, isReSpace, charsetReSpace, charsetReSpaceTolerant, charsetReLiteral, matchClasses, h]

theorem matchClasses_head_none (cls : List Nat) (more : List (List Nat)) (c : Nat) (t : PStr)
    (h : cls.contains c = false) : matchClasses (cls :: more) (c :: t) = none := by
  rw [matchClasses]
  simp only [h, Bool.false_eq_true, if_false]

theorem takeWhile_all (p : Nat → Bool) (l : PStr) (h : ∀ x ∈ l, p x = true) : l.takeWhile p = l := by
  simpa using List.takeWhile_append_of_pos (l₂ := []) h

/-! ### `findDeclared` on a name -/

/-- a charset name as it can stand in a declaration: ASCII, no white space, none of the characters that end the
    detector's group -/
def NameLike (e : PStr) : Prop := ∀ c ∈ e, c < 128 ∧ isTerminator c = false ∧ isAsciiSpace c = false

theorem declValue_name (e rest : PStr) (h : NameLike e) : declValue (e ++ 34 :: rest) = some e := by
  have := takeWhile_upto (fun c => !isTerminator c) e 34 rest (fun a ha => by simp [(h a ha).2.1]) rfl
  simp [declValue, this]

theorem ascii_prefix (e : PStr) (he : NameLike e) (lit : PStr) (hl : lit.all (fun c => c < 128) = true) :
    ∀ c ∈ lit ++ e ++ [34], c < 128 := by
  intro c hc
  simp only [List.mem_append] at hc
  rcases hc with (hc | hc) | hc
  · have := List.all_eq_true.mp hl c hc; simpa using this
  · exact (he c hc).1
  · simp at hc; omega

/-- no occurrence of the word `charset` (ASCII case-insensitively) begins inside `pre`, given that `charset=` follows -/
def quietDecl : PStr → Bool
  | [] => true
  | c :: cs => (lowerIs (ofS "charset") (c :: cs ++ ofS "charset=")).isNone && quietDecl cs

theorem lowerIs_append (a X : PStr) (h : 7 ≤ a.length) (hn : lowerIs (ofS "charset") a = none) :
    lowerIs (ofS "charset") (a ++ X) = none := by
  have hl : (ofS "charset").length = 7 := by decide
  unfold lowerIs at hn ⊢
  rw [hl] at hn ⊢
  rw [List.take_append_of_le_length h]
  split at hn
  · cases hn
  · rename_i hne; rw [if_neg hne]

theorem findDeclared_quiet : ∀ (pre Y : PStr), quietDecl pre = true →
    findDeclared (pre ++ (ofS "charset=" ++ Y)) = findDeclared (ofS "charset=" ++ Y) := by
  intro pre
  induction pre with
  | nil => intro Y _; rfl
  | cons c cs ih =>
    intro Y h
    simp only [quietDecl, Bool.and_eq_true, Option.isNone_iff_eq_none] at h
    have hl : lowerIs (ofS "charset") (c :: cs ++ (ofS "charset=" ++ Y)) = none := by
      simpa using lowerIs_append (c :: cs ++ ofS "charset=") Y (by simp [ofS]) h.1
    simp only [List.cons_append] at hl ⊢
    rw [findDeclared, declAt, hl]
    exact ih Y h.2

theorem findDeclared_key (Y v : PStr) (h : declAfterKey Y = some v) : findDeclared (ofS "charset" ++ Y) = some v := by
  rw [ofS_ofList]
  show (match declAfterKey Y with | some v => some v | none => _) = some v
  rw [h]

theorem findDeclared_key_quoted (e rest : PStr) (he : NameLike e) :
    findDeclared (ofS "charset=" ++ (34 :: (e ++ 34 :: rest))) = some e := by
  rw [ofS_ofList]
  exact findDeclared_key (61 :: 34 :: (e ++ 34 :: rest)) e (declValue_name e rest he)

theorem findDeclared_key_bare (c : Nat) (cs rest : PStr) (he : NameLike (c :: cs)) :
    findDeclared (ofS "charset=" ++ (c :: cs ++ 34 :: rest)) = some (c :: cs) := by
  rw [ofS_ofList]
  refine findDeclared_key (61 :: (c :: cs ++ 34 :: rest)) _ ?_
  obtain ⟨-, ht, hs⟩ := he c (by simp)
  have hq : stripQuote (c :: (cs ++ 34 :: rest)) = c :: (cs ++ 34 :: rest) := by
    simp only [isTerminator, Bool.or_eq_false_iff, decide_eq_false_iff_not] at ht
    unfold stripQuote
    split
    · rename_i heq; cases heq; exact absurd rfl ht.1.2
    · rename_i heq; cases heq; exact absurd rfl ht.1.1.2
    · rfl
  have hd : (c :: (cs ++ 34 :: rest)).dropWhile isAsciiSpace = c :: (cs ++ 34 :: rest) := by
    simp [List.dropWhile, hs]
  show declValue (stripQuote ((c :: (cs ++ 34 :: rest)).dropWhile isAsciiSpace)) = _
  rw [hd, hq]
  exact declValue_name (c :: cs) rest he

/-! ### the rewrite is literal: whatever the name is made of, it ends up verbatim in the result -/

theorem subGo_contains (e : PStr) (s : PStr) (bol : Bool) (h : charsetReSearch bol s = true) :
    e <:+: subGo (fun g1 => g1 ++ e) 0 bol s := by
  fun_induction charsetReSearch bol s with
  | case1 => cases h
  | case2 bol c cs ih =>
    rw [subGo]
    cases hm : matchAt bol (c :: cs) with
    | some gm => exact ⟨List.take gm.1 (c :: cs), _, rfl⟩
    | none =>
      simp only [hm, Option.isSome_none, Bool.false_or] at h
      obtain ⟨a, b, hab⟩ := ih h
      exact ⟨c :: a, b, by simp [← hab]⟩

theorem subGo_empty_length (s : PStr) (k : Nat) (bol : Bool) : (subGo (fun _ => []) k bol s).length ≤ s.length := by
  fun_induction subGo (fun _ => []) k bol s <;> simp <;> omega

end BS.EncodingOut
