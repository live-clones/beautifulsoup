import BSModel.Proofs.AttrsIdem
/-! C05 helper lemmas: the normal form `normaliseL` is idempotent ("a second round trip changes nothing") for every
    forest in which no doctype is followed by visible text or stands in a preserve-whitespace context.

    Method: run the second normalisation in lockstep with the first. After any prefix of the forest the first pass
    holds pending character data `b`, the second pass (fed the output of the first) holds `c`; the relation `Rel2`
    (with `brk = false`; `brk = true`: ReparseGrow) says `c` is empty, or it is the newline a doctype left behind while `b` is that newline plus
    whitespace. -/
namespace BS.Render

theorem wsRule_idem (p : PCfg) (pres : Bool) (s : PStr) : wsRule p pres (wsRule p pres s) = wsRule p pres s := by
  by_cases hc : (!pres && s.all fun c => p.asciiSpaces.contains c) = true
  · have hs : wsRule p pres s = if s.contains 10 then [10] else [32] := by rw [wsRule, if_pos hc]
    rw [hs]
    -- `[10]`, `[32]`: both branches return it
    split <;> simp [wsRule]
  · have hs : wsRule p pres s = s := by rw [wsRule, if_neg hc]
    rw [hs, hs]

theorem wsRule_ne_nil (p : PCfg) (pres : Bool) (s : PStr) (h : s ≠ []) : wsRule p pres s ≠ [] := by
  unfold wsRule
  split
  · split <;> simp
  · exact h

theorem wsRule_cases (p : PCfg) (pres : Bool) (s : PStr) :
    wsRule p pres s = s ∨ (s.all (fun c => p.asciiSpaces.contains c) = true ∧ (wsRule p pres s = [10] ∨ wsRule p pres s = [32])) := by
  unfold wsRule
  split
  · rename_i h
    simp only [Bool.and_eq_true] at h
    right
    refine ⟨h.2, ?_⟩
    split <;> simp
  · exact Or.inl rfl

theorem concatL_ne_nil : ∀ (b : List PStr), b ≠ [] → (∀ x ∈ b, x ≠ []) → concatL b ≠ []
  | [], h, _ => absurd rfl h
  | [] :: _, _, hx => absurd rfl (hx [] List.mem_cons_self)
  | (a :: as) :: xs, _, _ => by simp [concatL]

theorem wsRule_concatL_isEmpty (p : PCfg) (pres : Bool) {b : List PStr} (h0 : b ≠ []) (hb : ∀ x ∈ b, x ≠ []) :
    (wsRule p pres (concatL b)).isEmpty = false := by
  simpa using wsRule_ne_nil p pres _ (concatL_ne_nil b h0 hb)

theorem strKind_text {c : SCls} (s : PStr) (h : isTextCls c = true) : strKind c s = .text s := by
  cases c <;> simp_all [isTextCls, strKind]

/-- the class a special string comes back with is stable: read again it is the same kind of special string -/
theorem strKind_special_fix {c c' : SCls} {s s' : PStr} {nl : Bool} (h : strKind c s = .special c' s' nl) (x : PStr) :
    strKind c' x = .special c' x nl := by
  cases c <;> simp only [strKind, SK.special.injEq, reduceCtorEq] at h <;> obtain ⟨rfl, _, rfl⟩ := h <;> rfl

/-- every string container class of the configuration is a text class (rendered as substituted character data) -/
def contOK (p : PCfg) : Bool := p.containers.all fun kv => isTextCls kv.2

/-- the class `endData(None)` gives to character data in this context -/
def textCls (ctx : Ctx) : SCls := ctx.cont.getD .navigable

/-- flushed character data gets a text class here, so it is read back as character data -/
def CtxOK (ctx : Ctx) : Prop := isTextCls (textCls ctx) = true

theorem lookupL_mem {β} (l : List (PStr × β)) (k : PStr) (v : β) (h : lookupL l k = some v) : (k, v) ∈ l := by
  fun_induction lookupL l k with
  | case1 => cases h
  | case2 b rest => cases h; simp
  | case3 a b rest _ ih => exact List.mem_cons_of_mem _ (ih h)

theorem ctxOK_push (p : PCfg) (hc : contOK p = true) (ctx : Ctx) (h : CtxOK ctx) (nm : PStr) : CtxOK (pushCtx p ctx nm) := by
  unfold CtxOK textCls pushCtx
  cases hl : lookupL p.containers nm with
  | none => simpa [CtxOK, textCls] using h
  | some k =>
    have hm := lookupL_mem _ _ _ hl
    have := (List.all_eq_true.mp hc) (nm, k) hm
    simpa using this

theorem ctxOK_root (p : PCfg) (hc : contOK p = true) : CtxOK (ctxOf p [rootFrame]) := by
  have : CtxOK (⟨false, none⟩ : Ctx) := by simp [CtxOK, textCls, isTextCls]
  exact ctxOK_push p hc _ this _

mutual
/-- the attribute normalisation is idempotent at every element of the forest -/
def attrStableN (p : PCfg) (f : Fmt) : Node → Bool
  | .tag i ks =>
    (normAttrs p f (fullName i) (normAttrs p f (fullName i) i.attrs) == normAttrs p f (fullName i) i.attrs)
      && attrStableL p f ks
  | .str _ _ => true
def attrStableL (p : PCfg) (f : Fmt) : List Node → Bool
  | [] => true
  | n :: ns => attrStableN p f n && attrStableL p f ns
end

theorem absorb_nil (p : PCfg) (f : Fmt) (ctx : Ctx) (b : List PStr) : absorb p f ctx b [] = ([], b) := by simp [absorb]

theorem absorb_cons (p : PCfg) (f : Fmt) (ctx : Ctx) (b : List PStr) (d : Node) (ds : List Node) :
    absorb p f ctx b (d :: ds) =
      ((absorb1 p f ctx b d).1 ++ (absorb p f ctx (absorb1 p f ctx b d).2 ds).1, (absorb p f ctx (absorb1 p f ctx b d).2 ds).2) := by
  simp [absorb]

theorem absorb_append (p : PCfg) (f : Fmt) (ctx : Ctx) : ∀ (xs ys : List Node) (b : List PStr),
    absorb p f ctx b (xs ++ ys) =
      ((absorb p f ctx b xs).1 ++ (absorb p f ctx (absorb p f ctx b xs).2 ys).1, (absorb p f ctx (absorb p f ctx b xs).2 ys).2)
  | [], ys, b => by simp [absorb_nil]
  | x :: xs, ys, b => by
    simp only [List.cons_append, absorb_cons, absorb_append p f ctx xs ys, List.append_assoc]

/-- the `Tag` a re-parse builds for an element -/
def normInfo (p : PCfg) (f : Fmt) (i : TagInfo) : TagInfo :=
  ⟨fullName i, none, normAttrs p f (fullName i) i.attrs, p.isVoid (fullName i), false⟩

/-- the normal form of a closed forest: the children of an element in its context, or the whole document -/
def normIn (p : PCfg) (f : Fmt) (ctx : Ctx) (ds : List Node) : List Node :=
  (absorb p f ctx [] ds).1 ++ txt p ctx (absorb p f ctx [] ds).2

theorem normaliseL_eq (p : PCfg) (f : Fmt) (ds : List Node) : normaliseL p f ds = normIn p f (ctxOf p [rootFrame]) ds := rfl

theorem normIn_append (p : PCfg) (f : Fmt) (ctx : Ctx) (xs ys : List Node) :
    normIn p f ctx (xs ++ ys) =
      (absorb p f ctx [] xs).1 ++ ((absorb p f ctx (absorb p f ctx [] xs).2 ys).1 ++
        txt p ctx (absorb p f ctx (absorb p f ctx [] xs).2 ys).2) := by
  simp only [normIn, absorb_append, List.append_assoc]

theorem fullName_normInfo (p : PCfg) (f : Fmt) (i : TagInfo) : fullName (normInfo p f i) = fullName i := by
  simp [fullName, prefixStr, normInfo]

theorem absorb1_tag (p : PCfg) (f : Fmt) (ctx : Ctx) (b : List PStr) (i : TagInfo) (ks : List Node) :
    absorb1 p f ctx b (.tag i ks) =
      (txt p ctx b ++ [.tag (normInfo p f i) (normIn p f (pushCtx p ctx (fullName i)) ks)], []) := by
  simp only [absorb1, normInfo, normIn]

theorem absorb1_text {c : SCls} {s t : PStr} (h : strKind c s = .text t) (p : PCfg) (f : Fmt) (ctx : Ctx) (b : List PStr) :
    absorb1 p f ctx b (.str c s) = ([], if t.isEmpty then b else b ++ [t]) := by
  simp only [absorb1, h]

theorem absorb1_special {c c' : SCls} {s s' : PStr} {nl : Bool} (h : strKind c s = .special c' s' nl) (p : PCfg) (f : Fmt)
    (ctx : Ctx) (b : List PStr) :
    absorb1 p f ctx b (.str c s) = (txt p ctx b ++ [.str c' (wsRule p ctx.pres s')], if nl then [[10]] else []) := by
  simp only [absorb1, h]

theorem txt_cons (p : PCfg) (ctx : Ctx) (x : PStr) (xs : List PStr) :
    txt p ctx (x :: xs) = [.str (textCls ctx) (wsRule p ctx.pres (concatL (x :: xs)))] := rfl

theorem pending_text {b : List PStr} (hb : ∀ x ∈ b, x ≠ []) (t : PStr) : ∀ x ∈ (if t.isEmpty then b else b ++ [t]), x ≠ [] := by
  split
  · exact hb
  · rename_i he
    intro x hx
    rcases List.mem_append.mp hx with hx | hx
    · exact hb x hx
    · rw [List.mem_singleton.mp hx]
      exact fun h0 => he (by simp [h0])

theorem isSp_append (p : PCfg) (a b : PStr) : isSp p (a ++ b) = (isSp p a && isSp p b) := by simp [isSp]

theorem concatL_snoc : ∀ (b : List PStr) (x : PStr), concatL (b ++ [x]) = concatL b ++ x
  | [], x => by simp [concatL]
  | y :: ys, x => by simp [concatL, concatL_snoc ys x, List.append_assoc]

/-- pending data of the first pass (`b`) and of the second pass (`c`); `after` = `c` is a doctype's newline, `brk` = it
    will stay visible; used through `rel2_false`/`rel2_true` -/
def Rel2 (p : PCfg) (ctx : Ctx) (after brk : Bool) (b c : List PStr) : Prop :=
  (∀ x ∈ b, x ≠ []) ∧
  (if after then
     c = [[10]] ∧ ∃ rest, b = [10] :: rest ∧
       (if brk then (ctx.pres = true ∨ isSp p (concatL rest) = false)
        else (ctx.pres = false ∧ ∀ x ∈ rest, isSp p x = true))
   else c = [] ∧ brk = false)

theorem Rel2.ne_nil {p : PCfg} {ctx : Ctx} {after brk : Bool} {b c : List PStr} (h : Rel2 p ctx after brk b c) :
    ∀ x ∈ b, x ≠ [] := h.1

theorem isSp_concatL (p : PCfg) : ∀ (b : List PStr), isSp p (concatL b) = b.all (isSp p)
  | [] => rfl
  | x :: xs => by simp only [concatL, isSp_append, isSp_concatL p xs, List.all_cons]

theorem rel2_false {p : PCfg} {ctx : Ctx} {brk : Bool} {b c : List PStr} :
    Rel2 p ctx false brk b c ↔ (∀ x ∈ b, x ≠ []) ∧ c = [] ∧ brk = false := by
  simp [Rel2]

theorem rel2_true {p : PCfg} {ctx : Ctx} {brk : Bool} {b c : List PStr} :
    Rel2 p ctx true brk b c ↔
      (∀ x ∈ b, x ≠ []) ∧ c = [[10]] ∧ ∃ rest, b = [10] :: rest ∧ brk = (ctx.pres || !isSp p (concatL rest)) := by
  simp only [Rel2, if_true, isSp_concatL]
  cases brk <;> cases ctx.pres <;> simp [List.all_eq_true]

theorem rel2_start (p : PCfg) (ctx : Ctx) : Rel2 p ctx false false [] [] := by simp [Rel2]

theorem rel2_doctype (p : PCfg) (ctx : Ctx) : Rel2 p ctx true ctx.pres [[10]] [[10]] :=
  rel2_true.mpr ⟨by simp, rfl, [], rfl, by simp [concatL, isSp]⟩

/-- the right side: `headOK`'s text clause, negated -/
theorem brkText_false (p : PCfg) (after : Bool) (t : PStr) :
    brkText p after false t = !(!after || t.all fun c => p.asciiSpaces.contains c) := by
  cases after <;> simp [brkText, isSp]

theorem rel2_text {p : PCfg} {ctx : Ctx} {after brk : Bool} {b c : List PStr} (hr : Rel2 p ctx after brk b c) {t : PStr}
    (ht : t.isEmpty = false) : Rel2 p ctx after (brkText p after brk t) (b ++ [t]) c := by
  have hb : ∀ x ∈ b ++ [t], x ≠ [] := by simpa [ht] using pending_text hr.ne_nil t
  cases after with
  | false =>
    obtain ⟨_hne, rfl, rfl⟩ := rel2_false.mp hr
    exact rel2_false.mpr ⟨hb, rfl, by simp [brkText]⟩
  | true =>
    obtain ⟨_hne, rfl, rest, rfl, rfl⟩ := rel2_true.mp hr
    refine rel2_true.mpr ⟨hb, rfl, rest ++ [t], rfl, ?_⟩
    simp only [brkText, concatL_snoc, isSp_append, Bool.true_and, Bool.not_and, Bool.or_assoc]

theorem wsRule_newline (p : PCfg) (h10 : p.asciiSpaces.contains 10 = true) (s : PStr) (hs : isSp p s = true) :
    wsRule p false (10 :: s) = [10] := by
  have hs' : s.all (fun c => p.asciiSpaces.contains c) = true := hs
  unfold wsRule
  rw [if_pos (by simp only [List.all_cons, h10, hs', Bool.not_false, Bool.and_self])]
  simp

/-- the pending data of the second pass once it has read the text node the first pass made of `b` -/
def repend (p : PCfg) (ctx : Ctx) (b c : List PStr) : List PStr :=
  if b.isEmpty then c else c ++ [wsRule p ctx.pres (concatL b)]

theorem absorb_txt (p : PCfg) (f : Fmt) {ctx : Ctx} (hctx : CtxOK ctx) {b : List PStr} (hb : ∀ x ∈ b, x ≠ [])
    (c : List PStr) : absorb p f ctx c (txt p ctx b) = ([], repend p ctx b c) := by
  cases b with
  | nil => rfl
  | cons x xs =>
    rw [txt_cons, absorb_cons, absorb_nil, absorb1_text (strKind_text _ hctx),
      wsRule_concatL_isEmpty p ctx.pres (by simp) hb]
    rfl

/-- `brk = false` is used here: newline + whitespace flushes to `"\n"` both times -/
theorem txt_repend (p : PCfg) (h10 : p.asciiSpaces.contains 10 = true) {ctx : Ctx} {after : Bool} {b c : List PStr}
    (hr : Rel2 p ctx after false b c) : txt p ctx (repend p ctx b c) = txt p ctx b := by
  cases after with
  | false =>
    obtain ⟨_hne, rfl, _hbrk⟩ := rel2_false.mp hr
    cases b with
    | nil => rfl
    | cons x xs => simp [repend, txt, concatL, wsRule_idem]
  | true =>
    obtain ⟨_hne, rfl, sp, rfl, hk⟩ := rel2_true.mp hr
    obtain ⟨hp, hsp⟩ : ctx.pres = false ∧ isSp p (concatL sp) = true := by simpa using hk.symm
    have h1 : wsRule p false (concatL ([10] :: sp)) = [10] := wsRule_newline p h10 _ hsp
    have h2 : wsRule p false (concatL [[10], [10]]) = [10] :=
      wsRule_newline p h10 [10] (by simp only [isSp, List.all_cons, h10, List.all_nil, Bool.and_self])
    simp only [repend, List.isEmpty_cons, Bool.false_eq_true, if_false, hp, h1, List.cons_append, List.nil_append, txt, h2]

/-- `hX`: `X` flushes what is pending, is read as itself, leaves `bx` -/
theorem absorb_flush (p : PCfg) (f : Fmt) (h10 : p.asciiSpaces.contains 10 = true) {ctx : Ctx} (hctx : CtxOK ctx)
    {after : Bool} {b c : List PStr} (hr : Rel2 p ctx after false b c) (X : Node) (bx : List PStr)
    (hX : ∀ c2, absorb1 p f ctx c2 X = (txt p ctx c2 ++ [X], bx)) :
    absorb p f ctx c (txt p ctx b ++ [X]) = (txt p ctx b ++ [X], bx) := by
  rw [absorb_append, absorb_txt p f hctx hr.ne_nil, absorb_cons, absorb_nil, hX, txt_repend p h10 hr]
  simp

theorem normIn_fix (p : PCfg) (f : Fmt) (h10 : p.asciiSpaces.contains 10 = true) {ctx : Ctx} (hctx : CtxOK ctx)
    {ds : List Node} {after : Bool} {c : List PStr}
    (h : absorb p f ctx [] (absorb p f ctx [] ds).1 = ((absorb p f ctx [] ds).1, c))
    (hr : Rel2 p ctx after false (absorb p f ctx [] ds).2 c) : normIn p f ctx (normIn p f ctx ds) = normIn p f ctx ds := by
  have hn : normIn p f ctx ds = (absorb p f ctx [] ds).1 ++ txt p ctx (absorb p f ctx [] ds).2 := rfl
  rw [hn, normIn_append, h, absorb_txt p f hctx hr.ne_nil, txt_repend p h10 hr, List.nil_append]

theorem normInfo_idem {p : PCfg} {f : Fmt} {i : TagInfo}
    (h : normAttrs p f (fullName i) (normAttrs p f (fullName i) i.attrs) = normAttrs p f (fullName i) i.attrs) :
    normInfo p f (normInfo p f i) = normInfo p f i := by
  rw [normInfo, fullName_normInfo]
  simp only [normInfo, h]

mutual
/-- the lockstep: `c` is pending in the second pass, `b` in the first -/
theorem reabsorbL (p : PCfg) (f : Fmt) (hc : contOK p = true) (h10 : p.asciiSpaces.contains 10 = true)
    (h32 : p.reSpace.contains 32 = true) :
    ∀ (ds : List Node) (ctx : Ctx) (after : Bool) (b c : List PStr), CtxOK ctx → Rel2 p ctx after false b c →
      dstableL p ctx after ds = true →
      ∃ after' c', absorb p f ctx c (absorb p f ctx b ds).1 = ((absorb p f ctx b ds).1, c') ∧
        Rel2 p ctx after' false (absorb p f ctx b ds).2 c'
  | [] => fun _ after _ c _ hr _ => ⟨after, c, by simp [absorb_nil], by simpa [absorb_nil] using hr⟩
  | d :: ds => by
    intro ctx after b c hctx hr hs
    simp only [dstableL, Bool.and_eq_true] at hs
    obtain ⟨c1, h1, r1⟩ := reabsorb1 p f hc h10 h32 d ctx after b c hctx hr hs.1.1 hs.1.2
    obtain ⟨after2, c2, h2, r2⟩ := reabsorbL p f hc h10 h32 ds ctx (nextAfter after d) _ c1 hctx r1 hs.2
    refine ⟨after2, c2, ?_, ?_⟩
    · rw [absorb_cons, absorb_append, h1]
      simp only [h2]
    · rw [absorb_cons]; exact r2
theorem reabsorb1 (p : PCfg) (f : Fmt) (hc : contOK p = true) (h10 : p.asciiSpaces.contains 10 = true)
    (h32 : p.reSpace.contains 32 = true) :
    ∀ (d : Node) (ctx : Ctx) (after : Bool) (b c : List PStr), CtxOK ctx → Rel2 p ctx after false b c →
      dstableN p ctx d = true → headOK p ctx after d = true →
      ∃ c', absorb p f ctx c (absorb1 p f ctx b d).1 = ((absorb1 p f ctx b d).1, c') ∧
        Rel2 p ctx (nextAfter after d) false (absorb1 p f ctx b d).2 c'
  | .str k s => by
    intro ctx after b c hctx hr _ hh
    simp only [nextAfter, headOK] at hh ⊢
    cases hk : strKind k s with
    | text t =>
      simp only [hk, absorb1_text hk] at hh ⊢
      refine ⟨c, absorb_nil .., ?_⟩
      by_cases he : t.isEmpty = true
      · simpa [he] using hr
      · have := rel2_text hr (t := t) (by simpa using he)
        rw [brkText_false, hh] at this
        simpa [he] using this
    | special k' s' nl =>
      simp only [hk, absorb1_special hk] at hh ⊢
      refine ⟨if nl = true then [[10]] else [], absorb_flush p f h10 hctx hr _ _ fun c2 => ?_, ?_⟩
      · rw [absorb1_special (strKind_special_fix hk _), wsRule_idem]
      · cases nl with
        | false => exact rel2_start p ctx
        | true =>
          have := rel2_doctype p ctx
          rwa [show ctx.pres = false by simpa using hh] at this
  | .tag i ks => by
    intro ctx after b c hctx hr hs _
    simp only [dstableN] at hs
    have hctx' := ctxOK_push p hc ctx hctx (fullName i)
    obtain ⟨after', c', hk1, hk2⟩ := reabsorbL p f hc h10 h32 ks (pushCtx p ctx (fullName i)) false [] [] hctx'
      (rel2_start p _) hs
    simp only [absorb1_tag, nextAfter]
    refine ⟨[], absorb_flush p f h10 hctx hr _ _ fun c2 => ?_, rel2_start p ctx⟩
    rw [absorb1_tag, fullName_normInfo, normInfo_idem (normAttrs_idem p h32 f _ _), normIn_fix p f h10 hctx' hk1 hk2]
end

/-- **Idempotence of the normal form**, any context -/
theorem normIn_idem (p : PCfg) (f : Fmt) (hc : contOK p = true) (h10 : p.asciiSpaces.contains 10 = true)
    (h32 : p.reSpace.contains 32 = true) {ctx : Ctx} (hctx : CtxOK ctx) (ds : List Node)
    (hs : dstableL p ctx false ds = true) : normIn p f ctx (normIn p f ctx ds) = normIn p f ctx ds := by
  obtain ⟨after', c', h1, h2⟩ := reabsorbL p f hc h10 h32 ds ctx false [] [] hctx (rel2_start p _) hs
  exact normIn_fix p f h10 hctx h1 h2

mutual
theorem attrStableN_all (p : PCfg) (f : Fmt) (h32 : p.reSpace.contains 32 = true) : ∀ (n : Node), attrStableN p f n = true
  | .str _ _ => rfl
  | .tag i ks => by
    simp only [attrStableN, Bool.and_eq_true, beq_iff_eq]
    exact ⟨normAttrs_idem p h32 f _ _, attrStableL_all p f h32 ks⟩
theorem attrStableL_all (p : PCfg) (f : Fmt) (h32 : p.reSpace.contains 32 = true) : ∀ (ns : List Node), attrStableL p f ns = true
  | [] => rfl
  | n :: ns => by
    simp only [attrStableL, Bool.and_eq_true]
    exact ⟨attrStableN_all p f h32 n, attrStableL_all p f h32 ns⟩
end

/-- **Idempotence of the normal form** of a document -/
theorem normaliseL_idem_all (p : PCfg) (f : Fmt) (hc : contOK p = true) (h10 : p.asciiSpaces.contains 10 = true)
    (h32 : p.reSpace.contains 32 = true) (ds : List Node) (hs : dstableL p (ctxOf p [rootFrame]) false ds = true) :
    normaliseL p f (normaliseL p f ds) = normaliseL p f ds := by
  simp only [normaliseL_eq]
  exact normIn_idem p f hc h10 h32 (ctxOK_root p hc) ds hs

end BS.Render
