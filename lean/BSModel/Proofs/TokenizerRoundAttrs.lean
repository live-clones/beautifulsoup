import BSModel.Proofs.TokenizerRound
/-! Tokenizer: the start-tag round trip with attributes, `<name k="v" j …>` and `<name k="v" …/>`. -/
namespace BS.Tokenizer

theorem drop_name (c : Nat) (t A : PStr) (n : Nat) : (60 :: c :: (t ++ A)).drop (2 + t.length + n) = A.drop n := by
  rw [show 2 + t.length + n = t.length + n + 1 + 1 by omega, List.drop_succ_cons, List.drop_succ_cons, ← List.drop_drop,
    List.drop_left]

theorem spanLen_name (t A : PStr) (ht : ∀ x ∈ t, isNameCh x = true) (hA : ∀ c', A.head? = some c' → isTagNameCh c' = false) :
    spanLen isTagNameCh (t ++ A) = t.length :=
  spanLen_append_stop _ _ _ (fun x hx => isNameCh_tagName x (ht x hx)) hA

/-- `parse_starttag` on `<name A`, given its intermediate results: `endpos` (`check_for_whole_start_tag`), `ws` (what
    `tagfind_tolerant` takes behind the name), `attrs` and `k` (the attribute loop), `e` (the stripped end) -/
theorem parseStartTag_name (P : Params) (cd : Option PStr) (c : Nat) (t A : PStr) (hc : isAlpha c = true)
    (ht : ∀ x ∈ t, isNameCh x = true) (hA : ∀ c', A.head? = some c' → isTagNameCh c' = false)
    (hl : P.lower (c :: t) = c :: t) {endpos : Nat}
    (hchk : checkWholeStartTag (60 :: c :: (t ++ A)) = some (some endpos)) {ws : Nat} (hws : wsSlashLen A = ws)
    {attrs : List (PStr × Option PStr)} {k : Nat}
    (hloop : attrLoop P (60 :: c :: (t ++ A)) endpos ((60 :: c :: (t ++ A)).length + 1) (2 + t.length + ws) [] =
      some (attrs, k)) (e : PStr) (he : strip (((60 :: c :: (t ++ A)).take endpos).drop k) = e) :
    parseStartTag P cd (60 :: c :: (t ++ A)) =
      if e == [62] then .ok (.st (c :: t) attrs) endpos (if cdataContentElements.contains (c :: t) then some (c :: t) else cd)
      else if e == [47, 62] then .ok (.se (c :: t) attrs) endpos cd
      else .ok (.data ((60 :: c :: (t ++ A)).take endpos)) endpos cd := by
  have hk : 1 + (1 + t.length + ws) = 2 + t.length + ws := by omega
  simp only [parseStartTag, hchk, List.drop_succ_cons, List.drop_zero, tagFind, hc, if_true, spanLen_name t A ht hA, List.take_left',
    List.drop_left', hws, hk, hloop, he, hl]

theorem attrLoop_none (P : Params) (s : PStr) (endpos f k : Nat) (acc : List (PStr × Option PStr))
    (h : attrFind (charBefore 0 s k) (s.drop k) = none) : attrLoop P s endpos (f + 1) k acc = some (acc, k) := by
  simp only [attrLoop, h]
  split <;> rfl

/-- after the name no attribute begins: the character before is not one of `['"\s/]` -/
theorem attrFind_after_name (c : Nat) (t A : PStr) (hc : isNameCh c = true) (ht : ∀ x ∈ t, isNameCh x = true) (B : PStr) :
    attrFind (charBefore 0 (60 :: c :: (t ++ A)) (2 + t.length)) B = none := by
  have htake : (60 :: c :: (t ++ A)).take (2 + t.length) = 60 :: c :: t := by
    rw [show 2 + t.length = t.length + 1 + 1 by omega]; simp
  have hne : (c :: t) ≠ [] := by simp
  have hlast : isNameCh ((c :: t).getLast hne) = true := by
    rcases List.mem_cons.mp (List.getLast_mem hne) with h | h
    · rw [h]; exact hc
    · exact ht _ h
  have hr := isNameCh_bounds _ hlast
  have hlb : isLookbehind ((c :: t).getLast hne) = false := by
    simp only [isLookbehind, isNameCh_isWs _ hlast, Bool.or_false, Bool.or_eq_false_iff, beq_eq_false_iff_ne, ne_eq]
    omega
  simp only [attrFind, charBefore, htake, List.getLast?_cons_cons, List.getLast?_eq_some_getLast hne, Option.getD_some, hlb,
    Bool.false_eq_true, if_false]

/-- `k="w"` (the value as written, between double quotes) or just `k` -/
def attrBody (kv : PStr × Option PStr) : PStr :=
  kv.1 ++ (match kv.2 with | none => [] | some w => 61 :: 34 :: (w ++ [34]))

/-- ` k="w"` for every attribute, then the tail `tl` (`>…` or `/>…`) -/
def attrsThenGt (tl : PStr) : List (PStr × Option PStr) → PStr
  | [] => tl
  | kv :: more => 32 :: (attrBody kv ++ attrsThenGt tl more)

/-- length of the written attributes, without the tail -/
def attrsLen : List (PStr × Option PStr) → Nat
  | [] => 0
  | kv :: more => 1 + (attrBody kv).length + attrsLen more

def tagEnd (slash : Bool) : PStr := if slash then [47, 62] else [62]

/-- `<name k="w" …>` / `<name k="w" …/>` -/
def writeTag (name : PStr) (attrs : List (PStr × Option PStr)) (slash : Bool) : PStr :=
  60 :: (name ++ attrsThenGt (tagEnd slash) attrs)

/-- attribute names `[a-z][-.:_a-z0-9]*`, written values without `"` -/
def AttrOK (kv : PStr × Option PStr) : Prop := NameOK kv.1 ∧ ∀ w, kv.2 = some w → ∀ x ∈ w, x ≠ 34

/-- what the regular expressions see of a value: the quotes included -/
def rawVal : Option PStr → Option PStr
  | none => none
  | some w => some (34 :: (w ++ [34]))

/-- what may follow the last attribute: nothing `attrfind_tolerant` or the loops of `locatestarttagend_tolerant` take -/
structure TailOK (tl : PStr) : Prop where
  noAttr : ∀ prev, attrFind prev tl = none
  wsSlash : wsSlashLen tl = 0
  ws : spanLen isWs tl = 0
  stop : ∀ c, tl.head? = some c → isAttrRest c = false
  noVal : valueGroup tl = none

theorem tailOK_cons (c : Nat) (r : PStr) (h1 : isAttrFirst c = false) (h2 : isWs c = false) (h3 : (c == 61) = false)
    (h4 : (c == 47 && r.head? != some 62) = false) : TailOK (c :: r) where
  noAttr prev := by simp only [attrFind, h1]; split <;> simp
  wsSlash := by simp only [wsSlashLen, h2, h4]; simp
  ws := by simp [spanLen, h2]
  stop c' h := by
    cases h
    simp only [isAttrFirst, h2, Bool.false_or, Bool.not_eq_false'] at h1
    simp only [isAttrRest, h2, Bool.false_or, Bool.not_eq_false', Bool.or_eq_true] at h1 ⊢
    exact h1.elim (fun h => .inl (.inl h)) .inr
  noVal := by simp [valueGroup, spanLen, h2, h3]

theorem tailOK_gt (rest : PStr) : TailOK (62 :: rest) := tailOK_cons 62 rest (by decide) (by decide) (by decide) rfl

theorem attrsThenGt_append (tl rest : PStr) (attrs : List (PStr × Option PStr)) :
    attrsThenGt tl attrs ++ rest = attrsThenGt (tl ++ rest) attrs := by
  induction attrs with
  | nil => simp [attrsThenGt]
  | cons kv more ih => simp [attrsThenGt, ih]

theorem attrsThenGt_length (tl : PStr) (attrs : List (PStr × Option PStr)) :
    (attrsThenGt tl attrs).length = attrsLen attrs + tl.length := by
  induction attrs with
  | nil => simp [attrsThenGt, attrsLen]
  | cons kv more ih => simp [attrsThenGt, attrsLen, ih]; omega

theorem attrsThenGt_drop (tl : PStr) (attrs : List (PStr × Option PStr)) :
    (attrsThenGt tl attrs).drop (attrsLen attrs) = tl := by
  induction attrs with
  | nil => simp [attrsThenGt, attrsLen]
  | cons kv more ih =>
    simp only [attrsThenGt, attrsLen]
    rw [show 1 + (attrBody kv).length + attrsLen more = ((attrBody kv).length + attrsLen more) + 1 by omega,
      List.drop_succ_cons, ← List.drop_drop, List.drop_left, ih]

/-- what follows an attribute — the tail, or a space and a letter: the name stops there, no value follows, and
    `(?:\s|/(?!>))*` (`attrfind_tolerant`) and `[\s/]*` (`locatestarttagend_tolerant`) take the space only -/
theorem after_attr (tl : PStr) (htl : TailOK tl) (more : List (PStr × Option PStr)) (hm : ∀ kv ∈ more, AttrOK kv) :
    (∀ c, (attrsThenGt tl more).head? = some c → isAttrRest c = false) ∧ valueGroup (attrsThenGt tl more) = none ∧
      wsSlashLen (attrsThenGt tl more) = (if more = [] then 0 else 1) ∧
      (more ≠ [] → spanLen isWsSlash (attrsThenGt tl more) = 1) := by
  cases more with
  | nil => exact ⟨htl.stop, htl.noVal, htl.wsSlash, fun h => absurd rfl h⟩
  | cons kv more' =>
    obtain ⟨⟨c, t, hk, hc, _⟩, _⟩ := hm kv (by simp)
    have hr := isNameCh_bounds c (isLower_facts c hc).2
    have hws := isNameCh_isWs c (isLower_facts c hc).2
    have hc61 : (c == 61) = false := by simp; omega
    have hc47 : (c == 47) = false := by simp; omega
    refine ⟨by rintro _ ⟨⟩; decide, ?_, ?_, fun _ => ?_⟩ <;>
      simp [attrsThenGt, attrBody, hk, valueGroup, wsSlashLen, spanLen, isWsSlash, show isWs 32 = true by decide, hws, hc61, hc47]

theorem attrFind_attrBody (prev : Nat) (tl : PStr) (htl : TailOK tl) (kv : PStr × Option PStr)
    (more : List (PStr × Option PStr)) (hp : isLookbehind prev = true) (hkv : AttrOK kv) (hm : ∀ kv ∈ more, AttrOK kv) :
    attrFind prev (attrBody kv ++ attrsThenGt tl more) =
      some (kv.1, rawVal kv.2, (attrBody kv).length + (if more = [] then 0 else 1)) := by
  obtain ⟨k, v⟩ := kv
  obtain ⟨⟨c, t, hk, hc, ht⟩, hv⟩ := hkv
  simp only at hk hv
  subst hk
  have hcl := isNameCh_attrFirst c (isLower_facts c hc).2
  obtain ⟨hstop, hvg, hws, _⟩ := after_attr tl htl more hm
  cases v with
  | none =>
    have hspan : spanLen isAttrRest (t ++ attrsThenGt tl more) = t.length :=
      spanLen_append_stop _ _ _ (fun x hx => isNameCh_attrRest x (ht x hx)) hstop
    simp only [attrFind, hp, if_true, attrBody, List.cons_append, List.append_nil, hcl, hspan, List.drop_left, hvg, hws,
      rawVal, List.take_left', List.length_cons]
    simp only [Option.some.injEq, Prod.mk.injEq, true_and]
    split <;> omega
  | some v =>
    have hv' : ∀ x ∈ v, x ≠ 34 := hv v rfl
    have hspan : spanLen isAttrRest (t ++ 61 :: 34 :: (v ++ 34 :: attrsThenGt tl more)) = t.length :=
      spanLen_append_stop _ _ _ (fun x hx => isNameCh_attrRest x (ht x hx)) (head_cons_stop _ (by decide))
    have hfind : findCh 34 (v ++ 34 :: attrsThenGt tl more) = some v.length := findCh_append_first 34 v _ hv'
    have hvg : valueGroup (61 :: 34 :: (v ++ 34 :: attrsThenGt tl more)) = some (1, v.length + 2) := by
      simp [valueGroup, spanLen, show isWs 61 = false by decide, show isWs 34 = false by decide, hfind]
    simp only [attrFind, hp, if_true, attrBody, List.cons_append, List.append_assoc, List.nil_append, hcl, hspan, List.drop_left, hvg,
      List.drop_succ_cons, List.drop_zero, rawVal]
    have e1 : List.take (v.length + 2) (34 :: (v ++ 34 :: attrsThenGt tl more)) = 34 :: (v ++ [34]) := by
      rw [show (34 :: (v ++ 34 :: attrsThenGt tl more)) = (34 :: (v ++ [34])) ++ attrsThenGt tl more by simp]
      exact List.take_left' (by simp)
    have e2 : List.drop (1 + (v.length + 2)) (61 :: 34 :: (v ++ 34 :: attrsThenGt tl more)) = attrsThenGt tl more := by
      rw [show (61 :: 34 :: (v ++ 34 :: attrsThenGt tl more)) = (61 :: 34 :: (v ++ [34])) ++ attrsThenGt tl more by simp]
      exact List.drop_left' (by simp; omega)
    rw [e1, e2, hws]
    simp only [List.take_left', List.length_cons, List.length_append, List.length_nil, Option.some.injEq, Prod.mk.injEq, true_and]
    split <;> omega

theorem drop_append_cons (a : PStr) (x : Nat) (b : PStr) : (a ++ x :: b).drop (a.length + 1) = b := by
  rw [List.drop_length_add_append]
  rfl

theorem charBefore_of_drop (d : Nat) (s : PStr) (k : Nat) (a : PStr) (x : Nat) (b : PStr) (h : s.drop k = a ++ x :: b) :
    charBefore d s (k + (a.length + 1)) = x := by
  have : (s.drop k).take (a.length + 1) = a ++ [x] := by
    rw [h, List.take_length_add_append]
    rfl
  simp [charBefore, List.take_add, this]

theorem charBefore_append_cons (d : Nat) (a : PStr) (x : Nat) (b : PStr) : charBefore d (a ++ x :: b) (a.length + 1) = x := by
  simpa using charBefore_of_drop d (a ++ x :: b) 0 a x b rfl

/-- fuel: one turn per attribute, one for the `attrFind = none` that ends the loop -/
theorem locAttrs_attrs (tl : PStr) (htl : TailOK tl) : ∀ (more : List (PStr × Option PStr)) (kv : PStr × Option PStr) (prev f : Nat),
    isLookbehind prev = true → AttrOK kv → (∀ kv ∈ more, AttrOK kv) → more.length + 2 ≤ f →
    locAttrs f prev (attrBody kv ++ attrsThenGt tl more) = some ((attrBody kv).length + attrsLen more) := by
  intro more
  induction more with
  | nil =>
    intro kv prev f hp hkv hm hf
    obtain ⟨f', rfl⟩ : ∃ f', f = f' + 2 := ⟨f - 2, by simp at hf; omega⟩
    have ha := attrFind_attrBody prev tl htl kv [] hp hkv hm
    simp only [if_true, Nat.add_zero, attrsThenGt] at ha
    simp only [locAttrs, attrsThenGt, ha, List.drop_left, htl.noAttr, attrsLen]
    simp
  | cons kv' more' ih =>
    intro kv prev f hp hkv hm hf
    obtain ⟨f', rfl⟩ : ∃ f', f = f' + 1 := ⟨f - 1, by simp at hf; omega⟩
    have ha := attrFind_attrBody prev tl htl kv (kv' :: more') hp hkv hm
    simp only [reduceCtorEq, if_false, attrsThenGt] at ha
    have hih := ih kv' 32 f' (by decide) (hm kv' (by simp)) (fun x hx => hm x (by simp [hx]))
      (by simp only [List.length_cons] at hf; omega)
    simp only [locAttrs, attrsThenGt, ha, drop_append_cons, charBefore_append_cons, hih, attrsLen, Option.map_some]
    congr 1; omega

/-- the value `parse_starttag` stores for a value written as `"w"`: `unescape` applied unless it is empty -/
def valOf (P : Params) (w : PStr) : PStr := if w.isEmpty then w else P.unescape w

theorem attrValue_rawVal (P : Params) (v : Option PStr) : attrValue P (rawVal v) = v.map (valOf P) := by
  cases v with
  | none => rfl
  | some v =>
    have h1 : (34 :: (v ++ [34])).getLast? = some 34 := by
      show ((34 :: v) ++ [34]).getLast? = some 34
      exact List.getLast?_concat
    simp only [rawVal, attrValue, List.head?_cons, h1, List.drop_succ_cons, List.drop_zero, List.dropLast_concat]
    simp [valOf]

theorem attrLoop_attrs (P : Params) (tl : PStr) (htl : TailOK tl) (s : PStr) (endpos : Nat) :
    ∀ (more : List (PStr × Option PStr)) (kv : PStr × Option PStr) (k : Nat) (acc : List (PStr × Option PStr)) (f : Nat),
    s.drop k = attrBody kv ++ attrsThenGt tl more → isLookbehind (charBefore 0 s k) = true → AttrOK kv →
    (∀ kv ∈ more, AttrOK kv) → (∀ x ∈ kv :: more, P.lower x.1 = x.1) →
    k + (attrBody kv).length + attrsLen more < endpos → more.length + 2 ≤ f →
    attrLoop P s endpos f k acc =
      some (acc ++ (kv :: more).map (fun x => (x.1, x.2.map (valOf P))), k + (attrBody kv).length + attrsLen more) := by
  intro more
  induction more with
  | nil =>
    intro kv k acc f hs hp hkv hm hP he hf
    obtain ⟨f', rfl⟩ : ∃ f', f = f' + 2 := ⟨f - 2, by simp at hf; omega⟩
    have ha := attrFind_attrBody _ tl htl kv [] hp hkv hm
    simp only [if_true, Nat.add_zero] at ha
    have hnext : attrLoop P s endpos (f' + 1) (k + (attrBody kv).length) (acc ++ [(kv.1, kv.2.map (valOf P))]) = _ :=
      attrLoop_none P s endpos f' _ _ (by rw [← List.drop_drop, hs, List.drop_left]; exact htl.noAttr _)
    rw [attrLoop, if_pos (by omega), hs]
    simp only [ha, hP kv (by simp), attrValue_rawVal, hnext, attrsLen, Nat.add_zero, List.map_cons, List.map_nil]
  | cons kv' more' ih =>
    intro kv k acc f hs hp hkv hm hP he hf
    obtain ⟨f', rfl⟩ : ∃ f', f = f' + 1 := ⟨f - 1, by simp at hf; omega⟩
    have ha := attrFind_attrBody _ tl htl kv (kv' :: more') hp hkv hm
    simp only [reduceCtorEq, if_false] at ha
    simp only [attrsLen] at he
    have hih := ih kv' (k + ((attrBody kv).length + 1)) (acc ++ [(kv.1, kv.2.map (valOf P))]) f'
      (by rw [← List.drop_drop, hs]; exact drop_append_cons _ 32 _)
      (by rw [charBefore_of_drop 0 s k _ 32 _ hs]; decide) (hm kv' (by simp))
      (fun x hx => hm x (by simp [hx])) (fun x hx => hP x (List.mem_cons_of_mem _ hx)) (by omega)
      (by simp only [List.length_cons] at hf; omega)
    rw [attrLoop, if_pos (by omega), hs]
    simp only [ha, hP kv (by simp), attrValue_rawVal, hih, attrsLen, List.map_cons, List.append_assoc, List.singleton_append]
    congr 2; omega

theorem attrsLen_ge (attrs : List (PStr × Option PStr)) : attrs.length ≤ attrsLen attrs := by
  induction attrs with
  | nil => simp [attrsLen]
  | cons kv more ih => simp only [attrsLen, List.length_cons]; omega

theorem tagEnd_append (slash : Bool) (rest : PStr) :
    tagEnd slash ++ rest = if slash then 47 :: 62 :: rest else 62 :: rest := by
  cases slash <;> rfl

theorem tailOK_tagEnd (slash : Bool) (rest : PStr) : TailOK (tagEnd slash ++ rest) := by
  cases slash
  · exact tailOK_gt rest
  · exact tailOK_cons 47 _ (by decide) (by decide) (by decide) rfl

/-- `check_for_whole_start_tag` on `<name A`: after `[\s/]*` (`a`) and the attributes (`l`) stands `>` or `/>` -/
theorem checkWholeStartTag_name (c : Nat) (t A : PStr) (ht : ∀ x ∈ t, isNameCh x = true)
    (hA : ∀ c', A.head? = some c' → isTagNameCh c' = false) (a l : Nat) (e : Bool) (rest : PStr) (ha : spanLen isWsSlash A = a)
    (hl : locAttrs ((60 :: c :: (t ++ A)).length + 1) (charBefore 0 (60 :: c :: (t ++ A)) (2 + t.length + a)) (A.drop a) = some l)
    (hE : A.drop (a + l) = tagEnd e ++ rest) :
    checkWholeStartTag (60 :: c :: (t ++ A)) = some (some (2 + t.length + a + l + (tagEnd e).length)) := by
  have e0 := drop_name c t A 0
  have e1 := drop_name c t A a
  have e2 := drop_name c t A (a + l)
  simp only [List.drop_zero, Nat.add_zero, ← Nat.add_assoc] at e0 e1 e2
  have hloc : locateStartTagEnd (60 :: c :: (t ++ A)) = some (2 + t.length + a + l) := by
    simp only [locateStartTagEnd, List.drop_succ_cons, List.drop_zero, spanLen_name t A ht hA, e0, ha, e1, hl, e2, hE,
      (tailOK_tagEnd e rest).ws, Nat.add_zero]
  simp only [checkWholeStartTag, hloc, e2, hE]
  cases e <;> simp [tagEnd, sw]

def startTok (slash : Bool) (name : PStr) (attrs : List (PStr × Option PStr)) : Tok :=
  if slash then .se name attrs else .st name attrs

theorem parseStartTag_write (P : Params) (cd : Option PStr) (name rest : PStr) (attrs : List (PStr × Option PStr))
    (slash : Bool) (hn : NameOK name) (hl : P.lower name = name) (ha : ∀ kv ∈ attrs, AttrOK kv)
    (hP : ∀ kv ∈ attrs, P.lower kv.1 = kv.1) :
    parseStartTag P cd (writeTag name attrs slash ++ rest) =
      .ok (startTok slash name (attrs.map fun kv => (kv.1, kv.2.map (valOf P)))) (writeTag name attrs slash).length
        (if slash then cd else if cdataContentElements.contains name then some name else cd) := by
  obtain ⟨c, t, rfl, hc, ht⟩ := hn
  obtain ⟨hcAlpha, hcName⟩ := isLower_facts c hc
  cases attrs with
  | nil =>
    -- `<n>`; in `<n/>` the `[\s/]*` of `locatestarttagend_tolerant` takes the slash: `a` = 1
    let a := (tagEnd slash).length - 1
    have hs : writeTag (c :: t) [] slash ++ rest = 60 :: c :: (t ++ (tagEnd slash ++ rest)) := by
      simp [writeTag, attrsThenGt]
    have hA : ∀ c', (tagEnd slash ++ rest).head? = some c' → isTagNameCh c' = false := by
      cases slash <;> (rintro _ ⟨⟩; decide)
    have hda : (tagEnd slash ++ rest).drop a = 62 :: rest := by cases slash <;> rfl
    have hchk := checkWholeStartTag_name c t (tagEnd slash ++ rest) ht hA a 0 false rest
      (by cases slash <;> simp [a, tagEnd, spanLen, isWsSlash, show isWs 47 = false by decide, show isWs 62 = false by decide])
      (by simp only [hda, locAttrs, (tailOK_gt rest).noAttr]) hda
    have hsub : 2 + t.length + a + 0 + (tagEnd false).length - (2 + t.length + 0) = a + 1 := by simp [tagEnd]; omega
    have := parseStartTag_name P cd c t (tagEnd slash ++ rest) hcAlpha ht hA hl hchk (tailOK_tagEnd slash rest).wsSlash
      (attrLoop_none P _ _ _ _ _ (attrFind_after_name c t _ hcName ht _)) (tagEnd slash)
      (by rw [List.drop_take, drop_name c t _ 0, hsub]
          cases slash
          · exact (by decide : strip [62] = [62])
          · exact (by decide : strip [47, 62] = [47, 62]))
    rw [hs, this]
    cases slash <;> simp [a, writeTag, attrsThenGt, tagEnd, startTok] <;> omega
  | cons kv more =>
    have hkv := ha kv (by simp)
    have hm : ∀ x ∈ more, AttrOK x := fun x hx => ha x (by simp [hx])
    have htl := tailOK_tagEnd slash rest
    generalize htlv : tagEnd slash ++ rest = tl at htl
    -- after the name: a space, the attributes, the end
    let X := attrBody kv ++ attrsThenGt tl more
    let L := (attrBody kv).length + attrsLen more
    have hs : writeTag (c :: t) (kv :: more) slash ++ rest = 60 :: c :: (t ++ 32 :: X) := by
      simp [writeTag, attrsThenGt, attrsThenGt_append, htlv, X]
    have hA : ∀ c', (32 :: X).head? = some c' → isTagNameCh c' = false := by rintro _ ⟨⟩; decide
    have hXL : X.drop L = tl := by rw [← List.drop_drop, List.drop_left, attrsThenGt_drop]
    have hdropL : (60 :: c :: (t ++ 32 :: X)).drop (2 + t.length + 1 + L) = tl := by
      rw [show 2 + t.length + 1 + L = 2 + t.length + (L + 1) by omega, drop_name, List.drop_succ_cons, hXL]
    have hfuel : more.length + 2 ≤ (60 :: c :: (t ++ 32 :: X)).length + 1 := by
      have := attrsLen_ge more
      simp only [List.length_cons, List.length_append, X, attrsThenGt_length]; omega
    obtain ⟨_, _, hwss, hwsl⟩ := after_attr tl htl (kv :: more) ha
    simp only [reduceCtorEq, if_false, attrsThenGt] at hwss
    replace hwsl := hwsl (by simp)
    simp only [attrsThenGt] at hwsl
    have hcb : charBefore 0 (60 :: c :: (t ++ 32 :: X)) (2 + t.length + 1) = 32 := by
      have := charBefore_append_cons 0 (60 :: c :: t) 32 X
      simpa [show 2 + t.length + 1 = t.length + 1 + 1 + 1 by omega] using this
    let E := (tagEnd slash).length
    have hchk := checkWholeStartTag_name c t (32 :: X) ht hA 1 L slash rest hwsl
      (by rw [hcb]; exact locAttrs_attrs tl htl more kv 32 _ (by decide) hkv hm hfuel)
      (by rw [show 1 + L = L + 1 by omega, List.drop_succ_cons, hXL, htlv])
    have hE : 0 < E := by simp only [E, tagEnd]; cases slash <;> simp
    -- the attribute loop of `parse_starttag`
    have hloop := attrLoop_attrs P tl htl (60 :: c :: (t ++ 32 :: X)) (2 + t.length + 1 + L + E) more kv (2 + t.length + 1) []
      _ (drop_name c t (32 :: X) 1) (by rw [hcb]; decide) hkv hm hP (by omega) hfuel
    rw [show 2 + t.length + 1 + (attrBody kv).length + attrsLen more = 2 + t.length + 1 + L by omega] at hloop
    have := parseStartTag_name P cd c t (32 :: X) hcAlpha ht hA hl hchk hwss hloop (tagEnd slash) (by
      rw [List.drop_take, hdropL, ← htlv, Nat.add_sub_cancel_left, List.take_left]
      cases slash <;> decide)
    rw [hs, this]
    have hlenw : (writeTag (c :: t) (kv :: more) slash).length = 2 + t.length + 1 + L + E := by
      simp [writeTag, attrsThenGt_length, L, E, attrsThenGt]; omega
    rw [hlenw]
    cases slash <;> simp [E, tagEnd, startTok]

theorem parseStartTag_write_partial (P : Params) (cd : Option PStr) (name rest : PStr) (hn : NameOK name)
    (hl : P.lower name = name) :
    parseStartTag P cd (writeStartTag0 name ++ rest) =
      .ok (.st name []) (writeStartTag0 name).length (if cdataContentElements.contains name then some name else cd) := by
  simpa [writeTag, writeStartTag0, attrsThenGt, tagEnd, startTok] using
    parseStartTag_write P cd name rest [] false hn hl (by simp) (by simp)

end BS.Tokenizer
