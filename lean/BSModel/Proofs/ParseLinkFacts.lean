import BSModel.Proofs.ParseLinkInv
/-! # Parse-time linkage: what the invariant says about a parsed document -/
namespace BS.ParseLink
open BS.Heap

section
variable {st : PSt} {w : Wit} (I : PInv st w)
include I

theorem PInv.root_facts : st.heap.kind 0 = .soup ∧ st.heap.parent 0 = none ∧ 1 ≤ st.heap.next := by
  obtain ⟨h1, h2⟩ := I.wf.unl_soup 0 I.unl0
  have := I.wf.size_pos 0
  rw [I.size0] at this
  exact ⟨h1, h2, this⟩

theorem PInv.root_ne : st.heap.ne 0 = none := (next_element_is_successor I.wf 0).2 I.unl0

theorem PInv.docOrder_eq : docOrder st.heap 0 = List.range st.heap.next := by
  have hp0 := I.root_facts.2.1
  apply List.ext_getElem?
  intro j
  by_cases hj : j < st.heap.next
  · rw [List.getElem?_range hj]
    exact (docOrder_getElem? I.wf hp0 j j).mpr (I.created j hj)
  · rw [List.getElem?_eq_none (by rw [docOrder_length I.wf, I.size0]; omega),
      List.getElem?_eq_none (by rw [List.length_range]; omega)]

/-- `next_element`/`previous_element` link the objects in creation order, starting from the first object
    created after the BeautifulSoup object -/
theorem PInv.chain (n : Nat) (h1 : 1 ≤ n) (h2 : n + 1 < st.heap.next) :
    st.heap.ne n = some (n + 1) ∧ st.heap.pe (n + 1) = some n := by
  obtain ⟨a1, a2⟩ := I.created n (Nat.lt_of_succ_lt h2)
  obtain ⟨b1, b2⟩ := I.created (n + 1) h2
  have hu : w.unl n = false := wf_unl_pos I.wf (a2.symm ▸ h1)
  have hp : w.pos (n + 1) = w.pos n + 1 := by rw [a2, b2]
  exact ⟨(I.wf.chain_ne n (n + 1)).mpr ⟨hu, a1.trans b1.symm, hp⟩, (I.wf.chain_pe n (n + 1)).mpr ⟨hu, a1.trans b1.symm, hp⟩⟩

theorem PInv.chain_ends : st.heap.pe 1 = none ∧ st.heap.ne (st.heap.next - 1) = none := by
  have hn := I.root_facts.2.2
  constructor
  · rw [previous_element_is_predecessor I.wf 1]
    refine if_pos ?_
    by_cases h1 : 1 < st.heap.next
    · rw [(I.created 1 h1).1, (I.created 1 h1).2, I.unl0]; exact Nat.le_refl 1
    · rw [(I.wf.root_tree 1 (I.wf.fresh 1 (Nat.le_of_not_lt h1)).1).2]; exact Nat.zero_le _
  · obtain ⟨b1, b2⟩ := I.created (st.heap.next - 1) (Nat.sub_lt hn Nat.one_pos)
    exact ne_last I.wf (by rw [b1, b2, I.size0]; omega)

theorem PInv.last {m : Nat} (ht : w.tree m = 0) (hp : w.pos m + 1 = w.size 0) : m = st.heap.next - 1 := by
  obtain ⟨b1, b2⟩ := I.created (st.heap.next - 1) (Nat.sub_lt I.root_facts.2.2 Nat.one_pos)
  have := I.size0
  exact I.wf.inj _ _ (ht.trans b1.symm) (by omega)

theorem PInv.mre_eq : st.mre = if st.heap.next = 1 then none else some (st.heap.next - 1) := by
  cases hm : st.mre with
  | none => rw [if_pos (I.size0.symm.trans (I.mre_none hm).2)]
  | some m =>
    obtain ⟨m1, m2, m3⟩ := I.mre_some m hm
    have hne : st.heap.next ≠ 1 := by have := I.size0; omega
    rw [if_neg hne, I.last m1 m2]

/-- every open element is a tag whose subtree reaches the end of the document (the right spine) -/
theorem PInv.open_last (c : Nat) (hc : c ∈ st.stack) :
    (st.heap.kind c).isTag = true ∧ lastDown st.heap st.heap.cap c = st.heap.next - 1 := by
  obtain ⟨d1, d2, d3, d4⟩ := I.stk c hc
  have hl := lastDown_pos st.heap w I.wf st.heap.cap c (Nat.le_succ_of_le (I.wf.size_cap c))
  exact ⟨d1, I.last (hl.1.trans d3) (hl.2.1.trans d4)⟩

end

end BS.ParseLink
