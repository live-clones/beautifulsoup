import BSModel.Proofs.ParseOnly
/-! # C16: the root-mode result in the property's words
(outermost matches; text runs; independence of the normal form from context names that carry no context) -/
namespace BS.ParseOnly
open BS.Builder

theorem txtRoot_refused {cfg : Cfg} {f : Filt} (hs : ∀ s, f.allowString s = false) (b : List PStr)
    (cls : Option Cls) : txtRoot cfg f b cls = [] := by
  cases b <;> simp [txtRoot, hs]

mutual
/-- the outermost matching elements of a forest, in document order (pre-order; a match is not descended into) -/
def outermost (f : Filt) : List Doc → List Doc
  | [] => []
  | d :: ds => outermost1 f d ++ outermost f ds
def outermost1 (f : Filt) : Doc → List Doc
  | .text _ _ => []
  | .elem n p ks => if f.allowTag n p then [Doc.elem n p ks] else outermost f ks
end

/-- a kept element: its whole subtree in the normal form the machine gives it directly below the
    BeautifulSoup object (text merging, whitespace rule and class rule under the names `[n, root]`) -/
def normElem (cfg : Cfg) : Doc → Doc
  | .elem n p ks =>
    let r := absorb cfg [n, cfg.rootName] [] ks
    Doc.elem n p (r.1 ++ txtN cfg [n, cfg.rootName] r.2 none)
  | .text c s => .text c s

mutual
theorem outer_tags {cfg : Cfg} {f : Filt} (hs : ∀ s, f.allowString s = false) :
    ∀ (ds : List Doc) (b : List PStr), (outer cfg f b ds).1 = (outermost f ds).map (normElem cfg)
  | [], b => by simp [outer, outermost]
  | d :: ds, b => by simp [outer, outermost, outer1_tags hs d, outer_tags hs ds]
theorem outer1_tags {cfg : Cfg} {f : Filt} (hs : ∀ s, f.allowString s = false) :
    ∀ (d : Doc) (b : List PStr), (outer1 cfg f b d).1 = (outermost1 f d).map (normElem cfg)
  | .text c s, b => by
    by_cases h0 : c = 0 <;> simp [outer1, outermost1, h0, txtRoot_refused hs]
  | .elem n p ks, b => by
    cases hf : f.allowTag n p
    · simp [outer1, outermost1, hf, txtRoot_refused hs, outer_tags hs ks]
    · simp [outer1, outermost1, hf, txtRoot_refused hs, normElem]
end

theorem outermost_eq_flatMap (f : Filt) : ∀ ds : List Doc, outermost f ds = ds.flatMap (outermost1 f)
  | [] => rfl
  | d :: ds => by rw [outermost, List.flatMap_cons, outermost_eq_flatMap f ds]

theorem outermost_append (f : Filt) (a b : List Doc) :
    outermost f (a ++ b) = outermost f a ++ outermost f b := by
  simp only [outermost_eq_flatMap, List.flatMap_append]

theorem outermost_txtN (cfg : Cfg) (f : Filt) (ctx : List Name) (b : List PStr) (cls : Option Cls) :
    outermost f (txtN cfg ctx b cls) = [] := by
  cases b <;> simp [txtN, outermost, outermost1]

/-- two lists of enclosing names carry the same context: the same "is a whitespace-preserving element open"
    and the same nearest string-container class -/
def CtxEq (cfg : Cfg) (c1 c2 : List Name) : Prop :=
  c1.any cfg.preserve = c2.any cfg.preserve ∧
  (c1.find? (fun n => (cfg.container n).isSome)).bind cfg.container =
    (c2.find? (fun n => (cfg.container n).isSome)).bind cfg.container

theorem CtxEq.refl (cfg : Cfg) (c : List Name) : CtxEq cfg c c := ⟨rfl, rfl⟩

theorem CtxEq.trans {cfg : Cfg} {a b c : List Name} (h1 : CtxEq cfg a b) (h2 : CtxEq cfg b c) : CtxEq cfg a c :=
  ⟨h1.1.trans h2.1, h1.2.trans h2.2⟩

theorem CtxEq.cons {cfg : Cfg} {c1 c2 : List Name} (h : CtxEq cfg c1 c2) (n : Name) :
    CtxEq cfg (n :: c1) (n :: c2) := by
  refine ⟨by simp [List.any_cons, h.1], ?_⟩
  simp only [List.find?_cons]
  cases hc : (cfg.container n).isSome
  · exact h.2
  · rfl

/-- a name that is neither whitespace-preserving nor a string container carries no context -/
theorem CtxEq.neutral {cfg : Cfg} {n : Name} (hp : cfg.preserve n = false) (hcn : cfg.container n = none)
    (c : List Name) : CtxEq cfg (n :: c) c := by
  refine ⟨by simp [List.any_cons, hp], ?_⟩
  simp [hcn]

theorem txtN_congr {cfg : Cfg} {c1 c2 : List Name} (h : CtxEq cfg c1 c2) (b : List PStr) (cls : Option Cls) :
    txtN cfg c1 b cls = txtN cfg c2 b cls := by
  cases b with
  | nil => rfl
  | cons x xs => simp only [txtN, classN, h.1, h.2]

mutual
theorem absorb_congr (cfg : Cfg) : ∀ (ds : List Doc) (c1 c2 : List Name) (b : List PStr), CtxEq cfg c1 c2 →
    absorb cfg c1 b ds = absorb cfg c2 b ds
  | [], c1, c2, b, _ => by simp [absorb]
  | d :: ds, c1, c2, b, h => by
    simp only [absorb, absorb1_congr cfg d c1 c2 b h, absorb_congr cfg ds c1 c2 _ h]
theorem absorb1_congr (cfg : Cfg) : ∀ (d : Doc) (c1 c2 : List Name) (b : List PStr), CtxEq cfg c1 c2 →
    absorb1 cfg c1 b d = absorb1 cfg c2 b d
  | .text c s, c1, c2, b, h => by simp only [absorb1, txtN_congr h]
  | .elem n p ks, c1, c2, b, h => by
    simp only [absorb1, txtN_congr h, txtN_congr (h.cons n), absorb_congr cfg ks _ _ [] (h.cons n)]
end

mutual
/-- no refused element under refused ancestors only, with a kept one below it (`outermost f ks ≠ []`), preserves
    whitespace or is a string container -/
def noDroppedContext (cfg : Cfg) (f : Filt) : List Doc → Bool
  | [] => true
  | d :: ds => noDroppedContext1 cfg f d && noDroppedContext cfg f ds
def noDroppedContext1 (cfg : Cfg) (f : Filt) : Doc → Bool
  | .text _ _ => true
  | .elem n p ks =>
    f.allowTag n p || (outermost f ks).isEmpty ||
      (!cfg.preserve n && (cfg.container n).isNone && noDroppedContext cfg f ks)
end

mutual
theorem outermost_absorb_nil (cfg : Cfg) (f : Filt) : ∀ (ds : List Doc) (ctx : List Name) (b : List PStr),
    outermost f ds = [] → outermost f (absorb cfg ctx b ds).1 = []
  | [], ctx, b, _ => by simp [absorb, outermost]
  | d :: ds, ctx, b, h => by
    simp only [outermost, List.append_eq_nil_iff] at h
    simp only [absorb, outermost_append, outermost1_absorb_nil cfg f d ctx b h.1,
      outermost_absorb_nil cfg f ds ctx _ h.2, List.append_nil]
theorem outermost1_absorb_nil (cfg : Cfg) (f : Filt) : ∀ (d : Doc) (ctx : List Name) (b : List PStr),
    outermost1 f d = [] → outermost f (absorb1 cfg ctx b d).1 = []
  | .text c s, ctx, b, _ => by
    by_cases h0 : c = 0 <;> simp [absorb1, h0, outermost, outermost_append, outermost_txtN]
  | .elem n p ks, ctx, b, h => by
    cases hf : f.allowTag n p
    · simp only [outermost1, hf, Bool.false_eq_true, if_false] at h
      simp only [absorb1, outermost_append, outermost_txtN, outermost, outermost1, hf, Bool.false_eq_true,
        if_false, outermost_absorb_nil cfg f ks (n :: ctx) [] h, List.append_nil]
    · simp [outermost1, hf] at h
end

theorem noDroppedContext1_dropped {cfg : Cfg} {f : Filt} {n : Name} {p : Option Name} {ks : List Doc}
    (hd : f.allowTag n p = false) :
    noDroppedContext1 cfg f (.elem n p ks) = true ↔
      (outermost f ks = [] ∨ ((cfg.preserve n = false ∧ cfg.container n = none) ∧ noDroppedContext cfg f ks = true)) := by
  simp only [noDroppedContext1, hd, Bool.false_or, Bool.or_eq_true, Bool.and_eq_true,
    Bool.not_eq_true', List.isEmpty_iff, Option.isNone_iff_eq_none]

mutual
theorem outermost_absorb (cfg : Cfg) (f : Filt) : ∀ (ds : List Doc) (ctx : List Name) (b : List PStr),
    CtxEq cfg ctx [cfg.rootName] → noDroppedContext cfg f ds = true →
    outermost f (absorb cfg ctx b ds).1 = (outermost f ds).map (normElem cfg)
  | [], ctx, b, _, _ => by simp [absorb, outermost]
  | d :: ds, ctx, b, hctx, h => by
    simp only [noDroppedContext, Bool.and_eq_true] at h
    simp only [absorb, outermost, outermost_append, List.map_append,
      outermost1_absorb cfg f d ctx b hctx h.1, outermost_absorb cfg f ds ctx _ hctx h.2]
theorem outermost1_absorb (cfg : Cfg) (f : Filt) : ∀ (d : Doc) (ctx : List Name) (b : List PStr),
    CtxEq cfg ctx [cfg.rootName] → noDroppedContext1 cfg f d = true →
    outermost f (absorb1 cfg ctx b d).1 = (outermost1 f d).map (normElem cfg)
  | .text c s, ctx, b, _, _ => by
    by_cases h0 : c = 0 <;> simp [absorb1, h0, outermost, outermost1, outermost_append, outermost_txtN]
  | .elem n p ks, ctx, b, hctx, h => by
    cases hf : f.allowTag n p
    · simp only [absorb1, outermost_append, outermost_txtN, outermost, outermost1, hf, Bool.false_eq_true,
        if_false, List.nil_append, List.append_nil]
      rcases (noDroppedContext1_dropped hf).mp h with h | ⟨⟨hp, hcn⟩, hk⟩
      · -- nothing kept below: whatever context the dropped element carries is irrelevant
        rw [outermost_absorb_nil cfg f ks (n :: ctx) [] h, h]; rfl
      · exact outermost_absorb cfg f ks (n :: ctx) [] ((CtxEq.neutral hp hcn ctx).trans hctx) hk
    · -- kept: the subtree under `n :: ctx` is the subtree under `[n, root]`
      have hc := hctx.cons n
      simp only [absorb1, outermost_append, outermost_txtN, outermost, outermost1, hf, if_true,
        List.nil_append, List.append_nil, List.map_cons, List.map_nil, normElem,
        absorb_congr cfg ks _ _ [] hc, txtN_congr hc]
end

/-- does the tag filter accept this node? (strings are not tags) -/
def isKept (f : Filt) : Doc → Bool
  | .elem n p _ => f.allowTag n p
  | .text _ _ => false

/-- `e` occurs in the forest `ds` at a position all of whose proper ancestors are elements the tag filter refuses -/
inductive UnderDropped (f : Filt) : List Doc → Doc → Prop
  | here {ds : List Doc} {e : Doc} : e ∈ ds → UnderDropped f ds e
  | inside {ds : List Doc} {n : Name} {p : Option Name} {ks : List Doc} {e : Doc} :
      Doc.elem n p ks ∈ ds → f.allowTag n p = false → UnderDropped f ks e → UnderDropped f ds e

theorem UnderDropped.mono {f : Filt} {ds ds' : List Doc} {e : Doc} (hsub : ∀ x ∈ ds, x ∈ ds')
    (h : UnderDropped f ds e) : UnderDropped f ds' e := by
  cases h with
  | here hm => exact .here (hsub _ hm)
  | inside hm hd hk => exact .inside (hsub _ hm) hd hk

mutual
theorem outermost_sound (f : Filt) : ∀ (ds : List Doc) (e : Doc), e ∈ outermost f ds →
    isKept f e = true ∧ UnderDropped f ds e
  | [], e, h => by simp [outermost] at h
  | d :: ds, e, h => by
    simp only [outermost, List.mem_append] at h
    rcases h with h | h
    · have := outermost1_sound f d e h
      exact ⟨this.1, this.2.mono (by simp)⟩
    · have := outermost_sound f ds e h
      exact ⟨this.1, this.2.mono (fun x hx => List.mem_cons_of_mem _ hx)⟩
theorem outermost1_sound (f : Filt) : ∀ (d : Doc) (e : Doc), e ∈ outermost1 f d →
    isKept f e = true ∧ UnderDropped f [d] e
  | .text c s, e, h => by simp [outermost1] at h
  | .elem n p ks, e, h => by
    cases hf : f.allowTag n p
    · simp only [outermost1, hf, Bool.false_eq_true, if_false] at h
      have := outermost_sound f ks e h
      exact ⟨this.1, .inside (List.mem_singleton.mpr rfl) hf this.2⟩
    · simp only [outermost1, hf, if_true, List.mem_singleton] at h
      subst h
      exact ⟨hf, .here (by simp)⟩
end

theorem outermost_refused {f : Filt} (ht : ∀ n p, f.allowTag n p = false) (ds : List Doc) : outermost f ds = [] :=
  List.eq_nil_iff_forall_not_mem.mpr fun e he => by
    have hk := (outermost_sound f ds e he).1
    cases e <;> simp [isKept, ht] at hk

theorem outer_nothing {cfg : Cfg} {f : Filt} (ht : ∀ n p, f.allowTag n p = false)
    (hs : ∀ s, f.allowString s = false) (ds : List Doc) (b : List PStr) : (outer cfg f b ds).1 = [] := by
  rw [outer_tags hs, outermost_refused ht]; rfl

theorem outer1_nothing {cfg : Cfg} {f : Filt} (ht : ∀ n p, f.allowTag n p = false)
    (hs : ∀ s, f.allowString s = false) : ∀ (d : Doc) (b : List PStr), (outer1 cfg f b d).1 = [] := by
  intro d b
  have h := outermost_refused ht [d]
  simp only [outermost, List.append_nil] at h
  rw [outer1_tags hs, h]; rfl

theorem mem_outermost1_self {f : Filt} : ∀ {e : Doc}, isKept f e = true → e ∈ outermost1 f e
  | .text c s, hk => by simp [isKept] at hk
  | .elem n p ks, hk => by simp only [isKept] at hk; simp [outermost1, hk]

theorem mem_outermost_iff (f : Filt) (ds : List Doc) (e : Doc) :
    e ∈ outermost f ds ↔ isKept f e = true ∧ UnderDropped f ds e := by
  refine ⟨outermost_sound f ds e, ?_⟩
  rintro ⟨hk, hu⟩
  induction hu with
  | here hm =>
    exact outermost_eq_flatMap f _ ▸ List.mem_flatMap_of_mem hm (mem_outermost1_self hk)
  | inside hm hd _ ih =>
    refine outermost_eq_flatMap f _ ▸ List.mem_flatMap_of_mem hm ?_
    simp only [outermost1, hd, Bool.false_eq_true, if_false]
    exact ih hk

/-- the inner path (inside the dropped `n`) is the explicit argument -/
theorem UnderDropped.trans {f : Filt} {n : Name} {p : Option Name} {ks : List Doc} {x : Doc}
    (hd : f.allowTag n p = false) (hx : UnderDropped f ks x) :
    ∀ {ds : List Doc}, UnderDropped f ds (.elem n p ks) → UnderDropped f ds x := by
  intro ds h
  generalize he : Doc.elem n p ks = e at h
  induction h with
  | here hm => subst he; exact .inside hm hd hx
  | inside hm hd' _ ih => exact .inside hm hd' (ih he)

/-- a dropped element reached through dropped ancestors passes its outermost matches up -/
theorem outermost_ne_nil_up {f : Filt} {n : Name} {p : Option Name} {ks ds : List Doc}
    (hd : f.allowTag n p = false) (hu : UnderDropped f ds (.elem n p ks)) (hne : outermost f ks ≠ []) :
    outermost f ds ≠ [] := by
  obtain ⟨x, hx⟩ := List.exists_mem_of_ne_nil _ hne
  have := (mem_outermost_iff f ks x).mp hx
  exact List.ne_nil_of_mem ((mem_outermost_iff f ds x).mpr ⟨this.1, .trans hd this.2 hu⟩)

theorem noDroppedContext_mem {cfg : Cfg} {f : Filt} {d : Doc} : ∀ {ds : List Doc}, d ∈ ds →
    noDroppedContext cfg f ds = true → noDroppedContext1 cfg f d = true
  | [], hd, _ => by simp at hd
  | d' :: ds, hd, h => by
    simp only [noDroppedContext, Bool.and_eq_true] at h
    rcases List.mem_cons.mp hd with rfl | hd
    · exact h.1
    · exact noDroppedContext_mem hd h.2

theorem noDroppedContext_sound {cfg : Cfg} {f : Filt} {n : Name} {p : Option Name} {ks : List Doc}
    (hd : f.allowTag n p = false) (hne : outermost f ks ≠ []) :
    ∀ {ds : List Doc}, UnderDropped f ds (.elem n p ks) → noDroppedContext cfg f ds = true →
    cfg.preserve n = false ∧ cfg.container n = none := by
  intro ds h
  generalize he : Doc.elem n p ks = e at h
  induction h with
  | here hm =>
    subst he
    intro hnd
    rcases (noDroppedContext1_dropped hd).mp (noDroppedContext_mem hm hnd) with h0 | h1
    · exact absurd h0 hne
    · exact h1.1
  | inside hm hd' hu ih =>
    subst he
    intro hnd
    rcases (noDroppedContext1_dropped hd').mp (noDroppedContext_mem hm hnd) with h0 | h1
    · exact absurd h0 (outermost_ne_nil_up hd hu hne)
    · exact ih rfl h1.2

mutual
theorem noDroppedContext_complete (cfg : Cfg) (f : Filt) : ∀ (ds : List Doc),
    (∀ n p ks, UnderDropped f ds (.elem n p ks) → f.allowTag n p = false → outermost f ks ≠ [] →
      cfg.preserve n = false ∧ cfg.container n = none) → noDroppedContext cfg f ds = true
  | [], _ => rfl
  | d :: ds, h => by
    simp only [noDroppedContext, Bool.and_eq_true]
    exact ⟨noDroppedContext1_complete cfg f d (fun n p ks hu => h n p ks (hu.mono (by simp))),
      noDroppedContext_complete cfg f ds
        (fun n p ks hu => h n p ks (hu.mono (fun x hx => List.mem_cons_of_mem _ hx)))⟩
theorem noDroppedContext1_complete (cfg : Cfg) (f : Filt) : ∀ (d : Doc),
    (∀ n p ks, UnderDropped f [d] (.elem n p ks) → f.allowTag n p = false → outermost f ks ≠ [] →
      cfg.preserve n = false ∧ cfg.container n = none) → noDroppedContext1 cfg f d = true
  | .text c s, _ => rfl
  | .elem n p ks, h => by
    cases hf : f.allowTag n p
    · rw [noDroppedContext1_dropped hf]
      by_cases h0 : outermost f ks = []
      · exact .inl h0
      · exact .inr ⟨h n p ks (.here (List.mem_singleton.mpr rfl)) hf h0, noDroppedContext_complete cfg f ks
          fun n' p' ks' hu => h n' p' ks' (.inside (List.mem_singleton.mpr rfl) hf hu)⟩
    · simp [noDroppedContext1, hf]
end

theorem noDroppedContext_iff (cfg : Cfg) (f : Filt) (ds : List Doc) :
    noDroppedContext cfg f ds = true ↔
      ∀ n p ks, UnderDropped f ds (.elem n p ks) → f.allowTag n p = false → outermost f ks ≠ [] →
        cfg.preserve n = false ∧ cfg.container n = none :=
  ⟨fun h _ _ _ hu hd hne => noDroppedContext_sound hd hne hu h, noDroppedContext_complete cfg f ds⟩

/-- the document as the sequence of things a string filter sees: chunks of ordinary text, special strings
    (comments, CDATA, …: class ≠ 0), tag boundaries -/
inductive Tok where
  | chunk (s : PStr)
  | special (c : Cls) (s : PStr)
  | tag
deriving Repr

mutual
def toks : Doc → List Tok
  | .text c s => if c = 0 then [.chunk s] else [.special c s]
  | .elem _ _ ks => .tag :: (toksL ks ++ [.tag])
def toksL : List Doc → List Tok
  | [] => []
  | d :: ds => toks d ++ toksL ds
end

/-- a finished run of ordinary text (nothing if no chunk arrived) -/
def emitRun (b : List PStr) : List (Cls × PStr) :=
  match b with
  | [] => []
  | _ :: _ => [(0, b.flatten)]

/-- the text runs of a token sequence, `b` being the chunks of the run in progress: maximal sequences of
    ordinary chunks not separated by a tag boundary or a special string; special strings individually -/
def runsFrom : List PStr → List Tok → List (Cls × PStr)
  | b, [] => emitRun b
  | b, .chunk s :: ts => runsFrom (b ++ [s]) ts
  | b, .special c s :: ts => emitRun b ++ (c, s) :: runsFrom [] ts
  | b, .tag :: ts => emitRun b ++ runsFrom [] ts

/-- the text runs of a document, in order, with their string class -/
def textRuns (ds : List Doc) : List (Cls × PStr) := runsFrom [] (toksL ds)

/-- a run becomes a string (collapsed as in `txtRoot`) iff the filter accepts its final value -/
def keepRun (cfg : Cfg) (f : Filt) (r : Cls × PStr) : Option Doc :=
  if f.allowString (wsVal cfg false r.2) then some (Doc.text r.1 (wsVal cfg false r.2)) else none

theorem keep_emitRun (cfg : Cfg) (f : Filt) (b : List PStr) :
    (emitRun b).filterMap (keepRun cfg f) = txtRoot cfg f b none := by
  cases b with
  | nil => rfl
  | cons x xs =>
    simp only [emitRun, txtRoot, List.filterMap_cons, List.filterMap_nil, keepRun, Option.getD_none]
    split <;> simp_all

theorem keep_special (cfg : Cfg) (f : Filt) (c : Cls) (s : PStr) :
    [(c, s)].filterMap (keepRun cfg f) = txtRoot cfg f [s] (some c) := by
  simp only [txtRoot, List.filterMap_cons, List.filterMap_nil, keepRun, Option.getD_some,
    List.flatten_cons, List.flatten_nil, List.append_nil]
  split <;> simp_all

-- `ts`: what follows; the run in progress after `ds` goes on into it
mutual
theorem runs_forest {cfg : Cfg} {f : Filt} (ht : ∀ n p, f.allowTag n p = false) :
    ∀ (ds : List Doc) (b : List PStr) (ts : List Tok),
    (runsFrom b (toksL ds ++ ts)).filterMap (keepRun cfg f) =
      (outer cfg f b ds).1 ++ (runsFrom (outer cfg f b ds).2 ts).filterMap (keepRun cfg f)
  | [], b, ts => by simp [toksL, outer]
  | d :: ds, b, ts => by
    simp only [toksL, List.append_assoc, outer]
    rw [runs_doc ht d b (toksL ds ++ ts), runs_forest ht ds _ ts]
theorem runs_doc {cfg : Cfg} {f : Filt} (ht : ∀ n p, f.allowTag n p = false) :
    ∀ (d : Doc) (b : List PStr) (ts : List Tok),
    (runsFrom b (toks d ++ ts)).filterMap (keepRun cfg f) =
      (outer1 cfg f b d).1 ++ (runsFrom (outer1 cfg f b d).2 ts).filterMap (keepRun cfg f)
  | .text c s, b, ts => by
    by_cases h0 : c = 0
    · simp [toks, outer1, h0, runsFrom]
    · simp only [toks, outer1, h0, if_false, List.cons_append, List.nil_append, runsFrom,
        List.filterMap_append, keep_emitRun, List.append_assoc]
      rw [show (c, s) :: runsFrom [] ts = [(c, s)] ++ runsFrom [] ts from rfl, List.filterMap_append,
        keep_special]
  | .elem n p ks, b, ts => by
    simp only [toks, outer1, ht, Bool.false_eq_true, if_false, List.cons_append, List.append_assoc,
      List.nil_append, runsFrom, List.filterMap_append, keep_emitRun]
    rw [runs_forest ht ks [] (Tok.tag :: ts)]
    simp only [runsFrom, List.filterMap_append, keep_emitRun]
end

theorem fBuild_runs {cfg : Cfg} (hc : CfgOK cfg) {f : Filt} (ht : ∀ n p, f.allowTag n p = false) (ds : List Doc)
    (hok : noRootL cfg ds = true) : fBuild cfg f (eventsL ds) = (textRuns ds).filterMap (keepRun cfg f) := by
  have := runs_forest (cfg := cfg) ht ds [] []
  simp only [List.append_nil, runsFrom, keep_emitRun] at this
  rw [fBuild_events hc f ds hok, textRuns, this]

theorem keepRun_text {cfg : Cfg} {f : Filt} {r : Cls × PStr} {d : Doc} (h : keepRun cfg f r = some d) :
    ∃ c s, d = Doc.text c s := by
  unfold keepRun at h
  split at h
  · exact ⟨_, _, (Option.some.inj h).symm⟩
  · cases h

end BS.ParseOnly
