import BSModel.Model.Construct
/-! C06 on `Model/Construct.lean`: an attempt starts from fields no attempt writes, so rejected attempts leave no trace;
    then the heuristics, `int()`, the charref conversion, UnicodeDammit's two passes. -/
namespace BS.Construct

theorem assignAll_off {V : Type} (fs : List (Field × V)) (o : Obj V) (f : Field)
    (h : f ∉ fs.map Prod.fst) : assignAll fs o f = o f := by
  induction fs generalizing o with
  | nil => rfl
  | cons p rest ih =>
    simp only [List.map_cons, List.mem_cons, not_or] at h
    show assignAll rest (o.set p.1 p.2) f = o f
    rw [ih _ h.2]
    simp [Obj.set, h.1]

theorem assignAll_on {V : Type} (fs : List (Field × V)) (o o' : Obj V) (f : Field)
    (h : f ∈ fs.map Prod.fst) : assignAll fs o f = assignAll fs o' f := by
  induction fs generalizing o o' with
  | nil => simp at h
  | cons p rest ih =>
    show assignAll rest (o.set p.1 p.2) f = assignAll rest (o'.set p.1 p.2) f
    by_cases hr : f ∈ rest.map Prod.fst
    · exact ih _ _ hr
    · rw [assignAll_off _ _ _ hr, assignAll_off _ _ _ hr]
      simp [Obj.set, (List.mem_cons.mp h).resolve_right hr]

theorem AgreeOff.refl {V : Type} (X : List Field) (a : Obj V) : AgreeOff X a a := fun _ _ => rfl

theorem AgreeOff.trans {V : Type} {X : List Field} {a b c : Obj V} (h1 : AgreeOff X a b) (h2 : AgreeOff X b c) :
    AgreeOff X a c := fun f hf => (h1 f hf).trans (h2 f hf)

theorem AgreeOff.symm {V : Type} {X : List Field} {a b : Obj V} (h : AgreeOff X a b) : AgreeOff X b a :=
  fun f hf => (h f hf).symm

theorem retry_cons {V : Type} (m : Machine V) (o : Obj V) (s : Strategy) (rest : List Strategy) :
    retry m o (s :: rest) = match (attempt m o s).2 with
      | .accept => (assignAll m.finish (attempt m o s).1, .ok ())
      | .reject => retry m (attempt m o s).1 rest
      | .raise e => ((attempt m o s).1, .error e) := by
  rw [retry]
  generalize attempt m o s = x
  obtain ⟨o', r⟩ := x
  cases r <;> rfl

theorem retry_outcome_prm {V : Type} (m : Machine V)
    (hf : ∀ o, (m.feed o).2 = .accept ∨ (m.feed o).2 = .reject ∨ (m.feed o).2 = .raise .parserRejectedMarkup)
    (o : Obj V) (ss : List Strategy) :
    (retry m o ss).2 = .ok () ∨ (retry m o ss).2 = .error .parserRejectedMarkup := by
  induction ss generalizing o with
  | nil => exact Or.inr rfl
  | cons s rest ih =>
    rw [retry_cons]
    have h : (attempt m o s).2 = .accept ∨ (attempt m o s).2 = .reject ∨
        (attempt m o s).2 = .raise .parserRejectedMarkup := hf _
    rcases h with h | h | h <;> rw [h]
    · exact Or.inl rfl
    · exact ih _
    · exact Or.inr rfl

section
variable {V : Type} (m : Machine V) (R H : List Field) (wf : m.WF R H)
include wf

theorem fed_state_eq (o o0 : Obj V) (s : Strategy)
    (h : AgreeOff (R ++ H) o o0) :
    assignAll (m.fresh (assignAll (m.header s) o)) (assignAll (m.header s) o)
      = assignAll (m.fresh (assignAll (m.header s) o0)) (assignAll (m.header s) o0) := by
  have h1 : AgreeOff R (assignAll (m.header s) o) (assignAll (m.header s) o0) := by
    intro f hf
    by_cases hH : f ∈ H
    · exact assignAll_on _ _ _ _ (by rw [wf.headerKeys]; exact hH)
    · have hk : f ∉ (m.header s).map Prod.fst := by rw [wf.headerKeys]; exact hH
      rw [assignAll_off _ _ _ hk, assignAll_off _ _ _ hk]
      exact h f (by simp [hf, hH])
  have hfr := wf.freshFrame _ _ h1
  funext f
  by_cases hR : f ∈ R
  · rw [hfr]
    exact assignAll_on _ _ _ _ (by rw [wf.freshKeys]; exact hR)
  · have hk : ∀ x, f ∉ (m.fresh x).map Prod.fst := by intro x; rw [wf.freshKeys]; exact hR
    rw [assignAll_off _ _ _ (hk _), assignAll_off _ _ _ (hk _)]
    exact h1 f hR

theorem attempt_eq_of_agree (o o0 : Obj V)
    (s : Strategy) (h : AgreeOff (R ++ H) o o0) : attempt m o s = attempt m o0 s := by
  unfold attempt
  simp only
  rw [fed_state_eq m R H wf o o0 s h]

theorem attempt_agree (o : Obj V) (s : Strategy) :
    AgreeOff (R ++ H) (attempt m o s).1 o := by
  intro f hf
  unfold attempt
  simp only
  rw [wf.feedFrame _ f hf]
  have hR : f ∉ R := fun h => hf (by simp [h])
  have hH : f ∉ H := fun h => hf (by simp [h])
  rw [assignAll_off _ _ _ (by rw [wf.freshKeys]; exact hR), assignAll_off _ _ _ (by rw [wf.headerKeys]; exact hH)]

/-- the loop from any object that agrees with `o0` on the fields no attempt writes: rejected attempts leave no
    trace in what the next attempt starts from -/
theorem retry_skip_rejected (o0 : Obj V)
    (pre : List Strategy) (rest : List Strategy)
    (hpre : ∀ r ∈ pre, (attempt m o0 r).2 = .reject) :
    ∀ o, AgreeOff (R ++ H) o o0 →
      ∃ o', AgreeOff (R ++ H) o' o0 ∧ retry m o (pre ++ rest) = retry m o' rest := by
  induction pre with
  | nil => intro o h; exact ⟨o, h, rfl⟩
  | cons r pre ih =>
    intro o h
    have hr : (attempt m o0 r).2 = .reject := hpre r (by simp)
    have he := attempt_eq_of_agree m R H wf o o0 r h
    have hag : AgreeOff (R ++ H) (attempt m o r).1 o0 := (attempt_agree m R H wf o r).trans h
    obtain ⟨o', ho', hret⟩ := ih (fun x hx => hpre x (by simp [hx])) (attempt m o r).1 hag
    refine ⟨o', ho', ?_⟩
    rw [← hret]
    show retry m o (r :: (pre ++ rest)) = _
    rw [retry_cons, he, hr]

theorem retry_ok_split (o0 : Obj V) (ss : List Strategy) : ∀ o, AgreeOff (R ++ H) o o0 → (retry m o ss).2 = .ok () →
    ∃ pre s post, ss = pre ++ s :: post ∧ (∀ r ∈ pre, (attempt m o0 r).2 = .reject) ∧
      (attempt m o0 s).2 = .accept ∧ retry m o ss = (assignAll m.finish (attempt m o0 s).1, .ok ()) := by
  induction ss with
  | nil => intro o _ h; cases h
  | cons s rest ih =>
    intro o hag h
    rw [retry_cons, attempt_eq_of_agree m R H wf o o0 s hag] at h ⊢
    cases hs : (attempt m o0 s).2 with
    | accept => exact ⟨[], s, rest, rfl, by simp, hs, rfl⟩
    | raise e => rw [hs] at h; cases h
    | reject =>
      rw [hs] at h
      obtain ⟨pre, s', post, e, hp, ha, hr⟩ := ih _ (attempt_agree m R H wf o0 s) h
      exact ⟨s :: pre, s', post, by rw [e]; rfl, by simpa [hs] using hp, ha, hr⟩

theorem retry_by_index_aux (o0 : Obj V)
    (ss : List Strategy) : ∀ (o : Obj V) (i : Nat), AgreeOff (R ++ H) o o0 →
      (retry m o ss).2 = retryResult (retryIndex (ss.map fun s => (attempt m o0 s).2) i) := by
  induction ss with
  | nil => intro o _ _; rfl
  | cons s rest ih =>
    intro o i h
    rw [retry_cons, attempt_eq_of_agree m R H wf o o0 s h, List.map_cons]
    cases hs : (attempt m o0 s).2 with
    | accept => rfl
    | reject => exact ih _ (i + 1) (attempt_agree m R H wf o0 s)
    | raise e => rfl

end

/-! ### the heuristics -/

theorem encodeUtf8Strict_ok_of_noSurrogate (s : PStr) (h : ∀ c ∈ s, isSurrogate c = false) :
    encodeUtf8Strict s = .ok (encodeUtf8Replace s) := by
  induction s with
  | nil => rfl
  | cons c cs ih =>
    have hc := h c (by simp)
    have ih' := ih (fun x hx => h x (by simp [hx]))
    simp [encodeUtf8Strict, encodeUtf8Replace, hc, ih']

theorem encodeUtf8Strict_error_of_surrogate (s : PStr) (c : Nat) (hc : c ∈ s) (hs : isSurrogate c = true) :
    encodeUtf8Strict s = .error .unicodeEncodeError := by
  induction s with
  | nil => simp at hc
  | cons d ds ih =>
    unfold encodeUtf8Strict
    by_cases hd : isSurrogate d = true
    · simp [hd]
    · simp only [hd, Bool.false_eq_true, if_false]
      rw [ih ((List.mem_cons.mp hc).resolve_left fun h => hd (h ▸ hs))]

theorem heuristics_ok (m : Markup) : ∃ w, heuristics m = .ok w := by
  unfold heuristics
  split
  · exact ⟨_, rfl⟩
  · split <;> exact ⟨_, rfl⟩

theorem heuristicsOld_cases (m : Markup) :
    (heuristicsGuard m = true ∧ markupIsUrl m = false ∧ (∃ s, m = .str s ∧ ∃ c ∈ s, isSurrogate c = true) ∧
      heuristicsOld m = .error .unicodeEncodeError) ∨
    (¬ (heuristicsGuard m = true ∧ markupIsUrl m = false ∧ ∃ s, m = .str s ∧ ∃ c ∈ s, isSurrogate c = true) ∧
      heuristicsOld m = heuristics m) := by
  by_cases hg : heuristicsGuard m = true
  · cases hu : markupIsUrl m with
    | true =>
      refine .inr ⟨fun h => Bool.noConfusion h.2.1, ?_⟩
      unfold heuristicsOld heuristics; simp [hg, hu]
    | false =>
      cases m with
      | bytes b =>
        refine .inr ⟨fun ⟨_, _, _, hs, _⟩ => Markup.noConfusion hs, ?_⟩
        unfold heuristicsOld heuristics; simp [hg, hu]
      | str s =>
        by_cases hsur : ∃ c ∈ s, isSurrogate c = true
        · obtain ⟨c, hc, hs⟩ := hsur
          refine .inl ⟨hg, rfl, ⟨s, rfl, c, hc, hs⟩, ?_⟩
          unfold heuristicsOld; simp [hg, hu, encodeUtf8Strict_error_of_surrogate s c hc hs]
        · have hno : ∀ c ∈ s, isSurrogate c = false := fun c hc =>
            Bool.eq_false_iff.2 fun hh => hsur ⟨c, hc, hh⟩
          refine .inr ⟨fun ⟨_, _, s', hs', hex⟩ => ?_, ?_⟩
          · injection hs' with hs'
            exact hsur (hs' ▸ hex)
          · unfold heuristicsOld heuristics; simp [hg, hu, encodeUtf8Strict_ok_of_noSurrogate s hno]
  · refine .inr ⟨fun h => hg h.1, ?_⟩
    unfold heuristicsOld heuristics; simp [hg]

/-! ### `int()` -/

-- `h0`: limit 0 means none
theorem pyIntDec_too_long (s : PStr) (h0 : Gen.C06.intMaxStrDigitsC06 ≠ 0) (h : s.length > Gen.C06.intMaxStrDigitsC06) :
    pyIntDec s = .error .valueError := by
  unfold pyIntDec
  split
  · rfl
  · rw [if_pos ⟨h0, h⟩]

theorem pyIntDec_error (s : PStr) (e : Err) (h : pyIntDec s = .error e) : e = .valueError := by
  unfold pyIntDec at h
  split at h
  · cases h; rfl
  · split at h
    · cases h; rfl
    · cases h

theorem pyIntHex_error (s : PStr) (e : Err) (h : pyIntHex s = .error e) : e = .valueError := by
  unfold pyIntHex at h
  simp only at h
  split at h
  · split at h
    · cases h; rfl
    · cases h
  · cases h; rfl

theorem charrefNumber_error (name : PStr) (e : Err) (h : charrefNumber name = .error e) : e = .valueError := by
  unfold charrefNumber at h
  split at h
  · exact pyIntHex_error _ e h
  · exact pyIntHex_error _ e h
  · exact pyIntDec_error _ e h

-- `57` = digit `9`
theorem charrefNumber_long_decimal (n : Nat) (h0 : Gen.C06.intMaxStrDigitsC06 ≠ 0) (h : Gen.C06.intMaxStrDigitsC06 ≤ n) :
    charrefNumber (List.replicate (n + 1) 57) = .error .valueError := by
  rw [List.replicate_succ]
  exact pyIntDec_too_long _ h0 (by rw [List.length_cons, List.length_replicate]; exact Nat.lt_succ_of_le h)

theorem handleCharrefOld_of_number_error (orig : Option (Nat → Dec1)) (name : PStr) (e : Err)
    (h : charrefNumber name = .error e) : handleCharrefOld orig name = .error e := by
  unfold handleCharrefOld
  rw [h]

theorem handleCharref_of_number_error (orig : Option (Nat → Dec1)) (name : PStr) (e : Err)
    (h : charrefNumber name = .error e) : handleCharref orig name = charrefFrom true orig (Gen.C06.maxUnicode + 1) := by
  unfold handleCharref
  rw [h]

/-! ### charref decoding -/

theorem truthy_cons (c : Nat) (cs : PStr) : truthy (some (c :: cs)) = true := rfl

theorem charrefFinish_nonempty (n : Nat) (d : Option PStr) : ∃ c cs, charrefFinish n d = c :: cs := by
  unfold charrefFinish
  cases hd : truthy d with
  | true =>
    match d, hd with
    | some (c :: cs), _ => exact ⟨c, cs, by simp [truthy]⟩
    | none, h => simp [truthy] at h
    | some [], h => simp [truthy] at h
  | false =>
    by_cases hn : n ≤ Gen.C06.maxUnicode
    · exact ⟨n, [], by simp [hn, truthy]⟩
    · exact ⟨0xFFFD, [], by simp [hn, hd]⟩

theorem tryDecode_catchAll_ok (d : Option (Nat → Dec1)) (n : Nat) (data : Option PStr) :
    ∃ r, tryDecode true d n data = .ok r := by
  unfold tryDecode
  cases d with
  | none => exact ⟨_, rfl⟩
  | some f =>
    simp only
    cases f n <;> simp

theorem charrefFrom_total (orig : Option (Nat → Dec1)) (n : Nat) :
    ∃ c cs, charrefFrom true orig n = .ok (c :: cs) := by
  unfold charrefFrom
  by_cases hn : n < 256
  · simp only [hn, if_true]
    obtain ⟨r1, h1⟩ := tryDecode_catchAll_ok orig n none
    rw [h1]
    simp only
    obtain ⟨r2, h2⟩ := tryDecode_catchAll_ok (some cp1252) n r1
    rw [h2]
    simp only
    obtain ⟨c, cs, h⟩ := charrefFinish_nonempty n r2
    exact ⟨c, cs, by rw [h]⟩
  · simp only [hn, if_false]
    obtain ⟨c, cs, h⟩ := charrefFinish_nonempty n none
    exact ⟨c, cs, by rw [h]⟩

theorem tryDecode_false_cases (d : Option (Nat → Dec1)) (n : Nat) (data : Option PStr) :
    tryDecode false d n data = .error .unicodeError ∨ tryDecode false d n data = tryDecode true d n data := by
  unfold tryDecode
  cases d with
  | none => exact .inr rfl
  | some f => simp only; cases f n <;> simp

theorem charrefFrom_false_cases (orig : Option (Nat → Dec1)) (n : Nat) :
    charrefFrom false orig n = .error .unicodeError ∨ charrefFrom false orig n = charrefFrom true orig n := by
  unfold charrefFrom
  split
  · rcases tryDecode_false_cases orig n none with h | h <;> rw [h]
    · exact .inl rfl
    · cases tryDecode true orig n none with
      | error e => exact .inr rfl
      | ok d1 => simp only; rcases tryDecode_false_cases (some cp1252) n d1 with h | h <;> rw [h] <;> simp
  · exact .inr rfl

/-! ### UnicodeDammit -/

/-- invariant of the second pass: every (codec, `replace`) pair already tried is one that failed -/
def TriedFailed (env : DammitEnv) (st : DammitState) : Prop :=
  ∀ c, (c, true) ∈ st.tried → env.decode c true = none

/-- pass 1 is strict: no `(c, true)` pair, so `TriedFailed` holds when pass 2 starts -/
theorem pass1_tried (env : DammitEnv) (encs : List Nat) (st : DammitState)
    (h : ∀ c, (c, true) ∉ st.tried) : ∀ c, (c, true) ∉ (pass1 env encs st).2.tried := by
  induction encs generalizing st with
  | nil => exact h
  | cons e es ih =>
    unfold pass1
    have key : ∀ c, (c, true) ∉ (convertFrom env st e false).2.tried := by
      intro c
      unfold convertFrom
      split
      · exact h c
      · split
        · exact h c
        · split <;> simp [h c]
    generalize hx : convertFrom env st e false = x at key ⊢
    obtain ⟨u, st'⟩ := x
    cases u with
    | none => exact ih st' key
    | some v => exact key

theorem convertFrom_none (env : DammitEnv) (st : DammitState) (e : Nat) (hinv : TriedFailed env st)
    (h : (convertFrom env st e true).1 = none) :
    TriedFailed env (convertFrom env st e true).2 ∧ ∀ c, env.codecOf e = some c → env.decode c true = none := by
  unfold convertFrom at h ⊢
  cases hc : env.codecOf e with
  | none => exact ⟨hinv, nofun⟩
  | some c =>
    simp only [hc] at h ⊢
    split
    · rename_i hin
      exact ⟨hinv, fun c' hc' => Option.some.inj hc' ▸ hinv c (by simpa using hin)⟩
    · rename_i hnt
      simp only [hnt, Bool.false_eq_true, if_false] at h
      cases hd : env.decode c true with
      | some v => rw [hd] at h; cases h
      | none =>
        refine ⟨fun c' hc' => ?_, fun c' hc' => Option.some.inj hc' ▸ hd⟩
        rcases List.mem_append.mp hc' with h1 | h1
        · exact hinv c' h1
        · rw [(Prod.mk.inj (List.mem_singleton.mp h1)).1]; exact hd

theorem pass2_some (env : DammitEnv) (encs : List Nat) (u : Option PStr) (st : DammitState)
    (hinv : TriedFailed env st)
    (h : ∃ e ∈ encs, env.isAscii e = false ∧ ∃ c t, env.codecOf e = some c ∧ env.decode c true = some t) :
    (pass2 env encs u st).1.isSome = true := by
  induction encs generalizing u st with
  | nil => obtain ⟨e, he, _⟩ := h; cases he
  | cons e es ih =>
    -- if the head cannot be the good candidate, a later one is
    have htail : (env.isAscii e = true ∨ ∀ c, env.codecOf e = some c → env.decode c true = none) →
        ∃ e' ∈ es, env.isAscii e' = false ∧ ∃ c t, env.codecOf e' = some c ∧ env.decode c true = some t := by
      intro hh
      obtain ⟨e', he', hna, c, t, hc, hd⟩ := h
      rcases List.mem_cons.mp he' with rfl | he'
      · rcases hh with hh | hh
        · rw [hh] at hna; cases hna
        · rw [hh c hc] at hd; cases hd
      · exact ⟨e', he', hna, c, t, hc, hd⟩
    unfold pass2
    simp only
    by_cases ha : env.isAscii e = true
    · simp only [ha, if_true]
      split
      · assumption
      · exact ih _ _ hinv (htail (.inl ha))
    · simp only [ha, Bool.false_eq_true, if_false]
      split
      · assumption
      · rename_i hs
        obtain ⟨hinv', hdec⟩ := convertFrom_none env st e hinv (by simpa using hs)
        exact ih _ _ hinv' (htail (.inr hdec))

theorem firstPassEnough_isSome (u : Option PStr) (h : firstPassEnough u = true) : u.isSome = true := by
  unfold firstPassEnough at h
  split at h
  · match u, h with
    | some (_ :: _), _ => rfl
  · exact h

theorem dammit_unicodeMarkup (env : DammitEnv) (encs : List Nat) :
    (dammit env encs).unicodeMarkup = if firstPassEnough (pass1 env encs {}).1 then (pass1 env encs {}).1
      else (pass2 env encs (pass1 env encs {}).1 (pass1 env encs {}).2).1 := by
  unfold dammit
  simp only
  -- `firstPassEnough`, then text or none
  split <;> split <;> simp_all

end BS.Construct
