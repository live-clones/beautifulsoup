import BSModel.Proofs.EncodingOut
/-! `CHARSET_RE.sub` on the general shape of a content value: any quiet prefix (earlier parameters included), any spelling of
    the key that the live pattern accepts, any value, any continuation -/
namespace BS.EncodingOut
open BS BS.Gen.EncodingOut

/-- every character is `\s` -/
def AllWs (w : PStr) : Prop := ∀ c ∈ w, isReSpace c = true

/-- `L` spells the word `charset` in the letter classes of the live pattern (any case the flags allow) -/
def SpellsKey (L : PStr) : Prop := matchClasses (charsetReLiteral.take 7) L = some []

/-- could a match's key begin here: after optional white space comes a character the pattern accepts for `c` -/
def startsKey (s : PStr) : Bool :=
  match s.dropWhile isReSpace with
  | c :: _ => (charsetReLiteral.headD []).contains c
  | [] => false

/-- no match attempt inside `pre` can get past its first letter, given that a `;` follows `pre`: at every line start and
    after every `;` of `pre`, what comes after optional white space is not a `c` -/
def quietGo : Bool → PStr → Bool
  | _, [] => true
  | bol, c :: cs =>
    !(bol && startsKey (c :: cs ++ [59])) && !(c == 59 && startsKey (cs ++ [59]))
      && quietGo (charsetReMultiline && c == 10) cs

/-- is `^` true after the text `l` (started in state `b`) -/
def endBol (b : Bool) (l : PStr) : Bool :=
  match l.getLast? with
  | none => b
  | some c => charsetReMultiline && c == 10

/-- decided once from the generated tables: `charsetReLiteral.headD []` is the class for `c`; entries 0-6 spell `charset`,
    entry 7 is `=` -/
structure PatternShape : Prop where
  c_no_space : (charsetReLiteral.headD []).all (fun c => !isReSpace c) = true
  c_no_semicolon : (charsetReLiteral.headD []).contains 59 = false
  semicolon_no_space : isReSpace 59 = false
  eq_no_space : isReSpace 61 = false
  literal_cons : charsetReLiteral = charsetReLiteral.headD [] :: charsetReLiteral.tail
  word_cons : charsetReLiteral.take 7 = charsetReLiteral.headD [] :: (charsetReLiteral.take 7).tail
  eq_accepted : matchClasses (charsetReLiteral.drop 7) [61] = some []

theorem shape : PatternShape := by constructor <;> decide

theorem endBol_cons (b : Bool) (c : Nat) (l : PStr) : endBol b (c :: l) = endBol (charsetReMultiline && c == 10) l := by
  cases l with
  | nil => simp [endBol]
  | cons d ds =>
    unfold endBol
    rw [List.getLast?_cons_cons]
    cases h : (d :: ds).getLast? with
    | none => simp at h
    | some x => rfl

theorem matchClasses_append (cls : List (List Nat)) (L r : PStr) (h : matchClasses cls L = some []) :
    matchClasses cls (L ++ r) = some r := by
  fun_induction matchClasses cls L with
  | case1 s => cases h; rfl  -- no class left
  | case2 => cases h
  | case3 cl more c s hc ih => rw [List.cons_append, matchClasses, if_pos hc]; exact ih h  -- head in class
  | case4 => cases h

theorem matchClasses_bind (a b : List (List Nat)) (s : PStr) :
    matchClasses (a ++ b) s = (matchClasses a s).bind (matchClasses b) := by
  fun_induction matchClasses a s with
  | case1 s => rfl
  | case2 => rfl
  | case3 cl more c s hc ih => rw [List.cons_append, matchClasses, if_pos hc]; exact ih
  | case4 cl more c s hc => rw [List.cons_append, matchClasses, if_neg hc]; rfl

theorem spellsKey_head (L : PStr) (h : SpellsKey L) :
    ∃ c cs, L = c :: cs ∧ isReSpace c = false := by
  unfold SpellsKey at h
  rw [shape.word_cons] at h
  cases L with
  | nil => simp [matchClasses] at h
  | cons c cs =>
    simp only [matchClasses] at h
    cases hc : (charsetReLiteral.headD []).contains c
    · rw [if_neg (by rw [hc]; exact Bool.false_ne_true)] at h; cases h
    · refine ⟨c, cs, rfl, ?_⟩
      have := List.all_eq_true.mp shape.c_no_space c (List.contains_iff_mem.mp hc)
      simpa using this

/-! ### the key, in every accepted spelling -/

/-- `\s*charset\s*=\s*` (resp. `\s*charset=`) accepts: white space, the word in any accepted case, and — when the live
    pattern is the tolerant one — white space around `=`; the rest after group 1 is the value -/
theorem key_accepted_general (w0 L w1 w2 old : PStr) (h0 : AllWs w0) (hL : SpellsKey L) (h1 : AllWs w1) (h2 : AllWs w2)
    (htol : charsetReSpaceTolerant = true ∨ (w1 = [] ∧ w2 = [])) (hold : old.dropWhile isReSpace = old) :
    matchKey (w0 ++ (L ++ (w1 ++ (61 :: (w2 ++ old))))) = some old := by
  obtain ⟨c, cs, rfl, hcws⟩ := spellsKey_head L hL
  have hd0 : (w0 ++ (c :: cs ++ (w1 ++ (61 :: (w2 ++ old))))).dropWhile isReSpace = c :: cs ++ (w1 ++ (61 :: (w2 ++ old))) := by
    rw [List.dropWhile_append_of_pos h0]; exact List.dropWhile_cons_of_neg (ne_true_of_eq_false hcws)
  have hd1 : (w1 ++ (61 :: (w2 ++ old))).dropWhile isReSpace = 61 :: (w2 ++ old) := by
    rw [List.dropWhile_append_of_pos h1]; exact List.dropWhile_cons_of_neg (ne_true_of_eq_false shape.eq_no_space)
  have hd2 : (w2 ++ old).dropWhile isReSpace = old := by
    rw [List.dropWhile_append_of_pos h2]; exact hold
  have heq : matchClasses (charsetReLiteral.drop 7) (61 :: (w2 ++ old)) = some (w2 ++ old) :=
    matchClasses_append _ [61] _ shape.eq_accepted
  unfold matchKey
  simp only [hd0]
  cases ht : charsetReSpaceTolerant
  · -- the strict spelling: no white space around `=`
    rcases htol with htol | ⟨rfl, rfl⟩
    · rw [ht] at htol; cases htol
    · simp only [Bool.false_eq_true, if_false, List.nil_append]
      rw [← List.take_append_drop 7 charsetReLiteral, matchClasses_bind, matchClasses_append _ (c :: cs) _ hL]
      simp only [Option.bind_some]
      simpa using heq
  · simp only [if_true]
    rw [matchClasses_append _ (c :: cs) _ hL]
    simp only [hd1, heq, hd2]

/-! ### a quiet prefix is copied -/

/-- `dropWhile p` stops at the same place whatever follows `y` -/
theorem dropWhile_append_stop (p : Nat → Bool) (y : Nat) (z : PStr) (hy : p y = false) : ∀ (x : PStr),
    ∃ c t, (x ++ [y]).dropWhile p = c :: t ∧ (x ++ y :: z).dropWhile p = c :: (t ++ z) := by
  intro x
  induction x with
  | nil => exact ⟨y, [], by simp [hy], by simp [hy]⟩
  | cons a as ih =>
    simp only [List.cons_append, List.dropWhile_cons]
    split
    · exact ih
    · exact ⟨a, as ++ [y], rfl, by simp⟩

theorem startsKey_false_matchKey (x any : PStr) (h : startsKey (x ++ [59]) = false) : matchKey (x ++ 59 :: any) = none := by
  obtain ⟨c, t, h1, h2⟩ := dropWhile_append_stop isReSpace 59 any shape.semicolon_no_space x
  unfold startsKey at h
  rw [h1] at h
  unfold matchKey
  rw [h2]
  simp only at h ⊢
  split
  · rw [shape.word_cons, matchClasses_head_none _ _ _ _ h]  -- tolerant pattern
  · rw [shape.literal_cons, matchClasses_head_none _ _ _ _ h]

theorem matchKey_semicolon (t : PStr) : matchKey (59 :: t) = none := by
  have := startsKey_false_matchKey [] t (by
    simp only [List.nil_append, startsKey, List.dropWhile_cons_of_neg (ne_true_of_eq_false shape.semicolon_no_space)]
    exact shape.c_no_semicolon)
  simpa using this

/-- at a `;` the `^` alternative can never win, so the state of `^` does not matter there -/
theorem matchAt_semicolon (bol : Bool) (t : PStr) : matchAt bol (59 :: t) = (matchKey t).map (matchLens (59 :: t)) := by
  unfold matchAt
  cases bol <;> simp [matchKey_semicolon]

theorem subGo_quiet (repl : PStr → PStr) : ∀ (pre : PStr) (bol : Bool) (any : PStr), quietGo bol pre = true →
    subGo repl 0 bol (pre ++ 59 :: any) = pre ++ subGo repl 0 (endBol bol pre) (59 :: any) := by
  intro pre
  induction pre with
  | nil => intro bol any _; simp [endBol]
  | cons c cs ih =>
    intro bol any h
    simp only [quietGo, Bool.and_eq_true, Bool.not_eq_true', Bool.and_eq_false_iff] at h
    obtain ⟨⟨hcaret, hsemi⟩, hrest⟩ := h
    have hm : matchAt bol (c :: (cs ++ 59 :: any)) = none := by
      unfold matchAt
      -- the `^` alternative
      have hv : (if bol = true then (matchKey (c :: (cs ++ 59 :: any))).map (matchLens (c :: (cs ++ 59 :: any))) else none) = none := by
        cases bol with
        | false => rfl
        | true =>
          rcases hcaret with h1 | h1
          · cases h1
          · have := startsKey_false_matchKey (c :: cs) any (by simpa using h1)
            simp only [List.cons_append] at this
            simp [this]
      simp only [hv]
      -- the `;` alternative
      split
      · rename_i t heq
        cases heq
        rcases hsemi with h2 | h2
        · simp at h2
        · simp [startsKey_false_matchKey cs any h2]
      · rfl
    simp only [List.cons_append]
    rw [subGo, hm]
    simp only
    rw [ih _ any hrest, endBol_cons]

theorem subGo_skip (repl : PStr → PStr) : ∀ (l : PStr) (b : Bool) (rest : PStr),
    subGo repl l.length b (l ++ rest) = subGo repl 0 (endBol b l) rest := by
  intro l
  induction l with
  | nil => intro b rest; rfl
  | cons c cs ih =>
    intro b rest
    rw [endBol_cons, ← ih]
    rfl

theorem takeWhile_value (old rest : PStr) (hold : ∀ c ∈ old, c ≠ 59) (hr : rest = [] ∨ ∃ m, rest = 59 :: m) :
    (old ++ rest).takeWhile (fun c => c != 59) = old := by
  have h : ∀ a ∈ old, (a != 59) = true := fun a ha => by simp [hold a ha]
  rcases hr with rfl | ⟨m, rfl⟩
  · rw [List.append_nil, takeWhile_all _ old h]
  · exact takeWhile_upto _ old 59 m h (by simp)

theorem dropWhile_value (old rest : PStr) (hws : old.dropWhile isReSpace = old) (hr : rest = [] ∨ ∃ m, rest = 59 :: m) :
    (old ++ rest).dropWhile isReSpace = old ++ rest := by
  cases old with
  | nil =>
    rcases hr with rfl | ⟨m, rfl⟩
    · rfl
    · exact List.dropWhile_cons_of_neg (ne_true_of_eq_false shape.semicolon_no_space)
  | cons c cs =>
    cases hc : isReSpace c
    · exact List.dropWhile_cons_of_neg (ne_true_of_eq_false hc)
    · -- `hws` makes `c :: cs` a sublist of `cs`
      have hl := (List.dropWhile_sublist isReSpace (l := cs)).length_le
      rw [List.dropWhile_cons, hc, if_pos rfl] at hws
      rw [hws] at hl
      simp at hl
      omega

/-- **one match** at a `;` before any key `K` that the pattern accepts: group 1 goes through `repl`, the value `v` is
    dropped -/
theorem subGo_match (repl : PStr → PStr) (K v r : PStr) (bol : Bool) (hk : matchKey (K ++ (v ++ r)) = some (v ++ r))
    (hv : (v ++ r).takeWhile (fun c => c != 59) = v) :
    subGo repl 0 bol (59 :: (K ++ (v ++ r))) = repl (59 :: K) ++ subGo repl 0 (endBol bol (59 :: (K ++ v))) r := by
  have hl : matchLens (59 :: (K ++ (v ++ r))) (v ++ r) = ((59 :: K).length, (K ++ v).length + 1) := by
    simp [matchLens, hv]; omega
  have ht : (59 :: (K ++ (v ++ r))).take (59 :: K).length = 59 :: K := List.take_left' (l₁ := 59 :: K) rfl
  rw [subGo, matchAt_semicolon, hk, Option.map_some, hl]
  simp only [Nat.add_sub_cancel, ht]
  rw [← List.append_assoc K v r, subGo_skip, ← endBol_cons bol]

/-- **the general shape.** `pre ; key value rest` where `pre` is quiet, the key is any accepted spelling, the value has no
    `;` and `rest` is empty or starts the next parameter: the prefix is copied, group 1 goes through `repl`, the value is
    dropped, and the scan goes on with `rest`. -/
theorem subGo_general (repl : PStr → PStr) (pre w0 L w1 w2 old rest : PStr) (bol : Bool)
    (hq : quietGo bol pre = true) (h0 : AllWs w0) (hL : SpellsKey L) (h1 : AllWs w1) (h2 : AllWs w2)
    (htol : charsetReSpaceTolerant = true ∨ (w1 = [] ∧ w2 = []))
    (hold : ∀ c ∈ old, c ≠ 59) (hws : old.dropWhile isReSpace = old) (hr : rest = [] ∨ ∃ m, rest = 59 :: m) :
    subGo repl 0 bol (pre ++ 59 :: (w0 ++ (L ++ (w1 ++ (61 :: (w2 ++ (old ++ rest)))))))
      = pre ++ repl (59 :: (w0 ++ (L ++ (w1 ++ (61 :: w2)))))
          ++ subGo repl 0 (endBol (endBol bol pre) (59 :: (w0 ++ (L ++ (w1 ++ (61 :: (w2 ++ old))))))) rest := by
  have hk := key_accepted_general w0 L w1 w2 (old ++ rest) h0 hL h1 h2 htol (dropWhile_value old rest hws hr)
  have e : ∀ X, w0 ++ (L ++ (w1 ++ (61 :: (w2 ++ X)))) = (w0 ++ (L ++ (w1 ++ (61 :: w2)))) ++ X := by intro X; simp
  rw [e] at hk
  rw [subGo_quiet repl pre bol _ hq, e (old ++ rest), e old,
    subGo_match repl _ old rest _ hk (takeWhile_value old rest hold hr)]
  exact (List.append_assoc ..).symm

end BS.EncodingOut
