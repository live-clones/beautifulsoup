import BSModel.Model.RenderWritten
import BSModel.Proofs.Render
import BSModel.Proofs.WriterMinimal
import BSModel.Proofs.AttrsIdem
/-! C05 helper lemmas: on `renderWritable` trees the rendering of the 'minimal' formatter is, character for character,
    the text C04's writer writes for `toWDocL` under `minimalChoices`. -/
namespace BS.Render
open BS.Writer BS.WriterText BS.WriterMin

/-- what `render_is_written` needs of the formatter: `substitute_xml`, void form `<x/>`, `""` stays a value -/
def IsMinimal (f : Fmt) : Prop := f.subst = some substXml ∧ f.voidPrefix = [47] ∧ f.emptyBool = false

theorem esc_eq_escW (ch : Nat) : esc ch = escW ch := by
  simp only [esc, escW, erefText, nAmp, nLt, nGt, List.cons_append, List.nil_append]

theorem esc_contains_quote (c q : Nat) (hq : q = 34 ∨ q = 39) : (esc c).contains q = ([c] : PStr).contains q := by
  -- `&`, `<`, `>` are no quotes, nor is one in their entities
  unfold esc
  split
  · rcases hq with rfl | rfl <;> simp_all
  · split
    · rcases hq with rfl | rfl <;> simp_all
    · split
      · rcases hq with rfl | rfl <;> simp_all
      · rfl

theorem substXml_contains (q : Nat) (hq : q = 34 ∨ q = 39) : ∀ (x : PStr), (substXml x).contains q = x.contains q
  | [] => rfl
  | c :: cs => by
    simp only [substXml, List.contains_append, esc_contains_quote c q hq, substXml_contains q hq cs, List.contains_cons,
      List.contains_nil, Bool.or_false]

theorem substXml_escAttr (x : PStr) (h1 : x.contains 60 = false) (h2 : x.contains 62 = false) (h3 : x.contains 34 = false) :
    substXml x = escAttr x := by
  rw [substXml_eq_flatMap, escAttr, List.flatMap_def, List.flatMap_def]
  refine congrArg _ (List.map_congr_left fun c hc => ?_)
  have n60 : c ≠ 60 := fun e => by simp [← e, hc] at h1
  have n62 : c ≠ 62 := fun e => by simp [← e, hc] at h2
  have n34 : c ≠ 34 := fun e => by simp [← e, hc] at h3
  by_cases h38 : c = 38 <;> simp [esc, h38, n60, n62, n34]

theorem replaceDq_substXml (x : PStr) (h1 : x.contains 60 = false) (h2 : x.contains 62 = false) :
    replaceDq (substXml x) = escAttr x := by
  rw [substXml_eq_flatMap, replaceDq_eq_flatMap, List.flatMap_assoc, escAttr, List.flatMap_def, List.flatMap_def]
  refine congrArg _ (List.map_congr_left fun c hc => ?_)
  have n60 : c ≠ 60 := fun e => by simp [← e, hc] at h1
  have n62 : c ≠ 62 := fun e => by simp [← e, hc] at h2
  by_cases h38 : c = 38
  · subst h38; rfl
  · by_cases h34 : c = 34
    · subst h34; rfl
    · simp [esc, h38, n60, n62, h34]

/-- the renderer's quoted value is the writer's, exactly on `okAttrVal` -/
theorem quote_eq_writer (x : PStr) (h : okAttrVal x = true) : quoteAttr (substXml x) = 34 :: (escAttr x ++ [34]) := by
  simp only [okAttrVal, Bool.and_eq_true, Bool.or_eq_true, Bool.not_eq_true'] at h
  obtain ⟨⟨h60, h62⟩, hq⟩ := h
  unfold quoteAttr
  rw [substXml_contains 34 (Or.inl rfl), substXml_contains 39 (Or.inr rfl)]
  by_cases h34 : x.contains 34 = true
  · have h39 : x.contains 39 = true := by
      rcases hq with hq | hq
      · rw [hq] at h34; exact absurd h34 (by simp)
      · exact hq
    rw [if_pos h34, if_pos h39, replaceDq_substXml x h60 h62]
  · rw [if_neg h34, substXml_escAttr x h60 h62 (by simpa using h34)]

/-- one written attribute: ` k="v"` / ` k` -/
def wpiece (kv : PStr × Option PStr) : PStr :=
  kv.1 ++ (match kv.2 with | none => [] | some v => 61 :: 34 :: (escAttr v ++ [34]))

/-- what `evAttrs` maps over the attributes -/
def evOf (kv : PStr × AVal) : PStr × Option PStr := (kv.1, match kv.2 with | .none => none | v => some (valText v))

theorem attrPiece_eq (f : Fmt) (hf : f.subst = some substXml) (kv : PStr × AVal)
    (h : (match kv.2 with | .none => true | v => okAttrVal (valText v)) = true) : attrPiece f kv = wpiece (evOf kv) := by
  unfold attrPiece wpiece evOf
  cases hv : kv.2 with
  | none => simp
  | str s | list l => simp only [hv] at h; simp [substitute_on hf (pn := none) rfl, quote_eq_writer _ h]

theorem attrsText_cons (tl : PStr) (kv : PStr × Option PStr) (more : List (PStr × Option PStr)) :
    attrsText tl (kv :: more) = 32 :: (wpiece kv ++ attrsText tl more) := rfl

theorem attrsText_pieces (tl : PStr) : ∀ (L : List (PStr × Option PStr)),
    attrsText tl L = (match L.map wpiece with | [] => [] | ps => 32 :: joinSp ps) ++ tl
  | [] => rfl
  | [kv] => by
    rw [attrsText_cons]
    simp [attrsText, joinSp]
  | kv :: kv2 :: more => by
    have ih := attrsText_pieces tl (kv2 :: more)
    rw [attrsText_cons, ih]
    simp [joinSp, List.append_assoc]

theorem attrString_eq (f : Fmt) (hf : IsMinimal f) (attrs : List (PStr × AVal)) (tl : PStr)
    (h : attrs.all (fun kv => match kv.2 with | .none => true | v => okAttrVal (valText v)) = true) :
    attrString f attrs ++ tl = attrsText tl (evAttrs f attrs) := by
  have hall : ∀ kv ∈ fmtAttributes f attrs, (match kv.2 with | .none => true | v => okAttrVal (valText v)) = true := by
    intro kv hkv
    unfold fmtAttributes at hkv
    have hp := (sortAttrs_perm (attrs.map fun kv => (kv.1, if f.emptyBool && kv.2 == AVal.str [] then AVal.none else kv.2))).mem_iff.mp hkv
    obtain ⟨kv0, hk0, he⟩ := List.mem_map.mp hp
    have := (List.all_eq_true.mp h) kv0 hk0
    simp only [hf.2.2, Bool.false_and, Bool.false_eq_true, if_false] at he
    rw [← he]; exact this
  have hmap : (fmtAttributes f attrs).map (attrPiece f) = ((fmtAttributes f attrs).map evOf).map wpiece := by
    rw [List.map_map]
    apply List.map_congr_left
    intro kv hkv
    exact attrPiece_eq f hf.1 kv (hall kv hkv)
  have hev : evAttrs f attrs = (fmtAttributes f attrs).map evOf := rfl
  rw [attrsText_pieces, hev]
  unfold attrString
  rw [hmap]
  rfl

theorem str_eq (ci : SCls → ClsInfo) (hci : ∀ c, ci c = assumedMarkup c) (f : Fmt) (hf : IsMinimal f) (iv : PStr → Bool)
    (pn : Option PStr) (hpn : (match pn with | some n => f.cdataTags.contains n | none => false) = false)
    (c : SCls) (s : PStr) (hc : (c != .preformatted) = true) :
    outputReady ci f pn c s = wrenderL iv (toWDocStr c s) := by
  have hsub : substitute f pn s = s.flatMap escW := by
    rw [substitute_on hf.1 hpn, substXml_eq_flatMap, show esc = escW from funext esc_eq_escW]
  cases c with
  | preformatted => simp at hc
  | comment | cdata | pi | xmlpi | declaration | doctype =>
    rw [outputReady_preformatted ci hci f pn _ rfl]
    simp [assumedMarkup, toWDocStr, wrenderL, wrender, specialMarkup, kwCData, kwDoctype, cased, escW]
  | navigable | stylesheet | script | template | rubyText | rubyParen =>
    rw [outputReady_text ci hci f pn _ rfl, hsub]
    simp [toWDocStr, wrenderL, wrender]

theorem wrenderL_append (iv : PStr → Bool) : ∀ (a b : List WDoc), wrenderL iv (a ++ b) = wrenderL iv a ++ wrenderL iv b
  | [], _ => rfl
  | x :: xs, b => by simp [wrenderL, wrenderL_append iv xs b, List.append_assoc]

mutual
theorem render_eq_wrender (ci : SCls → ClsInfo) (hci : ∀ c, ci c = assumedMarkup c) (f : Fmt) (hf : IsMinimal f)
    (iv : PStr → Bool) : ∀ (n : Node) (pn : Option PStr),
    (match pn with | some n => f.cdataTags.contains n | none => false) = false → renderWritable iv f n = true →
    renderSpec ci f pn n = wrenderL iv (toWDoc f n)
  | .str c s => by
    intro pn hpn h
    simp only [renderSpec, toWDoc]
    exact str_eq ci hci f hf iv pn hpn c s (by simpa [renderWritable] using h)
  | .tag i ks => by
    intro pn _ h
    simp only [renderWritable, Bool.and_eq_true, Bool.not_eq_true'] at h
    obtain ⟨⟨⟨hhid, hcd⟩, hattr⟩, hk⟩ := h
    simp only [renderSpec, toWDoc, wrenderL, wrender, List.append_nil]
    by_cases hv : iv (fullName i) = true
    · simp only [hv, if_true, Bool.and_eq_true] at hk
      obtain rfl : ks = [] := by simpa using hk.2
      -- `hv`, `fullName` unfolded for the `simp only`
      have hv2 : iv (prefixStr i ++ i.name) = true := hv
      simp only [hk.1, List.isEmpty_nil, Bool.and_self, if_true, formatTag, hhid, Bool.false_eq_true, if_false, hf.2.1,
        openText, fullName, hv2]
      have := attrString_eq f hf i.attrs [47, 62] hattr
      simp only [List.nil_append, List.append_assoc, List.cons_append] at this ⊢
      rw [← this]
    · have hv' : iv (fullName i) = false := by simpa using hv
      simp only [hv', Bool.false_eq_true, if_false, Bool.and_eq_true, Bool.not_eq_true'] at hk
      have hne : (ks.isEmpty && i.cbe) = false := hk.1
      have hkids := renderL_eq_wrenderL ci hci f hf iv ks (some i.name) hcd hk.2
      have hv2 : iv (prefixStr i ++ i.name) = false := hv'
      simp only [hne, Bool.false_eq_true, if_false, formatTag, hhid, hkids, openText, closeText, fullName, hv2]
      have := attrString_eq f hf i.attrs [62] hattr
      simp only [List.nil_append, List.append_assoc, List.cons_append] at this ⊢
      rw [← this]
      simp [List.append_assoc]
theorem renderL_eq_wrenderL (ci : SCls → ClsInfo) (hci : ∀ c, ci c = assumedMarkup c) (f : Fmt) (hf : IsMinimal f)
    (iv : PStr → Bool) : ∀ (ns : List Node) (pn : Option PStr), PnOK f pn → renderWritableL iv f ns = true →
    renderL ci f pn ns = wrenderL iv (toWDocL f ns)
  | [] => fun _ _ _ => rfl
  | n :: ns => by
    intro pn hpn h
    simp only [renderWritableL, Bool.and_eq_true] at h
    simp only [renderL, toWDocL, wrenderL_append, render_eq_wrender ci hci f hf iv n pn hpn h.1,
      renderL_eq_wrenderL ci hci f hf iv ns pn hpn h.2]
end

end BS.Render
