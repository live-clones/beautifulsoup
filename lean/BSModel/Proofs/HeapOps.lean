import BSModel.Proofs.HeapIter
import BSModel.Proofs.HeapExtract
import BSModel.Proofs.HeapLink
/-! Facts read off `WF` and the parent walk `isAnc`; `insertCore_spec` (`_insert`, whenever it returns) from the two pillars;
    then: every call returns a consistent successor (`Post`, `Succ`). -/
namespace BS.Heap

theorem wf_kid_not_soup {h : Heap} {w : Wit} (hwf : WF h w) {n k : Nat} (hk : k ∈ h.kids n) : h.kind k ≠ .soup := by
  intro hs
  have := hwf.soup_root k hs
  rw [hwf.kid_parent n k hk] at this
  cases this

theorem good_parent_isTag {h : Heap} (hg : Good h) {c p : Nat} (hp : h.parent c = some p) :
    (h.kind p).isTag = true := by
  obtain ⟨w, hwf⟩ := hg
  cases hk : (h.kind p).isTag with
  | true => rfl
  | false =>
    have hm := hwf.parent_kid c p hp
    rw [hwf.str_leaf p hk] at hm; cases hm

/-- the children lists of `ExtractSpec` as `erase`: an element occurs only under its parent -/
theorem wf_kids_erase {h : Heap} {w : Wit} (hwf : WF h w) (x n : Nat) :
    (if h.parent x = some n then (h.kids n).erase x else h.kids n) = (h.kids n).erase x := by
  split
  · rfl
  · rename_i hne; exact (List.erase_of_not_mem fun hm => hne (hwf.kid_parent n x hm)).symm

theorem good_kids_nodup {h : Heap} (hg : Good h) (n : Nat) : (h.kids n).Nodup := by
  obtain ⟨w, hwf⟩ := hg; exact kids_nodup hwf n

theorem good_root_not_kid {h : Heap} (hg : Good h) {y : Nat} (hr : h.parent y = none) (n : Nat) : y ∉ h.kids n := by
  obtain ⟨w, hwf⟩ := hg
  intro hm; have := hwf.kid_parent n y hm; rw [hr] at this; cases this

theorem good_not_self_kid {h : Heap} (hg : Good h) (n : Nat) : n ∉ h.kids n := by
  obtain ⟨w, hwf⟩ := hg
  intro hm
  have := tiles_mem w.pos w.size (h.kids n) _ _ (hwf.tiles n) n hm
  omega

theorem good_kid_lt_next {h : Heap} (hg : Good h) {q k : Nat} (hk : k ∈ h.kids q) : k < h.next := by
  obtain ⟨w, hwf⟩ := hg
  apply Classical.byContradiction
  intro hn
  have := (hwf.fresh k (by omega)).1
  rw [hwf.kid_parent q k hk] at this; cases this

theorem good_mem_kids_iff {h : Heap} (hg : Good h) {x n : Nat} : x ∈ h.kids n ↔ h.parent x = some n := by
  obtain ⟨w, hwf⟩ := hg
  exact ⟨hwf.kid_parent n x, hwf.parent_kid x n⟩

theorem good_not_mem_kids {h : Heap} (hg : Good h) {x p n : Nat} (hp : h.parent x = some p) (hn : n ≠ p) : x ∉ h.kids n :=
  fun hm => hn (some_parent_eq ((good_mem_kids_iff hg).mp hm) hp)

theorem good_attached_not_soup {h : Heap} (hg : Good h) {x p : Nat} (hp : h.parent x = some p) : h.kind x ≠ .soup := by
  obtain ⟨w, hwf⟩ := hg
  exact wf_kid_not_soup hwf (hwf.parent_kid x p hp)

theorem good_fresh {h : Heap} (hg : Good h) {n : Nat} (hn : h.next ≤ n) : h.parent n = none ∧ h.kids n = [] := by
  obtain ⟨w, hwf⟩ := hg
  exact ⟨(hwf.fresh n hn).1, (hwf.fresh n hn).2.1⟩

theorem good_parent_lt_next {h : Heap} (hg : Good h) {c p : Nat} (hp : h.parent c = some p) : p < h.next := by
  obtain ⟨w, hwf⟩ := hg
  apply Classical.byContradiction
  intro hn
  have := hwf.parent_kid c p hp
  rw [(hwf.fresh p (by omega)).2.1] at this; cases this

/-- the last element of a root's `docOrder` stands at position `size - 1` -/
theorem root_last_ne {h : Heap} {w : Wit} (hwf : WF h w) {r l : Nat} (hr : h.parent r = none)
    (hlast : (docOrder h r).getLast? = some l) : h.ne l = none := by
  have hidx : (docOrder h r)[(docOrder h r).length - 1]? = some l := by rw [← hlast, List.getLast?_eq_getElem?]
  obtain ⟨ht, hpos⟩ := (docOrder_getElem? hwf hr _ l).mp hidx
  have := docOrder_length hwf r
  have := hwf.size_pos r
  exact ne_last hwf (by rw [ht]; omega)

theorem tree_eq_root_iff {h : Heap} {w : Wit} (hwf : WF h w) {x : Nat} (hr : h.parent x = none) (m : Nat) :
    w.tree m = x ↔ w.inSub x m :=
  (docOrder_mem hwf hr m).symm.trans (docOrder_mem_inSub hwf x m)

theorem cutWit_tree_iff {h : Heap} {w : Wit} (hwf : WF h w) (x m : Nat) :
    (cutWit w x).tree m = x ↔ w.inSub x m := by
  simp only [cutWit, Wit.inSub]
  split
  · rename_i hc; simp [hc]
  · rename_i hc
    constructor
    · intro hm
      exact absurd ((tree_eq_root_iff hwf (by rw [← hm]; exact hwf.tree_root m) m).mp hm) hc
    · intro hm; exact absurd hm hc

/-- the parent walk finds every ancestor-or-self within `pos x + 1` steps -/
theorem isAnc_complete {h : Heap} {w : Wit} (hwf : WF h w) (a f x : Nat) (hf : w.pos x < f + 1)
    (hin : w.inSub a x) : isAnc h a f x = true := by
  fun_induction isAnc h a f x with
  | case1 x => exact decide_eq_true (hwf.inj x a hin.1 (by have := hin.2.1; omega))
  | case2 => rfl
  | case3 f x hxa hp => exact absurd ⟨fun e => hxa e.symm, hin⟩ (inSub_root hwf hp a)
  | case4 f x hxa q hp ih =>
    exact ih (by have := wf_parent_pos hwf hp; omega) ((inSub_parent hwf hp a).mp ⟨fun e => hxa e.symm, hin⟩)

theorem isAnc_false_not_inSub {h : Heap} {w : Wit} (hwf : WF h w) {a x : Nat}
    (hf : isAnc h a h.cap x = false) : ¬ w.inSub a x := by
  intro hin
  have hb := wf_pos_lt hwf x
  have hc := hwf.size_cap (w.tree x)
  have := isAnc_complete hwf a h.cap x (by omega) hin
  rw [hf] at this; cases this

theorem alloc_wf {h : Heap} {w : Wit} (hwf : WF h w) (k : Kind) (v : PStr) : WF (alloc h k v).1 w := by
  have hf := hwf.fresh h.next (Nat.le_refl _)
  have hkind : ∀ n, n ≠ h.next → (alloc h k v).1.kind n = h.kind n := fun n hn => if_neg hn
  refine { hwf with str_leaf := fun n hn => ?_, unl_soup := fun r hr => ?_, soup_root := fun n hn => ?_,
                    fresh := fun n hn => hwf.fresh n (Nat.le_of_succ_le hn) }
  · by_cases hnn : n = h.next
    · rw [hnn]; exact hf.2.1
    · rw [hkind n hnn] at hn; exact hwf.str_leaf n hn
  · have hrn : r ≠ h.next := fun e => by rw [e, hf.2.2] at hr; cases hr
    rw [hkind r hrn]; exact hwf.unl_soup r hr
  · by_cases hnn : n = h.next
    · rw [hnn]; exact hf.1
    · rw [hkind n hnn] at hn; exact hwf.soup_root n hn

theorem alloc_fields (h : Heap) (k : Kind) (v : PStr) :
    (alloc h k v).2 = h.next ∧ (alloc h k v).1.parent = h.parent ∧ (alloc h k v).1.kids = h.kids ∧
    (alloc h k v).1.next = h.next + 1 ∧ (alloc h k v).1.kind h.next = k ∧
    (∀ n, n ≠ h.next → (alloc h k v).1.kind n = h.kind n) :=
  ⟨rfl, rfl, rfl, rfl, if_pos rfl, fun _ hn => if_neg hn⟩

theorem extract_good {h h' : Heap} {x : Nat} (hg : Good h) (he : extract h x = .ok h') :
    Good h' ∧ (∀ n, h'.kids n = if h.parent x = some n then (h.kids n).erase x else h.kids n) ∧
    (∀ n, h'.parent n = if n = x then none else h.parent n) ∧
    h'.kind = h.kind ∧ h'.val = h.val ∧ h'.next = h.next := by
  obtain ⟨w, hwf⟩ := hg
  obtain ⟨h2, h2e, hwf2, hkids, hparent, hkind, hval, hnext, _hcap⟩ := extract_spec h w x hwf
  rw [h2e] at he; cases he
  exact ⟨⟨_, hwf2⟩, hkids, hparent, hkind, hval, hnext⟩

theorem extract_total {h : Heap} (x : Nat) (hg : Good h) : ∃ h', extract h x = .ok h' := by
  obtain ⟨w, hwf⟩ := hg
  obtain ⟨h2, h2e, _⟩ := extract_spec h w x hwf
  exact ⟨h2, h2e⟩

theorem eraseIdx_insertIdx_getElem {α} : ∀ (l : List α) (i : Nat) (h : i < l.length),
    (l.eraseIdx i).insertIdx i l[i] = l := by
  intro l
  induction l with
  | nil => intro i h; simp at h
  | cons a l ih =>
    intro i h
    cases i with
    | zero => simp
    | succ i => simp only [List.eraseIdx_cons_succ, List.getElem_cons_succ, List.insertIdx_succ_cons]; rw [ih]

/-- the slot `_insert` uses: "before the element that was at index `position`, not counting `x` itself" -/
def slotOf (ks : List Nat) (position x : Nat) : Nat := ((ks.take position).erase x).length

theorem slotOf_not_mem {ks : List Nat} {x : Nat} (hx : x ∉ ks) (position : Nat) :
    slotOf ks position x = min position ks.length := by
  unfold slotOf
  rw [List.erase_of_not_mem (fun hm => hx (List.mem_of_mem_take hm)), List.length_take]

theorem slotOf_length (ks : List Nat) (x : Nat) : slotOf ks ks.length x = (ks.erase x).length := by
  unfold slotOf; rw [List.take_length]

/-- `x` at index `cur` is counted out iff it stands before the position -/
theorem slotOf_mem {ks : List Nat} {x cur : Nat} (hnd : ks.Nodup) (hcl : cur < ks.length) (hget : ks[cur] = x)
    (position : Nat) :
    slotOf ks position x =
      if cur < min position ks.length then min position ks.length - 1 else min position ks.length := by
  unfold slotOf
  split
  · rename_i hlt
    have : x ∈ ks.take position := by
      rw [List.mem_take_iff_getElem]
      exact ⟨cur, by omega, by simpa using hget⟩
    rw [List.length_erase_of_mem this, List.length_take]
  · rename_i hlt
    have : x ∉ ks.take position := by
      intro hm
      rw [List.mem_take_iff_getElem] at hm
      obtain ⟨j, hj, hjx⟩ := hm
      have hj' : j < ks.length := by omega
      have := (List.getElem_inj (h₀ := hj') (h₁ := hcl) hnd).mp (by rw [hget]; simpa using hjx)
      omega
    rw [List.erase_of_not_mem this, List.length_take]

theorem insertCore_root {h : Heap} {x : Nat} (hroot : h.parent x = none) (p pos : Nat) :
    insertCore h p pos x =
      if x = p then .error .valueError
      else if isAnc h x h.cap p ∨ h.next ≤ x ∨ h.next ≤ p then .error .excluded
      else linkChild h p (min pos (h.kids p).length) x := by
  unfold insertCore
  simp only [hroot]

/-- **`Tag._insert`** on a well-formed heap, whenever it returns: the forest stays consistent; `x` is removed from
    wherever it was and put into `p`'s children at the documented slot; every other children list only loses `x`;
    only `x`'s parent field changes. -/
theorem insertCore_spec {h h' : Heap} {w : Wit} {p position x : Nat} (hwf : WF h w) (hp : (h.kind p).isTag = true)
    (hx : h.kind x ≠ .soup) (hi : insertCore h p position x = .ok h') :
    Good h' ∧ h'.kind = h.kind ∧ h'.val = h.val ∧ h'.next = h.next ∧
    h'.kids p = ((h.kids p).erase x).insertIdx (slotOf (h.kids p) position x) x ∧
    (∀ n, n ≠ p → h'.kids n = (h.kids n).erase x) ∧
    (∀ n, h'.parent n = if n = x then some p else h.parent n) := by
  unfold insertCore at hi
  split at hi
  · cases hi
  split at hi
  · cases hi
  rename_i hguard
  simp only [not_or, Nat.not_le, Bool.not_eq_true] at hguard
  obtain ⟨hanc, hxn, hpn⟩ := hguard
  have hnin := isAnc_false_not_inSub hwf hanc
  -- linking `x` at index `i`; `g` is `h`, or `h` after `x.extract()`
  have link : ∀ (g : Heap) (v : Wit) (i : Nat), WF g v → g.parent x = none → v.tree p ≠ x → g.kind = h.kind →
      g.val = h.val → g.next = h.next → (∀ n, g.kids n = (h.kids n).erase x) → (∀ n, n ≠ x → g.parent n = h.parent n) →
      i ≤ ((h.kids p).erase x).length → linkChild g p i x = .ok h' →
      Good h' ∧ h'.kind = h.kind ∧ h'.val = h.val ∧ h'.next = h.next ∧
      h'.kids p = ((h.kids p).erase x).insertIdx i x ∧
      (∀ n, n ≠ p → h'.kids n = (h.kids n).erase x) ∧
      (∀ n, h'.parent n = if n = x then some p else h.parent n) := by
    intro g v i hwfg hroot htree hkg hvg hng hke hpg hlen hl
    obtain ⟨h3, h3e, hwf3, hk3, hp3, hkind3, hval3, hnext3⟩ :=
      linkChild_spec g v p i x hwfg hroot (by rw [hkg]; exact hx) (by rw [hkg]; exact hp) htree
        (by rw [hke p]; exact hlen) (by rw [hng]; exact hxn) (by rw [hng]; exact hpn)
    rw [h3e] at hl; cases hl
    refine ⟨⟨_, hwf3⟩, hkind3.trans hkg, hval3.trans hvg, hnext3.trans hng, by rw [hk3 p, if_pos rfl, hke p],
      fun n hn => by rw [hk3 n, if_neg hn, hke n], fun n => ?_⟩
    rw [hp3 n]
    split
    · rfl
    · rename_i hnx; exact hpg n hnx
  dsimp only at hi   -- the `let pos`
  cases hpx : h.parent x with
  | none =>
    simp only [hpx] at hi
    have hnot : ∀ n, x ∉ h.kids n := good_root_not_kid ⟨w, hwf⟩ hpx
    rw [slotOf_not_mem (hnot p)]
    exact link h w _ hwf hpx (fun hc => hnin ((tree_eq_root_iff hwf hpx p).mp hc)) rfl rfl rfl
      (fun n => (List.erase_of_not_mem (hnot n)).symm) (fun _ _ => rfl)
      (by rw [List.erase_of_not_mem (hnot p)]; exact Nat.min_le_right _ _) hi
  | some q =>
    obtain ⟨h1, he, hwf1, hk1, hpar1, hkind1, hval1, hnext1, _hcap⟩ := extract_spec h w x hwf
    have hke : ∀ n, h1.kids n = (h.kids n).erase x := fun n => (hk1 n).trans (wf_kids_erase hwf x n)
    -- `link` after `x.extract()`
    have after : ∀ i, i ≤ ((h.kids p).erase x).length → linkChild h1 p i x = .ok h' → _ := fun i hlen hl =>
      link h1 (cutWit w x) i hwf1 (by rw [hpar1 x, if_pos rfl]) (fun hc => hnin ((cutWit_tree_iff hwf x p).mp hc))
        hkind1 hval1 hnext1 hke (fun n hn => by rw [hpar1 n, if_neg hn]) hlen hl
    simp only [hpx, he] at hi
    by_cases hqp : q = p
    · subst hqp
      simp only [if_true] at hi
      have hmem := hwf.parent_kid x q hpx
      have hlenE := List.length_erase_of_mem hmem
      cases hcur : indexOf h q x with
      | none => simp only [hcur] at hi; cases hi
      | some cur =>
        simp only [hcur] at hi
        unfold indexOf at hcur
        obtain ⟨hcl, hget, _⟩ := List.idxOf?_eq_some_iff.mp hcur
        rw [slotOf_mem (kids_nodup hwf q) hcl hget]
        by_cases hlt : cur < min position (h.kids q).length
        · simp only [hlt, if_true] at hi ⊢
          exact after _ (by omega) hi
        · simp only [hlt, if_false] at hi ⊢
          by_cases heq : cur = min position (h.kids q).length
          · -- already in place: nothing is written
            simp only [heq, if_true] at hi
            cases hi
            refine ⟨⟨w, hwf⟩, rfl, rfl, rfl, ?_, ?_, ?_⟩
            · rw [← heq, List.erase_eq_eraseIdx, hcur]
              have := eraseIdx_insertIdx_getElem (h.kids q) cur hcl
              rw [hget] at this
              exact this.symm
            · intro n hn
              exact (List.erase_of_not_mem (good_not_mem_kids ⟨w, hwf⟩ hpx hn)).symm
            · intro n; split
              · rename_i hnx; rw [hnx, hpx]
              · rfl
          · simp only [heq, if_false] at hi
            exact after _ (by omega) hi
    · simp only [hqp, if_false] at hi
      have hnotin : x ∉ h.kids p := good_not_mem_kids ⟨w, hwf⟩ hpx fun e => hqp e.symm
      rw [slotOf_not_mem hnotin]
      exact after _ (by rw [List.erase_of_not_mem hnotin]; exact Nat.min_le_right _ _) hi

/-- consistent forest whose unallocated ids are plain strings, so that `alloc` of a string changes no class (`KSame`) -/
def Good2 (h : Heap) : Prop := Good h ∧ ∀ n, h.next ≤ n → h.kind n = .str

/-- no call ever turns a string into a tag or anything into a BeautifulSoup object -/
def KSame (h h' : Heap) : Prop :=
  (∀ n, (h'.kind n).isTag = (h.kind n).isTag) ∧ (∀ n, h'.kind n = .soup ↔ h.kind n = .soup)

theorem KSame.refl (h : Heap) : KSame h h := ⟨fun _ => rfl, fun _ => Iff.rfl⟩
theorem KSame.trans {a b c : Heap} (h1 : KSame a b) (h2 : KSame b c) : KSame a c :=
  ⟨fun n => by rw [h2.1 n, h1.1 n], fun n => (h2.2 n).trans (h1.2 n)⟩
theorem KSame.of_kind_eq {h h' : Heap} (hk : h'.kind = h.kind) : KSame h h' := by
  constructor <;> intro n <;> rw [hk]
theorem KSame.isTag {h h' : Heap} (hk : KSame h h') {p : Nat} (hp : (h.kind p).isTag = true) :
    (h'.kind p).isTag = true := by rw [hk.1 p]; exact hp
theorem KSame.notSoup {h h' : Heap} (hk : KSame h h') {x : Nat} (hx : h.kind x ≠ .soup) : h'.kind x ≠ .soup :=
  fun hs => hx ((hk.2 x).mp hs)

/-- consistent successor -/
def Succ (h h' : Heap) : Prop := Good2 h' ∧ KSame h h'

/-- consistent successors compose (of the first pair only `KSame` is used) -/
theorem Succ.trans {a b c : Heap} (h1 : Succ a b) (h2 : Succ b c) : Succ a c :=
  ⟨h2.1, h1.2.trans h2.2⟩

/-- whatever `r` returns satisfies `Q` -/
def Post {α : Type} (r : Except Err α) (Q : α → Prop) : Prop := ∀ ⦃a⦄, r = .ok a → Q a

section
variable {α β : Type} {Q : β → Prop}

theorem Post.error {e : Err} : Post (.error e) Q := fun _ h => nomatch h
theorem Post.ok {b : β} (h : Q b) : Post (.ok b) Q := fun _ e => Except.ok.inj e ▸ h

/- Sequencing as the model writes it, one rule per type of intermediate result: polymorphic in it, a rule does not unify with the
   model's `match`; these do, by `exact`, through the recursion of the loops too. -/
theorem Post.bindH {r : Except Err Heap} {k : Heap → Except Err β} {P : Heap → Prop} (hr : Post r P)
    (hk : ∀ a, P a → Post (k a) Q) : Post (match r with | .error e => .error e | .ok a => k a) Q :=
  match r, hr with
  | .error _, _ => .error
  | .ok a, hr => hk a (hr rfl)
theorem Post.bindHL {r : Except Err (Heap × List Nat)} {k : Heap → List Nat → Except Err β} {P : Heap × List Nat → Prop}
    (hr : Post r P) (hk : ∀ a l, P (a, l) → Post (k a l) Q) :
    Post (match r with | .error e => .error e | .ok (a, l) => k a l) Q :=
  match r, hr with
  | .error _, _ => .error
  | .ok (a, l), hr => hk a l (hr rfl)
theorem Post.bindHN {r : Except Err (Heap × Nat)} {k : Heap → Nat → Except Err β} {P : Heap × Nat → Prop}
    (hr : Post r P) (hk : ∀ a n, P (a, n) → Post (k a n) Q) :
    Post (match r with | .error e => .error e | .ok (a, n) => k a n) Q :=
  match r, hr with
  | .error _, _ => .error
  | .ok (a, n), hr => hk a n (hr rfl)
theorem Post.bindHNL {r : Except Err (Heap × Nat × List Nat)} {k : Heap → Nat → List Nat → Except Err β}
    {P : Heap × Nat × List Nat → Prop} (hr : Post r P) (hk : ∀ a n l, P (a, n, l) → Post (k a n l) Q) :
    Post (match r with | .error e => .error e | .ok (a, n, l) => k a n l) Q :=
  match r, hr with
  | .error _, _ => .error
  | .ok (a, n, l), hr => hk a n l (hr rfl)

/-- behind a guard of the model -/
theorem Post.guard {c : Prop} [Decidable c] {x : Except Err β} {e : Err} (h : c → Post x Q) :
    Post (if c then x else .error e) Q := by
  split
  · exact h ‹c›
  · exact .error

/-- after the steps already made -/
theorem Succ.then {h h1 : Heap} {r : Except Err α} {f : α → Heap} (e : Succ h h1) (hr : Post r fun a => Succ h1 (f a)) :
    Post r fun a => Succ h (f a) :=
  fun _ ha => Succ.trans e (hr ha)
end

theorem Succ.of_kind_eq {h h' : Heap} (hg : Good2 h) (hg' : Good h') (hk : h'.kind = h.kind) (hn : h'.next = h.next) :
    Succ h h' :=
  ⟨⟨hg', fun n hn' => by rw [hk]; exact hg.2 n (by omega)⟩, KSame.of_kind_eq hk⟩

theorem alloc_wf_any {h : Heap} {w : Wit} (hwf : WF h w) (k : Kind) (v : PStr) : WF (alloc h k v).1 w :=
  alloc_wf hwf k v

/-- what `Good2` needs of an allocation instead of `KSame` (which a fresh *tag* does not satisfy: the id was a string by convention):
    the forest stays consistent, ids from the new `next` on are still strings, and no EXISTING id changes class or text -/
theorem alloc_good2_any {h : Heap} (hg : Good2 h) (k : Kind) (v : PStr) :
    Good2 (alloc h k v).1 ∧ (∀ n, n ≠ h.next → (alloc h k v).1.kind n = h.kind n ∧ (alloc h k v).1.val n = h.val n) ∧
    (alloc h k v).1.kind h.next = k ∧ (alloc h k v).1.val h.next = v ∧ (alloc h k v).1.next = h.next + 1 := by
  obtain ⟨⟨w, hwf⟩, hstr⟩ := hg
  refine ⟨⟨⟨w, alloc_wf_any hwf k v⟩, ?_⟩, ?_, by simp [alloc], by simp [alloc], rfl⟩
  · intro n hn
    simp only [alloc] at hn ⊢
    have : n ≠ h.next := by omega
    simp only [this, if_false]
    exact hstr n (by omega)
  · intro n hn; simp [alloc, hn]

theorem alloc_good2 {h : Heap} (hg : Good2 h) (k : Kind) (v : PStr) (hk : k = .str ∨ k = .pre) :
    Good2 (alloc h k v).1 ∧ KSame h (alloc h k v).1 := by
  have hold := hg.2 h.next (Nat.le_refl _)
  have kind_eq : ∀ n, (alloc h k v).1.kind n = if n = h.next then k else h.kind n := fun _ => rfl
  refine ⟨(alloc_good2_any hg k v).1, ?_, ?_⟩
  · intro n
    rw [kind_eq]; split
    · rename_i hn; rw [hn, hold]; rcases hk with rfl | rfl <;> rfl
    · rfl
  · intro n
    rw [kind_eq]; split
    · rename_i hn; rw [hn, hold]; rcases hk with rfl | rfl <;> simp
    · rfl

/-- `extract_good` for `Good2`, with the children lists as `erase x` -/
theorem extract_effect2 {h h' : Heap} {x : Nat} (hg : Good2 h) (he : extract h x = .ok h') :
    Succ h h' ∧ (∀ n, h'.kids n = (h.kids n).erase x) ∧
    (∀ n, h'.parent n = if n = x then none else h.parent n) ∧ h'.kind = h.kind ∧ h'.val = h.val ∧
    h'.next = h.next := by
  obtain ⟨w, hwf⟩ := hg.1
  obtain ⟨hg', hkids, hparent, hkind, hval, hnext⟩ := extract_good hg.1 he
  refine ⟨.of_kind_eq hg hg' hkind hnext, fun n => ?_, hparent, hkind, hval, hnext⟩
  exact (hkids n).trans (wf_kids_erase hwf x n)

theorem extract_good2 {h : Heap} {x : Nat} (hg : Good2 h) : Post (extract h x) (Succ h) :=
  fun _ he => (extract_effect2 hg he).1

theorem insertCore_good2 {h h' : Heap} {p pos x : Nat} (hg : Good2 h) (hp : (h.kind p).isTag = true)
    (hx : h.kind x ≠ .soup) (hi : insertCore h p pos x = .ok h') :
    Succ h h' ∧ h'.kids p = ((h.kids p).erase x).insertIdx (slotOf (h.kids p) pos x) x ∧
    (∀ n, n ≠ p → h'.kids n = (h.kids n).erase x) ∧
    (∀ n, h'.parent n = if n = x then some p else h.parent n) := by
  obtain ⟨w, hwf⟩ := hg.1
  obtain ⟨hg', hkind, _, hnext, hshape⟩ := insertCore_spec hwf hp hx hi
  exact ⟨.of_kind_eq hg hg' hkind hnext, hshape⟩

theorem insert_node {h : Heap} {y : Nat} (hy : h.kind y ≠ .soup) (p i : Nat) :
    insert h p i [.node y] =
      match insertCore h p i y with
      | .error e => .error e
      | .ok h1 => if y ∈ h1.kids p then .ok (h1, [y]) else .error .valueError := by
  simp only [insert, insertArgs, insertArg1, hy, if_false, insertElems]
  cases insertCore h p i y with
  | error e => rfl
  | ok h1 =>
    simp only [indexOf]
    cases hi : (h1.kids p).idxOf? y with
    | none => simp [List.idxOf?_eq_none_iff.mp hi]
    | some j => simp [(List.idxOf?_eq_some_iff.mp hi).2.1 ▸ List.getElem_mem (List.idxOf?_eq_some_iff.mp hi).1]

/-! ### the calls: each is a composition of `extract`, `_insert` and allocation -/

theorem insertElems_good2 {p : Nat} : ∀ (xs : List Nat) (h : Heap) (pos : Nat), Good2 h → (h.kind p).isTag = true →
    (∀ x ∈ xs, h.kind x ≠ .soup) → Post (insertElems h p pos xs) fun r => Succ h r.1
  | [], h, _, hg, _, _ => .ok ⟨hg, .refl h⟩
  | x :: xs, h, _, hg, hp, hx =>
    .bindH (fun _ hc => (insertCore_good2 hg hp (hx x (by simp)) hc).1) fun h1 e1 => by
      split
      · exact .error
      · exact Succ.then e1 (insertElems_good2 xs h1 _ e1.1 (e1.2.isTag hp) fun y hy => e1.2.notSoup (hx y (by simp [hy])))

theorem insertArg1_good2 {h : Heap} {p pos : Nat} {a : Arg} (hg : Good2 h) (hp : (h.kind p).isTag = true) :
    Post (insertArg1 h p pos a) fun r => Succ h r.1 := by
  unfold insertArg1
  split
  next v =>
    have ea := alloc_good2 hg .str v (Or.inl rfl)
    exact .bindHN (insertElems_good2 _ _ _ ea.1 (ea.2.isTag hp) fun y hy => by rw [List.mem_singleton.mp hy]; simp [alloc])
      fun _ _ e => .ok (Succ.trans ea e)
  next x =>
    split
    · split
      · exact .error
      · exact .bindHN (insertElems_good2 _ _ _ hg hp fun y hy => good_attached_not_soup hg.1 ((good_mem_kids_iff hg.1).mp hy))
          fun _ _ e => .ok e
    · next hs =>
      exact .bindHN (insertElems_good2 _ _ _ hg hp fun y hy => by rw [List.mem_singleton.mp hy]; exact hs) fun _ _ e => .ok e

theorem insertArgs_good2 {p : Nat} : ∀ (args : List Arg) (h : Heap) (pos : Nat), Good2 h → (h.kind p).isTag = true →
    Post (insertArgs h p pos args) fun r => Succ h r.1
  | [], h, _, hg, _ => .ok ⟨hg, .refl h⟩
  | _ :: as, _, _, hg, hp => .bindHNL (insertArg1_good2 hg hp) fun h2 _ _ e1 =>
      .bindHNL (insertArgs_good2 as h2 _ e1.1 (e1.2.isTag hp)) fun _ _ _ e2 => .ok (Succ.trans e1 e2)

theorem insert_good2 {h : Heap} {p pos : Nat} {args : List Arg} (hg : Good2 h) (hp : (h.kind p).isTag = true) :
    Post (insert h p pos args) fun r => Succ h r.1 :=
  .bindHNL (insertArgs_good2 args h pos hg hp) fun _ _ _ e => .ok e

theorem append_good2 {h : Heap} {p : Nat} {a : Arg} (hg : Good2 h) (hp : (h.kind p).isTag = true) :
    Post (append h p a) (Succ h) :=
  .bindHL (insert_good2 hg hp) fun _ _ e => by split; exact .error; exact .ok e

theorem appendAll_good2 {p : Nat} : ∀ (args : List Arg) (h : Heap), Good2 h → (h.kind p).isTag = true →
    Post (appendAll h p args) (Succ h)
  | [], h, hg, _ => .ok ⟨hg, .refl h⟩
  | _ :: as, _, hg, hp => .bindH (append_good2 hg hp) fun h1 e1 => e1.then (appendAll_good2 as h1 e1.1 (e1.2.isTag hp))

theorem extractArg_good2 {h : Heap} (hg : Good2 h) : ∀ a : Arg, Post (extractArg h a) (Succ h)
  | .node _ => extract_good2 hg
  | .plain _ => .ok ⟨hg, .refl h⟩

theorem insertBeforeLoop_good2 {p x : Nat} : ∀ (args : List Arg) (h : Heap), Good2 h → (h.kind p).isTag = true →
    Post (insertBeforeLoop h p x args) (Succ h)
  | [], h, hg, _ => .ok ⟨hg, .refl h⟩
  | a :: as, _, hg, hp => .bindH (extractArg_good2 hg a) fun h1 e1 => by
      split
      · exact .error
      · exact .bindHL (insert_good2 e1.1 (e1.2.isTag hp)) fun h2 _ e2 =>
          (Succ.trans e1 e2).then (insertBeforeLoop_good2 as h2 e2.1 (e2.2.isTag (e1.2.isTag hp)))

theorem insertAfterLoop_good2 {p : Nat} : ∀ (args : List Arg) (h : Heap) (anchor : Nat), Good2 h → (h.kind p).isTag = true →
    Post (insertAfterLoop h p anchor args) (Succ h)
  | [], h, _, hg, _ => .ok ⟨hg, .refl h⟩
  | a :: as, h, anchor, hg, hp => by
    unfold insertAfterLoop
    split
    · exact insertAfterLoop_good2 as h anchor hg hp
    · exact .bindH (extractArg_good2 hg a) fun h1 e1 => by
        split
        · exact .error
        · exact .bindHL (insert_good2 e1.1 (e1.2.isTag hp)) fun h2 _ e2 =>
            (Succ.trans e1 e2).then (insertAfterLoop_good2 as h2 _ e2.1 (e2.2.isTag (e1.2.isTag hp)))

theorem insertBefore_good2 {h : Heap} {x : Nat} {args : List Arg} (hg : Good2 h) : Post (insertBefore h x args) (Succ h) := by
  unfold insertBefore
  split
  · exact .error
  split
  · exact .error
  next p hp =>
  split
  · exact .error
  · exact insertBeforeLoop_good2 _ _ hg (good_parent_isTag hg.1 hp)

theorem insertAfter_good2 {h : Heap} {x : Nat} {args : List Arg} (hg : Good2 h) : Post (insertAfter h x args) (Succ h) := by
  unfold insertAfter
  split
  · exact .error
  split
  · exact .error
  next p hp =>
  split
  · exact .error
  · exact insertAfterLoop_good2 _ _ _ hg (good_parent_isTag hg.1 hp)

theorem replaceWith_good2 {h : Heap} {x : Nat} {args : List Arg} (hg : Good2 h) : Post (replaceWith h x args) (Succ h) := by
  unfold replaceWith
  split
  · exact .error
  next p hp =>
  split
  · exact .ok ⟨hg, .refl h⟩
  split
  · exact .error
  split
  · exact .error
  exact .bindH (extract_good2 hg) fun h1 e1 =>
    .bindHL (insert_good2 e1.1 (e1.2.isTag (good_parent_isTag hg.1 hp))) fun _ _ e2 => .ok (Succ.trans e1 e2)

theorem wrap_good2 {h : Heap} {x w : Nat} (hg : Good2 h) (hw : (h.kind w).isTag = true) : Post (wrap h x w) (Succ h) :=
  .bindH (replaceWith_good2 hg) fun _ e1 => e1.then (append_good2 e1.1 (e1.2.isTag hw))

theorem unwrapLoop_good2 {p i : Nat} : ∀ (cs : List Nat) (h : Heap), Good2 h → (h.kind p).isTag = true →
    Post (unwrapLoop h p i cs) (Succ h)
  | [], h, hg, _ => .ok ⟨hg, .refl h⟩
  | _ :: cs, _, hg, hp => .bindHL (insert_good2 hg hp) fun h1 _ e1 => e1.then (unwrapLoop_good2 cs h1 e1.1 (e1.2.isTag hp))

theorem unwrap_good2 {h : Heap} {x : Nat} (hg : Good2 h) : Post (unwrap h x) (Succ h) := by
  unfold unwrap
  split
  · exact .error
  next p hp =>
  split
  · exact .error
  · exact .bindH (extract_good2 hg) fun h1 e1 =>
      e1.then (unwrapLoop_good2 _ h1 e1.1 (e1.2.isTag (good_parent_isTag hg.1 hp)))

theorem extractAll_good2 : ∀ (cs : List Nat) (h : Heap), Good2 h → Post (extractAll h cs) (Succ h)
  | [], h, hg => .ok ⟨hg, .refl h⟩
  | _ :: cs, _, hg => .bindH (extract_good2 hg) fun h1 e1 => e1.then (extractAll_good2 cs h1 e1.1)

theorem clear_good2 {h : Heap} {t : Nat} (hg : Good2 h) : Post (clear h t) (Succ h) := extractAll_good2 _ _ hg

theorem setString_good2 {h : Heap} {t : Nat} {k : Kind} {v : PStr} (hg : Good2 h) (ht : (h.kind t).isTag = true)
    (hk : k = .str ∨ k = .pre) : Post (setString h t k v) (Succ h) :=
  .bindH (clear_good2 hg) fun _ e1 =>
    have e2 := Succ.trans e1 (alloc_good2 e1.1 k v hk)
    e2.then (append_good2 e2.1 (e2.2.isTag ht))

/-- with any class for the new string: no `KSame` then (the fresh id was a string by convention), but the forest stays consistent -/
theorem setString_good {h : Heap} {t : Nat} {k : Kind} {v : PStr} (hg : Good2 h) (ht : (h.kind t).isTag = true) :
    Post (setString h t k v) Good2 :=
  .bindH (clear_good2 hg) fun h1 e1 h' hs =>
    have a := alloc_good2_any e1.1 k v
    have ht1 := e1.2.isTag ht
    -- `t` is not the fresh id: unallocated ids are strings
    have hne : t ≠ h1.next := fun e => by rw [e, e1.1.2 _ (Nat.le_refl _)] at ht1; cases ht1
    (append_good2 a.1 (by rw [(a.2.1 t hne).1]; exact ht1) hs).1

theorem smoothMerge_good2 {t : Nat} : ∀ (is : List Nat) (h : Heap), Good2 h → Post (smoothMerge h t is) (Succ h)
  | [], h, hg => .ok ⟨hg, .refl h⟩
  | i :: is, h, hg => by
    unfold smoothMerge
    split
    · next a b _ _ =>
      exact .bindH (extract_good2 hg) fun h1 e1 =>
        have e2 := Succ.trans e1 (alloc_good2 e1.1 .str (h1.val a ++ h1.val b) (Or.inl rfl))
        .bindH (replaceWith_good2 e2.1) fun h3 e3 =>
          (Succ.trans e2 e3).then (smoothMerge_good2 is h3 e3.1)
    · exact .error

theorem smoothAll_good2 : ∀ (ts : List Nat) (h : Heap), Good2 h → Post (smoothAll h ts) (Succ h)
  | [], h, hg => .ok ⟨hg, .refl h⟩
  | _ :: ts, h, hg => .bindH (smoothMerge_good2 _ h hg) fun h1 e1 => e1.then (smoothAll_good2 ts h1 e1.1)

theorem smooth_good2 {h : Heap} {t : Nat} (hg : Good2 h) : Post (smooth h t) (Succ h) := by
  unfold smooth
  split
  · exact .error
  · exact smoothAll_good2 _ _ hg

/-- the parent walk from anything else never reaches an element nobody names as parent -/
theorem isAnc_childless (h : Heap) (a : Nat) (hk : ∀ c, h.parent c ≠ some a) (f x : Nat) (hx : x ≠ a) :
    isAnc h a f x = false := by
  fun_induction isAnc h a f x with
  | case1 x => exact decide_eq_false hx
  | case2 => exact absurd rfl hx
  | case3 => rfl
  | case4 f x hxa q hp ih => exact ih fun hh => hk x (hh ▸ hp)

/-- `_insert` of an allocated childless root into another allocated object never fails -/
theorem insertCore_root_total {h : Heap} {p pos x : Nat} (hroot : h.parent x = none) (hxp : x ≠ p)
    (hnc : ∀ c, h.parent c ≠ some x) (hx : x < h.next) (hp : p < h.next) :
    ∃ h', insertCore h p pos x = .ok h' ∧ h'.kids p = (h.kids p).insertIdx (min pos (h.kids p).length) x := by
  obtain ⟨h', _g, e, _hns, _hparent, hl⟩ := linkChild_linked h p (min pos (h.kids p).length) x (Nat.min_le_right _ _)
  refine ⟨h', ?_, by rw [hl.kids p]; simp⟩
  rw [insertCore_root hroot, if_neg hxp, isAnc_childless h x hnc h.cap p (Ne.symm hxp), if_neg (by simp; omega)]
  exact e

theorem insert_root_total {h : Heap} {p i y : Nat} (hy : h.kind y ≠ .soup) (hroot : h.parent y = none) (hyp : y ≠ p)
    (hnc : ∀ c, h.parent c ≠ some y) (hyn : y < h.next) (hpn : p < h.next) :
    ∃ h', insert h p i [.node y] = .ok (h', [y]) ∧ insertCore h p i y = .ok h' := by
  obtain ⟨h', hc, hk⟩ := insertCore_root_total (pos := i) hroot hyp hnc hyn hpn
  refine ⟨h', ?_, hc⟩
  rw [insert_node hy, hc]
  exact if_pos (by rw [hk, List.mem_insertIdx (Nat.min_le_right _ _)]; exact Or.inl rfl)

theorem indexOf_of_mem {h : Heap} {p x : Nat} (hm : x ∈ h.kids p) : ∃ i, indexOf h p x = some i := by
  unfold indexOf
  cases hi : (h.kids p).idxOf? x with
  | none => exact absurd hm (List.idxOf?_eq_none_iff.mp hi)
  | some i => exact ⟨i, rfl⟩

def Op.isDecompose : Op → Bool
  | .decompose _ => true
  | .clearDecompose _ => true
  | _ => false

/-- the string class of `.string = v` is a string class -/
def Op.kindsOK : Op → Prop
  | .setString _ k _ => k = .str ∨ k = .pre
  | _ => True

end BS.Heap
