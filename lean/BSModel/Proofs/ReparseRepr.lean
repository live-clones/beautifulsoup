import BSModel.Proofs.ReparseIdem
/-! C05 helper lemmas: the normal form of a representable forest is representable again (so the second round trip
    needs no hypothesis about the intermediate tree). -/
namespace BS.Render

theorem okStr_text {c : SCls} (s : PStr) (h : isTextCls c = true) : okStr c s = !s.isEmpty := by
  cases c <;> simp_all [isTextCls, okStr]

theorem representableL_append (p : PCfg) (f : Fmt) : ∀ (a b : List Node),
    representableL p f (a ++ b) = (representableL p f a && representableL p f b)
  | [], b => by simp [representableL]
  | x :: xs, b => by simp [representableL, representableL_append p f xs b, Bool.and_assoc]

/-- a special string stays acceptable under the class it comes back with and the whitespace rule -/
theorem okStr_special (p : PCfg) (pres : Bool) {c c' : SCls} {s s' : PStr} {nl : Bool} (h : okStr c s = true)
    (hk : strKind c s = .special c' s' nl) : okStr c' (wsRule p pres s') = true := by
  -- `xmlpi`/`declaration`: `s ++ [63]`, and `?` is no `>`
  have hbase : okStr c' s' = true := by
    cases c <;> simp only [strKind, SK.special.injEq, reduceCtorEq] at hk <;> obtain ⟨rfl, rfl, _⟩ := hk <;>
      simp_all [okStr]
  have hsmall : okStr c' [10] = true ∧ okStr c' [32] = true := by
    cases c <;> simp only [strKind, SK.special.injEq, reduceCtorEq] at hk <;> obtain ⟨rfl, _, _⟩ := hk <;> decide
  rcases wsRule_cases p pres s' with h1 | ⟨_, h1 | h1⟩
  · rw [h1]; exact hbase
  · rw [h1]; exact hsmall.1
  · rw [h1]; exact hsmall.2

theorem representableL_txt (p : PCfg) (f : Fmt) (ctx : Ctx) (hctx : CtxOK ctx) (b : List PStr) (hb : ∀ x ∈ b, x ≠ []) :
    representableL p f (txt p ctx b) = true := by
  cases b with
  | nil => simp [txt, representableL]
  | cons x xs =>
    rw [txt_cons]
    simp [representableL, representable, okStr_text _ hctx, wsRule_concatL_isEmpty p ctx.pres (by simp) hb]

def strOf : Node → PStr
  | .str _ s => s
  | .tag _ _ => []

theorem absorb_text (p : PCfg) (f : Fmt) (ctx : Ctx) : ∀ (ks : List Node) (b : List PStr), ks.all isTextNode = true →
    absorb p f ctx b ks = ([], b ++ ks.map strOf)
  | [], b, _ => by simp [absorb_nil]
  | .tag _ _ :: _, _, h => by simp [isTextNode] at h
  | .str c s :: ks, b, h => by
    simp only [List.all_cons, Bool.and_eq_true, isTextNode] at h
    have hks : strKind c s = .text s := strKind_text s h.1.1
    have hne : s.isEmpty = false := by simpa using h.1.2
    rw [absorb_cons]
    simp only [absorb1, hks, hne, Bool.false_eq_true, if_false, absorb_text p f ctx ks _ h.2]
    simp [strOf]

theorem concat_strOf : ∀ (ks : List Node), concatL (ks.map strOf) = rawText ks
  | [] => rfl
  | .tag _ _ :: ks => by simp [concatL, strOf, rawText, concat_strOf ks]
  | .str c s :: ks => by simp [concatL, strOf, rawText, concat_strOf ks]

/-- no `</` in one character -/
theorem hasSub_small (x : Nat) : hasSub [60, 47] [x] = false := by
  simp [hasSub, List.isPrefixOf]

theorem rawKids_normal (p : PCfg) (f : Fmt) (ctx : Ctx) (hctx : CtxOK ctx) (ks : List Node) (h : rawKidsOK ks = true) :
    rawKidsOK (normIn p f ctx ks) = true := by
  simp only [rawKidsOK, Bool.and_eq_true] at h
  unfold normIn
  rw [absorb_text p f ctx ks [] h.1]
  simp only [List.nil_append]
  cases ks with
  | nil => simp [txt, rawKidsOK, rawText, hasSub]
  | cons k ks' =>
    have hall : ∀ x ∈ (k :: ks').map strOf, x ≠ [] := by
      intro x hx
      obtain ⟨n, hn, rfl⟩ := List.mem_map.mp hx
      have := (List.all_eq_true.mp h.1) n hn
      cases n with
      | tag _ _ => simp [isTextNode] at this
      | str c s =>
        simp only [isTextNode, Bool.and_eq_true] at this
        intro h0; simp [strOf] at h0; simp [h0] at this
    have hcat := concat_strOf (k :: ks')
    have hemp := wsRule_concatL_isEmpty p ctx.pres (by simp) hall
    rw [List.map_cons, txt_cons, ← List.map_cons]
    have hsub : hasSub [60, 47] (wsRule p ctx.pres (concatL ((k :: ks').map strOf))) = false := by
      rcases wsRule_cases p ctx.pres (concatL ((k :: ks').map strOf)) with h1 | ⟨_, h1 | h1⟩
      · rw [h1, hcat]; simpa using h.2
      · rw [h1]; exact hasSub_small 10
      · rw [h1]; exact hasSub_small 32
    have hcls : isTextCls (textCls ctx) = true := hctx
    generalize wsRule p ctx.pres (concatL ((k :: ks').map strOf)) = W at hsub hemp
    simp only [rawKidsOK, List.all_cons, List.all_nil, isTextNode, rawText, List.append_nil, hcls, hemp, hsub,
      Bool.not_false, Bool.and_self]

theorem normAttrs_keys_subset (p : PCfg) (f : Fmt) (nm : PStr) (a : List (PStr × AVal)) (k : PStr)
    (h : k ∈ (normAttrs p f nm a).map (·.1)) : k ∈ a.map (·.1) := by
  have h1 : k ∈ (adaptAttrs (evAttrs f a)).map (·.1) := by
    rw [normAttrs, buildAttrs, List.map_map] at h
    exact h
  have h2 : k ∈ (evAttrs f a).map (·.1) := (adapt_keys (evAttrs f a) [] List.nodup_nil).2.subset h1
  rw [evAttrs, List.map_map] at h2
  have h3 : k ∈ (fmtAttributes f a).map (·.1) := h2
  have h4 := ((sortAttrs_perm _).map (·.1)).mem_iff.mp h3
  rw [List.map_map] at h4
  exact h4

/-- writer and reader agree on which names have raw content (HTML formatters), or the writer has none (XML formatters) -/
def CdataAgree (p : PCfg) (f : Fmt) : Prop := f.cdataTags = p.cdataElems ∨ f.cdataTags = []

mutual
theorem reprL_absorb (p : PCfg) (f : Fmt) (hc : contOK p = true) (hcd : CdataAgree p f) :
    ∀ (ds : List Node) (ctx : Ctx) (b : List PStr), CtxOK ctx → (∀ x ∈ b, x ≠ []) → representableL p f ds = true →
      representableL p f (absorb p f ctx b ds).1 = true ∧ (∀ x ∈ (absorb p f ctx b ds).2, x ≠ [])
  | [] => by
    intro _ b _ hb _
    simp [absorb_nil, representableL]; exact hb
  | d :: ds => by
    intro ctx b hctx hb hr
    simp only [representableL, Bool.and_eq_true] at hr
    obtain ⟨h1, h2⟩ := repr1_absorb p f hc hcd d ctx b hctx hb hr.1
    obtain ⟨h3, h4⟩ := reprL_absorb p f hc hcd ds ctx _ hctx h2 hr.2
    rw [absorb_cons]
    exact ⟨by simp [representableL_append, h1, h3], h4⟩
theorem repr1_absorb (p : PCfg) (f : Fmt) (hc : contOK p = true) (hcd : CdataAgree p f) :
    ∀ (d : Node) (ctx : Ctx) (b : List PStr), CtxOK ctx → (∀ x ∈ b, x ≠ []) → representable p f d = true →
      representableL p f (absorb1 p f ctx b d).1 = true ∧ (∀ x ∈ (absorb1 p f ctx b d).2, x ≠ [])
  | .str c s => by
    intro ctx b hctx hb hr
    simp only [representable] at hr
    cases hk : strKind c s with
    | text t =>
      rw [absorb1_text hk]
      exact ⟨rfl, pending_text hb t⟩
    | special c' s' nl =>
      rw [absorb1_special hk]
      refine ⟨?_, by cases nl <;> simp⟩
      simp [representableL_append, representableL_txt p f ctx hctx b hb, representableL, representable,
        okStr_special p ctx.pres hr hk]
  | .tag i ks => by
    intro ctx b hctx hb hr
    simp only [representable, Bool.and_eq_true, beq_iff_eq] at hr
    obtain ⟨⟨⟨⟨⟨⟨hhid, hname⟩, hvoid⟩, hcdeq⟩, _⟩, hattr⟩, hkids⟩ := hr
    have hctx' := ctxOK_push p hc ctx hctx (fullName i)
    rw [absorb1_tag]
    refine ⟨?_, by simp⟩
    simp only [representableL_append, representableL_txt p f ctx hctx b hb, representableL, Bool.and_true, Bool.true_and]
    -- the element itself
    simp only [representable, fullName_normInfo, Bool.and_eq_true, beq_iff_eq]
    simp only [normInfo, Bool.not_false, true_and]
    refine ⟨⟨⟨⟨⟨hname, ?_⟩, ?_⟩, ?_⟩, ?_⟩, ?_⟩
    · -- void: no children before, none after
      cases hv : p.isVoid (fullName i) with
      | false => simp
      | true =>
        obtain rfl : ks = [] := by simpa [hv] using hvoid
        simp [normIn, absorb_nil, txt]
    · -- raw content: writer and reader still agree
      rcases hcd with h | h
      · rw [h]
      · rw [h] at hcdeq ⊢
        simpa using hcdeq
    · -- keys: strictly sorted
      exact (keysNodup_iff _).mpr (strictK_nodup _ (normAttrs_strict p f (fullName i) i.attrs))
    · -- attribute names: keys of the original
      rw [List.all_eq_true]
      intro kv hkv
      have hk : kv.1 ∈ i.attrs.map (·.1) :=
        normAttrs_keys_subset p f (fullName i) i.attrs kv.1 (List.mem_map.mpr ⟨kv, hkv, rfl⟩)
      obtain ⟨kv', hkv', he⟩ := List.mem_map.mp hk
      have := (List.all_eq_true.mp hattr) kv' hkv'
      rw [← he]; exact this
    · -- children
      by_cases hraw : p.cdataElems.contains (fullName i) = true
      · simp only [hraw, if_true] at hkids ⊢
        exact rawKids_normal p f _ hctx' ks hkids
      · have hraw' : p.cdataElems.contains (fullName i) = false := by simpa using hraw
        simp only [hraw', Bool.false_eq_true, if_false] at hkids ⊢
        obtain ⟨h1, h2⟩ := reprL_absorb p f hc hcd ks (pushCtx p ctx (fullName i)) [] hctx' (by simp) hkids
        simp [normIn, representableL_append, h1, representableL_txt p f _ hctx' _ h2]
end

/-- **the normal form of a representable forest is representable** -/
theorem representable_normalise (p : PCfg) (f : Fmt) (hc : contOK p = true) (hcd : CdataAgree p f) (ds : List Node)
    (h : representableL p f ds = true) : representableL p f (normaliseL p f ds) = true := by
  have hctx := ctxOK_root p hc
  obtain ⟨h1, h2⟩ := reprL_absorb p f hc hcd ds (ctxOf p [rootFrame]) [] hctx (by simp) h
  simp [normaliseL, representableL_append, h1, representableL_txt p f _ hctx _ h2]

end BS.Render
