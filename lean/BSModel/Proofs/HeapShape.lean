import BSModel.Proofs.HeapOps
/-! C02: `extract` on the forest (children lists, parent fields) -/
namespace BS.Heap

/-- the children lists after removing `x` from wherever it is -/
def kidsWithout (h : Heap) (x : Nat) (n : Nat) : List Nat :=
  if h.parent x = some n then (h.kids n).erase x else h.kids n

section shape
variable (hE : ExtractSpec) (hL : LinkChildSpec)
include hE hL

/-- **effect of `extract`**: `x` disappears from its parent's children, becomes parentless, and no other
    children list and no other parent field changes (so `x` comes back with its own subtree intact). -/
theorem extract_shape {h h' : Heap} {x : Nat} (hg : Good h) (he : extract h x = .ok h') :
    (∀ n, h'.kids n = kidsWithout h x n) ∧ (∀ n, h'.parent n = if n = x then none else h.parent n) := by
  obtain ⟨_, hk, hp, _, _⟩ := extract_good hg he
  exact ⟨hk, hp⟩

end shape

end BS.Heap
