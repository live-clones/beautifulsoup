import BSModel.Model.Tokenizer
import BSModel.Proofs.SourcePos
/-! Tokenizer helper lemmas: scanning primitives, and the bookkeeping predicates of the position/coverage proofs.
Code points as in the model: 60 `<`, 62 `>` (`gt`), 47 `/`, 38 `&`, 33 `!`, 91 `[`, 93 `]`, 35 `#`, 59 `;`, 45 `-`, 61 `=`, 34 `"`, 39 `'`. -/
namespace BS.Tokenizer
open BS.SourcePos

theorem spanLen_le (p : Nat → Bool) (s : PStr) : spanLen p s ≤ s.length := by
  induction s with
  | nil => simp [spanLen]
  | cons c t ih => simp only [spanLen]; split <;> simp <;> omega

theorem spanLen_all (p : Nat → Bool) (s : PStr) : ∀ x ∈ s.take (spanLen p s), p x = true := by
  fun_induction spanLen p s with
  | case1 => simp
  | case2 c t h ih =>
    intro x hx
    rcases List.mem_cons.mp (List.take_succ_cons ▸ hx) with rfl | hx
    · exact h
    · exact ih x hx
  | case3 => simp

theorem findCh_mem (c : Nat) (s : PStr) : (∃ g, findCh c s = some g) ↔ c ∈ s := by
  fun_induction findCh c s with
  | case1 => simp
  | case2 x t hx => simp [beq_iff_eq.mp hx]
  | case3 x t hx ih =>
    have hc : ¬ c = x := fun e => hx (beq_iff_eq.mpr e.symm)
    simp only [Option.map_eq_some_iff, List.mem_cons, hc, false_or, ← ih]
    exact ⟨fun ⟨_, g, hg, _⟩ => ⟨g, hg⟩, fun ⟨g, hg⟩ => ⟨g + 1, g, hg, rfl⟩⟩

theorem findCh_lt (c : Nat) (s : PStr) (g : Nat) (h : findCh c s = some g) : g < s.length := by
  fun_induction findCh c s generalizing g with
  | case1 => cases h
  | case2 x t hx => cases h; simp
  | case3 x t hx ih =>
    obtain ⟨g', hg', rfl⟩ := Option.map_eq_some_iff.mp h
    simpa using ih g' hg'

theorem spanLen_stop (p : Nat → Bool) (s : PStr) (c : Nat) (h : (s.drop (spanLen p s)).head? = some c) : p c = false := by
  fun_induction spanLen p s with
  | case1 => cases h
  | case2 x t hx ih => exact ih (by simpa using h)
  | case3 x t hx => cases h; simpa using hx

theorem search_some (m : PStr → Option Nat) (s : PStr) (j l : Nat) (h : search m s = some (j, l)) : m (s.drop j) = some l := by
  fun_induction search m s generalizing j with
  | case1 =>
    obtain ⟨a, ha, h⟩ := Option.map_eq_some_iff.mp h
    cases h; exact ha
  | case2 c t l' hm => cases h; exact hm
  | case3 c t hm ih =>
    obtain ⟨⟨j', l'⟩, hr, h⟩ := Option.map_eq_some_iff.mp h
    cases h; exact ih j' hr

theorem findCh_drop (c : Nat) (s : PStr) (b : Nat) (h : ∃ g, findCh c s = some g) (hb : ∀ x ∈ s.take b, x ≠ c) :
    ∃ g, findCh c (s.drop b) = some g := by
  rw [findCh_mem] at h ⊢
  rw [← List.take_append_drop b s] at h
  rcases List.mem_append.mp h with h | h
  · exact absurd rfl (hb c h)
  · exact h

/-- the text consumed for a list of events, in order -/
def srcs (evs : List Ev) : PStr := (evs.map (·.src)).flatten

@[simp] theorem srcs_nil : srcs [] = [] := rfl
@[simp] theorem srcs_cons (e : Ev) (es : List Ev) : srcs (e :: es) = e.src ++ srcs es := by simp [srcs]
@[simp] theorem srcs_append (a b : List Ev) : srcs (a ++ b) = srcs a ++ srcs b := by simp [srcs]

/-- `getpos()` after exactly the text `a` has been consumed -/
abbrev posOf (a : PStr) : Nat × Nat := lineCol a a.length

/-- every event of the list was called back with `getpos()` = line/column of the end of `pre ++ (the sources before it)` -/
def WP (pre : PStr) : List Ev → Prop
  | [] => True
  | e :: es => e.pos = posOf pre ∧ WP (pre ++ e.src) es

theorem WP_append (pre : PStr) (a b : List Ev) : WP pre (a ++ b) ↔ WP pre a ∧ WP (pre ++ srcs a) b := by
  induction a generalizing pre with
  | nil => simp [WP]
  | cons e es ih => simp only [List.cons_append, WP, ih, srcs_cons, List.append_assoc, and_assoc]

/-- `handle_starttag` / `handle_startendtag` -/
def isStart : Tok → Bool
  | .st .. => true
  | .se .. => true
  | _ => false

/-- every data callback's content is the text of its span -/
def DataOK (evs : List Ev) : Prop := ∀ e ∈ evs, ∀ d, e.tok = .data d → d = e.src

theorem DataOK_append (a b : List Ev) : DataOK (a ++ b) ↔ DataOK a ∧ DataOK b := List.forall_mem_append

theorem DataOK_singleton (e : Ev) (h : ∀ d, e.tok = .data d → d = e.src) : DataOK [e] := List.forall_mem_singleton.mpr h

theorem updatepos_posOf (a b : PStr) : updatepos (posOf a) b = posOf (a ++ b) := updatepos_step a b

end BS.Tokenizer
