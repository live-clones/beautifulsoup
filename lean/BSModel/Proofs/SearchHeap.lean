import BSModel.Model.SearchHeap
import BSModel.Proofs.Search
import BSModel.Proofs.HeapIter
/-! Helper lemmas: the heap-level generators of the `find_*` methods are slices of the `.contents` pre-order
(by `Proofs/HeapIter.lean`), so every heap-level search is the `findAllImpl` of `Model/Search.lean` on such a slice. -/
namespace BS.SearchHeap
open BS.Heap BS.Search

/-- prefixes as XML has them (see `Elem.WFPrefix`) -/
def Labels.WF (L : Labels) : Prop :=
  ∀ n, match L.pfx n with
    | none => True
    | some p => p ≠ [] ∧ colon ∉ p ∧ colon ∉ L.name n

theorem view_wfprefix (h : Heap) (L : Labels) (hL : L.WF) (n : Nat) : (view h L n).WFPrefix := by
  unfold view
  by_cases ht : (h.kind n).isTag = true
  · simp only [ht, if_true, Elem.WFPrefix]
    exact hL n
  · simp [ht, Elem.WFPrefix]

theorem view_id (h : Heap) (L : Labels) (n : Nat) : (view h L n).id = n := by
  unfold view; split <;> rfl

theorem view_isTag (h : Heap) (L : Labels) (n : Nat) : (view h L n).isTag = (h.kind n).isTag := by
  unfold view; split <;> simp_all

theorem map_view_wf (h : Heap) (L : Labels) (hL : L.WF) (ids : List Nat) :
    ∀ e ∈ ids.map (view h L), e.WFPrefix := by
  intro e he
  obtain ⟨n, _, rfl⟩ := List.mem_map.mp he
  exact view_wfprefix h L hL n

/-- on a well-formed heap no generator fails (in particular `_last_descendant` inside `descendants`) -/
theorem axisH_ok {h : Heap} {w : Wit} (hwf : WF h w) (x : Nat) (f : Family) : ∃ ids, axisH h x f = .ok ids := by
  cases f with
  | descendants => exact ⟨_, descendants_eq hwf x⟩
  | _ => exact ⟨_, rfl⟩

theorem sublist_flatMap_heads {α : Type} (g : α → List α) (hg : ∀ a, ∃ t, g a = a :: t) :
    ∀ l : List α, l.Sublist (l.flatMap g) := by
  intro l
  induction l with
  | nil => simp
  | cons a rest ih =>
    obtain ⟨t, ht⟩ := hg a
    simp only [List.flatMap_cons, ht, List.cons_append]
    exact List.Sublist.cons_cons a (List.Sublist.trans ih (List.sublist_append_right t _))

theorem kids_sublist_descendants {h : Heap} {w : Wit} (hwf : WF h w) (x : Nat) :
    (h.kids x).Sublist (docOrder h x).tail := by
  rw [docOrder_cons_kids hwf x]
  exact sublist_flatMap_heads (docOrder h) (fun a => ⟨_, docOrder_cons h a⟩) (h.kids x)

end BS.SearchHeap
