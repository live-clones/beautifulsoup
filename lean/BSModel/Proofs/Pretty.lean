import BSModel.Model.Pretty
/-! C14: single steps of `decode`'s loop, and what a balanced block of events does to it (`Moves`) -/
namespace BS.Pretty

@[simp] theorem rep_zero (u : PStr) : rep u 0 = [] := by simp [rep]

theorem rep_nonpos (u : PStr) (n : Int) (h : n ≤ 0) : rep u n = [] := by
  have : n.toNat = 0 := by omega
  simp [rep, this]

theorem rep_succ (u : PStr) (n : Int) (h : 0 ≤ n) : rep u (n + 1) = u ++ rep u n := by
  have : (n + 1).toNat = n.toNat + 1 := by omega
  simp [rep, this, List.replicate_succ]

theorem indentString_eq (u s : PStr) (l : Int) (b a : Bool) :
    indentString u s l b a = (if b then rep u l else []) ++ s ++ (if a then [10] else []) := by
  by_cases h : l = 0 <;> cases b <;> simp [indentString, h]

theorem fullLine_ne (u : PStr) (l : Int) (p : PStr) (h : p ≠ []) : fullLine u l p = rep u l ++ p ++ [10] := by
  simp [fullLine, h]

/-- `decodeImpl` from any loop state -/
def run (unit : PStr) (st : St) (evs : List Ev) : PStr := (pieces unit st evs).flatten

@[simp] theorem run_nil (u : PStr) (st : St) : run u st [] = [] := by simp [run, pieces]

theorem run_cons (u : PStr) (st : St) (ev : Ev) (rest : List Ev) :
    run u st (ev :: rest) = (step u st ev).1 ++ run u (step u st ev).2 rest := by
  simp [run, pieces]

theorem decodeImpl_eq_run (u : PStr) (lvl : Option Int) (evs : List Ev) : decodeImpl u lvl evs = run u ⟨lvl, none⟩ evs := rfl

/-! `_out`/`_lit`: outside/inside literal mode; `_enter`/`_leave` switch it -/

theorem step_text_out (u : PStr) (l : Int) (s : PStr) :
    step u ⟨some l, none⟩ (.text s) = (fullLine u l (strip s), ⟨some l, none⟩) := by
  unfold step
  by_cases h : strip s = [] <;> simp [fullLine, Ev.piece, h, indentString_eq]

theorem step_text_lit (u : PStr) (l : Int) (L : Nat) (s : PStr) :
    step u ⟨some l, some L⟩ (.text s) = (s, ⟨some l, some L⟩) := by
  unfold step
  simp [Ev.piece]

theorem step_empty_out (u : PStr) (l : Int) (t : PStr) :
    step u ⟨some l, none⟩ (.empty t) = (fullLine u l t, ⟨some l, none⟩) := by
  unfold step
  by_cases h : t = [] <;> simp [fullLine, Ev.piece, h, indentString_eq]

theorem step_empty_lit (u : PStr) (l : Int) (L : Nat) (t : PStr) :
    step u ⟨some l, some L⟩ (.empty t) = (t, ⟨some l, some L⟩) := by
  unfold step
  simp [Ev.piece]

theorem step_start_out (u : PStr) (l : Int) (i : Nat) (o : PStr) :
    step u ⟨some l, none⟩ (.start i o false) = (fullLine u l o, ⟨some (l + 1), none⟩) := by
  unfold step
  by_cases h : o = [] <;> simp [fullLine, Ev.piece, h, indentString_eq]

theorem step_start_enter (u : PStr) (l : Int) (i : Nat) (o : PStr) :
    step u ⟨some l, none⟩ (.start i o true) = (openLine u l o, ⟨some (l + 1), some i⟩) := by
  unfold step
  by_cases h : o = [] <;> simp [openLine, Ev.piece, h, indentString_eq]

theorem step_start_lit (u : PStr) (l : Int) (L i : Nat) (o : PStr) (pre : Bool) :
    step u ⟨some l, some L⟩ (.start i o pre) = (o, ⟨some (l + 1), some L⟩) := by
  unfold step
  simp [Ev.piece]

theorem step_stop_out (u : PStr) (l : Int) (i : Nat) (c : PStr) :
    step u ⟨some (l + 1), none⟩ (.stop i c) = (fullLine u l c, ⟨some l, none⟩) := by
  unfold step
  by_cases h : c = [] <;> simp [fullLine, Ev.piece, h, indentString_eq]

theorem step_stop_leave (u : PStr) (l : Int) (i : Nat) (c : PStr) :
    step u ⟨some (l + 1), some i⟩ (.stop i c) = (closeLine c, ⟨some l, none⟩) := by
  unfold step
  by_cases h : c = [] <;> simp [closeLine, Ev.piece, h, indentString_eq]

theorem step_stop_lit (u : PStr) (l : Int) (L i : Nat) (c : PStr) (h : L ≠ i) :
    step u ⟨some (l + 1), some L⟩ (.stop i c) = (c, ⟨some l, some L⟩) := by
  unfold step
  simp [Ev.piece, h]

theorem step_plain (u : PStr) (lit : Option Nat) (ev : Ev) :
    (step u ⟨none, lit⟩ ev).1 = ev.piece ∧ (step u ⟨none, lit⟩ ev).2.lvl = none := by
  unfold step
  cases ev <;> simp [Ev.piece] <;> split <;> simp

theorem run_plain (u : PStr) : ∀ (evs : List Ev) (st : St), st.lvl = none → run u st evs = (evs.map Ev.piece).flatten
  | [], st, _ => by simp
  | ev :: rest, ⟨lvl, lit⟩, h => by
    simp only at h
    subst h
    rw [run_cons, (step_plain u lit ev).1, run_plain u rest _ (step_plain u lit ev).2]
    simp

mutual
theorem pieces_events : ∀ (t : Node), ((events t).map Ev.piece).flatten = plain t
  | .str s => by simp [events, plain, Ev.piece]
  | .void t => by simp [events, plain, Ev.piece]
  | .elem i o c pre ks => by
    simp [events, plain, Ev.piece, pieces_eventsL ks]
theorem pieces_eventsL : ∀ (ks : List Node), ((eventsL ks).map Ev.piece).flatten = plainL ks
  | [] => by simp [eventsL, plainL]
  | k :: ks => by simp [eventsL, plainL, pieces_events k, pieces_eventsL ks]
end

mutual
theorem pretty_lit : ∀ (u : PStr) (t : Node) (l : Int), prettyNode u l true t = plain t
  | u, .str s, l => by simp [prettyNode, plain]
  | u, .void t, l => by simp [prettyNode, plain]
  | u, .elem i o c pre ks, l => by simp [prettyNode, plain, prettyL_lit u ks (l + 1)]
theorem prettyL_lit : ∀ (u : PStr) (ks : List Node) (l : Int), prettyL u l true ks = plainL ks
  | u, [], l => by simp [prettyL, plainL]
  | u, k :: ks, l => by simp [prettyL, plainL, pretty_lit u k l, prettyL_lit u ks l]
end

/-- `(indent_level, string_literal_tag)` after the loop has consumed the events -/
def finalState (unit : PStr) : St → List Ev → St
  | st, [] => st
  | st, ev :: rest => finalState unit (step unit st ev).2 rest

/-- From state `st` the events `evs` emit `out` and leave the loop in state `st'`, whatever follows them. (State: for C14's `state_restored`.) -/
def Moves (u : PStr) (st : St) (evs : List Ev) (out : PStr) (st' : St) : Prop :=
  ∀ rest, run u st (evs ++ rest) = out ++ run u st' rest ∧ finalState u st (evs ++ rest) = finalState u st' rest

theorem Moves.nil (u : PStr) (st : St) : Moves u st [] [] st := fun _ => ⟨rfl, rfl⟩

theorem Moves.cons {u : PStr} {st st' st'' : St} {ev : Ev} {evs : List Ev} {p out : PStr} (h : step u st ev = (p, st'))
    (hm : Moves u st' evs out st'') : Moves u st (ev :: evs) (p ++ out) st'' := by
  intro rest
  simp only [List.cons_append, run_cons, finalState, h, hm rest, List.append_assoc, and_self]

theorem Moves.append {u : PStr} {st st' st'' : St} {a b : List Ev} {x y : PStr} (h1 : Moves u st a x st')
    (h2 : Moves u st' b y st'') : Moves u st (a ++ b) (x ++ y) st'' := by
  intro rest
  simp only [List.append_assoc, h1 (b ++ rest), h2 rest, and_self]

theorem Moves.bracket {u : PStr} {st st' : St} {a b : Ev} {evs : List Ev} {p out q : PStr} (ha : step u st a = (p, st'))
    (hm : Moves u st' evs out st') (hb : step u st' b = (q, st)) : Moves u st (a :: (evs ++ [b])) (p ++ out ++ q) st := by
  simpa using Moves.cons ha (hm.append (.cons hb (.nil u st)))

mutual
/-- inside literal mode (entered by the tag with identity `L`) the events of a tree none of whose tags is `L` emit the
    pieces verbatim and leave level and literal tag as they were -/
theorem moves_lit (u : PStr) : ∀ (t : Node) (l : Int) (L : Nat), L ∉ ids t →
    Moves u ⟨some l, some L⟩ (events t) (plain t) ⟨some l, some L⟩
  | .str s, l, L, _ => by simpa [events, plain] using Moves.cons (step_text_lit u l L s) (.nil u _)
  | .void t, l, L, _ => by simpa [events, plain] using Moves.cons (step_empty_lit u l L t) (.nil u _)
  | .elem i o c pre ks, l, L, h => by
    simp only [ids, List.mem_cons, not_or] at h
    exact Moves.bracket (step_start_lit u l L i o pre) (movesL_lit u ks (l + 1) L h.2) (step_stop_lit u l L i c h.1)
theorem movesL_lit (u : PStr) : ∀ (ks : List Node) (l : Int) (L : Nat), L ∉ idsL ks →
    Moves u ⟨some l, some L⟩ (eventsL ks) (plainL ks) ⟨some l, some L⟩
  | [], l, L, _ => Moves.nil u _
  | k :: ks, l, L, h => by
    simp only [idsL, List.mem_append, not_or] at h
    exact (moves_lit u k l L h.1).append (movesL_lit u ks l L h.2)
end

mutual
/-- outside literal mode the events of a tree emit its pretty rendering and restore level and mode: a whitespace-preserving
    element enters literal mode with its own identity, which none of its descendants has, so only its own end event
    leaves it -/
theorem moves_out (u : PStr) : ∀ (t : Node) (l : Int), distinct t = true →
    Moves u ⟨some l, none⟩ (events t) (prettyNode u l false t) ⟨some l, none⟩
  | .str s, l, _ => by simpa [events, prettyNode] using Moves.cons (step_text_out u l s) (.nil u _)
  | .void t, l, _ => by simpa [events, prettyNode] using Moves.cons (step_empty_out u l t) (.nil u _)
  | .elem i o c pre ks, l, h => by
    simp only [distinct, Bool.and_eq_true, Bool.not_eq_true', List.contains_eq_mem, decide_eq_false_iff_not] at h
    cases pre with
    | false => exact Moves.bracket (step_start_out u l i o) (movesL_out u ks (l + 1) h.2) (step_stop_out u l i c)
    | true =>
      simpa [events, prettyNode, prettyL_lit] using
        Moves.bracket (step_start_enter u l i o) (movesL_lit u ks (l + 1) i h.1) (step_stop_leave u l i c)
theorem movesL_out (u : PStr) : ∀ (ks : List Node) (l : Int), distinctL ks = true →
    Moves u ⟨some l, none⟩ (eventsL ks) (prettyL u l false ks) ⟨some l, none⟩
  | [], l, _ => Moves.nil u _
  | k :: ks, l, h => by
    simp only [distinctL, Bool.and_eq_true] at h
    exact (moves_out u k l h.1).append (movesL_out u ks l h.2)
end

theorem run_lit : ∀ (u : PStr) (t : Node) (l : Int) (L : Nat) (rest : List Ev), ¬ L ∈ ids t →
    run u ⟨some l, some L⟩ (events t ++ rest) = plain t ++ run u ⟨some l, some L⟩ rest :=
  fun u t l L rest h => (moves_lit u t l L h rest).1

theorem final_lit : ∀ (u : PStr) (t : Node) (l : Int) (L : Nat) (rest : List Ev), ¬ L ∈ ids t →
    finalState u ⟨some l, some L⟩ (events t ++ rest) = finalState u ⟨some l, some L⟩ rest :=
  fun u t l L rest h => (moves_lit u t l L h rest).2

theorem finalL_out : ∀ (u : PStr) (ks : List Node) (l : Int) (rest : List Ev), distinctL ks = true →
    finalState u ⟨some l, none⟩ (eventsL ks ++ rest) = finalState u ⟨some l, none⟩ rest :=
  fun u ks l rest h => (movesL_out u ks l h rest).2

theorem distinctL_kids {t : Node} (h : distinct t = true) : distinctL t.kids = true := by
  cases t with
  | str s => simp [Node.kids, distinctL]
  | void t => simp [Node.kids, distinctL]
  | elem i o c pre ks =>
    simp only [distinct, Bool.and_eq_true] at h
    simpa [Node.kids] using h.2

end BS.Pretty
