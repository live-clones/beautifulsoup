import BSModel.Model.Writer
/-! C04 (`emit_build`), the adapter half: the builder events `BeautifulSoupHTMLParser` sends for the callback
    stream of a written document do not depend on how the void elements are spelt — `already_closed_empty_element`
    only ever holds void names, so the redundant `</br>` of `<br></br>` is swallowed and the end tag of an ordinary
    element never is -/
namespace BS.Writer
open BS.Builder BS.Adapter

/-- the adapter state after a callback stream -/
def afinal (cfg : ACfg) : ASt → List SEv → ASt
  | st, [] => st
  | st, e :: es => afinal cfg (astep cfg st e).1 es

theorem arun_nil (cfg : ACfg) (st : ASt) : arun (astep cfg) st [] = ([], []) := rfl

theorem arun_cons (cfg : ACfg) (st : ASt) (e : SEv) (es : List SEv) :
    arun (astep cfg) st (e :: es) =
      ((astep cfg st e).2.1 ++ (arun (astep cfg) (astep cfg st e).1 es).1,
       (astep cfg st e).2.2 ++ (arun (astep cfg) (astep cfg st e).1 es).2) := rfl

theorem arun_append (cfg : ACfg) : ∀ (a b : List SEv) (st : ASt),
    arun (astep cfg) st (a ++ b) =
      ((arun (astep cfg) st a).1 ++ (arun (astep cfg) (afinal cfg st a) b).1,
       (arun (astep cfg) st a).2 ++ (arun (astep cfg) (afinal cfg st a) b).2) := by
  intro a
  induction a with
  | nil => intro b st; simp [arun_nil, afinal]
  | cons e es ih =>
    intro b st
    simp only [List.cons_append, arun_cons, afinal, ih, List.append_assoc]

/-- the callbacks that carry character data -/
def isTexty : SEv → Bool
  | .data _ => true
  | .charref _ => true
  | .entityref _ => true
  | _ => false

/-- the characters such a callback stands for -/
def dataOf (cfg : ACfg) : SEv → PStr
  | .data s => s
  | .charref n => handleCharref cfg n
  | .entityref n => handleEntityref cfg n
  | _ => []

theorem arun_texty (cfg : ACfg) : ∀ (evs : List SEv) (st : ASt), (∀ e ∈ evs, isTexty e = true) →
    arun (astep cfg) st evs = (evs.map (fun e => Ev.data (dataOf cfg e)), []) := by
  intro evs
  induction evs with
  | nil => intro st _; rfl
  | cons e es ih =>
    intro st h
    have step : astep cfg st e = (st, [Ev.data (dataOf cfg e)], []) := by
      have he : isTexty e = true := h e List.mem_cons_self
      cases e <;> first | rfl | cases he
    have := ih st (fun x hx => h x (List.mem_cons_of_mem e hx))
    simp only [arun_cons, step, this, List.map_cons, List.singleton_append, List.nil_append]

theorem flushLit_texty (cur : PStr) : ∀ e ∈ flushLit cur, isTexty e = true := by
  intro e he
  unfold flushLit at he
  split at he
  · simp at he
  · simp at he; subst he; rfl

theorem emitChars_texty (sp : Nat → CharSp) (s : PStr) (i : Nat) (cur : PStr) :
    ∀ e ∈ emitChars sp i cur s, isTexty e = true := by
  -- end; literal cut / appended; dec, hex, named
  fun_induction emitChars sp i cur s
  case case1 => exact flushLit_texty _
  case case2 ih => exact List.forall_mem_append.mpr ⟨flushLit_texty _, ih⟩
  case case3 ih => exact ih
  all_goals exact List.forall_mem_append.mpr ⟨flushLit_texty _, List.forall_mem_cons.mpr ⟨rfl, ‹_›⟩⟩

mutual
/-- what the adapter sends the builder for the node at path `p`: a void element is `start, stop` however spelt -/
def bev (cfg : ACfg) (c : Choices) : Path → WDoc → List Ev
  | p, .elem n _ ks =>
    if cfg.isVoid n then [.start n none, .stop n none]
    else .start n none :: (bevL cfg c p 0 ks ++ [.stop n none])
  | p, .text s => (emitChars (c.char p) 0 [] s).map (fun e => Ev.data (dataOf cfg e))
  | _, .special k s => special (specialText k s).2 (specialText k s).1
def bevL (cfg : ACfg) (c : Choices) : Path → Nat → List WDoc → List Ev
  | _, _, [] => []
  | p, i, d :: ds => bev cfg c (i :: p) d ++ bevL cfg c p (i + 1) ds
end

/-- `already_closed_empty_element` holds void names only -/
def AInv (iv : Name → Bool) (st : ASt) : Prop := ∀ m ∈ st.alreadyClosed, iv m = true

theorem removeFirst_subset (n : Name) (l : List Name) : ∀ m ∈ removeFirst n l, m ∈ l := by
  fun_induction removeFirst n l with
  | case1 => simp
  | case2 x xs _ => exact fun m hm => List.mem_cons_of_mem _ hm
  | case3 x xs _ ih =>
    exact List.forall_mem_cons.mpr ⟨List.mem_cons_self, fun m hm => List.mem_cons_of_mem _ (ih m hm)⟩

theorem toUpper_cased (up : Bool) (u : Nat) (h : 65 ≤ u ∧ u ≤ 90) : toUpperAscii (cased up u) = u := by
  cases up <;> simp [cased, toUpperAscii] <;> omega

theorem astep_special (cfg : ACfg) (st : ASt) (k : Kind) (up : Nat → Bool) (s : PStr) :
    astep cfg st (specialEv k up s) = (st, special (specialText k s).2 (specialText k s).1, []) := by
  cases k with
  | comment => rfl
  | pi => rfl
  | doctype => simp [specialEv, astep, specialText, kwDoctype]
  | cdata =>
    have h : startsWithUpper cdataPrefix (kwCData up ++ s) = true := by
      have e91 : toUpperAscii 91 = 91 := by decide
      simp [startsWithUpper, cdataPrefix, kwCData, toUpper_cased, e91]
    simp only [specialEv, astep, h, if_true, specialText]
    simp [kwCData]
  | decl =>
    simp only [specialEv, astep, specialText]
    split <;> rfl

theorem astep_endtag (cfg : ACfg) (st : ASt) (n : Name) (hn : st.alreadyClosed.contains n = false) :
    astep cfg st (.endtag n) = (st, [.stop n none], []) := by
  simp only [astep, hn]; simp

theorem endtag_forwarded (cfg : ACfg) (st : ASt) (n : Name) (hi : AInv cfg.isVoid st) (hv : cfg.isVoid n = false) :
    astep cfg st (.endtag n) = (st, [.stop n none], []) :=
  astep_endtag cfg st n <| by
    cases h : st.alreadyClosed.contains n with
    | false => rfl
    | true => exact absurd (hi n (by simpa using h)) (by simp [hv])

theorem ainv_astep (cfg : ACfg) (st : ASt) (e : SEv) (hi : AInv cfg.isVoid st) : AInv cfg.isVoid (astep cfg st e).1 := by
  cases e with
  | starttag n a l c =>
    simp only [astep]
    split
    · rename_i hv
      intro m hm
      rcases List.mem_append.mp hm with h | h
      · exact hi m h
      · rw [List.mem_singleton.mp h]; exact hv
    · exact hi
  | endtag n =>
    simp only [astep]
    split
    · exact fun m hm => hi m (removeFirst_subset n _ m hm)
    · exact hi
  | unknownDecl s => simp only [astep]; split <;> exact hi
  | _ => exact hi

theorem ainv_afinal (cfg : ACfg) : ∀ (evs : List SEv) (st : ASt), AInv cfg.isVoid st → AInv cfg.isVoid (afinal cfg st evs)
  | [], _, h => h
  | e :: es, st, h => ainv_afinal cfg es _ (ainv_astep cfg st e h)

mutual
theorem arun_emit (cfg : ACfg) (c : Choices) : ∀ (d : WDoc) (p : Path) (st : ASt), AInv cfg.isVoid st →
    arun (astep cfg) st (emit cfg.isVoid c p d) = (bev cfg c p d, infos cfg c p d) ∧
      AInv cfg.isVoid (afinal cfg st (emit cfg.isVoid c p d))
  | .text s, p, st, hi => by
    refine ⟨?_, ainv_afinal cfg _ st hi⟩
    simp only [emit, bev, infos, arun_texty cfg (emitChars (c.char p) 0 [] s) st (emitChars_texty _ s 0 [])]
  | .special k s, p, st, hi => by
    refine ⟨?_, ainv_afinal cfg _ st hi⟩
    simp [emit, bev, infos, arun_cons, arun_nil, astep_special]
  | .elem n a ks, p, st, hi => by
    refine ⟨?_, ainv_afinal cfg _ st hi⟩
    by_cases hv : cfg.isVoid n = true
    · simp only [emit, bev, infos, hv, if_true]
      -- `.pair`: the `endtag` finds the `n` that `starttag` put into `alreadyClosed`
      cases c.void p <;> simp [arun_cons, arun_nil, astep, hv]
    · have hv' : cfg.isVoid n = false := by simpa using hv
      have hstart : astep cfg st (.starttag n a (c.pos p).1 (c.pos p).2) =
          (st, [.start n none], [mkInfo cfg a (c.pos p).1 (c.pos p).2]) := by
        simp [astep, hv']
      have hk := arun_emitL cfg c ks p 0 st hi
      have hend := endtag_forwarded cfg _ n (ainv_afinal cfg (emitL cfg.isVoid c p 0 ks) st hi) hv'
      simp [emit, bev, infos, hv', arun_cons, hstart, arun_append, hk, hend, arun_nil]
theorem arun_emitL (cfg : ACfg) (c : Choices) : ∀ (ds : List WDoc) (p : Path) (i : Nat) (st : ASt), AInv cfg.isVoid st →
    arun (astep cfg) st (emitL cfg.isVoid c p i ds) = (bevL cfg c p i ds, infosL cfg c p i ds)
  | [], p, i, st, hi => rfl
  | d :: ds, p, i, st, hi => by
    simp only [emitL, bevL, infosL, arun_append, (arun_emit cfg c d (i :: p) st hi).1,
      arun_emitL cfg c ds p (i + 1) _ (ainv_afinal cfg _ st hi)]
end

/-- **the adapter's view of a written document**: builder events and start infos, whatever the spellings -/
theorem toEvents_emitDoc (cfg : ACfg) (c : Choices) (ds : List WDoc) :
    toEvents cfg (emitDoc cfg.isVoid c ds) = (bevL cfg c [] 0 ds, startInfos cfg c ds) :=
  arun_emitL cfg c ds [] 0 ⟨[]⟩ (by intro m hm; simp at hm)

end BS.Writer
