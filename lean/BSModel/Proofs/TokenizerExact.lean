import BSModel.Proofs.TokenizerRound
/-! Tokenizer: EXACT round trips of the delimiter-terminated constructs. For each writer shape a decidable predicate on the
written body, the parse result when it holds, and the parse result (the proper prefix up to the first terminator) when it
does not. The reusable parts are `search_least` / `search_of_least` (`search` returns the least index at which the anchored
matcher succeeds) and `search_written` (the search over a body written in front of its terminator). -/
namespace BS.Tokenizer
open BS.SourcePos

/-! ### `search` returns the LEAST index at which the matcher matches -/

theorem search_least (m : PStr → Option Nat) : ∀ (s : PStr) (p l : Nat), search m s = some (p, l) →
    p ≤ s.length ∧ m (s.drop p) = some l ∧ ∀ k, k < p → m (s.drop k) = none := by
  intro s p l h
  fun_induction search m s generalizing p with
  | case1 =>
    obtain ⟨a, ha, h⟩ := Option.map_eq_some_iff.mp h
    cases h
    exact ⟨Nat.le_refl _, ha, fun k hk => absurd hk (Nat.not_lt_zero k)⟩
  | case2 c t l' hm =>
    cases h
    exact ⟨Nat.zero_le _, hm, fun k hk => absurd hk (Nat.not_lt_zero k)⟩
  | case3 c t hn ih =>
    obtain ⟨⟨p', l'⟩, hr, h⟩ := Option.map_eq_some_iff.mp h
    cases h
    obtain ⟨h1, h2, h3⟩ := ih p' hr
    refine ⟨Nat.succ_le_succ h1, h2, fun k hk => ?_⟩
    cases k with
    | zero => exact hn
    | succ k => exact h3 k (Nat.lt_of_succ_lt_succ hk)

theorem search_of_least (m : PStr → Option Nat) : ∀ (s : PStr) (p l : Nat), p ≤ s.length → m (s.drop p) = some l →
    (∀ k, k < p → m (s.drop k) = none) → search m s = some (p, l)
  | [], p, l, hp, hm, _ => by
    have : p = 0 := by simpa using hp
    subst this
    simp only [List.drop_nil] at hm
    simp [search, hm]
  | c :: t, 0, l, _, hm, _ => by
    simp only [List.drop_zero] at hm
    simp [search, hm]
  | c :: t, p + 1, l, hp, hm, hk => by
    have h0 : m (c :: t) = none := by simpa using hk 0 (by omega)
    have := search_of_least m t p l (by simpa using hp) (by simpa using hm) (fun k hk' => by simpa using hk (k + 1) (by omega))
    simp [search, h0, this]

theorem search_none (m : PStr → Option Nat) : ∀ (s : PStr), search m s = none → ∀ k, k ≤ s.length → m (s.drop k) = none := by
  intro s h k hk
  fun_induction search m s generalizing k with
  | case1 =>
    obtain rfl : k = 0 := Nat.le_zero.mp hk
    simpa using h
  | case2 c t l' hm => cases h
  | case3 c t hn ih =>
    cases k with
    | zero => exact hn
    | succ k => exact ih (by simpa using h) k (Nat.le_of_succ_le_succ hk)

theorem search_eq_some_iff (m : PStr → Option Nat) (s : PStr) (p l : Nat) :
    search m s = some (p, l) ↔ p ≤ s.length ∧ m (s.drop p) = some l ∧ ∀ k, k < p → m (s.drop k) = none :=
  ⟨search_least m s p l, fun ⟨h1, h2, h3⟩ => search_of_least m s p l h1 h2 h3⟩

/-! ### a `\s*` run that is stopped by a character of the terminator does not look behind it -/

theorem spanLen_stopped (p : Nat → Bool) (c : Nat) (hc : p c = false) (a X : PStr) : spanLen p (a ++ c :: X) = spanLen p a := by
  induction a with
  | nil => simp [spanLen, hc]
  | cons x t ih => simp only [List.cons_append, spanLen, ih]

theorem head_after_span (p : Nat → Bool) (c : Nat) (a X Y : PStr) :
    ((a ++ c :: X).drop (spanLen p a)).head? = ((a ++ c :: Y).drop (spanLen p a)).head? := by
  induction a with
  | nil => simp [spanLen]
  | cons x t ih =>
    simp only [List.cons_append, spanLen]
    split
    · simpa using ih
    · simp

/-- the `p`-run stops inside `a`, or `a` is all `p` -/
theorem after_span_cases (p : Nat → Bool) (c : Nat) (a X : PStr) :
    (spanLen p a < a.length ∧ (a ++ c :: X).drop (spanLen p a + 1) = a.drop (spanLen p a + 1) ++ c :: X) ∨
    (spanLen p a = a.length ∧ (a ++ c :: X).drop (spanLen p a) = c :: X) := by
  have hle := spanLen_le p a
  rcases Nat.lt_or_ge (spanLen p a) a.length with h | h
  · exact Or.inl ⟨h, List.drop_append_of_le_length (by omega)⟩
  · have : spanLen p a = a.length := by omega
    exact Or.inr ⟨this, by rw [this]; simp⟩

theorem drop_written (body T : PStr) (k : Nat) (hk : k < body.length) :
    (body ++ T).drop k = body.drop k ++ T ∧ body.drop k ≠ [] :=
  ⟨List.drop_append_of_le_length (by omega), mt List.drop_eq_nil_iff.mp (by omega)⟩

/-- `pattern.search` over `body ++ T ++ rest`, for a terminator `T` that the anchored matcher `m` matches and behind which it
    does not look from an offset inside the body: the search ends at the first offset `p` of the body at which `m` matches
    `body[p:] ++ T`, and at the writer's `T` if there is none — whatever `rest` is -/
theorem search_written (m : PStr → Option Nat) (T : PStr) (l0 : Nat)
    (hloc : ∀ d rest, d ≠ [] → m (d ++ (T ++ rest)) = m (d ++ T)) (hend : ∀ rest, m (T ++ rest) = some l0)
    (body rest : PStr) :
    ∃ p l, search m (body ++ (T ++ rest)) = some (p, l) ∧ (∀ k, k < p → m (body.drop k ++ T) = none) ∧
      (p = body.length ∧ l = l0 ∨ p < body.length ∧ m (body.drop p ++ T) = some l) := by
  have hin : ∀ k, k < body.length → m ((body ++ (T ++ rest)).drop k) = m (body.drop k ++ T) := by
    intro k hk
    obtain ⟨e, hne⟩ := drop_written body (T ++ rest) k hk
    rw [e, hloc _ _ hne]
  have hL : m ((body ++ (T ++ rest)).drop body.length) = some l0 := by rw [List.drop_left]; exact hend rest
  cases hsr : search m (body ++ (T ++ rest)) with
  | none =>
    have := search_none _ _ hsr body.length (by simp)
    rw [hL] at this; cases this
  | some pl =>
    obtain ⟨p, l⟩ := pl
    obtain ⟨_, hm, hleast⟩ := search_least _ _ _ _ hsr
    have hple : p ≤ body.length := Nat.le_of_not_lt fun h => by
      have := hleast _ h
      rw [hL] at this; cases this
    refine ⟨p, l, rfl, fun k hk => by rw [← hin k (by omega)]; exact hleast k hk, ?_⟩
    rcases Nat.lt_or_eq_of_le hple with h | h
    · exact .inr ⟨h, by rw [← hin p h]; exact hm⟩
    · subst h
      rw [hL] at hm
      exact .inl ⟨rfl, (Option.some.inj hm).symm⟩

/-! ### comments: `commentclose = --\s*>` -/

theorem mCommentClose_cons2 (x y : Nat) (t : PStr) :
    mCommentClose (x :: y :: t) =
      if x = 45 ∧ y = 45 then
        (if (t.drop (spanLen isWs t)).head? = some 62 then some (2 + spanLen isWs t + 1) else none)
      else none := by
  simp only [mCommentClose, sw, List.length_cons, List.length_nil, List.take_succ_cons, List.take_zero, List.drop_succ_cons,
    List.drop_zero]
  have e : List.drop (2 + spanLen isWs t) (x :: y :: t) = t.drop (spanLen isWs t) := by
    rw [Nat.add_comm]; simp
  rw [e]
  by_cases hx : x = 45 <;> by_cases hy : y = 45 <;> simp [hx, hy]

/-- **locality of `commentclose` in a written comment.** At an offset inside the body, whether (and how far)
    `--\s*>` matches does not depend on what follows the writer's `-->`: the `\s*` run cannot pass the `-`. -/
theorem mCommentClose_local (d rest : PStr) (hd : d ≠ []) :
    mCommentClose (d ++ 45 :: 45 :: 62 :: rest) = mCommentClose (d ++ [45, 45, 62]) := by
  match d, hd with
  | [x], _ => simp [mCommentClose_cons2, spanLen, show isWs 45 = false by decide]
  | x :: y :: d', _ =>
    simp only [List.cons_append, mCommentClose_cons2]
    rw [spanLen_stopped isWs 45 (by decide) d' (45 :: 62 :: rest), spanLen_stopped isWs 45 (by decide) d' [45, 62],
      head_after_span isWs 45 d' (45 :: 62 :: rest) [45, 62]]

/-- the exact well-formedness condition of a comment body: `--\s*>` matches nowhere in `body-->` before the writer's
    own `-->` (stated with the model's matcher; decidable) -/
def CommentBodyOK (body : PStr) : Prop :=
  ∀ k, k < body.length → mCommentClose (body.drop k ++ [45, 45, 62]) = none

instance (body : PStr) : Decidable (CommentBodyOK body) := by unfold CommentBodyOK; infer_instance

theorem mCommentClose_at_end (rest : PStr) : mCommentClose (45 :: 45 :: 62 :: rest) = some 3 := by
  simp [mCommentClose, sw, spanLen, show isWs 62 = false by decide]

theorem mCommentClose_none_of_head (s : PStr) (h : s.head? ≠ some 45) : mCommentClose s = none := by
  cases s with
  | nil => simp [mCommentClose, sw]
  | cons c t =>
    have : c ≠ 45 := by simpa using h
    cases t with
    | nil => simp [mCommentClose, sw]
    | cons d u => simp [mCommentClose, sw, this]

theorem nogt_after_ws (c : Nat) (hc : isWs c = false) (hc62 : c ≠ 62) (a b : PStr) (ha : ∀ x ∈ a, x ≠ 62) :
    ((a ++ c :: b).drop (spanLen isWs (a ++ c :: b))).head? ≠ some 62 := by
  induction a with
  | nil => simp [spanLen, hc, hc62]
  | cons x t ih =>
    simp only [List.cons_append, spanLen]
    split
    · simpa using ih (fun y hy => ha y (by simp [hy]))
    · simpa using ha x (by simp)

theorem mCommentClose_none_inside (d rest : PStr) (hd : d ≠ []) (h62 : ∀ x ∈ d, x ≠ 62) :
    mCommentClose (d ++ 45 :: 45 :: 62 :: rest) = none := by
  match d, hd, h62 with
  | [x], _, _ => simp [mCommentClose_cons2, spanLen, show isWs 45 = false by decide]
  | x :: y :: d', _, h =>
    have := nogt_after_ws 45 (by decide) (by decide) d' (45 :: 62 :: rest) (fun z hz => h z (by simp [hz]))
    simp only [List.cons_append, mCommentClose_cons2, this, if_false, ite_self]

theorem parseComment_eq (cd : Option PStr) (body rest : PStr) (p l : Nat)
    (hs : search mCommentClose (body ++ 45 :: 45 :: 62 :: rest) = some (p, l)) :
    parseComment cd (writeComment body ++ rest) = .ok (.cm ((body ++ 45 :: 45 :: 62 :: rest).take p)) (4 + p + l) cd := by
  simp only [parseComment, writeComment, List.cons_append, List.nil_append, List.append_assoc, List.drop_succ_cons, List.drop_zero, hs]

theorem parseComment_write_exact (cd : Option PStr) (body rest : PStr) (hb : CommentBodyOK body) :
    parseComment cd (writeComment body ++ rest) = .ok (.cm body) (writeComment body).length cd := by
  obtain ⟨p, l, hs, _, ⟨rfl, rfl⟩ | ⟨hp, hm⟩⟩ :=
    search_written mCommentClose [45, 45, 62] 3 mCommentClose_local mCommentClose_at_end body rest
  · rw [parseComment_eq cd body rest _ _ hs]
    simp [writeComment]; omega
  · rw [hb p hp] at hm; cases hm

theorem parseComment_write_first_close (cd : Option PStr) (body rest : PStr) (hb : ¬ CommentBodyOK body) :
    ∃ p l, p < body.length ∧ mCommentClose (body.drop p ++ [45, 45, 62]) = some l ∧
      (∀ k, k < p → mCommentClose (body.drop k ++ [45, 45, 62]) = none) ∧
      parseComment cd (writeComment body ++ rest) = .ok (.cm (body.take p)) (4 + p + l) cd := by
  obtain ⟨p, l, hs, hleast, ⟨rfl, _⟩ | ⟨hp, hm⟩⟩ :=
    search_written mCommentClose [45, 45, 62] 3 mCommentClose_local mCommentClose_at_end body rest
  · exact absurd hleast hb
  · exact ⟨p, l, hp, hm, hleast, by
      rw [parseComment_eq cd body rest _ _ hs, List.take_append_of_le_length (by omega)]⟩

theorem commentBodyOK_of_noGt (body : PStr) (hb : ∀ x ∈ body, x ≠ 62) : CommentBodyOK body := fun k hk =>
  mCommentClose_none_inside _ [] (drop_written body [] k hk).2 fun x hx => hb x (List.mem_of_mem_drop hx)

theorem commentBodyOK_of_noDash (body : PStr) (hb : ∀ x ∈ body, x ≠ 45) : CommentBodyOK body := by
  intro k hk
  apply mCommentClose_none_of_head
  cases hd : body.drop k with
  | nil => exact absurd hd (drop_written body [] k hk).2
  | cons y ys => simpa using hb y (List.mem_of_mem_drop (by rw [hd]; simp))

theorem parseComment_write_partial (cd : Option PStr) (body rest : PStr) (hb : ∀ x ∈ body, x ≠ 45) :
    parseComment cd (writeComment body ++ rest) = .ok (.cm body) (writeComment body).length cd :=
  parseComment_write_exact cd body rest (commentBodyOK_of_noDash body hb)

theorem parseComment_write_nogt (cd : Option PStr) (body rest : PStr) (hb : ∀ x ∈ body, x ≠ 62) :
    parseComment cd (writeComment body ++ rest) = .ok (.cm body) (writeComment body).length cd :=
  parseComment_write_exact cd body rest (commentBodyOK_of_noGt body hb)

/-! ### `str.find('>')`-terminated constructs: processing instructions and `<!DOCTYPE …>` -/

/-- no `>` -/
def NoGt (body : PStr) : Prop := ∀ x ∈ body, x ≠ 62

instance (body : PStr) : Decidable (NoGt body) := by unfold NoGt; infer_instance

theorem not_noGt_split (body : PStr) (h : ¬ NoGt body) : ∃ a b, body = a ++ 62 :: b ∧ NoGt a := by
  obtain ⟨a, b, rfl, ha⟩ := List.eq_append_cons_of_mem (show 62 ∈ body by simpa [NoGt] using h)
  exact ⟨a, b, rfl, fun x hx e => ha (e ▸ hx)⟩

/-- `<?body>` -/
def writePi (body : PStr) : PStr := [60, 63] ++ body ++ [62]

theorem parsePi_write_exact (cd : Option PStr) (body rest : PStr) (hb : NoGt body) :
    parsePi cd (writePi body ++ rest) = .ok (.pi body) (writePi body).length cd := by
  have hfind : findCh 62 (body ++ 62 :: rest) = some body.length := findCh_append_first 62 body rest hb
  simp only [parsePi, writePi, List.cons_append, List.nil_append, List.append_assoc, List.drop_succ_cons, List.drop_zero, hfind,
    List.take_left]
  simp; omega

/-- `<!KWbody>` with `KW` any spelling of `DOCTYPE` (body = everything between the keyword and the `>`) -/
def writeDoctype (kw body : PStr) : PStr := [60, 33] ++ kw ++ body ++ [62]

/-- `doctype` -/
def kwdoctype : PStr := [100, 111, 99, 116, 121, 112, 101]

/-- `-`, `[`: `parse_html_declaration` tests for `<!--` and `<![` before `doctype` -/
theorem asciiLowerC_ne (a v : Nat) (h : asciiLowerC a = v) (hv : 97 ≤ v) : a ≠ 45 ∧ a ≠ 91 := by
  simp only [asciiLowerC, isUpper, Bool.and_eq_true, decide_eq_true_eq] at h
  by_cases hc : 65 ≤ a ∧ a ≤ 90
  · rw [if_pos hc] at h; omega
  · rw [if_neg hc] at h; omega

theorem parseHtmlDeclaration_write_exact (cd : Option PStr) (kw body rest : PStr) (hkw : asciiLower kw = kwdoctype)
    (hb : NoGt body) :
    parseHtmlDeclaration cd (writeDoctype kw body ++ rest) = .ok (.dl (kw ++ body)) (writeDoctype kw body).length cd := by
  have hlen : kw.length = 7 := by
    have := congrArg List.length hkw
    simpa [asciiLower, kwdoctype] using this
  match kw, hlen with
  | [a, b, c, d, e, f, g], _ =>
    simp only [asciiLower, kwdoctype, List.map_cons, List.map_nil, List.cons.injEq, and_true] at hkw
    obtain ⟨ha, hb', hc, hd, he, hf, hg⟩ := hkw
    have hfind : findCh 62 (body ++ 62 :: rest) = some body.length := findCh_append_first 62 body rest hb
    have hane := asciiLowerC_ne a 100 ha (by omega)
    simp only [parseHtmlDeclaration, writeDoctype, sw, List.cons_append, List.nil_append, List.append_assoc, List.length_cons,
      List.length_nil, List.take_succ_cons, List.take_zero, asciiLower, List.map_cons, List.map_nil, ha, hb', hc, hd, he, hf, hg,
      List.drop_succ_cons, List.drop_zero, hfind]
    simp [asciiLowerC, isUpper, hane.1, hane.2]
    -- left: the callback's text, the returned index
    exact ⟨by rw [Nat.add_comm]; simp [List.take_succ_cons], by omega⟩

theorem parsePi_write_first_gt (cd : Option PStr) (body rest : PStr) (hb : ¬ NoGt body) :
    ∃ a b, body = a ++ 62 :: b ∧ NoGt a ∧ parsePi cd (writePi body ++ rest) = .ok (.pi a) (writePi a).length cd := by
  obtain ⟨a, b, rfl, ha⟩ := not_noGt_split body hb
  refine ⟨a, b, rfl, ha, ?_⟩
  have e : writePi (a ++ 62 :: b) ++ rest = writePi a ++ (b ++ 62 :: rest) := by simp [writePi]
  rw [e]
  exact parsePi_write_exact cd a _ ha

theorem parseHtmlDeclaration_write_first_gt (cd : Option PStr) (kw body rest : PStr) (hkw : asciiLower kw = kwdoctype)
    (hb : ¬ NoGt body) :
    ∃ a b, body = a ++ 62 :: b ∧ NoGt a ∧
      parseHtmlDeclaration cd (writeDoctype kw body ++ rest) = .ok (.dl (kw ++ a)) (writeDoctype kw a).length cd := by
  obtain ⟨a, b, rfl, ha⟩ := not_noGt_split body hb
  refine ⟨a, b, rfl, ha, ?_⟩
  have e : writeDoctype kw (a ++ 62 :: b) ++ rest = writeDoctype kw a ++ (b ++ 62 :: rest) := by simp [writeDoctype]
  rw [e]
  exact parseHtmlDeclaration_write_exact cd kw a _ hkw ha

/-! ### CDATA marked sections: `_markedsectionclose = ]\s*]\s*>` -/

theorem drop_cons_add (y : Nat) (t : PStr) (n : Nat) : (y :: t).drop (1 + n) = t.drop n := by
  rw [Nat.add_comm]; simp

theorem mMarkedClose_cons (y : Nat) (t : PStr) :
    mMarkedClose (y :: t) =
      if y = 93 then
        (if (t.drop (spanLen isWs t)).head? = some 93 then
          (if ((t.drop (spanLen isWs t + 1)).drop (spanLen isWs (t.drop (spanLen isWs t + 1)))).head? = some 62
           then some (1 + spanLen isWs t + 1 + spanLen isWs (t.drop (spanLen isWs t + 1)) + 1) else none)
         else none)
      else none := by
  simp only [mMarkedClose, List.head?_cons, List.drop_succ_cons, List.drop_zero, Nat.add_assoc, drop_cons_add, List.drop_drop]
  by_cases hy : y = 93 <;> simp [hy]

/-- **locality of `]\s*]\s*>` in a written CDATA section**: at an offset inside the body the match does not depend on
    what follows the writer's `]]>` -/
theorem mMarkedClose_local (d rest : PStr) (hd : d ≠ []) :
    mMarkedClose (d ++ 93 :: 93 :: 62 :: rest) = mMarkedClose (d ++ [93, 93, 62]) := by
  match d, hd with
  | y :: d', _ =>
    simp only [List.cons_append, mMarkedClose_cons]
    rw [spanLen_stopped isWs 93 (by decide) d' (93 :: 62 :: rest), spanLen_stopped isWs 93 (by decide) d' [93, 62],
      head_after_span isWs 93 d' (93 :: 62 :: rest) [93, 62]]
    rcases after_span_cases isWs 93 d' (93 :: 62 :: rest) with ⟨_, hA⟩ | ⟨hw, hB⟩
    · -- the whitespace stops inside `d'`
      have hA' := (after_span_cases isWs 93 d' [93, 62]).elim (fun h => h.2) (fun h => by omega)
      rw [hA, hA', spanLen_stopped isWs 93 (by decide) _ (93 :: 62 :: rest), spanLen_stopped isWs 93 (by decide) _ [93, 62],
        head_after_span isWs 93 _ (93 :: 62 :: rest) [93, 62]]
    · -- `d'` is all whitespace
      have hB' : (d' ++ [93, 93, 62]).drop (spanLen isWs d') = [93, 93, 62] := by rw [hw]; simp
      have h1 : (d' ++ 93 :: 93 :: 62 :: rest).drop (spanLen isWs d' + 1) = 93 :: 62 :: rest := by
        rw [← List.drop_drop, hB]; rfl
      have h2 : (d' ++ [93, 93, 62]).drop (spanLen isWs d' + 1) = [93, 62] := by
        rw [← List.drop_drop, hB']; rfl
      rw [h1, h2]
      simp [spanLen, show isWs 93 = false by decide]

/-- `<![CDATA[body]]>` -/
def writeCdata (body : PStr) : PStr := [60, 33, 91, 67, 68, 65, 84, 65, 91] ++ body ++ [93, 93, 62]

/-- the exact well-formedness condition of a CDATA body: `]\s*]\s*>` matches nowhere in `body]]>` before the writer's `]]>` -/
def CdataBodyOK (body : PStr) : Prop :=
  ∀ k, k < body.length → mMarkedClose (body.drop k ++ [93, 93, 62]) = none

instance (body : PStr) : Decidable (CdataBodyOK body) := by unfold CdataBodyOK; infer_instance

theorem mMarkedClose_at_end (rest : PStr) : mMarkedClose (93 :: 93 :: 62 :: rest) = some 3 := by
  simp [mMarkedClose_cons, spanLen, show isWs 93 = false by decide, show isWs 62 = false by decide]

/-- `CDATA[`: what `unknown_decl` gets in front of the body -/
def cdataKw : PStr := [67, 68, 65, 84, 65, 91]

theorem mMarkedClose_kw (k : Nat) (hk : k < 6) (t : PStr) : mMarkedClose ((cdataKw ++ t).drop k) = none := by
  have : k = 0 ∨ k = 1 ∨ k = 2 ∨ k = 3 ∨ k = 4 ∨ k = 5 := by omega
  rcases this with rfl | rfl | rfl | rfl | rfl | rfl <;> simp [cdataKw, mMarkedClose]

theorem scanName_cdata (t : PStr) : scanName (cdataKw ++ t) = .ok [99, 100, 97, 116, 97] 5 := by
  simp [scanName, cdataKw, isAlpha, spanLen, isDeclNameCh, isAlnum, isDigit, asciiLower, asciiLowerC, isUpper,
    show isWs 91 = false by decide]

theorem search_cdata_shift (t : PStr) (p l : Nat) (hs : search mMarkedClose t = some (p, l)) :
    search mMarkedClose (cdataKw ++ t) = some (6 + p, l) := by
  obtain ⟨h1, h2, h3⟩ := search_least _ _ _ _ hs
  apply search_of_least
  · simp [cdataKw]; omega
  · rw [show 6 + p = cdataKw.length + p by simp [cdataKw], ← List.drop_drop, List.drop_left]; exact h2
  · intro k hk
    rcases Nat.lt_or_ge k 6 with h | h
    · exact mMarkedClose_kw k h t
    · obtain ⟨j, rfl⟩ : ∃ j, k = 6 + j := ⟨k - 6, by omega⟩
      rw [show 6 + j = cdataKw.length + j by simp [cdataKw], ← List.drop_drop, List.drop_left]
      exact h3 j (by omega)

theorem parseMarkedSection_eq (cd : Option PStr) (body rest : PStr) (p l : Nat)
    (hs : search mMarkedClose (body ++ 93 :: 93 :: 62 :: rest) = some (p, l)) (hp : p ≤ body.length) :
    parseMarkedSection cd (writeCdata body ++ rest) = .ok (.ud (cdataKw ++ body.take p)) (9 + p + l) cd := by
  have e : (writeCdata body ++ rest).drop 3 = cdataKw ++ (body ++ 93 :: 93 :: 62 :: rest) := by simp [writeCdata, cdataKw]
  have ht : (cdataKw ++ (body ++ 93 :: 93 :: 62 :: rest)).take (6 + p) = cdataKw ++ body.take p := by
    rw [show 6 + p = cdataKw.length + p by simp [cdataKw], List.take_length_add_append, List.take_append_of_le_length hp]
  simp only [parseMarkedSection, e, scanName_cdata, search_cdata_shift _ _ _ hs, ht]
  simp [sectStd]; omega

theorem parseMarkedSection_write_exact (cd : Option PStr) (body rest : PStr) (hb : CdataBodyOK body) :
    parseMarkedSection cd (writeCdata body ++ rest) = .ok (.ud (cdataKw ++ body)) (writeCdata body).length cd := by
  obtain ⟨p, l, hs, _, ⟨rfl, rfl⟩ | ⟨hp, hm⟩⟩ :=
    search_written mMarkedClose [93, 93, 62] 3 mMarkedClose_local mMarkedClose_at_end body rest
  · rw [parseMarkedSection_eq cd body rest _ _ hs (Nat.le_refl _), List.take_length]
    simp [writeCdata]; omega
  · rw [hb p hp] at hm; cases hm

theorem parseMarkedSection_write_first_close (cd : Option PStr) (body rest : PStr) (hb : ¬ CdataBodyOK body) :
    ∃ p l, p < body.length ∧ mMarkedClose (body.drop p ++ [93, 93, 62]) = some l ∧
      (∀ k, k < p → mMarkedClose (body.drop k ++ [93, 93, 62]) = none) ∧
      parseMarkedSection cd (writeCdata body ++ rest) = .ok (.ud (cdataKw ++ body.take p)) (9 + p + l) cd := by
  obtain ⟨p, l, hs, hleast, ⟨rfl, _⟩ | ⟨hp, hm⟩⟩ :=
    search_written mMarkedClose [93, 93, 62] 3 mMarkedClose_local mMarkedClose_at_end body rest
  · exact absurd hleast hb
  · exact ⟨p, l, hp, hm, hleast, parseMarkedSection_eq cd body rest _ _ hs (by omega)⟩

/-! ### character data: the `interesting` scan outside CDATA mode (`[&<]`) -/

/-- no `<`, no `&` -/
def TextOK (t : PStr) : Prop := ∀ x ∈ t, isPlain x = true

instance (t : PStr) : Decidable (TextOK t) := by unfold TextOK; infer_instance

theorem applyAct_head (ev : Ev) (s1 : PStr) (pos1 : Nat × Nat) (cd : Option PStr) (a : Act) :
    (applyAct [ev] s1 pos1 cd a).1.head? = some ev := by
  cases a <;> simp [applyAct]

theorem step_text (P : Params) (end_ : Bool) (pos : Nat × Nat) (text rest : PStr) (ht : TextOK text) (hne : text ≠ [])
    (hr : ∀ c, rest.head? = some c → isPlain c = false) :
    step P end_ ⟨text ++ rest, pos, none⟩ =
      if rest.isEmpty then ([⟨.data text, text, pos⟩], ⟨[], updatepos pos text, none⟩, some .ok)
      else applyAct [⟨.data text, text, pos⟩] rest (updatepos pos text) none (chooseAct P end_ none rest) := by
  simp only [step_plain P end_ pos text rest ht hr, List.length_pos_iff.mpr hne, if_true]

theorem run_text (P : Params) (text : PStr) (ht : TextOK text) (hne : text ≠ []) :
    (run P text).evs = [⟨.data text, text, (1, 0)⟩] ∧ (run P text).st = ⟨[], updatepos (1, 0) text, none⟩ ∧
      (run P text).flag = .ok := by
  have hs := step_text P false (1, 0) text [] ht hne (by simp)
  simp only [List.append_nil, List.isEmpty_nil, if_true] at hs
  cases text with
  | nil => exact absurd rfl hne
  | cons c t =>
    simp [run, goahead, init, loop, hs, flush]

end BS.Tokenizer
