import BSModel.Proofs.TokenizerWholeToks
/-! The tokenizer on a written raw-text element `<script …>text</script>` / `<style …>text</style>` (CDATA mode:
`set_cdata_mode` parser.py:123-125, the `interesting_cdata` search of `goahead` 153-160, `parse_endtag` in CDATA mode
407-416, `clear_cdata_mode` 127-129): start tag, the text verbatim in ONE `data` callback, end tag. -/
namespace BS.WriterText
open BS.Writer BS.Tokenizer BS.SourcePos

theorem mCdataClose_none_before_lt (n : PStr) (a : Nat) (r : PStr) : mCdataClose n (a :: 60 :: r) = none := by
  simp [mCdataClose, sw]

theorem mCdataClose_none_of_safe (n0 : Nat) (ns : PStr) (a b c : Nat) (r : PStr)
    (h : (!(a == 60 && b == 47) || (!isWs c && !ciEq n0 c)) = true) : mCdataClose (n0 :: ns) (a :: b :: c :: r) = none := by
  by_cases hab : a = 60 ∧ b = 47
  · obtain ⟨rfl, rfl⟩ := hab
    simp only [beq_self_eq_true, Bool.and_self, Bool.not_true, Bool.false_or, Bool.and_eq_true, Bool.not_eq_true'] at h
    simp [mCdataClose, sw, spanLen, ciPrefix, h.1, h.2]
  · have : sw [60, 47] (a :: b :: c :: r) = false := by
      simp only [sw, List.length_cons, List.length_nil, List.take_succ_cons, List.take_zero]
      simp only [beq_eq_false_iff_ne, ne_eq, List.cons.injEq, and_true]
      intro h'; exact hab ⟨h'.1, h'.2⟩
    simp [mCdataClose, this]

/-- the search for the closing tag runs over a safe text and stops at the `<` after it -/
theorem search_raw (n0 : Nat) (ns : PStr) (l : Nat) : ∀ (t tl : PStr), rawSafe n0 (t ++ [60]) = true →
    mCdataClose (n0 :: ns) (60 :: tl) = some l →
    search (mCdataClose (n0 :: ns)) (t ++ 60 :: tl) = some (t.length, l) := by
  intro t
  induction t with
  | nil => intro tl _ hm; simp [search, hm]
  | cons c t ih =>
    intro tl hs hm
    simp only [List.cons_append, rawSafe, Bool.and_eq_true] at hs
    have hnone : mCdataClose (n0 :: ns) (c :: (t ++ 60 :: tl)) = none := by
      -- `rawSafeAt`'s window at `c`: `c <`; `c b <`; inside `t`
      cases t with
      | nil => exact mCdataClose_none_before_lt _ _ _
      | cons b t' =>
        cases t' with
        | nil => exact mCdataClose_none_of_safe n0 ns c b 60 tl (by simpa [rawSafeAt] using hs.1)
        | cons d t'' => exact mCdataClose_none_of_safe n0 ns c b d _ (by simpa [rawSafeAt] using hs.1)
    simp only [List.cons_append, search, hnone, ih tl hs.2 hm, Option.map_some, List.length_cons]

theorem cdata_names (n : PStr) (h : cdataContentElements.contains n = true) :
    n = [115, 99, 114, 105, 112, 116] ∨ n = [115, 116, 121, 108, 101] := by
  simpa [cdataContentElements] using h

theorem cdata_nameOK (n : PStr) (h : cdataContentElements.contains n = true) : nameOK n = true := by
  rcases cdata_names n h with rfl | rfl <;> decide

/-- `</name>` is a match of `interesting_cdata` for its own element -/
theorem mCdataClose_close (n : PStr) (h : cdataContentElements.contains n = true) (rest : PStr) :
    mCdataClose n (closeText n ++ rest) = some (closeText n).length := by
  have h115 : isWs 115 = false := by decide
  have h62 : isWs 62 = false := by decide
  rcases cdata_names n h with rfl | rfl <;>
    simp [mCdataClose, closeText, sw, spanLen, ciPrefix, ciEq, asciiLowerC, isUpper, h115, h62]

/-- the start tag of a raw-text element switches CDATA mode on -/
theorem chooseAct_open_raw (P : Params) (hP : ParamsOK P) (n : PStr) (a : List (PStr × Option PStr))
    (hcd : cdataContentElements.contains n = true) (ha : ∀ kv ∈ a, nameOK kv.1 = true) (rest : PStr) :
    chooseAct P false none (openText n a false ++ rest) = .adv (.st n a) (openText n a false).length (some n) true := by
  simp only [chooseAct_open P hP n a false (cdata_nameOK n hcd) ha rest, hcd, startTok]
  rfl

/-- in CDATA mode the end tag of the element itself is an end tag (and switches the mode off) -/
theorem chooseAct_close_raw (P : Params) (hP : ParamsOK P) (n : PStr) (hcd : cdataContentElements.contains n = true)
    (rest : PStr) :
    chooseAct P false (some n) (closeText n ++ rest) = .adv (.et n) (closeText n).length none true :=
  chooseAct_close P hP n (cdata_nameOK n hcd) (some n) (Or.inr rfl) rest

/-- the `data` callback for the raw text (none for an empty text) -/
def rawDataEv (t : PStr) (pos : Nat × Nat) : List Ev := if t.isEmpty then [] else [⟨.data t, t, pos⟩]

/-- the turn of the loop that starts in CDATA mode at the raw text: the whole text as one `data`, then the end tag -/
theorem step_raw_body (P : Params) (hP : ParamsOK P) (n t rest : PStr) (pos : Nat × Nat)
    (hcd : cdataContentElements.contains n = true)
    (hs : search (mCdataClose n) (t ++ (closeText n ++ rest)) = some (t.length, (closeText n).length)) :
    step P false ⟨t ++ (closeText n ++ rest), pos, some n⟩ =
      (rawDataEv t pos ++ [⟨.et n, closeText n, updatepos pos t⟩],
        ⟨rest, updatepos (updatepos pos t) (closeText n), none⟩, none) := by
  have hne : (closeText n ++ rest).isEmpty = false := by simp [closeText]
  simp only [step, hs, Option.map_some, List.take_left, List.drop_left, hne, Bool.false_eq_true, if_false,
    chooseAct_close_raw P hP n hcd rest, applyAct, if_true, rawDataEv]
  cases t <;> simp

theorem step_raw_open (P : Params) (hP : ParamsOK P) (n : PStr) (a : List (PStr × Option PStr)) (rest : PStr) (pos : Nat × Nat)
    (hcd : cdataContentElements.contains n = true) (ha : ∀ kv ∈ a, nameOK kv.1 = true) :
    step P false ⟨openText n a false ++ rest, pos, none⟩ =
      ([⟨.st n a, openText n a false, pos⟩], ⟨rest, updatepos pos (openText n a false), some n⟩, none) := by
  have hne : (openText n a false ++ rest).isEmpty = false := by simp [openText]
  have hup : updatepos pos [] = pos := by simp [updatepos]
  have := step_plain P false pos [] (openText n a false ++ rest) (by simp) (by simp [openText, isPlain])
  simpa only [List.nil_append, List.length_nil, Nat.lt_irrefl, if_false, hne, Bool.false_eq_true, hup,
    chooseAct_open_raw P hP n a hcd ha rest, applyAct, List.take_left, List.drop_left, if_true] using this

theorem search_raw_text (n t rest : PStr) (hcd : cdataContentElements.contains n = true) (ht : rawTextOK n t = true) :
    search (mCdataClose n) (t ++ (closeText n ++ rest)) = some (t.length, (closeText n).length) := by
  have hm := mCdataClose_close n hcd rest
  -- `script` and `style` both begin with `s` (115)
  rcases cdata_names n hcd with rfl | rfl <;>
    exact search_raw 115 _ _ t _ (by simpa [rawTextOK] using ht) (by simpa [closeText] using hm)

theorem loop_step_cont (P : Params) (e : Bool) (f : Nat) (st : St) (evs : List Ev) (st' : St) (hne : st.s ≠ [])
    (h : step P e st = (evs, st', none)) :
    loop P e (f + 1) st = ⟨evs ++ (loop P e f st').evs, (loop P e f st').st, (loop P e f st').flag⟩ := by
  conv => lhs; unfold loop
  split
  · rename_i h0; exact absurd h0 hne
  · simp only [h]

/-- **the loop on a raw-text element**, anywhere in `feed` (outside CDATA mode), whatever follows: two turns.
    Also for `f` too small for `rest`: hence on the fuel, not from `Loops.raw` by `Runs.loop_eq`. -/
theorem loop_raw_element (P : Params) (hP : ParamsOK P) (n : PStr) (a : List (PStr × Option PStr)) (t rest : PStr)
    (pos : Nat × Nat) (f : Nat) (hcd : cdataContentElements.contains n = true) (ha : ∀ kv ∈ a, nameOK kv.1 = true)
    (ht : rawTextOK n t = true) :
    loop P false (f + 2) ⟨openText n a false ++ (t ++ (closeText n ++ rest)), pos, none⟩ =
      (let pos1 := updatepos pos (openText n a false)
       let pos2 := updatepos pos1 t
       let r := loop P false f ⟨rest, updatepos pos2 (closeText n), none⟩
       ⟨⟨.st n a, openText n a false, pos⟩ :: (rawDataEv t pos1 ++ ⟨.et n, closeText n, pos2⟩ :: r.evs), r.st, r.flag⟩) := by
  have h1 := step_raw_open P hP n a (t ++ (closeText n ++ rest)) pos hcd ha
  have h2 := step_raw_body P hP n t rest (updatepos pos (openText n a false)) hcd (search_raw_text n t rest hcd ht)
  have hne1 : (⟨openText n a false ++ (t ++ (closeText n ++ rest)), pos, none⟩ : St).s ≠ [] := by simp [openText]
  have hne2 : (⟨t ++ (closeText n ++ rest), updatepos pos (openText n a false), some n⟩ : St).s ≠ [] := by
    simp [closeText]
  rw [show f + 2 = (f + 1) + 1 from rfl, loop_step_cont P false (f + 1) _ _ _ hne1 h1, loop_step_cont P false f _ _ _ hne2 h2]
  simp [List.append_assoc]

end BS.WriterText
