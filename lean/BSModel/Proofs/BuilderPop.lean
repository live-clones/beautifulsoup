import BSModel.Proofs.Builder
/-! # C03: the counter-guarded loop of `_popToTag` closes `closeCount` frames -/
namespace BS.Builder

/-- `closeCount` from the innermost frame, as the loop meets them: a match is the last to close; else go on while the
    name is open deeper; else this is the outermost of that name, or none is open -/
theorem closeCount_cons (name : Name) (pfx : Option Name) (f : Frame) (rest : List Frame) :
    closeCount name pfx (f :: rest) =
      if (f.name == name && f.pfx == pfx) = true then 1
      else if rest.any (fun g => g.name == name) = true then 1 + closeCount name pfx rest
      else if (f.name == name) = true then 1 else 0 := by
  by_cases hm : (f.name == name && f.pfx == pfx) = true
  · simp [closeCount, List.findIdx?_cons, hm]
  · rw [if_neg hm]
    by_cases ha : rest.any (fun g => g.name == name) = true
    · rw [if_pos ha]
      have hrev : (rest.reverse.findIdx? (fun g => g.name == name)).isSome = true := by
        rw [List.findIdx?_isSome, List.any_reverse]; exact ha
      obtain ⟨j, hj⟩ := Option.isSome_iff_exists.mp hrev
      have hjl : j < rest.length := by
        have := (List.findIdx?_eq_some_iff_findIdx_eq.mp hj).1
        simpa using this
      simp only [closeCount, List.findIdx?_cons, hm, List.reverse_cons, List.findIdx?_append, hj]
      -- `rest.length + 1 - j = 1 + (rest.length - j)` by `hjl`
      cases hi : rest.findIdx? (fun f => f.name == name && f.pfx == pfx) with
      | some i => simp; omega
      | none => simp; omega
    · rw [if_neg ha]
      simp only [List.any_eq_true, not_exists, not_and] at ha
      have hnone : rest.findIdx? (fun f => f.name == name && f.pfx == pfx) = none := by
        rw [List.findIdx?_eq_none_iff]
        intro x hx
        simp [ha x hx]
      have hrev : rest.reverse.findIdx? (fun g => g.name == name) = none := by
        rw [List.findIdx?_eq_none_iff]
        intro x hx
        simpa using ha x (by simpa using hx)
      simp only [closeCount, List.findIdx?_cons, hm, List.reverse_cons, List.findIdx?_append, hnone, hrev]
      by_cases hn : (f.name == name) = true
      · simp [hn]
      · simp [hn]

theorem closeCount_nil (name : Name) (pfx : Option Name) : closeCount name pfx [] = 0 := by
  simp [closeCount]

theorem closeCount_eq_zero (name : Name) (pfx : Option Name) (s : List Frame)
    (h : s.any (fun g => g.name == name) = false) : closeCount name pfx s = 0 := by
  cases s with
  | nil => exact closeCount_nil name pfx
  | cons f rest =>
    simp only [List.any_cons, Bool.or_eq_false_iff] at h
    rw [closeCount_cons]
    simp [h.1, h.2]

theorem cnt_eq_zero_iff {cfg : Cfg} {name : Name} (hn : name ≠ cfg.rootName) : ∀ {s : List Frame}, RootLast cfg s →
    (cnt cfg s name = 0 ↔ s.dropLast.any (fun g => g.name == name) = false)
  | [], h => nomatch h
  | [r], h => by simp [cnt_single h.1]
  | t :: b :: rest, h => by
    have ih := cnt_eq_zero_iff hn (s := b :: rest) h
    rw [List.dropLast_cons_cons, List.any_cons, cnt_cons, Bool.or_eq_false_iff, ← ih]
    by_cases ht : t.name = name <;> simp [ht, hn]

theorem closeCount_dropLast_setKids (name : Name) (pfx : Option Name) (b : Frame) (k : List Doc) (rest : List Frame) :
    closeCount name pfx (List.dropLast ({ b with kids := k } :: rest)) = closeCount name pfx (List.dropLast (b :: rest)) := by
  cases rest with
  | nil => rfl
  | cons c rest => simp only [List.dropLast_cons_cons, closeCount_cons]

/-- `fuel` reaches the root frame (`popToTag` passes `stack_size - 1`), which is never counted -/
theorem popLoop_stack {cfg : Cfg} {name : Name} (pfx : Option Name) (hn : name ≠ cfg.rootName) :
    ∀ (fuel : Nat) {st : St}, Inv cfg st → st.stack.length ≤ fuel + 1 →
      (popLoop st name pfx fuel).stack = sCloseN (closeCount name pfx st.stack.dropLast) st.stack
  | 0, st, h, hl => by
    match hs : st.stack, h.root with
    | [r], _ => simp [closeCount_nil, sCloseN]
    | t :: b :: rest, _ => simp [hs] at hl
  | fuel + 1, st, h, hl => by
    by_cases hc : cnt cfg st.stack name = 0
    · rw [popLoop_closed h hc, closeCount_eq_zero _ _ _ ((cnt_eq_zero_iff hn h.root).mp hc)]; rfl
    · obtain ⟨top, below, rest, hs, he⟩ := popLoop_open h hc pfx fuel
      have hp := h.popTag top below rest hs
      have hps := popTag_stack st top below rest hs
      have hr : RootLast cfg (below :: rest) := by have := h.root; rwa [hs] at this
      rw [he, hs, List.dropLast_cons_cons, closeCount_cons]
      split
      · rw [hps, hs]; rfl
      · have hfuel : (popTag st).stack.length ≤ fuel + 1 := by
          rw [hs, List.length_cons] at hl
          rw [hps, hs]
          exact Nat.le_of_succ_le_succ hl
        have ih := popLoop_stack pfx hn fuel hp hfuel
        rw [ih, hps, hs]
        simp only [sClose1, closeCount_dropLast_setKids]
        by_cases ha : (below :: rest).dropLast.any (fun g => g.name == name) = true
        · rw [if_pos ha, Nat.add_comm]; rfl
        · -- `top` is the outermost frame of that name
          have ha' := Bool.eq_false_iff.mpr ha
          rw [hs, cnt_cons, (cnt_eq_zero_iff hn hr).mpr ha'] at hc
          have ht : top.name = name := Classical.byContradiction fun ht => hc (by rw [if_neg (fun e => ht e.1)])
          rw [if_neg ha, closeCount_eq_zero _ _ _ ha']
          simp [ht, sCloseN, sClose1]

theorem popToTag_stack {cfg : Cfg} {st : St} (h : Inv cfg st) (name : Name) (pfx : Option Name) :
    (popToTag cfg st name pfx).stack =
      if name == cfg.rootName then st.stack
      else sCloseN (closeCount name pfx st.stack.dropLast) st.stack := by
  unfold popToTag
  split
  · rfl
  · rename_i hn
    exact popLoop_stack pfx (by simpa using hn) _ h (by have := h.stack_pos; omega)

theorem popLoop_buf (name : Name) (pfx : Option Name) (fuel : Nat) (st : St) :
    (popLoop st name pfx fuel).buf = st.buf := by
  fun_induction popLoop st name pfx fuel with
  | case5 => exact popTag_buf _   -- the match is popped
  | case6 =>                      -- another frame is popped
    rename_i ih
    rw [ih, popTag_buf]
  | _ => rfl                      -- early exits

theorem popToTag_buf (cfg : Cfg) (st : St) (name : Name) (pfx : Option Name) :
    (popToTag cfg st name pfx).buf = st.buf := by
  unfold popToTag; split
  · rfl
  · exact popLoop_buf name pfx _ st

theorem closeCount_noprefix (name : Name) (s : List Frame) (hp : ∀ f ∈ s, f.pfx = none) :
    closeCount name none s =
      match s.findIdx? (fun f => f.name == name) with
      | some i => i + 1
      | none => 0 := by
  have e : s.findIdx? (fun f => f.name == name && f.pfx == none) = s.findIdx? (fun f => f.name == name) := by
    induction s with
    | nil => rfl
    | cons f rest ih =>
      have h1 : f.pfx = none := hp f (by simp)
      have h2 := ih (fun g hg => hp g (by simp [hg]))
      simp only [List.findIdx?_cons, h1, h2]
      simp
  simp only [closeCount, e]
  cases hi : s.findIdx? (fun f => f.name == name) with
  | some i => rfl
  | none =>
    have : s.reverse.findIdx? (fun f => f.name == name) = none := by
      rw [List.findIdx?_eq_none_iff] at hi ⊢
      intro x hx; exact hi x (by simpa using hx)
    simp [this]

end BS.Builder
