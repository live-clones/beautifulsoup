import BSModel.Proofs.HeapExtractStruct
/-! # Pillar 1: `PageElement.extract` preserves the invariant (cut witness) -/
namespace BS.Heap

/-- the cut heap is well-formed for the cut witness (the case where `x` has a parent) -/
theorem cut_wf {h h' : Heap} {w : Wit} {x p L : Nat} (hwf : WF h w) (hp : h.parent x = some p) (C : Cut h h' p x L)
    (hLt : w.tree L = w.tree x) (hLp : w.pos L + 1 = w.pos x + w.size x) : WF h' (cutWit w x) where
  size_pos := cut_size_pos hwf hp
  size_cap := fun n => by
    rw [C.cap]; exact Nat.le_trans (cut_size_le x n) (hwf.size_cap n)
  str_leaf := fun n hn => by
    rw [C.kind] at hn
    rw [C.kids_erase hwf hp, hwf.str_leaf n hn]; rfl
  tiles := fun n => by
    rw [C.kids_erase hwf hp]; exact cut_tiles hwf hp n
  kid_parent := fun n k hk => by
    obtain ⟨hk1, hk2⟩ := (C.mem_kids hwf hp n k).mp hk
    rw [C.parent, if_neg hk2]; exact hwf.kid_parent n k hk1
  kid_tree := fun n k hk => by
    obtain ⟨hk1, hk2⟩ := (C.mem_kids hwf hp n k).mp hk
    exact cut_kid_tree hwf hp n k hk1 hk2
  parent_kid := fun c q hc => by
    rw [C.parent] at hc
    by_cases hcx : c = x
    · simp [hcx] at hc
    · simp only [hcx, if_false] at hc
      exact (C.mem_kids hwf hp q c).mpr ⟨hwf.parent_kid c q hc, hcx⟩
  root_tree := fun r hr => by
    rw [C.parent] at hr; exact cut_root_tree hwf hp r hr
  tree_root := fun n => by
    rw [C.parent]; exact cut_tree_root hwf n
  bound := cut_bound hwf hp
  inj := cut_inj hwf hp
  laminar := cut_laminar hwf hp
  chain_ne := fun a b => (cut_elems hwf hp C hLt hLp a b).1
  chain_pe := fun a b => (cut_elems hwf hp C hLt hLp a b).2
  sib_ns := fun a b => (cut_sibs hwf hp C a b).1
  sib_ps := fun a b => (cut_sibs hwf hp C a b).2
  unl_soup := fun r hr => by
    have := hwf.unl_soup r hr
    rw [C.kind, C.parent]
    refine ⟨this.1, ?_⟩
    split
    · rfl
    · exact this.2
  soup_root := fun n hn => by
    rw [C.kind] at hn
    rw [C.parent]
    split
    · rfl
    · exact hwf.soup_root n hn
  fresh := fun n hn => by
    rw [C.next] at hn
    have := hwf.fresh n hn
    rw [C.parent]
    refine ⟨?_, ?_, this.2.2⟩
    · split
      · rfl
      · exact this.1
    · rw [C.kids_erase hwf hp, this.2.1]; rfl

/-! ## the case where `x` is a root: `extract` changes nothing -/

theorem setPe_self (h : Heap) (i : Nat) (v : Option Nat) (hv : h.pe i = v) : setPe h i v = h := by
  cases h; simp only [setPe] at *; congr; funext j; split <;> simp_all
theorem setNe_self (h : Heap) (i : Nat) (v : Option Nat) (hv : h.ne i = v) : setNe h i v = h := by
  cases h; simp only [setNe] at *; congr; funext j; split <;> simp_all
theorem setPs_self (h : Heap) (i : Nat) (v : Option Nat) (hv : h.ps i = v) : setPs h i v = h := by
  cases h; simp only [setPs] at *; congr; funext j; split <;> simp_all
theorem setNs_self (h : Heap) (i : Nat) (v : Option Nat) (hv : h.ns i = v) : setNs h i v = h := by
  cases h; simp only [setNs] at *; congr; funext j; split <;> simp_all
theorem setParent_self (h : Heap) (i : Nat) (v : Option Nat) (hv : h.parent i = v) : setParent h i v = h := by
  cases h; simp only [setParent] at *; congr; funext j; split <;> simp_all

theorem extract_root_id {h : Heap} {w : Wit} {x : Nat} (hwf : WF h w) (hp : h.parent x = none) :
    extract h x = .ok h := by
  obtain ⟨h1, h2, h3, h4⟩ := root_links hwf hp
  have e1 : relinkElems h x (lastDown h h.cap x) = h := by
    unfold relinkElems
    simp only [h1, h2, ne_eq, not_true_eq_false, false_and, if_false]
    rw [setPe_self h x none h1, setNe_self h _ none h2]
  have e2 : relinkSibs h x = h := by
    unfold relinkSibs
    simp only [h3, h4, ne_eq, not_true_eq_false, false_and, if_false]
    rw [setPs_self h x none h3, setNs_self h x none h4]
  unfold extract
  simp only [hp, lastDescendant, h4, if_true]
  rw [e1, setParent_self h x none hp, e2]

theorem cutWit_root {h : Heap} {w : Wit} {x : Nat} (hwf : WF h w) (hp : h.parent x = none) :
    cutWit w x = w := by
  obtain ⟨hr1, hr2⟩ := hwf.root_tree x hp
  have key : ∀ m, (cutWit w x).tree m = w.tree m ∧ (cutWit w x).pos m = w.pos m ∧
      (cutWit w x).size m = w.size m := by
    intro m
    have hb := hwf.bound m
    have hsm := hwf.size_pos m
    by_cases ht : w.tree m = w.tree x
    · -- `x`'s tree is the whole segment
      rw [hr1] at ht
      have := cut_in hwf x m ⟨ht.trans hr1.symm, by omega, by rw [ht] at hb; omega⟩
      omega
    · exact cut_other x m ht
  cases w
  simp only [cutWit, Wit.mk.injEq, and_true]
  exact ⟨funext fun m => (key m).1, funext fun m => (key m).2.1, funext fun m => (key m).2.2⟩

/-- **Pillar 1**: `extract` on a well-formed heap -/
theorem extract_spec : ExtractSpec := by
  intro h w x hwf
  cases hp : h.parent x with
  | none =>
    refine ⟨h, extract_root_id hwf hp, ?_, ?_, ?_, rfl, rfl, rfl, rfl⟩
    · rw [cutWit_root hwf hp]; exact hwf
    · intro n; simp
    · intro n
      split
      · next e => subst e; exact hp
      · rfl
  | some p =>
    obtain ⟨hLt, hLp, _⟩ := last_facts h w hwf x
    have C := cutHeap_cut h p x (lastDown h h.cap x)
    refine ⟨_, extract_child h w hwf x p hp, cut_wf hwf hp C hLt hLp, ?_, C.parent, C.kind, C.val, C.next, C.cap⟩
    intro n
    rw [C.kids]
    by_cases hn : n = p
    · subst hn; simp
    · have : ¬ (some p = some n) := fun e => hn (Option.some.inj e).symm
      simp [hn, this]

/-- the extracted element is detached on all four sides -/
theorem extract_detached {h h' : Heap} {w : Wit} {x : Nat} (hwf : WF h w) (he : extract h x = .ok h') :
    h'.parent x = none ∧ h'.ps x = none ∧ h'.ns x = none ∧ h'.pe x = none := by
  obtain ⟨h'', he', hwf', -, hpar, -⟩ := extract_spec h w x hwf
  cases he.symm.trans he'
  have hp : h'.parent x = none := (hpar x).trans (if_pos rfl)
  obtain ⟨h1, -, h3, h4⟩ := root_links hwf' hp
  exact ⟨hp, h3, h4, h1⟩

end BS.Heap
