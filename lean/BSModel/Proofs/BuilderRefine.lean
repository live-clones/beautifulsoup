import BSModel.Proofs.BuilderPop
/-! # C03: `abs` (forget counter and context stacks) commutes with every event and the closing phase -/
namespace BS.Builder

def abs (st : St) : SSt := ⟨st.stack, st.buf⟩

theorem pd_isEmpty (cfg : Cfg) (s : List Frame) : (pd cfg s).isEmpty = !(preserving cfg s) := by
  -- nil, frame listed, frame skipped
  fun_induction pd cfg s with
  | case1 => rfl
  | case2 f rest hp _ => simp [preserving, hp]
  | case3 f rest hp ih => simpa [preserving, hp] using ih

/-- the container class of the nearest enclosing string-container element -/
def nearest (cfg : Cfg) (s : List Frame) : Option Cls :=
  (s.find? (fun f => (cfg.container f.name).isSome)).bind (fun f => cfg.container f.name)

theorem classFor_eq (cfg : Cfg) (s : List Frame) (base : Option Cls) :
    classFor cfg s base = if base.getD 0 = 0 then (nearest cfg s).getD 0 else base.getD 0 := by
  cases base with
  | none => simp [classFor, nearest]
  | some c => simp only [classFor, nearest, Option.getD_some]

/-- the `match` is `stringContainer`'s -/
theorem sd_head (cfg : Cfg) (s : List Frame) (c : Cls) :
    (match sd cfg s with
      | (_, n) :: _ => if c = 0 then (cfg.container n).getD c else c
      | [] => c) = if c = 0 then (nearest cfg s).getD 0 else c := by
  fun_induction sd cfg s with
  | case1 => simp [nearest]
  | case2 f rest hc _ =>
    simp only [nearest, List.find?_cons, hc, Option.bind_some]
    split <;> simp_all
  | case3 f rest hc ih =>
    have e : nearest cfg (f :: rest) = nearest cfg rest := by simp [nearest, hc]
    rw [e, ih]

theorem stringContainer_eq {cfg : Cfg} {st : St} (h : st.scs = sd cfg st.stack) (cls : Option Cls) :
    stringContainer cfg st cls = classFor cfg st.stack cls := by
  simp only [stringContainer, h, classFor_eq]
  exact sd_head cfg st.stack _

theorem abs_endData {cfg : Cfg} {st : St} (h : Inv cfg st) (cls : Option Cls) :
    abs (endData cfg st cls) = sFlush cfg (abs st) cls := by
  have hne := h.root.ne_nil
  have hsc := stringContainer_eq h.scs cls
  have hpw : st.pws.isEmpty = !(preserving cfg st.stack) := by rw [h.pws]; exact pd_isEmpty cfg _
  cases hb : st.buf with
  | nil => simp [endData, sFlush, abs, hb]
  | cons x xs =>
    cases hs : st.stack with
    | nil => exact absurd hs hne
    | cons top rest =>
      rw [hs] at hsc hpw
      simp only [endData, sFlush, abs, hb, hs, hsc, hpw, List.isEmpty_cons, Bool.false_eq_true, if_false]
      cases hpr : preserving cfg (top :: rest) <;> simp

theorem abs_step {cfg : Cfg} {st : St} (h : Inv cfg st) (ev : Ev) :
    abs (step cfg st ev) = sStep cfg (abs st) ev := by
  cases ev with
  | start name pfx =>
    have := abs_endData h none
    simp only [step, sStep, ← this]
    simp [abs, pushTag]
  | stop name pfx =>
    have he := abs_endData h none
    have hi := h.endData none
    simp only [step, sStep, ← he]
    have h1 := popToTag_stack hi name pfx
    have h2 := popToTag_buf cfg (endData cfg st none) name pfx
    simp only [abs] at h1 h2 ⊢
    rw [h1, h2]
    split <;> rfl
  | data s => rfl
  | endData cls => exact abs_endData h cls

theorem abs_run {cfg : Cfg} (evs : List Ev) : ∀ {st : St}, Inv cfg st →
    abs (run cfg st evs) = sRun cfg (abs st) evs := by
  induction evs with
  | nil => intro st _; rfl
  | cons e es ih =>
    intro st h
    simp only [run, sRun, List.foldl_cons] at ih ⊢
    rw [← abs_step h e]
    exact ih (h.step e)

theorem sClose1_length (s : List Frame) : (sClose1 s).length = if s.length ≤ 1 then s.length else s.length - 1 := by
  match s with
  | [] => rfl
  | [_] => rfl
  | _ :: _ :: _ => simp [sClose1]

theorem closeAll_spec {cfg : Cfg} (fuel : Nat) {st : St} (h : Inv cfg st) (hl : st.stack.length ≤ fuel + 1) :
    Inv cfg (closeAll st fuel) ∧ (closeAll st fuel).stack = sCloseN (st.stack.length - 1) st.stack ∧
      (closeAll st fuel).buf = st.buf := by
  -- no fuel; two frames: pop; at most one frame
  fun_induction closeAll st fuel with
  | case1 st =>
    have : st.stack.length - 1 = 0 := by omega
    simp [this, sCloseN, h]
  | case2 st fuel t b rest hs ih =>
    have hps := popTag_stack st t b rest hs
    have hlen : (popTag st).stack.length = st.stack.length - 1 := by rw [hps, sClose1_length, hs]; simp
    obtain ⟨hinv, hstack, hbuf⟩ := ih (h.popTag t b rest hs) (by omega)
    refine ⟨hinv, ?_, by rw [hbuf, popTag_buf]⟩
    rw [hstack, hlen, hps, hs]
    rfl
  | case3 st fuel hs =>
    have : st.stack.length - 1 = 0 := by
      match hst : st.stack with
      | [] => rfl
      | [_] => rfl
      | a :: b :: r => exact absurd hst (hs a b r)
    simp [this, sCloseN, h]

theorem sCloseN_length : ∀ (k : Nat) (s : List Frame), (sCloseN k s).length = s.length - min k (s.length - 1)
  | 0, s => by rw [sCloseN, Nat.zero_min, Nat.sub_zero]
  | k + 1, [] => by rw [sCloseN, sCloseN_length k]; simp [sClose1]
  | k + 1, [a] => by rw [sCloseN, sCloseN_length k]; simp [sClose1]
  | k + 1, a :: b :: r => by
    rw [sCloseN, sCloseN_length k]
    simp only [sClose1, List.length_cons, Nat.add_sub_cancel, Nat.succ_min_succ]
    omega

theorem endData_buf (cfg : Cfg) (st : St) (cls : Option Cls) : (endData cfg st cls).buf = [] := by
  unfold endData
  by_cases hb : st.buf.isEmpty = true
  · rw [if_pos hb]; simpa using hb
  · rw [if_neg hb]
    cases hs : st.stack <;> rfl

theorem finish_spec {cfg : Cfg} {st : St} (h : Inv cfg st) :
    Inv cfg (finish cfg st) ∧
    (finish cfg st).stack =
      sCloseN ((sFlush cfg (abs st) none).stack.length - 1) (sFlush cfg (abs st) none).stack ∧
    (finish cfg st).buf = [] := by
  have hi := h.endData none
  have ha := abs_endData h none
  obtain ⟨hinv, hstack, hbuf⟩ := closeAll_spec (endData cfg st none).stack.length hi (by omega)
  simp only [finish]
  refine ⟨hinv, ?_, ?_⟩
  · rw [hstack, ← ha]; rfl
  · rw [hbuf, endData_buf]

theorem build_eq_buildSpec {cfg : Cfg} (hc : CfgOK cfg) (evs : List Ev) : build cfg evs = buildSpec cfg evs := by
  have hi := Inv.reachable hc evs
  have hr := abs_run evs (Inv.init hc)
  obtain ⟨_, hstack, _⟩ := finish_spec hi
  simp only [build, buildSpec, result, hstack, hr]
  rfl

theorem pd_sd_single {cfg : Cfg} (hc : CfgOK cfg) : ∀ {s : List Frame}, RootLast cfg s → s.length = 1 →
    pd cfg s = [] ∧ sd cfg s = []
  | [r], h, _ => by
    simp only [RootLast] at h
    simp [pd, sd, h.1, hc.1, hc.2]
  | [], h, _ => by simp [RootLast] at h
  | _ :: _ :: _, _, hl => by simp at hl

theorem finish_closed {cfg : Cfg} (hc : CfgOK cfg) {st : St} (h : Inv cfg st) :
    (finish cfg st).stack.length = 1 ∧ (finish cfg st).pws = [] ∧ (finish cfg st).scs = [] ∧
      (finish cfg st).buf = [] := by
  obtain ⟨hinv, hstack, hbuf⟩ := finish_spec h
  have hne : (sFlush cfg (abs st) none).stack ≠ [] := by
    rw [← abs_endData h none]; exact (h.endData none).root.ne_nil
  have hl : (finish cfg st).stack.length = 1 := by
    rw [hstack, sCloseN_length, Nat.min_self, Nat.sub_sub_self (List.length_pos_iff.mpr hne)]
  obtain ⟨hpd, hsd⟩ := pd_sd_single hc hinv.root hl
  exact ⟨hl, by rw [hinv.pws, hpd], by rw [hinv.scs, hsd], hbuf⟩

theorem parseLoop_eq (cfg : Cfg) (st : St) (atts : List Attempt) :
    parseLoop cfg st atts = (atts.find? (fun a => !a.rejected)).map (fun a => build cfg a.evs) := by
  induction atts generalizing st with
  | nil => rfl
  | cons a rest ih =>
    rw [parseLoop, List.find?_cons]
    cases a.rejected
    · rfl
    · exact ih _

end BS.Builder
