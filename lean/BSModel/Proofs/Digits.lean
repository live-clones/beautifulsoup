import BSModel.Model.Writer
/-! Positional numerals. `Writer.digits` is the loop; `Attrs.natDigits`, `EncodingOut.toDecAux` are it with an accumulator
    (`digits_acc`), `decDigits` (Proofs/AdapterRefs) is it at base 10. -/
namespace BS.Writer

/-- the fold inside `Adapter.parseDigits`; `dv`: the checked value of a digit -/
def pfold (base : Nat) (dv : Nat → Option Nat) (acc : Option Nat) (s : PStr) : Option Nat :=
  s.foldl (fun acc c => match acc, dv c with | some a, some d => some (a * base + d) | _, _ => none) acc

theorem parseDigits_eq (base : Nat) (dv : Nat → Option Nat) (s : PStr) (h : s ≠ []) :
    BS.Adapter.parseDigits base dv s = pfold base dv (some 0) s := by
  cases s with
  | nil => exact absurd rfl h
  | cons c cs => rfl

theorem pfold_append (base : Nat) (dv : Nat → Option Nat) (acc : Option Nat) (s t : PStr) :
    pfold base dv acc (s ++ t) = pfold base dv (pfold base dv acc s) t := by
  simp [pfold, List.foldl_append]

theorem pfold_single (base : Nat) (dv : Nat → Option Nat) (a d c : Nat) (h : dv c = some d) :
    pfold base dv (some a) [c] = some (a * base + d) := by
  simp [pfold, h]

theorem div_lt_pow {base n f : Nat} (h : n < base ^ (f + 1)) : n / base < base ^ f :=
  Nat.div_lt_of_lt_mul (by rwa [Nat.pow_succ, Nat.mul_comm] at h)

theorem pfold_digits (base : Nat) (dig : Nat → Nat) (hb : 1 < base) (dv : Nat → Option Nat)
    (hd : ∀ k, k < base → dv (dig k) = some k) :
    ∀ fuel n, n < base ^ fuel → pfold base dv (some 0) (digits base dig fuel n) = some n
  | 0, n, hn => by simp at hn; subst hn; rfl
  | f + 1, n, hn => by
    rw [digits]
    split
    · next h => simp [pfold, hd n h]
    · rw [pfold_append, pfold_digits base dig hb dv hd f _ (div_lt_pow hn),
        pfold_single base dv _ _ _ (hd _ (Nat.mod_lt _ (by omega)))]
      exact congrArg some (Nat.div_add_mod' n base)

/-- without the check the fold is an ordinary one -/
theorem pfold_some (base : Nat) (val : Nat → Nat) : ∀ (s : PStr) (a : Nat),
    pfold base (fun c => some (val c)) (some a) s = some (s.foldl (fun a d => a * base + val d) a)
  | [], _ => rfl
  | c :: s, a => pfold_some base val s (a * base + val c)

theorem foldl_digits (base : Nat) (dig : Nat → Nat) (hb : 1 < base) (val : Nat → Nat) (hv : ∀ k, k < base → val (dig k) = k)
    (fuel n : Nat) (hn : n < base ^ fuel) : (digits base dig fuel n).foldl (fun a d => a * base + val d) 0 = n :=
  Option.some.inj <| (pfold_some base val _ 0).symm.trans <|
    pfold_digits base dig hb _ (fun k hk => congrArg some (hv k hk) :) fuel n hn

theorem digits_ne_nil (base : Nat) (dig : Nat → Nat) (f n : Nat) : digits base dig (f + 1) n ≠ [] := by
  simp only [digits]
  split <;> simp

theorem digits_mem (base : Nat) (dig : Nat → Nat) (P : Nat → Prop) (hb : 0 < base) (hP : ∀ k, k < base → P (dig k))
    (fuel n : Nat) : ∀ x ∈ digits base dig fuel n, P x := by
  fun_induction digits base dig fuel n with
  | case1 => simp
  | case2 fuel n hlt => simpa using hP n hlt
  | case3 fuel n _ ih =>
    exact List.forall_mem_append.mpr ⟨ih, by simpa using hP _ (Nat.mod_lt _ hb)⟩

/-- fuel `n + 1` suffices -/
theorem lt_pow_succ_self (base n : Nat) (hb : 1 < base) : n < base ^ (n + 1) :=
  Nat.lt_trans (Nat.lt_succ_self n) (Nat.lt_pow_self hb)

theorem digits_acc (base : Nat) (dig : Nat → Nat) (g : Nat → Nat → PStr → PStr) (h0 : ∀ n acc, g 0 n acc = acc)
    (hs : ∀ f n acc, g (f + 1) n acc = if n < base then dig n :: acc else g f (n / base) (dig (n % base) :: acc)) :
    ∀ f n acc, g f n acc = digits base dig f n ++ acc
  | 0, n, acc => h0 n acc
  | f + 1, n, acc => by
    rw [hs, digits]
    split
    · rfl
    · rw [digits_acc base dig g h0 hs f, List.append_assoc]; rfl

theorem digits_head (base : Nat) (dig : Nat → Nat) (hb : 1 < base) (h0 : ∀ k, 0 < k → k < base → dig k ≠ dig 0) :
    ∀ f n, n < base ^ f → n ≠ 0 → ∃ c rest, digits base dig f n = c :: rest ∧ c ≠ dig 0
  | 0, n, h, hn => by simp at h; omega
  | f + 1, n, h, hn => by
    rw [digits]
    split
    · next hlt => exact ⟨_, [], rfl, h0 n (by omega) hlt⟩
    · next hge =>
      obtain ⟨c, rest, e, hc⟩ := digits_head base dig hb h0 f (n / base) (div_lt_pow h)
        (Nat.div_ne_zero_iff.2 ⟨by omega, by omega⟩)
      exact ⟨c, rest ++ [dig (n % base)], by simp [e], hc⟩

/-- for any fuel: fuel only cuts digits off -/
theorem digits_length (base : Nat) (dig : Nat → Nat) : ∀ f n k, n < base ^ (k + 1) → (digits base dig f n).length ≤ k + 1
  | 0, _, _, _ => by simp [digits]
  | f + 1, n, k, h => by
    rw [digits]
    split
    · simp
    · cases k with
      | zero => simp at h; omega
      | succ k =>
        have := digits_length base dig f (n / base) k (div_lt_pow h)
        simp only [List.length_append, List.length_singleton]; omega

theorem pfold_zeros (base : Nat) (dv : Nat → Option Nat) (h0 : dv 48 = some 0) :
    ∀ z, pfold base dv (some 0) (List.replicate z 48) = some 0 := by
  intro z
  induction z with
  | zero => rfl
  | succ z ih =>
    rw [List.replicate_succ']
    rw [pfold_append, ih, pfold_single base dv 0 0 48 h0]; simp

/-- `decName`, and `hexName` after its `x`, at fuel `n + 1` -/
def zdigits (base : Nat) (dig : Nat → Nat) (z fuel n : Nat) : PStr := List.replicate z 48 ++ digits base dig fuel n

theorem zdigits_mem (base : Nat) (dig : Nat → Nat) (P : Nat → Prop) (hb : 0 < base) (h0 : P 48) (hP : ∀ k, k < base → P (dig k))
    (z fuel n : Nat) : ∀ x ∈ zdigits base dig z fuel n, P x := by
  intro x hx
  rcases List.mem_append.mp hx with h | h
  · rw [List.eq_of_mem_replicate h]; exact h0
  · exact digits_mem base dig P hb hP _ _ x h

theorem zdigits_ne_nil (base : Nat) (dig : Nat → Nat) (z f n : Nat) : zdigits base dig z (f + 1) n ≠ [] :=
  fun h => digits_ne_nil base dig f n (List.append_eq_nil_iff.mp h).2

theorem parse_zdigits (base : Nat) (dig : Nat → Nat) (dv : Nat → Option Nat) (hb : 1 < base) (h0 : dv 48 = some 0)
    (hd : ∀ k, k < base → dv (dig k) = some k) (z f n : Nat) (hn : n < base ^ (f + 1)) :
    BS.Adapter.parseDigits base dv (zdigits base dig z (f + 1) n) = some n := by
  rw [parseDigits_eq base dv _ (zdigits_ne_nil base dig z f n), zdigits, pfold_append, pfold_zeros base dv h0 z]
  exact pfold_digits base dig hb dv hd (f + 1) n hn

end BS.Writer
