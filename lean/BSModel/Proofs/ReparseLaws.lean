import BSModel.Proofs.ReparseIdem
/-! C05 helper lemmas: what the normal form keeps of a forest — the elements and their nesting, every visible
    character of text in document order, every special string. -/
namespace BS.Render

mutual
/-- the forest with everything but the elements (by the name a re-parse reads) and their nesting forgotten -/
def skelN : Node → List Node
  | .tag i ks => [.tag ⟨fullName i, none, [], false, false⟩ (skelL ks)]
  | .str _ _ => []
def skelL : List Node → List Node
  | [] => []
  | n :: ns => skelN n ++ skelL ns
end

theorem skelL_append : ∀ (a b : List Node), skelL (a ++ b) = skelL a ++ skelL b
  | [], b => by simp [skelL]
  | x :: xs, b => by simp [skelL, skelL_append xs b, List.append_assoc]

theorem skelL_txt (p : PCfg) (ctx : Ctx) (b : List PStr) : skelL (txt p ctx b) = [] := by
  cases b <;> simp [txt, skelL, skelN]

mutual
theorem skel_absorb (p : PCfg) (f : Fmt) : ∀ (ds : List Node) (ctx : Ctx) (b : List PStr),
    skelL (absorb p f ctx b ds).1 = skelL ds
  | [] => by
    intro _ _
    simp [absorb_nil, skelL]
  | d :: ds => by
    intro ctx b
    rw [absorb_cons]
    simp only [skelL_append, skel_absorb1 p f d ctx b, skel_absorb p f ds ctx _, skelL]
theorem skel_absorb1 (p : PCfg) (f : Fmt) : ∀ (d : Node) (ctx : Ctx) (b : List PStr),
    skelL (absorb1 p f ctx b d).1 = skelN d
  | .str c s => by
    intro ctx b
    simp only [absorb1, skelN]
    cases strKind c s with
    | text t => simp [skelL]
    | special c' s' nl => simp [skelL_append, skelL_txt, skelL, skelN]
  | .tag i ks => by
    intro ctx b
    simp only [absorb1_tag, normIn, skelL_append, skelL_txt, skelL, skelN, fullName_normInfo, skel_absorb p f ks,
      List.nil_append, List.append_nil]
end

/-- **same elements**: the normal form has the same elements in the same nesting and order -/
theorem skel_normalise (p : PCfg) (f : Fmt) (ds : List Node) : skelL (normaliseL p f ds) = skelL ds := by
  simp only [normaliseL, skelL_append, skelL_txt, skel_absorb, List.append_nil]

/-- the visible characters of a string: everything but ASCII whitespace -/
def inkS (p : PCfg) (s : PStr) : PStr := s.filter fun c => !p.asciiSpaces.contains c

mutual
/-- the visible characters of all character data below a node, in document order -/
def inkN (p : PCfg) : Node → PStr
  | .tag _ ks => inkL p ks
  | .str c s =>
    match strKind c s with
    | .text t => inkS p t
    | .special _ _ _ => []
def inkL (p : PCfg) : List Node → PStr
  | [] => []
  | n :: ns => inkN p n ++ inkL p ns
end

theorem inkL_append (p : PCfg) : ∀ (a b : List Node), inkL p (a ++ b) = inkL p a ++ inkL p b
  | [], b => by simp [inkL]
  | x :: xs, b => by simp [inkL, inkL_append p xs b, List.append_assoc]

theorem inkS_append (p : PCfg) (a b : PStr) : inkS p (a ++ b) = inkS p a ++ inkS p b := by simp [inkS]

theorem inkS_sp (p : PCfg) (s : PStr) (h : s.all (fun c => p.asciiSpaces.contains c) = true) : inkS p s = [] := by
  simp only [inkS, List.filter_eq_nil_iff]
  intro c hc
  have := (List.all_eq_true.mp h) c hc
  simpa using this

theorem inkS_wsRule (p : PCfg) (h10 : p.asciiSpaces.contains 10 = true) (h32 : p.asciiSpaces.contains 32 = true)
    (pres : Bool) (s : PStr) : inkS p (wsRule p pres s) = inkS p s := by
  unfold wsRule
  split
  · rename_i hc
    have hs : s.all (fun c => p.asciiSpaces.contains c) = true := by
      simp only [Bool.and_eq_true] at hc; exact hc.2
    rw [inkS_sp p s hs]
    have h10' : 10 ∈ p.asciiSpaces := by simpa using h10
    have h32' : 32 ∈ p.asciiSpaces := by simpa using h32
    split <;> simp [inkS, h10', h32']
  · rfl

theorem inkL_txt (p : PCfg) (h10 : p.asciiSpaces.contains 10 = true) (h32 : p.asciiSpaces.contains 32 = true)
    (ctx : Ctx) (hctx : CtxOK ctx) (b : List PStr) : inkL p (txt p ctx b) = inkS p (concatL b) := by
  cases b with
  | nil => simp [txt, inkL, concatL, inkS]
  | cons x xs =>
    rw [txt_cons]
    simp [inkL, inkN, strKind_text _ hctx, inkS_wsRule p h10 h32]

mutual
theorem ink_absorb (p : PCfg) (f : Fmt) (hc : contOK p = true) (h10 : p.asciiSpaces.contains 10 = true)
    (h32 : p.asciiSpaces.contains 32 = true) : ∀ (ds : List Node) (ctx : Ctx) (b : List PStr), CtxOK ctx →
    inkL p (absorb p f ctx b ds).1 ++ inkS p (concatL (absorb p f ctx b ds).2) = inkS p (concatL b) ++ inkL p ds
  | [] => by
    intro _ _ _
    simp [absorb_nil, inkL]
  | d :: ds => by
    intro ctx b hctx
    rw [absorb_cons]
    simp only [inkL_append, inkL, List.append_assoc]
    rw [ink_absorb p f hc h10 h32 ds ctx _ hctx, ← List.append_assoc, ink_absorb1 p f hc h10 h32 d ctx b hctx,
      List.append_assoc]
theorem ink_absorb1 (p : PCfg) (f : Fmt) (hc : contOK p = true) (h10 : p.asciiSpaces.contains 10 = true)
    (h32 : p.asciiSpaces.contains 32 = true) : ∀ (d : Node) (ctx : Ctx) (b : List PStr), CtxOK ctx →
    inkL p (absorb1 p f ctx b d).1 ++ inkS p (concatL (absorb1 p f ctx b d).2) = inkS p (concatL b) ++ inkN p d
  | .str c s => by
    intro ctx b hctx
    simp only [absorb1, inkN]
    cases hk : strKind c s with
    | text t =>
      by_cases he : t.isEmpty = true
      · have : t = [] := by simpa using he
        simp [this, inkL, inkS]
      · simp [he, inkL, concatL_snoc, inkS_append]
    | special c' s' nl =>
      have hfix := strKind_special_fix hk (wsRule p ctx.pres s')
      have h10' : 10 ∈ p.asciiSpaces := by simpa using h10
      -- the doctype's pending `"\n"` has no ink (`h10`)
      cases nl <;> simp [inkL_append, inkL_txt p h10 h32 ctx hctx, inkL, inkN, hfix, concatL, inkS, h10']
  | .tag i ks => by
    intro ctx b hctx
    have hctx' := ctxOK_push p hc ctx hctx (fullName i)
    -- the children with nothing pending, flushed at the end tag
    have hk := ink_absorb p f hc h10 h32 ks (pushCtx p ctx (fullName i)) [] hctx'
    simp only [concatL, inkS, List.filter_nil, List.nil_append] at hk
    simp only [absorb1, inkL_append, inkL_txt p h10 h32 ctx hctx, inkL, inkN, inkL_txt p h10 h32 _ hctx', concatL, List.append_nil]
    simp only [inkS] at hk ⊢
    rw [hk]
    simp
end

/-- **same text**: every visible character of the character data survives, in document order (what may change is
    ASCII whitespace: whitespace-only runs collapse, a newline follows a doctype) -/
theorem ink_normalise (p : PCfg) (f : Fmt) (hc : contOK p = true) (h10 : p.asciiSpaces.contains 10 = true)
    (h32 : p.asciiSpaces.contains 32 = true) (ds : List Node) : inkL p (normaliseL p f ds) = inkL p ds := by
  have hctx := ctxOK_root p hc
  have := ink_absorb p f hc h10 h32 ds (ctxOf p [rootFrame]) [] hctx
  simp only [normaliseL, inkL_append, inkL_txt p h10 h32 _ hctx]
  simpa [concatL, inkS] using this

mutual
/-- the special strings below a node as a re-parse classifies them, in document order -/
def specN : Node → List (SCls × PStr)
  | .tag _ ks => specL ks
  | .str c s =>
    match strKind c s with
    | .text _ => []
    | .special c' s' _ => [(c', s')]
def specL : List Node → List (SCls × PStr)
  | [] => []
  | n :: ns => specN n ++ specL ns
end

mutual
/-- the same with the whitespace rule of `endData` applied to each in its context (inside `<pre>`/`<textarea>`: as is) -/
def specCtxN (p : PCfg) (ctx : Ctx) : Node → List (SCls × PStr)
  | .tag i ks => specCtxL p (pushCtx p ctx (fullName i)) ks
  | .str c s =>
    match strKind c s with
    | .text _ => []
    | .special c' s' _ => [(c', wsRule p ctx.pres s')]
def specCtxL (p : PCfg) (ctx : Ctx) : List Node → List (SCls × PStr)
  | [] => []
  | n :: ns => specCtxN p ctx n ++ specCtxL p ctx ns
end

theorem specL_append : ∀ (a b : List Node), specL (a ++ b) = specL a ++ specL b
  | [], b => by simp [specL]
  | x :: xs, b => by simp [specL, specL_append xs b, List.append_assoc]

theorem specL_txt (p : PCfg) (ctx : Ctx) (hctx : CtxOK ctx) (b : List PStr) : specL (txt p ctx b) = [] := by
  cases b with
  | nil => simp [txt, specL]
  | cons x xs =>
    rw [txt_cons]
    simp [specL, specN, strKind_text _ hctx]

mutual
theorem spec_absorb (p : PCfg) (f : Fmt) (hc : contOK p = true) : ∀ (ds : List Node) (ctx : Ctx) (b : List PStr), CtxOK ctx →
    specL (absorb p f ctx b ds).1 = specCtxL p ctx ds
  | [] => by
    intro _ _ _
    simp [absorb_nil, specL, specCtxL]
  | d :: ds => by
    intro ctx b hctx
    rw [absorb_cons]
    simp only [specL_append, spec_absorb1 p f hc d ctx b hctx, spec_absorb p f hc ds ctx _ hctx, specCtxL]
theorem spec_absorb1 (p : PCfg) (f : Fmt) (hc : contOK p = true) : ∀ (d : Node) (ctx : Ctx) (b : List PStr), CtxOK ctx →
    specL (absorb1 p f ctx b d).1 = specCtxN p ctx d
  | .str c s => by
    intro ctx b hctx
    simp only [absorb1, specCtxN]
    cases hk : strKind c s with
    | text t => simp [specL]
    | special c' s' nl =>
      have hfix := strKind_special_fix hk (wsRule p ctx.pres s')
      simp [specL_append, specL_txt p ctx hctx, specL, specN, hfix]
  | .tag i ks => by
    intro ctx b hctx
    have hctx' := ctxOK_push p hc ctx hctx (fullName i)
    simp only [absorb1, specL_append, specL_txt p ctx hctx, specL, specN, specCtxN, specL_txt p _ hctx',
      spec_absorb p f hc ks _ [] hctx', List.nil_append, List.append_nil]
end

/-- **same special strings**: class by class and in order, with their content — a whitespace-only content collapsed
    once by the whitespace rule of its context -/
theorem spec_normalise (p : PCfg) (f : Fmt) (hc : contOK p = true) (ds : List Node) :
    specL (normaliseL p f ds) = specCtxL p (ctxOf p [rootFrame]) ds := by
  have hctx := ctxOK_root p hc
  simp only [normaliseL, specL_append, specL_txt p _ hctx, spec_absorb p f hc ds _ [] hctx, List.append_nil]

end BS.Render
