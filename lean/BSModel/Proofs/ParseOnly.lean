import BSModel.Model.ParseOnly
import BSModel.Proofs.BuilderBal
/-! # C16: the filtered machine in deep mode (a kept element is open) and in root mode -/
namespace BS.ParseOnly
open BS.Builder

theorem fRun_cons (cfg : Cfg) (f : Filt) (s : SSt) (e : Ev) (es : List Ev) :
    fRun cfg f s (e :: es) = fRun cfg f (fStep cfg f s e) es := rfl

theorem fRun_nil (cfg : Cfg) (f : Filt) (s : SSt) : fRun cfg f s [] = s := rfl

theorem fRun_append (cfg : Cfg) (f : Filt) (s : SSt) (a b : List Ev) :
    fRun cfg f s (a ++ b) = fRun cfg f (fRun cfg f s a) b := by
  simp [fRun, List.foldl_append]

theorem fFlush_deep (cfg : Cfg) (f : Filt) (top below : Frame) (rest : List Frame) (b : List PStr)
    (cls : Option Cls) :
    fFlush cfg f ⟨top :: below :: rest, b⟩ cls = sFlush cfg ⟨top :: below :: rest, b⟩ cls := by
  cases b with
  | nil => simp [fFlush, sFlush]
  | cons x xs => simp only [fFlush]

theorem fStep_deep (cfg : Cfg) (f : Filt) (top below : Frame) (rest : List Frame) (b : List PStr) (ev : Ev) :
    fStep cfg f ⟨top :: below :: rest, b⟩ ev = sStep cfg ⟨top :: below :: rest, b⟩ ev := by
  cases ev with
  | start n p => simp [fStep, sStep, fFlush_deep, sFlush_eq]
  | stop n p => simp only [fStep, sStep, fFlush_deep]
  | data s => rfl
  | endData c => simp only [fStep, sStep, fFlush_deep]

-- no `[]` arm: `1 ≤ 0`
theorem stepsAbove_fStep (cfg : Cfg) (f : Filt) : StepsAbove cfg 1 (fStep cfg f)
  | top, below :: rest, b, ev, _ => fStep_deep cfg f top below rest b ev

theorem deep_forest (cfg : Cfg) (f : Filt) (ds : List Doc) (hok : noRootL cfg ds = true)
    (top below : Frame) (rest : List Frame) (b : List PStr) :
    fRun cfg f ⟨top :: below :: rest, b⟩ (eventsL ds) =
      ⟨{ top with kids := top.kids ++ (absorb cfg ((top :: below :: rest).map (·.name)) b ds).1 } :: below :: rest,
        (absorb cfg ((top :: below :: rest).map (·.name)) b ds).2⟩ :=
  block_forest (stepsAbove_fStep cfg f) ds hok top (below :: rest) b (Nat.le_add_left ..)

/-- what a flush appends at the root under `CfgOK`: the collapsed run, if the filter allows it -/
def txtRoot (cfg : Cfg) (f : Filt) (b : List PStr) (cls : Option Cls) : List Doc :=
  match b with
  | [] => []
  | _ :: _ =>
    let s := wsVal cfg false b.flatten
    if f.allowString s then [Doc.text (cls.getD 0) s] else []

theorem classN_root {cfg : Cfg} (hc : CfgOK cfg) (cls : Option Cls) :
    classN cfg [cfg.rootName] cls = cls.getD 0 := by
  simp only [classN, List.find?_cons, hc.2, Option.isSome_none, List.find?_nil, Option.bind_none,
    Option.getD_none]
  split <;> simp_all

theorem txtRoot_eq_filter {cfg : Cfg} (hc : CfgOK cfg) (f : Filt) (b : List PStr) (cls : Option Cls) :
    txtRoot cfg f b cls =
      (txtN cfg [cfg.rootName] b cls).filter
        (fun d => match d with | .text _ s => f.allowString s | .elem _ _ _ => true) := by
  cases b with
  | nil => rfl
  | cons x xs =>
    simp only [txtRoot, txtN, classN_root hc, List.any_cons, hc.1, List.any_nil, Bool.or_false]
    generalize wsVal cfg false (x :: xs).flatten = v
    cases h : f.allowString v <;> simp [List.filter, h]

theorem fFlush_root {cfg : Cfg} (hc : CfgOK cfg) (f : Filt) (pfx : Option Name) (kids : List Doc)
    (b : List PStr) (cls : Option Cls) :
    fFlush cfg f ⟨[⟨cfg.rootName, pfx, kids⟩], b⟩ cls =
      ⟨[⟨cfg.rootName, pfx, kids ++ txtRoot cfg f b cls⟩], []⟩ := by
  cases b with
  | nil => simp [fFlush, txtRoot]
  | cons x xs =>
    have hp : preserving cfg [⟨cfg.rootName, pfx, kids⟩] = false := by simp [preserving, hc.1]
    have hcl : classFor cfg [⟨cfg.rootName, pfx, kids⟩] cls = cls.getD 0 := by
      rw [classFor_names]; exact classN_root hc cls
    simp only [fFlush, txtRoot, hp, hcl]
    change (if f.allowString (wsVal cfg false (x :: xs).flatten) = true then _ else _) = _
    cases h : f.allowString (wsVal cfg false (x :: xs).flatten)
    · simp only [Bool.false_eq_true, if_false, List.append_nil]
    · simp only [if_true]; rfl

mutual
/-- what the filtered machine appends to the BeautifulSoup object for a forest, and the text left pending,
    given the pending chunks `b` -/
def outer (cfg : Cfg) (f : Filt) : List PStr → List Doc → List Doc × List PStr
  | b, [] => ([], b)
  | b, d :: ds =>
    let r := outer1 cfg f b d
    let r2 := outer cfg f r.2 ds
    (r.1 ++ r2.1, r2.2)
def outer1 (cfg : Cfg) (f : Filt) : List PStr → Doc → List Doc × List PStr
  | b, .text c s =>
    if c = 0 then ([], b ++ [s]) else (txtRoot cfg f b none ++ txtRoot cfg f [s] (some c), [])
  | b, .elem n p ks =>
    if f.allowTag n p then
      -- kept: built exactly as the plain machine builds it below the root
      let r := absorb cfg [n, cfg.rootName] [] ks
      (txtRoot cfg f b none ++ [Doc.elem n p (r.1 ++ txtN cfg [n, cfg.rootName] r.2 none)], [])
    else
      -- dropped: its start tag flushes the pending text, its children are handled at the root, its end
      -- tag flushes again
      let r := outer cfg f [] ks
      (txtRoot cfg f b none ++ r.1 ++ txtRoot cfg f r.2 none, [])
end

mutual
theorem root_forest {cfg : Cfg} (hc : CfgOK cfg) (f : Filt) : ∀ (ds : List Doc), noRootL cfg ds = true →
    ∀ (pfx : Option Name) (kids : List Doc) (b : List PStr),
    fRun cfg f ⟨[⟨cfg.rootName, pfx, kids⟩], b⟩ (eventsL ds) =
      ⟨[⟨cfg.rootName, pfx, kids ++ (outer cfg f b ds).1⟩], (outer cfg f b ds).2⟩
  | [], _, pfx, kids, b => by simp [eventsL, fRun_nil, outer]
  | d :: ds, hok, pfx, kids, b => by
    simp only [noRootL, Bool.and_eq_true] at hok
    simp only [eventsL, fRun_append, outer]
    rw [root_doc hc f d hok.1 pfx kids b, root_forest hc f ds hok.2]
    simp [List.append_assoc]
theorem root_doc {cfg : Cfg} (hc : CfgOK cfg) (f : Filt) : ∀ (d : Doc), noRoot cfg d = true →
    ∀ (pfx : Option Name) (kids : List Doc) (b : List PStr),
    fRun cfg f ⟨[⟨cfg.rootName, pfx, kids⟩], b⟩ (events d) =
      ⟨[⟨cfg.rootName, pfx, kids ++ (outer1 cfg f b d).1⟩], (outer1 cfg f b d).2⟩
  | .text c s, _, pfx, kids, b => by
    by_cases h0 : c = 0
    · simp [events, outer1, h0, fRun_cons, fRun_nil, fStep]
    · simp only [events, outer1, h0, if_false, fRun_cons, fRun_nil, fStep, fFlush_root hc,
        List.nil_append, List.append_assoc]
  | .elem n p ks, hok, pfx, kids, b => by
    simp only [noRoot, Bool.and_eq_true, bne_iff_ne, ne_eq] at hok
    simp only [events, fRun_cons, fRun_append, fRun_nil]
    by_cases hf : f.allowTag n p = true
    · -- kept
      have h1 : fStep cfg f ⟨[⟨cfg.rootName, pfx, kids⟩], b⟩ (.start n p) =
          ⟨[⟨n, p, []⟩, ⟨cfg.rootName, pfx, kids ++ txtRoot cfg f b none⟩], []⟩ := by
        simp [fStep, fFlush_root hc, hf]
      rw [h1, deep_forest cfg f ks hok.2, fStep_deep]
      simp only [List.map_cons, List.map_nil, List.nil_append]
      rw [sStep_stop_top cfg n p _ _ [] _ hok.1]
      simp [outer1, hf, List.append_assoc]
    · -- dropped
      have hf' : f.allowTag n p = false := by simpa using hf
      have h1 : fStep cfg f ⟨[⟨cfg.rootName, pfx, kids⟩], b⟩ (.start n p) =
          ⟨[⟨cfg.rootName, pfx, kids ++ txtRoot cfg f b none⟩], []⟩ := by
        simp [fStep, fFlush_root hc, hf']
      rw [h1, root_forest hc f ks hok.2]
      simp only [fStep, fFlush_root hc]
      simp [closeCount, sCloseN, outer1, hf', List.append_assoc]
end

theorem fBuild_events {cfg : Cfg} (hc : CfgOK cfg) (f : Filt) (ds : List Doc) (hok : noRootL cfg ds = true) :
    fBuild cfg f (eventsL ds) = (outer cfg f [] ds).1 ++ txtRoot cfg f (outer cfg f [] ds).2 none := by
  simp only [fBuild]
  rw [root_forest hc f ds hok, fFlush_root hc]
  simp [sCloseN]

end BS.ParseOnly
