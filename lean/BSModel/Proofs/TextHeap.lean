import BSModel.Proofs.Text
import BSModel.Model.TextHeap
import BSModel.Proofs.HeapIter
/-! C13: text extraction over the pointer heap equals text extraction over the abstracted tree. -/
namespace BS.Text
open BS.Heap

theorem preL_map (g : Nat → Node) (l : List Nat) : preL (l.map g) = l.flatMap (fun k => preN (g k)) := by
  induction l with
  | nil => simp [preL]
  | cons k ks ih => simp [preL, ih]

theorem tagKeep_shallow_tag (h : Heap) (L : Labels) (t : Types) (s : Bool) (n : Nat) (hn : (h.kind n).isTag = true) :
    tagKeep t s (shallow h L n) = none := by
  simp [shallow, hn, tagKeep]

theorem preN_shallow (h : Heap) (L : Labels) (n : Nat) : preN (shallow h L n) = [shallow h L n] := by
  by_cases hn : (h.kind n).isTag = true <;> simp [shallow, hn, preN, preL]

theorem tagKeep_tag (t : Types) (s : Bool) (nm : PStr) (i : Interesting) (ks : List Node) :
    tagKeep t s (.tag nm i ks) = none := rfl

/-- the filter sees the same on the tree read off `kids` and on the walk; `hleaf`: non-tags have no children (`WF.str_leaf`) -/
theorem filterMap_pre_toNode (h : Heap) (L : Labels) (hleaf : ∀ n, (h.kind n).isTag = false → h.kids n = [])
    (t : Types) (s : Bool) : ∀ (f n : Nat),
    (preN (toNode h L f n)).filterMap (tagKeep t s) =
      (pre h.kids f n).filterMap (fun e => tagKeep t s (shallow h L e)) := by
  intro f
  induction f with
  | zero =>
    intro n
    show (preN (shallow h L n)).filterMap (tagKeep t s) = [n].filterMap (fun e => tagKeep t s (shallow h L e))
    rw [preN_shallow]
    simp only [List.filterMap_cons, List.filterMap_nil]
  | succ f ih =>
    intro n
    by_cases hn : (h.kind n).isTag = true
    · have h1 : toNode h L (f + 1) n = .tag (L.name n) (L.interesting n) ((h.kids n).map (toNode h L f)) := by
        simp [toNode, hn]
      have h2 : pre h.kids (f + 1) n = n :: (h.kids n).flatMap (pre h.kids f) := rfl
      rw [h1, h2, preN, List.filterMap_cons, tagKeep_tag, List.filterMap_cons, tagKeep_shallow_tag h L t s n hn]
      rw [preL_map, List.filterMap_flatMap, List.filterMap_flatMap]
      -- reduces the `match none with …` that `filterMap_cons` left
      show List.flatMap _ _ = List.flatMap _ _
      congr 1
      funext k
      exact ih k
    · have hn' : (h.kind n).isTag = false := by simpa using hn
      have hk := hleaf n hn'
      have h1 : toNode h L (f + 1) n = shallow h L n := by simp [toNode, shallow, hn']
      have h2 : pre h.kids (f + 1) n = [n] := by simp [pre, hk]
      rw [h1, h2, preN_shallow]
      simp only [List.filterMap_cons, List.filterMap_nil]

/-- **the tie**: on a consistent heap, `_all_strings` run over the `next_element` chase never fails and yields what
    the tree-level code-mirror yields on the tree read off the children lists -/
theorem allStringsHeap_eq_tree {h : Heap} {w : Wit} (hwf : WF h w) (main : List StrClass) (L : Labels) (strp : Bool)
    (types : TypesArg) (x : Nat) :
    allStringsHeap main h L strp types x = .ok (allStringsImpl main strp types (toNode h L h.cap x)) := by
  obtain ⟨c, hc⟩ := wf_cap_succ hwf
  unfold allStringsHeap
  by_cases hx : (h.kind x).isTag = true
  · simp only [hx, if_true, descendants_eq hwf x]
    rw [hc]
    simp only [toNode, hx, if_true, allStringsImpl, walk_eq_pre, pre, List.tail_cons]
    rw [preL_map, List.filterMap_flatMap, List.filterMap_flatMap]
    congr 2
    funext k
    exact (filterMap_pre_toNode h L hwf.str_leaf _ strp c k).symm
  · simp only [hx]
    rw [hc]
    simp [toNode, hx]

theorem filterMap_shallow (h : Heap) (L : Labels) (t : Types) (ds : List Nat) :
    ds.filterMap (fun e => tagKeep t false (shallow h L e)) =
      (ds.filter (fun e => !(h.kind e).isTag && t.keeps (L.cls e))).map h.val := by
  induction ds with
  | nil => rfl
  | cons e es ih =>
    simp only [List.filterMap_cons, List.filter_cons, ih]
    by_cases he : (h.kind e).isTag = true
    · simp [shallow, he, tagKeep]
    · cases hk : t.keeps (L.cls e) <;> simp [shallow, he, tagKeep, hk]

theorem toNode_fuel {h : Heap} {w : Wit} (hwf : WF h w) (L : Labels) :
    ∀ (f n : Nat), w.size n ≤ f + 1 → toNode h L (f + 1) n = toNode h L f n := by
  intro f
  induction f with
  | zero =>
    intro n hf
    have hk := wf_size_one_kids hwf (n := n) (by omega)
    by_cases hn : (h.kind n).isTag = true <;> simp [toNode, shallow, hn, hk]
  | succ f ih =>
    intro n hf
    by_cases hn : (h.kind n).isTag = true
    · simp only [toNode, hn, if_true]
      congr 1
      apply List.map_congr_left
      intro k hk
      have := wf_kid_lt hwf hk
      exact ih k (by omega)
    · simp [toNode, hn]

theorem toNode_unfold {h : Heap} {w : Wit} (hwf : WF h w) (L : Labels) (x : Nat) (hx : (h.kind x).isTag = true) :
    toNode h L h.cap x = .tag (L.name x) (L.interesting x) ((h.kids x).map (toNode h L h.cap)) := by
  obtain ⟨c, hc⟩ := wf_cap_succ hwf
  rw [hc]
  simp only [toNode, hx, if_true]
  congr 1
  apply List.map_congr_left
  intro k hk
  have := wf_kid_lt hwf hk
  have := hwf.size_cap x
  exact (toNode_fuel hwf L c k (by omega)).symm

theorem toNode_str {h : Heap} (L : Labels) (f x : Nat) (hx : (h.kind x).isTag = false) :
    toNode h L f x = .str (L.cls x) (h.val x) := by
  cases f <;> simp [toNode, shallow, hx]

theorem stringProp_toNode (h : Heap) (L : Labels) : ∀ (f n : Nat),
    stringProp (toNode h L f n) = (stringPropHeap h f n).map (fun s => (L.cls s, h.val s)) := by
  intro f
  induction f with
  | zero =>
    intro n
    by_cases hn : (h.kind n).isTag = true
    · simp [toNode, shallow, hn, stringProp, stringPropL, stringPropHeap]
    · simp [toNode, shallow, hn, stringProp, stringPropHeap]
  | succ f ih =>
    intro n
    by_cases hn : (h.kind n).isTag = true
    · simp only [toNode, hn, if_true, stringProp]
      rw [stringPropHeap.eq_def]
      simp only [hn, Bool.not_true, Bool.false_eq_true, if_false]
      match hk : h.kids n with
      | [] => simp [stringPropL]
      | [k] => simp [stringPropL, ih k]
      | _ :: _ :: _ => simp [stringPropL]
    · simp [toNode, hn, stringProp, stringPropHeap]

theorem stringPropHeap_sound (h : Heap) : ∀ (f n s : Nat), stringPropHeap h f n = some s → HeapSoleChain h n s := by
  intro f n s hs
  fun_induction stringPropHeap h f n with
  | case1 f n hn => cases hs; exact .here (by simpa using hn)             -- a string
  | case2 n hn => cases hs                                                -- fuel out
  | case3 n hn f k hk ih => exact .down (by simpa using hn) hk (ih hs)    -- sole child
  | case4 n hn f hk => cases hs                                           -- no or several children

theorem stringPropHeap_complete {h : Heap} {w : Wit} (hwf : WF h w) {n s : Nat} (hc : HeapSoleChain h n s) :
    ∀ f, w.size n ≤ f + 1 → stringPropHeap h f n = some s := by
  induction hc with
  | here hs => intro f _; rw [stringPropHeap.eq_def]; simp [hs]
  | @down n k s hn hk _ ih =>
    intro f hf
    have hkm : k ∈ h.kids n := by simp [hk]
    have hlt := wf_kid_lt hwf hkm
    cases f with
    | zero => omega
    | succ f =>
      rw [stringPropHeap.eq_def]
      simp only [hn, Bool.not_true, Bool.false_eq_true, if_false, hk]
      exact ih f (by omega)

/-- an edit `h → h1` made while the generator is suspended in state `st'` (successor already read) leaves the rest of
    the iteration alone: the remaining walk and the filter's verdict on its elements are the same in `h1` as in `h` -/
def EditFrame (keep : Heap → Nat → Bool) (h h1 : Heap) (st' : GenSt) : Prop :=
  ∀ f, genList h1 f st' = genList h f st' ∧ ∀ e ∈ genList h f st', keep h1 e = keep h e

/-- If, in every state satisfying an invariant `Inv` (on heap and suspended generator) that plain turns and edits
    preserve, every edit the consumer makes has the frame property, the interleaved iteration hands out exactly what an
    undisturbed iteration of the *initial* heap hands out. -/
theorem stringsIterEdit_eq (keep : Heap → Nat → Bool) (edit : Heap → Nat → Nat → Option Op) (Inv : Heap → GenSt → Prop)
    (hnext : ∀ h st c st', Inv h st → genNext h st = some (c, st') → Inv h st')
    (hedit : ∀ h st c st' k op h1, Inv h st → genNext h st = some (c, st') → keep h c = true → edit h k c = some op →
      step h op = .ok h1 → Inv h1 st' ∧ EditFrame keep h h1 st') :
    ∀ (f : Nat) (h : Heap) (st : GenSt) (k : Nat) (l : List Nat) (h' : Heap), Inv h st →
      stringsIterEdit keep edit f h st k = .ok (l, h') → l = (genList h f st).filter (keep h) := by
  intro f h st k l h' hI hr
  fun_induction stringsIterEdit keep edit f h st k generalizing l h' with
  | case1 => cases hr; rfl                                      -- fuel out
  | case2 f h st k hg => cases hr; simp [genList, hg]           -- generator done
  | case3 | case5 | case6 => cases hr                           -- an error
  | case4 f h st k c st' hg hk he l2 h2 hrec ih =>              -- kept, looked at
    cases hr
    simp only [genList, hg, List.filter_cons, hk, if_true]
    rw [ih l2 h2 (hnext h st c st' hI hg) hrec]
  | case7 f h st k c st' hg hk op he h1 hs l2 h2 hrec ih =>     -- kept, edited
    cases hr
    obtain ⟨hI1, hfr⟩ := hedit h st c st' k op h1 hI hg hk he hs
    simp only [genList, hg, List.filter_cons, hk, if_true]
    rw [ih l2 h2 hI1 hrec, (hfr f).1, List.filter_congr (hfr f).2]
  | case8 f h st k c st' hg hk ih =>                            -- not kept
    simp only [genList, hg, List.filter_cons, hk, Bool.false_eq_true, if_false]
    exact ih l h' (hnext h st c st' hI hg) hr

theorem genList_eq_takeWhile (h : Heap) (stop : Option Nat) : ∀ (f : Nat) (cur : Option Nat),
    genList h f ⟨cur, stop⟩ = (chaseNe h f cur).takeWhile (fun e => some e ≠ stop) := by
  intro f
  induction f with
  | zero => intro cur; simp [genList, chaseNe]
  | succ f ih =>
    intro cur
    cases cur with
    | none => simp [genList, genNext, chaseNe]
    | some c =>
      by_cases hc : some c = stop
      · simp [genList, genNext, chaseNe, hc]
      · simp [genList, genNext, chaseNe, hc, ih]

theorem genStart_descendants (h : Heap) (x : Nat) :
    (∀ st, genStart h x = .ok (some st) → descendants h x = .ok (genList h h.cap st)) ∧
    (genStart h x = .ok none → descendants h x = .ok []) := by
  unfold genStart descendants
  cases (h.kids x).head? with
  | none => simp
  | some first =>
    cases lastDescendant h x true with
    | error e => simp
    | ok last =>
      simp only [Except.ok.injEq, Option.some.injEq, reduceCtorEq, false_implies, and_true]
      intro st hst
      subst hst
      rw [genList_eq_takeWhile]

theorem genStart_current {h : Heap} {x : Nat} {st : GenSt} (hs : genStart h x = .ok (some st)) (a : Nat)
    (ha : st.current = some a) : a ∈ h.kids x := by
  unfold genStart at hs
  cases hk : (h.kids x).head? with
  | none => simp [hk] at hs
  | some first =>
    simp only [hk] at hs
    cases hl : lastDescendant h x true with
    | error e => simp [hl] at hs
    | ok last =>
      simp only [hl, Except.ok.injEq, Option.some.injEq] at hs
      subst hs
      exact Option.some.inj ha ▸ List.mem_of_mem_head? hk

end BS.Text
