import BSModel.Model.Pretty
/-! C14: `_event_stream`'s tag stack over the pre-order yields the balanced event list of the tree -/
namespace BS.Pretty

theorem popTo_top (p : Nat) (c : PStr) (st : List (Nat × PStr)) : popTo p ((p, c) :: st) = ([], (p, c) :: st) := by
  simp [popTo]

theorem popTo_nil (p : Nat) : popTo p [] = ([], []) := rfl

/-- a frame that is not the parent of anything still to come is closed before the next element is looked at -/
theorem stream_close (i : Nat) (c : PStr) (st : List (Nat × PStr)) : ∀ (rest : List FItem),
    (∀ it ∈ rest, it.parent ≠ i) → streamImpl ((i, c) :: st) rest = Ev.stop i c :: streamImpl st rest
  | [], _ => by simp [streamImpl]
  | it :: rest, h => by
    have hi : ¬ i = it.parent := fun e => h it (by simp) e.symm
    cases it <;> simp [streamImpl, popTo, hi]

mutual
theorem mem_flat : ∀ (t : Node) (p : Nat) (it : FItem), it ∈ flat p t → it.parent = p ∨ it.parent ∈ ids t
  | .str s, p, it, h => by simp [flat] at h; simp [h, FItem.parent]
  | .void t, p, it, h => by simp [flat] at h; simp [h, FItem.parent]
  | .elem i o c pre ks, p, it, h => by
    simp only [flat, List.mem_cons] at h
    rcases h with h | h
    · simp [h, FItem.parent]
    · rcases mem_flatL ks i it h with h | h <;> simp [ids, h]
theorem mem_flatL : ∀ (ks : List Node) (p : Nat) (it : FItem), it ∈ flatL p ks → it.parent = p ∨ it.parent ∈ idsL ks
  | [], p, it, h => by simp [flatL] at h
  | k :: ks, p, it, h => by
    simp only [flatL, List.mem_append] at h
    rcases h with h | h
    · exact (mem_flat k p it h).imp_right fun h => by simp [idsL, h]
    · exact (mem_flatL ks p it h).imp_right fun h => by simp [idsL, h]
end

mutual
/-- `popTo p st = ([], st)`: stack empty or `p` on top; `rest` lies outside `t` -/
theorem stream_node : ∀ (t : Node) (p : Nat) (st : List (Nat × PStr)) (rest : List FItem), popTo p st = ([], st) →
    (∀ it ∈ rest, it.parent ∉ ids t) → (ids t).Nodup →
    streamImpl st (flat p t ++ rest) = events t ++ streamImpl st rest
  | .str s, p, st, rest, ht, _, _ => by simp [flat, events, streamImpl, FItem.parent, ht]
  | .void t, p, st, rest, ht, _, _ => by simp [flat, events, streamImpl, FItem.parent, ht]
  | .elem i o c pre ks, p, st, rest, ht, hr, hn => by
    simp only [ids, List.nodup_cons] at hn
    have hrest : ∀ it ∈ rest, it.parent ∉ idsL ks := fun it h e => hr it h (by simp [ids, e])
    have hresti : ∀ it ∈ rest, it.parent ≠ i := fun it h e => hr it h (by simp [ids, e])
    simp only [flat, events, List.cons_append, streamImpl, FItem.parent, ht, List.nil_append, Bool.false_eq_true,
      if_false, List.append_assoc]
    rw [stream_forest ks i ((i, c) :: st) rest (popTo_top i c st) hrest hn.2 hn.1, stream_close i c st rest hresti]
/-- `p ∉ idsL ks`: else a later sibling would pass for a descendant of an earlier one -/
theorem stream_forest : ∀ (ks : List Node) (p : Nat) (st : List (Nat × PStr)) (rest : List FItem), popTo p st = ([], st) →
    (∀ it ∈ rest, it.parent ∉ idsL ks) → (idsL ks).Nodup → p ∉ idsL ks →
    streamImpl st (flatL p ks ++ rest) = eventsL ks ++ streamImpl st rest
  | [], p, st, rest, _, _, _, _ => by simp [flatL, eventsL]
  | k :: ks, p, st, rest, ht, hr, hn, hp => by
    simp only [idsL, List.nodup_append] at hn
    obtain ⟨hnk, hnks, hdisj⟩ := hn
    have hpk : p ∉ ids k := fun e => hp (by simp [idsL, e])
    have hpks : p ∉ idsL ks := fun e => hp (by simp [idsL, e])
    have h1 : ∀ it ∈ flatL p ks ++ rest, it.parent ∉ ids k := by
      intro it h e
      rcases List.mem_append.mp h with h | h
      · rcases mem_flatL ks p it h with h | h
        · exact hpk (h ▸ e)
        · exact hdisj _ e _ h rfl
      · exact hr it h (by simp [idsL, e])
    have h2 : ∀ it ∈ rest, it.parent ∉ idsL ks := fun it h e => hr it h (by simp [idsL, e])
    simp only [flatL, eventsL, List.append_assoc]
    rw [stream_node k p st _ ht h1 hnk, stream_forest ks p st rest ht h2 hnks hpks]
end

mutual
/-- `distinct` only asks that no element has the identity of one of its own descendants -/
theorem nodup_distinct : ∀ (t : Node), (ids t).Nodup → distinct t = true
  | .str _, _ => rfl
  | .void _, _ => rfl
  | .elem i o c pre ks, hn => by
    simp only [ids, List.nodup_cons] at hn
    simp only [distinct, Bool.and_eq_true, Bool.not_eq_true', List.contains_eq_mem, decide_eq_false_iff_not]
    exact ⟨hn.1, nodupL_distinctL ks hn.2⟩
theorem nodupL_distinctL : ∀ (ks : List Node), (idsL ks).Nodup → distinctL ks = true
  | [], _ => rfl
  | k :: ks, hn => by
    simp only [idsL, List.nodup_append] at hn
    simp only [distinctL, Bool.and_eq_true]
    exact ⟨nodup_distinct k hn.1, nodupL_distinctL ks hn.2.1⟩
end

end BS.Pretty
