import BSModel.Proofs.TokenizerTags
/-! Tokenizer: where `error` can come from — only the two assertions of `parse_marked_section` (`<![`…). -/
namespace BS.Tokenizer

theorem applyAct_err (pre : List Ev) (s1 : PStr) (pos1 : Nat × Nat) (cd : Option PStr) (act : Act)
    (h : (applyAct pre s1 pos1 cd act).2.2 = some .err) : act = .err := by
  cases act with
  | adv tok len cd' cont => simp only [applyAct] at h; split at h <;> cases h
  | err => rfl
  | _ => cases h

/-- a turn raises only in normal mode, and then `parse_marked_section` raises at the first `<` or `&` of the buffer -/
theorem step_err_plain (P : Params) (end_ : Bool) (st : St) (h : (step P end_ st).2.2 = some .err) :
    st.cd = none ∧ sw [60, 33, 91] (st.s.drop (spanLen isPlain st.s)) = true ∧
      parseMarkedSection none (st.s.drop (spanLen isPlain st.s)) = .err := by
  obtain ⟨j, a, ha, _, heq⟩ := step_shape P end_ st
  rw [heq] at h
  cases applyAct_err _ _ _ _ _ h
  obtain ⟨hcd, rfl, hsw, hp⟩ := ha
  exact ⟨hcd, hsw, hp⟩

/-! ### lifting to the run: the buffer is always a suffix of the text -/

theorem step_suffix (P : Params) (end_ : Bool) (st : St) : ∃ n, (step P end_ st).2.1.s = st.s.drop n := by
  obtain ⟨j, a, _, _, heq⟩ := step_shape P end_ st
  rw [heq]
  cases a with
  | adv tok len cd' cont => exact ⟨j + len, by simp [applyAct]⟩
  | _ => exact ⟨j, rfl⟩

theorem flush_suffix (end_ : Bool) (st : St) : ∃ n, (flush end_ st).2.s = st.s.drop n := by
  unfold flush
  split
  · exact ⟨st.s.length, by simp⟩
  · exact ⟨0, rfl⟩

/-- a rejected text has, at some index, `<![` on which `parse_marked_section` raises -/
theorem run_err_marked (P : Params) (text : PStr) (h : (run P text).flag = .err) :
    ∃ i, sw [60, 33, 91] (text.drop i) = true ∧ parseMarkedSection none (text.drop i) = .err := by
  -- lifted: the buffer after is a suffix of the buffer before; an error means a raise somewhere in the buffer before
  refine (run_rel P
    (fun a _ b fl => (∃ n, b.s = a.s.drop n) ∧
      (fl = .err → ∃ j, sw [60, 33, 91] (a.s.drop j) = true ∧ parseMarkedSection none (a.s.drop j) = .err))
    (fun _ => ⟨⟨0, rfl⟩, nofun⟩) ?trans ?step (fun end_ st => ⟨flush_suffix end_ st, nofun⟩) text).2 h
  case trans =>
    rintro a b c _ _ fl ⟨⟨n, hn⟩, _⟩ ⟨⟨m, hm⟩, he⟩
    refine ⟨⟨n + m, by rw [hm, hn, List.drop_drop]⟩, fun hfl => ?_⟩
    obtain ⟨j, hj⟩ := he hfl
    rw [hn, List.drop_drop] at hj
    exact ⟨n + j, hj⟩
  case step =>
    intro end_ st
    refine ⟨step_suffix P end_ st, fun hfl => ?_⟩
    have herr : (step P end_ st).2.2 = some .err := (Option.getD_eq_iff.mp hfl).resolve_right (by simp)
    obtain ⟨_, hsw, hraise⟩ := step_err_plain P end_ st herr
    exact ⟨_, hsw, hraise⟩

end BS.Tokenizer
