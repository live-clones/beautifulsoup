import BSModel.Model.StrainerParse
/-! parse-time filter = search-time filter on elements whose attributes are single strings -/
namespace BS.StrainerParse
open BS BS.Search

/-- the rule is a callable -/
def Rule.isFunction : Rule → Bool
  | .function _ => true
  | _ => false

/-- off `function` rules `_base_match` always answers: the defaults (`matches_tag` false, `matches_string` true) never matter -/
theorem matchesString_of_base (O : Oracle) (r : Rule) (hf : Rule.isFunction r = false) (v : PStr) :
    (r.baseMatch O (some v)).getD false = r.matchesString O (some v) := by
  cases r with
  | function i => simp [Rule.isFunction] at hf
  | string s => simp [Rule.baseMatch, Rule.matchesString]
  | pattern i => simp [Rule.baseMatch, Rule.matchesString]
  | present b => cases b <;> simp [Rule.baseMatch, Rule.matchesString]

theorem nameRuleEval_fst (O : Oracle) (v : Variant) (e : Elem) (r : Rule) (hf : Rule.isFunction r = false) :
    (nameRuleEval O v e r).1 = (r.matchesString O (some e.name) || pnMatch O r (prefixedName e)) := by
  have hb := matchesString_of_base O r hf e.name
  cases r with
  | function i => simp [Rule.isFunction] at hf
  | _ =>
    simp only [nameRuleEval]
    rw [hb]
    cases Rule.matchesString O _ (some e.name) <;> cases prefixedName e <;> simp [pnMatch]

theorem nameRulesEval_eq_nameLoop (O : Oracle) (v : Variant) (e : Elem) : ∀ (rs : List Rule),
    (∀ r ∈ rs, Rule.isFunction r = false) → (nameRulesEval O v e rs).1 = nameLoop O e.name (prefixedName e) rs
  | [], _ => rfl
  | r :: rs, hf => by
    have h1 := nameRuleEval_fst O v e r (hf r (List.mem_cons_self ..))
    have h2 := nameRulesEval_eq_nameLoop O v e rs fun r' hr' => hf r' (List.mem_cons_of_mem _ hr')
    simp only [nameRulesEval, nameLoop, ← h1, ← h2]
    cases (nameRuleEval O v e r).1 <;> rfl

theorem nameLoop_of_shortcut (O : Oracle) (s : Strainer) (e : Elem) (h : shortcutReject s e = true) :
    s.nameRules.isEmpty = false ∧ nameLoop O e.name (prefixedName e) s.nameRules = false := by
  simp only [shortcutReject, Bool.and_eq_true, Bool.not_eq_true'] at h
  obtain ⟨hp, hm⟩ := h
  have hpn : prefixedName e = none := by
    unfold prefixedName
    split
    · rename_i c p hpfx
      rw [hpfx] at hp
      cases hp
    · rfl
  -- `shortcutReject`'s `match` on `[.string n]`
  split at hm
  · rename_i n hnr
    have hne : (some e.name == some n) = false := by simpa using hm
    simp [hnr, nameLoop, pnMatch, hpn, Rule.matchesString, Rule.baseMatch, hne]
  · cases hm

theorem prefixed_eq (e : Elem) : prefixed e.pfx e.name = prefixedName e := by
  unfold prefixed prefixedName
  cases e.pfx with
  | none => rfl
  | some l => cases l <;> rfl

theorem rawGet_eq (raw : List (PStr × PStr)) (a : PStr) :
    rawGet raw a = (((raw.map (fun p => (p.1, AttrVal.one p.2))).find? (·.1 == a)).map (·.2)) := by
  simp only [rawGet, List.find?_map, Option.map_map, Function.comp_def]

end BS.StrainerParse
