import BSModel.Proofs.Html5
/-! Where exactly the repair of `substitute_html5` changes the output: the old and the repaired function agree on `s` if and
    only if their first passes decide alike at every `&` of `s` (`ampsAgree`). -/
namespace BS.Entities
open BS.Reader

/-- the old first pass would have taken the same decision as the repaired one at every ampersand of `s` -/
def ampsAgree (T : Tbl) : PStr → Bool
  | [] => true
  | c :: cs => (c != 38 || ampNeedsEscape T cs == (entityLen T true cs).isSome) && ampsAgree T cs

theorem escSpec_eq_of_agree (T : Tbl) : ∀ s, ampsAgree T s = true → escSpec T s = escapeAmpersands T s := by
  intro s
  induction s with
  | nil => intro _; rfl
  | cons c cs ih =>
    intro h
    simp only [ampsAgree, Bool.and_eq_true, Bool.or_eq_true, bne_iff_ne, ne_eq, beq_iff_eq] at h
    simp only [escSpec, escapeAmpersands, ih h.2]
    by_cases hc : c = 38
    · have := h.1.resolve_left (by simp [hc])
      simp [hc, this]
    · simp [hc]

theorem old_eq_fixed_of_agree {T : Tbl} (hw : inRanges T.word 38 = false) (hd : inRanges T.digit 38 = false)
    (s : PStr) (h : ampsAgree T s = true) : substHtml5Old T s = substHtml5 T s := by
  unfold substHtml5Old substHtml5 substHtml5With
  rw [escapeEntities_eq_spec hw hd, escSpec_eq_of_agree T s h]

theorem ampsAgree_append_noamp (T : Tbl) (a r : PStr) (h : 38 ∉ a) : ampsAgree T (a ++ r) = ampsAgree T r := by
  induction a with
  | nil => rfl
  | cons x xs ih =>
    simp only [List.mem_cons, not_or] at h
    have : (x != 38) = true := by simp; exact fun e => h.1 e.symm
    simp only [List.cons_append, ampsAgree, this, Bool.true_or, Bool.true_and, ih h.2]

/-- `amp;` in front: the old first pass would have escaped -/
theorem entityLen_of_amp_prefix {T : Tbl} (hw : ∀ x ∈ [97, 109, 112], inRanges T.word x = true)
    (h59 : inRanges T.word 59 = false) (cs : PStr) (h : [97, 109, 112, 59] <+: cs) :
    (entityLen T true cs).isSome = true := by
  obtain ⟨r, rfl⟩ := h
  have hspan : spanLen (inRanges T.word) (97 :: 109 :: 112 :: 59 :: r) = 3 :=
    spanLen_append_stop _ [97, 109, 112] 59 r hw h59
  simp [entityLen, runSemi, hspan]

/-- `amp` is `\w`, `;` is not: `amp;` heading the old output was an entity body in the input -/
def AgreeOK (T : Tbl) : Bool :=
  [97, 109, 112].all (inRanges T.word) && !inRanges T.word 59

theorem agree_of_old_eq_fixed {T : Tbl} (hR : RepOK T (htmlRep T) T.particles) (hkf : AmpFree T.particles)
    (ha : AgreeOK T = true) :
    ∀ s, reSub T.particles (htmlRep T) 0 (escSpec T s) = reSub T.particles (htmlRep T) 0 (escapeAmpersands T s) →
      ampsAgree T s = true := by
  have hS := ampPass_escSpec T
  have hE := ampPass_escapeAmpersands T
  unfold AgreeOK at ha
  simp only [Bool.and_eq_true, List.all_eq_true, Bool.not_eq_true'] at ha
  refine reSub_induction T.particles ?_ ?_ ?_
  · intro _; rfl
  · intro p rest hp hkne hfm ih heq
    rw [write_hit hS hkf _ hkne hfm, write_hit hE hkf _ hkne hfm] at heq
    rw [ampsAgree_append_noamp T _ _ (hkf p hp).1]
    exact ih (List.append_cancel_left heq)
  · intro c cs hfm ih heq
    by_cases hc : c = 38
    · subst hc
      simp only [ampsAgree, bne_self_eq_false, Bool.false_or, Bool.and_eq_true, beq_iff_eq]
      cases hold : (entityLen T true cs).isSome <;> cases hnew : ampNeedsEscape T cs
      · -- neither escapes
        rw [write_bare hS hkf _ hold, write_bare hE hkf _ hnew] at heq
        exact ⟨rfl, ih (List.cons.inj heq).2⟩
      · -- only the repaired one escapes: then the old output would start with `amp;`
        exfalso
        rw [write_bare hS hkf _ hold, write_esc hE hkf _ hnew] at heq
        simp only [amp, List.cons_append, List.nil_append, List.cons.injEq, true_and] at heq
        have hpre : [97, 109, 112, 59] <+: reSub T.particles (htmlRep T) 0 (escSpec T cs) := by
          rw [heq]; exact ⟨_, rfl⟩
        have := write_copied_prefix hS hR hkf _ cs (by decide) hpre
        have := entityLen_of_amp_prefix ha.1 ha.2 cs this
        rw [hold] at this; simp at this
      · -- the old one escapes and the repaired one does not: impossible
        exfalso
        have : ampNeedsEscape T cs = true := by
          unfold ampNeedsEscape
          cases cs with
          | nil => simp [entityLen, runSemi, spanLen] at hold
          | cons d ds => simp [ampNeedsEscapeMid, hold]
        rw [hnew] at this; simp at this
      · -- both escape
        rw [write_esc hS hkf _ hold, write_esc hE hkf _ hnew] at heq
        exact ⟨rfl, ih (List.append_cancel_left heq)⟩
    · rw [write_plain hS hkf _ hc hfm, write_plain hE hkf _ hc hfm] at heq
      have hcb : (c != 38) = true := by simp [hc]
      simp only [ampsAgree, hcb, Bool.true_or, Bool.true_and]
      exact ih (List.cons.inj heq).2

end BS.Entities
