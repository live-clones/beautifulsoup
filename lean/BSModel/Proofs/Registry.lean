import BSModel.Model.Registry
import BSModel.Proofs.Assoc
/-! The invariant tying the per-feature lists of the registry to its list of builders, and the `while` loop of
    `lookup` read as a filter of the candidate set. -/
namespace BS.Registry

theorem addFeatures_eq (b : Builder) : ∀ (fs : List Nat) (m : Nat → List Builder) (g : Nat),
    addFeatures b fs m g = List.replicate (fs.count g) b ++ m g := by
  intro fs m
  fun_induction addFeatures b fs m with
  | case1 => intro g; simp
  | case2 f fs m ih =>
    intro g
    rw [ih g]
    by_cases hgf : g = f
    · subst hgf
      simp [List.count_cons, List.replicate_succ']
    · have : f ≠ g := fun h => hgf h.symm
      simp [hgf, List.count_cons, this]

/-- each per-feature list = the builders in order, each as often as it lists the feature (a feature listed twice inserts the
    builder twice: `filter (offers · f)` would be the invariant of duplicate-free feature lists only) -/
def Inv (r : Registry) : Prop := ∀ f, r.byFeature f = r.builders.flatMap fun b => List.replicate (b.features.count f) b

theorem inv_empty : Inv empty := by intro f; simp [empty]

theorem inv_register (r : Registry) (b : Builder) (h : Inv r) : Inv (register r b) := by
  intro f
  simp only [register]
  rw [addFeatures_eq, h f]
  simp [List.flatMap_cons]

theorem inv_registerAll_aux : ∀ (bs : List Builder) (r : Registry), Inv r →
    Inv (bs.foldl register r) ∧ (bs.foldl register r).builders = bs.reverse ++ r.builders := by
  intro bs
  induction bs with
  | nil => intro r h; exact ⟨h, by simp⟩
  | cons b bs ih =>
    intro r h
    have := ih (register r b) (inv_register r b h)
    refine ⟨this.1, ?_⟩
    rw [List.foldl_cons, this.2]; simp [register]

theorem inv_registerAll (bs : List Builder) : Inv (registerAll bs) ∧ (registerAll bs).builders = bs.reverse := by
  have := inv_registerAll_aux bs empty inv_empty
  simpa [registerAll, empty] using this

theorem mem_byFeature (r : Registry) (h : Inv r) (f : Nat) (b : Builder) :
    b ∈ r.byFeature f ↔ b ∈ r.builders ∧ f ∈ b.features := by
  rw [h f]
  simp only [List.mem_flatMap, List.mem_replicate]
  constructor
  · rintro ⟨a, ha, hc, rfl⟩
    exact ⟨ha, List.count_pos_iff.mp (Nat.pos_of_ne_zero hc)⟩
  · rintro ⟨hb, hf⟩
    exact ⟨b, hb, Nat.ne_of_gt (List.count_pos_iff.mpr hf), rfl⟩

theorem byFeature_isEmpty (r : Registry) (h : Inv r) (f : Nat) :
    (r.byFeature f).isEmpty = !(offered r.builders f) := by
  rw [Bool.eq_iff_iff]
  simp only [List.isEmpty_iff, Bool.not_eq_true', offered, offers]
  rw [List.eq_nil_iff_forall_not_mem]
  simp only [mem_byFeature r h f]
  simp

theorem contains_byFeature (r : Registry) (h : Inv r) (f : Nat) (b : Builder) (hb : b ∈ r.builders) :
    (r.byFeature f).contains b = offers b f := by
  rw [Bool.eq_iff_iff]
  simp [mem_byFeature r h f, hb, offers]

/-- `(c, s)`: candidates in order, running intersection; `hs` is for `contains_byFeature` -/
theorem scan_some (r : Registry) (h : Inv r) (fs : List Nat) (c s : List Builder) (hs : ∀ b ∈ s, b ∈ r.builders) :
    scan r fs (some (c, s)) = some (c, s.filter fun b => (fs.filter (offered r.builders)).all (offers b)) := by
  induction fs generalizing s with
  | nil => simp [scan, List.filter_eq_self.mpr]
  | cons f fs ih =>
    rw [scan, byFeature_isEmpty r h f, List.filter_cons]
    cases ho : offered r.builders f with
    | false => exact ih s hs
    | true =>
      have : s.filter (fun b => (r.byFeature f).contains b) = s.filter (offers · f) :=
        List.filter_congr fun b hb => contains_byFeature r h f b (hs b hb)
      simp only [Bool.not_true, Bool.false_eq_true, if_false, if_true, this]
      rw [ih _ fun b hb => hs b (List.mem_filter.mp hb).1, List.filter_filter]
      simp [Bool.and_comm]

theorem scan_none (r : Registry) (h : Inv r) (fs : List Nat) :
    scan r fs none =
      match fs.filter (offered r.builders) with
      | [] => none
      | f0 :: rest => some (r.byFeature f0, (r.byFeature f0).filter fun b => rest.all (offers b)) := by
  induction fs with
  | nil => rfl
  | cons f fs ih =>
    rw [scan, byFeature_isEmpty r h f, List.filter_cons]
    cases ho : offered r.builders f with
    | false => exact ih
    | true =>
      simp only [Bool.not_true, Bool.false_eq_true, if_false, if_true]
      exact scan_some r h fs _ _ fun b hb => ((mem_byFeature r h f b).mp hb).1

theorem find?_filter_contains (l : List Builder) (p : Builder → Bool) :
    l.find? (fun b => (l.filter p).contains b) = l.find? p :=
  find?_congr_mem l _ p fun b hb => by
    rw [Bool.eq_iff_iff]; simp [List.mem_filter, hb]

/-- the first builder of the per-feature list with `p` is the first builder that offers the feature and has `p` -/
theorem find?_flat (p : Builder → Bool) (f : Nat) : ∀ l : List Builder,
    (l.flatMap fun b => List.replicate (b.features.count f) b).find? p = l.find? (fun b => offers b f && p b) := by
  intro l
  induction l with
  | nil => rfl
  | cons a l ih =>
    rw [List.flatMap_cons, List.find?_append, ih, List.find?_cons]
    by_cases hf : f ∈ a.features
    · have hc : a.features.count f ≠ 0 := Nat.ne_of_gt (List.count_pos_iff.mpr hf)
      cases hp : p a <;> simp [List.find?_replicate, hc, hp, offers, hf]
    · have hc : a.features.count f = 0 := List.count_eq_zero.mpr hf
      simp [hc, offers, hf]

theorem lookupSpec_of_ne_nil (bs : List Builder) (fs : List Nat) (hfs : fs ≠ []) :
    lookupSpec bs fs = if (fs.filter (offered bs)).isEmpty then none
      else bs.find? (fun b => (fs.filter (offered bs)).all (offers b)) := by
  rw [lookupSpec, if_neg (by simpa using hfs)]

theorem all_offers_iff (bs : List Builder) (fs : List Nat) (b : Builder) :
    (fs.filter (offered bs)).all (offers b) = true ↔ ∀ f ∈ fs, offered bs f = true → f ∈ b.features := by
  simp only [List.all_eq_true, List.mem_filter, offers, List.contains_iff_mem, and_imp]

theorem not_all_offers_iff (bs : List Builder) (fs : List Nat) (b : Builder) :
    ¬ (fs.filter (offered bs)).all (offers b) = true ↔ ∃ f ∈ fs, offered bs f = true ∧ f ∉ b.features := by
  rw [all_offers_iff]; simp

theorem lookup_of_inv (r : Registry) (h : Inv r) (fs : List Nat) : lookup r fs = lookupSpec r.builders fs := by
  unfold lookup lookupSpec
  by_cases hfs : fs.isEmpty = true
  · simp only [hfs, if_true]
    cases r.builders <;> simp
  · simp only [hfs, Bool.false_eq_true, if_false]
    by_cases he : r.builders.isEmpty = true
    · have hnil : r.builders = [] := by simpa using he
      simp [hnil, offered]
    · simp only [he, Bool.false_eq_true, if_false]
      rw [scan_none r h fs]
      cases hoff : fs.filter (offered r.builders) with
      | nil => rfl
      | cons f0 rest =>
        simp only [List.isEmpty_cons, Bool.false_eq_true, if_false]
        rw [find?_filter_contains, h f0, find?_flat]
        simp only [List.all_cons]

end BS.Registry
