import BSModel.Proofs.HeapWF
namespace BS.Heap

theorem tiles_length (pos size : Nat → Nat) : ∀ (ks : List Nat) (s e : Nat), Tiles pos size ks s e →
    s + ks.length ≤ e := by
  intro ks; induction ks with
  | nil => intro s e ht; simp only [Tiles] at ht; simp [ht]
  | cons k ks ih =>
    intro s e ht
    obtain ⟨_, hk1, hr⟩ := ht
    have := ih _ _ hr
    simp only [List.length_cons]; omega

theorem tiles_mono (pos size : Nat → Nat) (l : List Nat) (s e : Nat) (h : Tiles pos size l s e) : s ≤ e :=
  Nat.le_trans (Nat.le_add_right _ _) (tiles_length pos size l s e h)

theorem tiles_mem (pos size : Nat → Nat) : ∀ (ks : List Nat) (s e : Nat), Tiles pos size ks s e →
    ∀ k ∈ ks, s ≤ pos k ∧ pos k + size k ≤ e ∧ 1 ≤ size k := by
  intro ks; induction ks with
  | nil => intro s e _ k hk; simp at hk
  | cons a l ih =>
    intro s e h k hk
    obtain ⟨ha, ha1, hr⟩ := h
    have hm := tiles_mono pos size l _ _ hr
    rcases List.mem_cons.mp hk with rfl | hk'
    · omega
    · have := ih _ _ hr k hk'; omega

theorem tiles_cover (pos size : Nat → Nat) : ∀ (ks : List Nat) (s e q : Nat), Tiles pos size ks s e →
    s ≤ q → q < e → ∃ k ∈ ks, pos k ≤ q ∧ q < pos k + size k := by
  intro ks; induction ks with
  | nil => intro s e q h h1 h2; simp [Tiles] at h; omega
  | cons a l ih =>
    intro s e q h h1 h2
    obtain ⟨ha, ha1, hr⟩ := h
    by_cases hq : q < s + size a
    · exact ⟨a, by simp, by omega, by omega⟩
    · obtain ⟨k, hk, hk1, hk2⟩ := ih (s + size a) e q hr (by omega) h2
      exact ⟨k, by simp [hk], hk1, hk2⟩

theorem tiles_sorted (pos size : Nat → Nat) (ks : List Nat) (s e : Nat) (ht : Tiles pos size ks s e) :
    ks.Pairwise (fun a b => pos a < pos b ∧ pos a + size a ≤ pos b) := by
  fun_induction Tiles pos size ks s e with
  | case1 => exact List.Pairwise.nil
  | case2 k ks s e ih =>
    obtain ⟨h1, h2, h3⟩ := ht
    refine List.pairwise_cons.mpr ⟨fun m hm => ?_, ih h3⟩
    have := tiles_mem pos size ks _ _ h3 m hm
    omega

theorem tiles_apart {pos size : Nat → Nat} {ks : List Nat} {s e a b : Nat} (ht : Tiles pos size ks s e)
    (ha : a ∈ ks) (hb : b ∈ ks) :
    a = b ∨ (pos a < pos b ∧ pos a + size a ≤ pos b) ∨ (pos b < pos a ∧ pos b + size b ≤ pos a) :=
  have h := tiles_sorted pos size ks s e ht
  List.Pairwise.forall_of_forall_of_flip (R := fun a b => a = b ∨ _ ∨ _) (fun _ _ => Or.inl rfl)
    (h.imp fun r => Or.inr (Or.inl r)) (h.imp fun r => Or.inr (Or.inr r)) ha hb

theorem tiles_disjoint (pos size : Nat → Nat) : ∀ (ks : List Nat) (s e : Nat), Tiles pos size ks s e →
    ∀ a ∈ ks, ∀ b ∈ ks, pos a ≤ pos b → pos b < pos a + size a → pos a = pos b := by
  intro ks s e h a ha b hb h1 h2
  rcases tiles_apart h ha hb with rfl | c | c <;> omega

theorem tiles_last (pos size : Nat → Nat) :
    ∀ (ks : List Nat) (s e k : Nat), Tiles pos size ks s e → ks.getLast? = some k →
      pos k + size k = e ∧ s ≤ pos k ∧ 1 ≤ size k := by
  intro ks
  induction ks with
  | nil => intro s e k _ h; simp at h
  | cons a l ih =>
    intro s e k ht hl
    obtain ⟨ha, ha1, hr⟩ := ht
    cases l with
    | nil =>
      simp at hl; subst hl
      simp [Tiles] at hr; omega
    | cons b l' =>
      have : (b :: l').getLast? = some k := by simpa [List.getLast?_cons_cons] using hl
      have := ih (s + size a) e k hr this
      omega

/-- the first starts at `s`; the next starts where this ends; the last ends at `e` -/
theorem tiles_adj (pos size : Nat → Nat) : ∀ (ks : List Nat) (s e i a : Nat), Tiles pos size ks s e →
    ks[i]? = some a →
    (i = 0 → pos a = s) ∧
    (∀ b, ks[i + 1]? = some b → pos b = pos a + size a) ∧ (ks[i + 1]? = none → pos a + size a = e) := by
  intro ks; induction ks with
  | nil => intro s e i a _ h; simp at h
  | cons k ks ih =>
    intro s e i a ht ha
    obtain ⟨hk, hk1, hr⟩ := ht
    cases i with
    | zero =>
      cases Option.some.inj ha
      cases ks with
      | nil => exact ⟨fun _ => hk, nofun, fun _ => by rw [hk]; exact hr⟩
      | cons c ks' => exact ⟨fun _ => hk, fun b hb => by cases hb; rw [hk]; exact hr.1, nofun⟩
    | succ i =>
      simp only [List.getElem?_cons_succ] at ha ⊢
      have := ih (s + size k) e i a hr ha
      exact ⟨by omega, this.2⟩

theorem tiles_next (pos size : Nat → Nat) (ks : List Nat) (s e : Nat) (h : Tiles pos size ks s e) (k : Nat) (hk : k ∈ ks) :
    pos k + size k = e ∨ ∃ k' ∈ ks, pos k' = pos k + size k := by
  obtain ⟨i, hi⟩ := List.getElem?_of_mem hk
  obtain ⟨-, h1, h2⟩ := tiles_adj pos size ks s e i k h hi
  cases hb : ks[i + 1]? with
  | none => exact Or.inl (h2 hb)
  | some b => exact Or.inr ⟨b, List.mem_of_getElem? hb, h1 b hb⟩

/-- starts and ends sent through one map `f` still tile -/
theorem tiles_map {pos size pos' size' : Nat → Nat} (f : Nat → Nat) {ks : List Nat} {s e s' e' : Nat}
    (h : Tiles pos size ks s e)
    (hk : ∀ k ∈ ks, pos' k = f (pos k) ∧ pos' k + size' k = f (pos k + size k) ∧ 1 ≤ size' k)
    (hs : s' = f s) (he : e' = f e) : Tiles pos' size' ks s' e' := by
  subst hs he
  induction ks generalizing s with
  | nil => exact congrArg f h
  | cons a l ih =>
    obtain ⟨ha, _, hr⟩ := h
    obtain ⟨e1, e2, e3⟩ := hk a (by simp)
    refine ⟨by rw [e1, ha], e3, ?_⟩
    rw [← ha, ← e1, e2, ha]
    exact ih hr fun k hk' => hk k (by simp [hk'])

theorem tiles_congr (pos size pos' size' : Nat → Nat) (ks : List Nat) (s e : Nat)
    (h : Tiles pos size ks s e) (hk : ∀ k ∈ ks, pos' k = pos k ∧ size' k = size k) :
    Tiles pos' size' ks s e :=
  tiles_map id h (fun k hk' => by
    obtain ⟨e1, e2⟩ := hk k hk'
    exact ⟨e1, by rw [e1, e2]; rfl, by rw [e2]; exact (tiles_mem pos size ks s e h k hk').2.2⟩) rfl rfl

theorem tiles_nodup (pos size : Nat → Nat) :
    ∀ (ks : List Nat) (s e : Nat), Tiles pos size ks s e → ks.Nodup :=
  fun ks s e h => (tiles_sorted pos size ks s e h).imp fun c e => by subst e; omega

/-- `tiles_map` with the child `x` taken out, when `f` collapses `x`'s interval to a point -/
theorem tiles_map_erase {pos size pos' size' : Nat → Nat} (f : Nat → Nat) (x : Nat) {ks : List Nat} {s e s' e' : Nat}
    (hx : f (pos x) = f (pos x + size x)) (h : Tiles pos size ks s e)
    (hk : ∀ k ∈ ks, k ≠ x → pos' k = f (pos k) ∧ pos' k + size' k = f (pos k + size k) ∧ 1 ≤ size' k)
    (hs : s' = f s) (he : e' = f e) : Tiles pos' size' (ks.erase x) s' e' := by
  subst hs he
  induction ks generalizing s with
  | nil => exact congrArg f h
  | cons a l ih =>
    obtain ⟨ha, ha1, hr⟩ := h
    by_cases hax : a = x
    · subst hax
      rw [List.erase_cons_head]
      refine tiles_map f hr (fun k hkl => ?_) (by rw [← ha, hx, ha]) rfl
      have := tiles_mem pos size l _ _ hr k hkl
      exact hk k (by simp [hkl]) (by intro e'; subst e'; omega)
    · rw [List.erase_cons_tail (by simpa using hax)]
      obtain ⟨e1, e2, e3⟩ := hk a (by simp) hax
      refine ⟨by rw [e1, ha], e3, ?_⟩
      rw [← ha, ← e1, e2, ha]
      exact ih hr fun k hk' => hk k (by simp [hk'])

theorem boundary_ge (size : Nat → Nat) (l : List Nat) (s j : Nat) : s ≤ boundary size l s j := by
  fun_induction boundary size l s j with
  | case1 => exact Nat.le_refl _
  | case2 => exact Nat.le_refl _
  | case3 a l s j ih => omega

/-- the slot boundary is a child start, or the end of the range -/
theorem boundary_spec (pos size : Nat → Nat) : ∀ (ks : List Nat) (s e i : Nat), Tiles pos size ks s e →
    i ≤ ks.length →
    (∀ k, ks[i]? = some k → pos k = boundary size ks s i) ∧ (i = ks.length → boundary size ks s i = e) ∧
    boundary size ks s i ≤ e := by
  intro ks; induction ks with
  | nil => intro s e i h hi; simp at hi; subst hi; simp [Tiles] at h; simp [boundary, h]
  | cons a l ih =>
    intro s e i h hi
    obtain ⟨ha, ha1, hr⟩ := h
    cases i with
    | zero =>
      have := tiles_mono pos size l _ _ hr
      simp [boundary, ha]; omega
    | succ i =>
      have := ih (s + size a) e i hr (by simpa using hi)
      simp only [boundary, List.getElem?_cons_succ, List.length_cons]
      refine ⟨this.1, ?_, this.2.2⟩
      intro h'; exact this.2.1 (by omega)

theorem boundary_zero (size : Nat → Nat) (ks : List Nat) (s : Nat) : boundary size ks s 0 = s := by
  cases ks <;> rfl

theorem boundary_sep (pos size : Nat → Nat) :
    ∀ (ks : List Nat) (s e i : Nat), Tiles pos size ks s e →
      ∀ k ∈ ks, pos k + size k ≤ boundary size ks s i ∨ boundary size ks s i ≤ pos k := by
  intro ks s e i h k hk
  fun_induction boundary size ks s i generalizing e with
  | case1 ks s => exact Or.inr (tiles_mem pos size ks s e h k hk).1
  | case2 => cases hk
  | case3 a l s i ih =>
    obtain ⟨ha, _, hr⟩ := h
    rcases List.mem_cons.mp hk with rfl | hk'
    · left; have := boundary_ge size l (s + size k) i; omega
    · exact ih _ hr hk'

theorem boundary_prev (pos size : Nat → Nat) :
    ∀ (ks : List Nat) (s e i k : Nat), Tiles pos size ks s e → ks[i]? = some k →
      boundary size ks s (i + 1) = pos k + size k := by
  intro ks
  induction ks with
  | nil => intro s e i k _ hk; simp at hk
  | cons a l ih =>
    intro s e i k h hk
    obtain ⟨ha, ha1, hr⟩ := h
    cases i with
    | zero =>
      simp at hk; subst hk
      simp only [boundary, boundary_zero]; omega
    | succ i =>
      simp only [List.getElem?_cons_succ] at hk
      simp only [boundary]
      exact ih _ _ i k hr hk

theorem tiles_insert (pos size pos' size' : Nat → Nat) (x sx : Nat) (hsx : 1 ≤ sx) :
    ∀ (ks : List Nat) (i s e : Nat),
      Tiles pos size ks s e →
      x ∉ ks →
      (∀ k ∈ ks, size' k = size k) →
      (∀ k ∈ ks, pos' k = if boundary size ks s i ≤ pos k then pos k + sx else pos k) →
      pos' x = boundary size ks s i → size' x = sx →
      Tiles pos' size' (ks.take i ++ x :: ks.drop i) s (e + sx) := by
  intro ks
  induction ks with
  | nil =>
    intro i s e ht _ _ _ hpx hsz
    simp [Tiles] at ht ⊢
    cases i <;> simp [boundary] at hpx <;> omega
  | cons k ks ih =>
    intro i s e ht hx hs hp hpx hsz
    obtain ⟨hk, hk1, hrest⟩ := ht
    cases i with
    | zero =>
      simp only [List.take_zero, List.nil_append, List.drop_zero, boundary] at *
      refine ⟨hpx, by omega, ?_⟩
      rw [hsz]
      refine tiles_map (· + sx) (⟨hk, hk1, hrest⟩ : Tiles pos size (k :: ks) s e) (fun a ha => ?_) rfl rfl
      have hm := tiles_mem pos size (k :: ks) s e ⟨hk, hk1, hrest⟩ a ha
      have ep : pos' a = pos a + sx := (hp a ha).trans (if_pos hm.1)
      rw [hs a ha, ep]
      exact ⟨rfl, by omega, hm.2.2⟩
    | succ i =>
      simp only [List.take_succ_cons, List.cons_append, List.drop_succ_cons, boundary] at *
      have hxks : x ∉ ks := by intro h; apply hx; simp [h]
      have e1 := hs k (by simp)
      have e2 := hp k (by simp)
      have hb : pos k < boundary size ks (s + size k) i := by
        have := boundary_ge size ks (s + size k) i; omega
      refine ⟨by rw [e2]; simp [hk]; omega, by omega, ?_⟩
      rw [e1]
      exact ih i (s + size k) e hrest hxks (fun k' hk' => hs k' (by simp [hk']))
        (fun k' hk' => hp k' (by simp [hk'])) hpx hsz

/-- cutting the segment `[X, X+S)` out of a line collapses it to the point `X`; pasting it back is the inverse -/
def cutPt (X S e : Nat) : Nat := if e ≤ X then e else e - S

section
variable {X S a b : Nat}

/-- starts of outside nodes avoid `[X, X+S)`, their ends avoid `(X, X+S)`; an end may be `X`, a start not -/
theorem cutPt_spec (X S : Nat) (ha : a ≤ X ∨ X + S ≤ a) :
    (a ≤ X ∧ cutPt X S a = a) ∨ (X < a ∧ X + S ≤ a ∧ cutPt X S a + S = a) := by
  unfold cutPt; split <;> omega

theorem cutPt_le_iff (ha : a ≤ X ∨ X + S ≤ a) (hb : b ≤ X ∨ X + S ≤ b) :
    cutPt X S b ≤ cutPt X S a ↔ b ≤ a ∨ (a = X ∧ b = X + S) := by
  rcases cutPt_spec X S ha with c | c <;> rcases cutPt_spec X S hb with c' | c' <;> omega

theorem cutPt_lt_iff (ha : a < X ∨ X + S ≤ a) (hb : b ≤ X ∨ X + S ≤ b) :
    cutPt X S a < cutPt X S b ↔ a < b := by
  rcases cutPt_spec X S (a := a) (by omega) with c | c <;> rcases cutPt_spec X S hb with c' | c' <;> omega

theorem cutPt_eq_iff (ha : a ≤ X ∨ X + S ≤ a) (hb : b < X ∨ X + S ≤ b) :
    cutPt X S b = cutPt X S a ↔ b = a ∨ (a = X ∧ b = X + S) := by
  rcases cutPt_spec X S ha with c | c <;> rcases cutPt_spec X S (a := b) (by omega) with c' | c' <;> omega

theorem cutPt_succ (ha : a < X ∨ X + S ≤ a) : cutPt X S (a + 1) = cutPt X S a + 1 := by
  unfold cutPt; split <;> split <;> omega

/-- `cutPt_eq_iff` at the end `a + 1` of `[a, a + 1)` -/
theorem cutPt_succ_iff (ha : a < X ∨ X + S ≤ a) (hb : b < X ∨ X + S ≤ b) :
    cutPt X S b = cutPt X S a + 1 ↔ b = a + 1 ∨ (a + 1 = X ∧ b = X + S) := by
  rw [← cutPt_succ ha]; exact cutPt_eq_iff (by omega) hb

theorem cutPt_collapse : cutPt X S X = cutPt X S (X + S) := by
  unfold cutPt; split <;> split <;> omega

end

/-- tree, start, end -/
theorem wf_parent_pos {h : Heap} {w : Wit} (hwf : WF h w) {c p : Nat} (hp : h.parent c = some p) :
    w.tree c = w.tree p ∧ w.pos p < w.pos c ∧ w.pos c + w.size c ≤ w.pos p + w.size p := by
  have hm := hwf.parent_kid c p hp
  have := tiles_mem _ _ _ _ _ (hwf.tiles p) c hm
  exact ⟨hwf.kid_tree p c hm, this.1, this.2.1⟩

theorem wf_kid_lt {h : Heap} {w : Wit} (hwf : WF h w) {n k : Nat} (hk : k ∈ h.kids n) :
    w.pos n + 1 ≤ w.pos k ∧ w.pos k + w.size k ≤ w.pos n + w.size n ∧ 1 ≤ w.size k :=
  have := wf_parent_pos hwf (hwf.kid_parent n k hk)
  ⟨this.2.1, this.2.2, hwf.size_pos k⟩

theorem wf_root_self {h : Heap} {w : Wit} (hwf : WF h w) (n : Nat) :
    w.tree (w.tree n) = w.tree n ∧ w.pos (w.tree n) = 0 := hwf.root_tree _ (hwf.tree_root n)

theorem wf_pos_lt {h : Heap} {w : Wit} (hwf : WF h w) (n : Nat) : w.pos n < w.size (w.tree n) := by
  have := hwf.bound n; have := hwf.size_pos n; omega

theorem wf_unl_pos {h : Heap} {w : Wit} (hwf : WF h w) {a : Nat} (hp : 1 ≤ w.pos a) : w.unl a = false := by
  cases hu : w.unl a with
  | false => rfl
  | true =>
    have := (hwf.root_tree a (hwf.unl_soup a hu).2).2
    omega

theorem wf_size_one_kids {h : Heap} {w : Wit} (hwf : WF h w) {n : Nat} (hs : w.size n ≤ 1) : h.kids n = [] := by
  cases hk : h.kids n with
  | nil => rfl
  | cons a l =>
    have := wf_kid_lt hwf (n := n) (k := a) (by simp [hk])
    omega

theorem wf_leaf_size_one {h : Heap} {w : Wit} (hwf : WF h w) {c : Nat} (hk : h.kids c = []) : w.size c = 1 := by
  have := hwf.tiles c
  rw [hk] at this
  simp only [Tiles] at this
  omega

theorem wf_pos_zero {h : Heap} {w : Wit} (hwf : WF h w) {a : Nat} (hp : w.pos a = 0) : a = w.tree a := by
  have := wf_root_self hwf a
  exact hwf.inj a (w.tree a) this.1.symm (by omega)

theorem some_parent_eq {h : Heap} {a q q' : Nat} (h1 : h.parent a = some q) (h2 : h.parent a = some q') : q = q' := by
  rw [h1] at h2; exact Option.some.inj h2

/-- a child other than `x` is in `x`'s subtree iff its parent is -/
theorem kid_inSub_iff {h : Heap} {w : Wit} (hwf : WF h w) (x n k : Nat) (hk : k ∈ h.kids n) (hkx : k ≠ x) :
    w.inSub x k ↔ w.inSub x n := by
  have hkf := wf_parent_pos hwf (hwf.kid_parent n k hk)
  have hsx := hwf.size_pos x
  have hsk := hwf.size_pos k
  constructor
  · rintro ⟨hkt, h1, h2⟩
    refine ⟨by omega, ?_, by omega⟩
    -- else `x` starts inside a child `c` of `n`, which contains `x` and so `k`: `c = k`
    apply Classical.byContradiction
    intro hlt
    obtain ⟨c, hc, hc1, hc2⟩ := tiles_cover _ _ _ _ _ (w.pos x) (hwf.tiles n) (by omega) (by omega)
    have hcf := wf_parent_pos hwf (hwf.kid_parent n c hc)
    have hl := hwf.laminar c x (by omega) hc1 hc2
    have hd := tiles_disjoint _ _ _ _ _ (hwf.tiles n) c hc k hk (by omega) (by omega)
    have hck := hwf.inj c k (by omega) hd
    subst hck
    exact hkx (hwf.inj c x hkt (by omega))
  · rintro ⟨hnt, h1, h2⟩
    have := hwf.laminar x n hnt.symm h1 h2
    exact ⟨by omega, by omega, by omega⟩

theorem no_ns_of_root {h : Heap} {w : Wit} (hwf : WF h w) {r : Nat} (hr : h.parent r = none) : h.ns r = none := by
  cases hn : h.ns r with
  | none => rfl
  | some b =>
    obtain ⟨⟨q, hq, _⟩, _⟩ := (hwf.sib_ns r b).mp hn
    rw [hr] at hq; cases hq

theorem no_ps_of_root {h : Heap} {w : Wit} (hwf : WF h w) {r : Nat} (hr : h.parent r = none) : h.ps r = none := by
  cases hn : h.ps r with
  | none => rfl
  | some b =>
    obtain ⟨⟨q, _, hq⟩, _⟩ := (hwf.sib_ps b r).mp hn
    rw [hr] at hq; cases hq

/-! ## a doubly linked list and its two splices

Element chain and sibling chain are each two fields holding one partial injection `R`. `extract` takes the stretch
`x … L` out (`L = x` for siblings), `_insert` puts it in; a primitive shows its new `R` is the spliced old one. -/

/-- `nx` (forwards) and `pv` (backwards) both hold `R` -/
def Links (nx pv : Nat → Option Nat) (R : Nat → Nat → Prop) : Prop :=
  ∀ a b, (nx a = some b ↔ R a b) ∧ (pv b = some a ↔ R a b)

/-- same fields, equivalent relation -/
theorem Links.congr {nx pv : Nat → Option Nat} {R R' : Nat → Nat → Prop} (hl : Links nx pv R)
    (e : ∀ a b, R' a b ↔ R a b) : Links nx pv R' :=
  fun a b => ⟨(hl a b).1.trans (e a b).symm, (hl a b).2.trans (e a b).symm⟩

/-- same relation, fields that read the same -/
theorem Links.reads {nx pv nx' pv' : Nat → Option Nat} {R : Nat → Nat → Prop} (hl : Links nx pv R)
    (e1 : ∀ a, nx' a = nx a) (e2 : ∀ b, pv' b = pv b) : Links nx' pv' R :=
  fun a b => by rw [e1, e2]; exact hl a b

/-- the writes of `relinkElems`/`relinkSibs`. `h1`: the stretch is no ring; `h2`: the code's guard `prev ≠ nxt` -/
theorem Links.cut {nx pv : Nat → Option Nat} {R : Nat → Nat → Prop} (hl : Links nx pv R) (x L : Nat)
    (h1 : ¬ R L x) (h2 : ∀ a, R a x → ¬ R L a) :
    Links (fun a => if a = L then none else if pv x = some a ∧ pv x ≠ nx L then nx L else nx a)
      (fun b => if b = x then none else if nx L = some b ∧ nx L ≠ pv x then pv x else pv b)
      (fun a b => (R a b ∧ a ≠ L ∧ b ≠ x) ∨ (R a x ∧ R L b)) := by
  intro a b
  -- each test of the two `if`s is a fact about `R` through `hl`
  have := hl a b; have := hl a x; have := hl L b; have := hl L x; have := hl L a; have := hl b x
  have := h2 a; have := h2 b
  constructor <;> grind

/-- the writes of `linkChild`. `hx`, `hL`: the stretch stands alone; `hp`, `hs`: `pred` and `succ` are adjacent if linked -/
theorem Links.paste {nx pv : Nat → Option Nat} {R : Nat → Nat → Prop} (hl : Links nx pv R) (x L : Nat)
    (pred succ : Option Nat) (hx : ∀ a, ¬ R a x) (hL : ∀ b, ¬ R L b)
    (hp : ∀ a b, pred = some a → R a b → succ = some b) (hs : ∀ a b, succ = some b → R a b → pred = some a)
    (h1 : pred ≠ some L) (h2 : succ ≠ some x) :
    Links (fun a => if a = L then succ else if pred = some a then some x else nx a)
      (fun b => if succ = some b then some L else if b = x then pred else pv b)
      (fun a b => (a = L ∧ succ = some b) ∨ (pred = some a ∧ b = x) ∨ (R a b ∧ pred ≠ some a ∧ succ ≠ some b)) := by
  intro a b
  have := hl a b; have := hx a; have := hL b; have := hp a b; have := hs a b
  constructor <;> grind

theorem WF.elems {h : Heap} {w : Wit} (hwf : WF h w) :
    Links h.ne h.pe fun a b => w.unl a = false ∧ w.tree a = w.tree b ∧ w.pos b = w.pos a + 1 :=
  fun a b => ⟨hwf.chain_ne a b, hwf.chain_pe a b⟩

theorem WF.sibs {h : Heap} {w : Wit} (hwf : WF h w) :
    Links h.ns h.ps fun a b => (∃ p, h.parent a = some p ∧ h.parent b = some p) ∧ w.pos b = w.pos a + w.size a :=
  fun a b => ⟨hwf.sib_ns a b, hwf.sib_ps a b⟩

theorem lastDown_pos (h : Heap) (w : Wit) (hwf : WF h w) :
    ∀ (f n : Nat), w.size n ≤ f + 1 →
      w.tree (lastDown h f n) = w.tree n ∧ w.pos (lastDown h f n) + 1 = w.pos n + w.size n ∧
      h.kids (lastDown h f n) = [] := by
  intro f n hsz
  have h1 := hwf.size_pos n
  have ht := hwf.tiles n
  fun_induction lastDown h f n with
  | case1 n =>
    exact ⟨rfl, by omega, wf_size_one_kids hwf hsz⟩
  | case2 f n _ hl =>
    have : h.kids n = [] := by simpa using hl
    exact ⟨rfl, by rw [wf_leaf_size_one hwf this], this⟩
  | case3 f n _ k hl ih =>
    have hk := tiles_last _ _ (h.kids n) _ _ k ht hl
    have hmem : k ∈ h.kids n := List.mem_of_getLast? hl
    have := ih (by omega) (hwf.size_pos k) (hwf.tiles k)
    exact ⟨by rw [this.1, hwf.kid_tree n k hmem], by omega, this.2.2⟩
  | case4 f n htag =>
    have hk := hwf.str_leaf n (by simpa using htag)
    exact ⟨rfl, by rw [wf_leaf_size_one hwf hk], hk⟩

theorem last_facts (h : Heap) (w : Wit) (hwf : WF h w) (x : Nat) :
    w.tree (lastDown h h.cap x) = w.tree x ∧ w.pos (lastDown h h.cap x) + 1 = w.pos x + w.size x ∧
    h.kids (lastDown h h.cap x) = [] :=
  lastDown_pos h w hwf h.cap x (by have := hwf.size_cap x; omega)

/-- nothing follows the last position of a tree -/
theorem ne_last {h : Heap} {w : Wit} (hwf : WF h w) {l : Nat} (hl : w.pos l + 1 = w.size (w.tree l)) : h.ne l = none := by
  cases hn : h.ne l with
  | none => rfl
  | some c =>
    obtain ⟨-, t, q⟩ := (hwf.chain_ne l c).mp hn
    have hb := hwf.bound c
    have := hwf.size_pos c
    rw [← t] at hb
    omega

/-- `pe`, `ne` of the last node, `ps`, `ns` -/
theorem root_links {h : Heap} {w : Wit} {x : Nat} (hwf : WF h w) (hp : h.parent x = none) :
    h.pe x = none ∧ h.ne (lastDown h h.cap x) = none ∧ h.ps x = none ∧ h.ns x = none := by
  obtain ⟨hLt, hLp, _⟩ := last_facts h w hwf x
  obtain ⟨hr1, hr2⟩ := hwf.root_tree x hp
  refine ⟨?_, ?_, no_ps_of_root hwf hp, no_ns_of_root hwf hp⟩
  · cases hn : h.pe x with
    | none => rfl
    | some a => have := (hwf.chain_pe a x).mp hn; omega
  · exact ne_last hwf (by rw [hLt, hr1]; omega)

end BS.Heap
