import BSModel.Model.Reparse
import BSModel.Proofs.SortKeys
/-! C05 helper lemmas: the attribute normalisation of a re-parse (`normAttrs`: sort by key, `None` → `""`, duplicate
    keys folded as a dict does, multi-valued attributes split) is idempotent for every attribute list; on distinct keys it is `normAttrs_spec`. -/
namespace BS.Render

/-! ### `str.__lt__` is the order of code-point lists -/

theorem ltL_iff : ∀ (a b : PStr), ltL a b = true ↔ a < b
  | [], [] => by simp [ltL]
  | [], _ :: _ => by simp [ltL]
  | _ :: _, [] => by simp [ltL]
  | x :: xs, y :: ys => by
    simp only [ltL, List.cons_lt_cons_iff, ← ltL_iff xs ys]
    by_cases h1 : x < y
    · simp [h1]
    · by_cases h2 : y < x
      · have : x ≠ y := by omega
        simp [h1, h2, this]
      · have : x = y := by omega
        simp [this]

theorem ltL_false_iff (a b : PStr) : ltL a b = false ↔ b ≤ a := by
  rw [← List.not_lt, ← ltL_iff, Bool.not_eq_true]

theorem ltL_irrefl (a : PStr) : ltL a a = false := (ltL_false_iff a a).mpr (List.le_refl a)

theorem le_lt_trans (a b c : PStr) (h1 : ltL b a = false) (h2 : ltL b c = true) : ltL a c = true :=
  (ltL_iff a c).mpr (List.lt_of_le_of_lt ((ltL_false_iff b a).mp h1) ((ltL_iff b c).mp h2))

def StrictK {β} (l : List (PStr × β)) : Prop := l.Pairwise fun x y => ltL x.1 y.1 = true

theorem strictK_iff_keys {β} (l : List (PStr × β)) : StrictK l ↔ (l.map (·.1)).Pairwise (fun a b => ltL a b = true) := by
  simp [StrictK, List.pairwise_map]

theorem strictK_nodup {β} (l : List (PStr × β)) (h : StrictK l) : (l.map (·.1)).Nodup := by
  rw [strictK_iff_keys] at h
  exact h.imp (fun {a b} hab e => by subst e; simp [ltL_irrefl] at hab)

theorem strict_of_sorted_nodup {β} (l : List (PStr × β)) (hs : BS.SortKeys.Sorted l) (hn : (l.map (·.1)).Nodup) : StrictK l := by
  have hn' : l.Pairwise (fun x y => x.1 ≠ y.1) := by
    simpa [List.Nodup, List.pairwise_map] using hn
  refine (hs.and hn').imp ?_
  intro x y h
  cases hlt : ltL x.1 y.1 with
  | true => rfl
  | false => exact absurd (List.le_antisymm h.1 ((ltL_false_iff _ _).mp hlt)) h.2

open BS.SortKeys in
theorem cmp_ltL : Cmp ltL := ⟨fun a b h => List.le_of_lt ((ltL_iff a b).mp h), fun a b h => (ltL_false_iff a b).mp h⟩

theorem sortAttrs_eq_sortK (l : List (PStr × AVal)) : sortAttrs l = BS.SortKeys.sortK ltL l :=
  BS.SortKeys.sortK_unique (ins := insertAttr) (fun _ => rfl) (fun _ _ _ => rfl) rfl (fun _ _ => rfl) l

theorem sortAttrs_perm (l : List (PStr × AVal)) : (sortAttrs l).Perm l := by
  rw [sortAttrs_eq_sortK]; exact BS.SortKeys.sortK_perm ltL l

theorem sortedK_sort (l : List (PStr × AVal)) : BS.SortKeys.Sorted (sortAttrs l) := by
  rw [sortAttrs_eq_sortK]; exact BS.SortKeys.sortK_sorted cmp_ltL l

theorem sort_strict (l : List (PStr × AVal)) (h : StrictK l) : sortAttrs l = l := by
  rw [sortAttrs_eq_sortK]; exact BS.SortKeys.sortK_fixed ltL l h

theorem sortAttrs_map (φ : PStr × AVal → PStr × AVal) (hφ : ∀ x, (φ x).1 = x.1) (l : List (PStr × AVal)) :
    sortAttrs (l.map φ) = (sortAttrs l).map φ := by
  rw [sortAttrs_eq_sortK, sortAttrs_eq_sortK]; exact BS.SortKeys.sortK_map ltL φ hφ l

/-! ### the dict of `handle_starttag` -/

theorem dictSet_keys (d : List (PStr × PStr)) (k v : PStr) :
    (dictSet d k v).map (·.1) = if k ∈ d.map (·.1) then d.map (·.1) else d.map (·.1) ++ [k] := by
  fun_induction dictSet d k v with
  | case1 => simp
  | case2 => simp
  | case3 a b rest h ih =>
    have hk : ¬ k = a := fun e => h e.symm
    simp only [List.map_cons, ih, List.mem_cons, hk, false_or]
    split <;> rfl

theorem dictSet_append (d : List (PStr × PStr)) (k v : PStr) (h : k ∉ d.map (·.1)) : dictSet d k v = d ++ [(k, v)] := by
  fun_induction dictSet d k v with
  | case1 => rfl
  | case2 => simp at h
  | case3 a b rest hne ih => simp [ih (fun hm => h (by simp [hm]))]

/-- `attrs[key] = value` -/
def adaptStep (d : List (PStr × PStr)) (kv : PStr × Option PStr) : List (PStr × PStr) := dictSet d kv.1 (kv.2.getD [])

theorem adaptAttrs_eq (evs : List (PStr × Option PStr)) : adaptAttrs evs = evs.foldl adaptStep [] := rfl

/-- the dict's keys: distinct, in order of first occurrence -/
theorem adapt_keys : ∀ (evs : List (PStr × Option PStr)) (d : List (PStr × PStr)), (d.map (·.1)).Nodup →
    ((evs.foldl adaptStep d).map (·.1)).Nodup ∧
      ((evs.foldl adaptStep d).map (·.1)).Sublist (d.map (·.1) ++ evs.map (·.1))
  | [], d, hd => ⟨hd, by simp⟩
  | e :: rest, d, hd => by
    have hk := dictSet_keys d e.1 (e.2.getD [])
    have hd' : ((adaptStep d e).map (·.1)).Nodup := by
      rw [adaptStep, hk]
      split
      · exact hd
      · rename_i hm
        refine List.nodup_append.mpr ⟨hd, by simp, fun a ha b hb h => ?_⟩
        rw [List.mem_singleton] at hb
        exact hm (hb ▸ h ▸ ha)
    obtain ⟨h1, h2⟩ := adapt_keys rest (adaptStep d e) hd'
    refine ⟨h1, h2.trans ?_⟩
    rw [adaptStep, hk, List.map_cons]
    split
    · exact List.Sublist.append_left (List.sublist_cons_self _ _) _
    · rw [List.append_assoc]
      exact List.Sublist.refl _

/-- folding key-sorted pairs into the dict gives strictly increasing keys -/
theorem adaptAttrs_strict (evs : List (PStr × Option PStr)) (hs : BS.SortKeys.Sorted evs) : StrictK (adaptAttrs evs) := by
  obtain ⟨hn, hsub⟩ := adapt_keys evs [] List.nodup_nil
  have h1 : (evs.map (·.1)).Pairwise (· ≤ ·) := List.pairwise_map.mpr hs
  exact strict_of_sorted_nodup _ (List.pairwise_map.mp (h1.sublist hsub)) hn

/-- with distinct keys nothing is replaced -/
theorem adapt_eq_append_of_nodup : ∀ (evs : List (PStr × Option PStr)) (d : List (PStr × PStr)),
    (evs.map (·.1)).Nodup → (∀ k ∈ evs.map (·.1), k ∉ d.map (·.1)) →
    evs.foldl adaptStep d = d ++ evs.map (fun kv => (kv.1, kv.2.getD []))
  | [], d, _, _ => by simp
  | e :: rest, d, hn, hd => by
    simp only [List.map_cons, List.nodup_cons] at hn
    have he : e.1 ∉ d.map (·.1) := hd e.1 (by simp)
    simp only [List.foldl_cons, adaptStep, dictSet_append d e.1 _ he]
    rw [adapt_eq_append_of_nodup rest _ hn.2]
    · simp
    · intro k hk
      simp only [List.map_append, List.map_cons, List.map_nil, List.mem_append, List.mem_singleton, not_or]
      refine ⟨hd k (by simp [hk]), ?_⟩
      intro e'; subst e'; exact hn.1 hk

theorem adaptAttrs_eq_map_of_nodup (evs : List (PStr × Option PStr)) (h : (evs.map (·.1)).Nodup) :
    adaptAttrs evs = evs.map (fun kv => (kv.1, kv.2.getD [])) := by
  rw [adaptAttrs_eq, adapt_eq_append_of_nodup evs [] h (by simp)]
  simp

/-! ### splitting a joined list of words -/

def nonSp (sp : List Nat) (w : PStr) : Prop := ∀ c ∈ w, sp.contains c = false
/-- a match of `\S+` -/
def Word (sp : List Nat) (w : PStr) : Prop := w ≠ [] ∧ nonSp sp w

theorem splitWsAux_word (sp : List Nat) : ∀ (w rest cur : PStr), nonSp sp w →
    splitWsAux sp (w ++ rest) cur = splitWsAux sp rest (w.reverse ++ cur)
  | [], _, _, _ => by simp
  | c :: w, rest, cur, h => by
    have hc : sp.contains c = false := h c (by simp)
    have hw : nonSp sp w := fun x hx => h x (by simp [hx])
    simp only [List.cons_append, splitWsAux, hc, Bool.false_eq_true, if_false]
    rw [splitWsAux_word sp w rest (c :: cur) hw]
    simp

theorem splitWs_join (sp : List Nat) (h32 : sp.contains 32 = true) : ∀ (l : List PStr), (∀ w ∈ l, Word sp w) →
    splitWsAux sp (joinSp l) [] = l
  | [], _ => by simp [joinSp, splitWsAux]
  | [a], h => by
    have ha := h a (by simp)
    have := splitWsAux_word sp a [] [] ha.2
    simp only [List.append_nil] at this
    simp only [joinSp, this, splitWsAux]
    have hne : a.reverse.isEmpty = false := by simpa using ha.1
    simp [hne]
  | a :: b :: rest, h => by
    have ha := h a (by simp)
    have ih := splitWs_join sp h32 (b :: rest) (fun w hw => h w (by simp [hw]))
    simp only [joinSp]
    rw [splitWsAux_word sp a _ [] ha.2]
    have hne : a.reverse.isEmpty = false := by simpa using ha.1
    simp only [List.append_nil, splitWsAux, h32, if_true, hne, Bool.false_eq_true, if_false, List.reverse_reverse, ih]

theorem word_reverse {sp : List Nat} {cur : PStr} (hne : ¬ cur.isEmpty = true) (hc : nonSp sp cur) : Word sp cur.reverse :=
  ⟨fun h0 => hne (by simpa using h0), fun c hcm => hc c (by simpa using hcm)⟩

theorem splitWsAux_words (sp : List Nat) (s cur : PStr) (hc : nonSp sp cur) : ∀ w ∈ splitWsAux sp s cur, Word sp w := by
  have hnil : nonSp sp [] := by simp [nonSp]
  fun_induction splitWsAux sp s cur with
  | case1 => simp
  | case2 cur hne => simpa using word_reverse hne hc                   -- end, run collected
  | case3 c cs cur _ _ ih => exact ih hnil                              -- separator, no run
  | case4 c cs cur _ hne ih => exact List.forall_mem_cons.mpr ⟨word_reverse hne hc, ih hnil⟩   -- separator, run
  | case5 c cs cur hsp ih =>
    exact ih (List.forall_mem_cons.mpr ⟨by simpa using hsp, hc⟩)

/-- `nonwhitespace_re.findall(" ".join(nonwhitespace_re.findall(v))) == nonwhitespace_re.findall(v)` -/
theorem splitWs_idem (p : PCfg) (h32 : p.reSpace.contains 32 = true) (v : PStr) :
    splitWs p (joinSp (splitWs p v)) = splitWs p v := by
  unfold splitWs
  exact splitWs_join p.reSpace h32 _ (splitWsAux_words p.reSpace v [] (by simp [nonSp]))

/-! ### what the normalisation does to the attributes of a real `dict` (distinct keys) -/

theorem keysNodup_iff : ∀ (ks : List PStr), keysNodup ks = true ↔ ks.Nodup
  | [] => by simp [keysNodup]
  | k :: ks => by simp [keysNodup, keysNodup_iff ks]

/-- the text a value is written as and read back as -/
def valRead : AVal → PStr
  | .none => []
  | v => valText v

/-- the value a re-parse gives an attribute: the written text, split if the attribute is multi-valued for the tag -/
def normVal (p : PCfg) (nm : PStr) (kv : PStr × AVal) : PStr × AVal :=
  (kv.1, if isCdataListAttr p nm kv.1 then AVal.list (splitWs p (valRead kv.2)) else AVal.str (valRead kv.2))

/-- **same attributes**: for the attributes of a dict (distinct keys) the normal form is: the same keys, sorted, each
    with the text its value is written as (`None` → `""`, a list joined by spaces) — split again on whitespace when
    the attribute is multi-valued for the tag. Whether `""` is written as a bare key makes no difference. -/
theorem normAttrs_spec (p : PCfg) (f : Fmt) (nm : PStr) (a : List (PStr × AVal)) (hn : keysNodup (a.map (·.1)) = true) :
    normAttrs p f nm a = (sortAttrs a).map (normVal p nm) := by
  let e : PStr × AVal → PStr × AVal := fun kv => (kv.1, if f.emptyBool && kv.2 == AVal.str [] then AVal.none else kv.2)
  have he : fmtAttributes f a = (sortAttrs a).map e := sortAttrs_map e (fun _ => rfl) a
  have hE : ((evAttrs f a).map (·.1)).Nodup := by
    unfold evAttrs
    rw [he, List.map_map, List.map_map]
    exact ((sortAttrs_perm a).map _).nodup_iff.mpr ((keysNodup_iff _).mp hn)
  unfold normAttrs buildAttrs
  rw [adaptAttrs_eq_map_of_nodup _ hE]
  unfold evAttrs
  rw [he]
  simp only [List.map_map]
  apply List.map_congr_left
  intro x _
  simp only [Function.comp, normVal, e]
  by_cases hb : (f.emptyBool && x.2 == AVal.str []) = true
  · simp only [Bool.and_eq_true, beq_iff_eq] at hb
    simp [hb.1, hb.2, valRead, valText]
  · simp only [hb, Bool.false_eq_true, if_false]
    cases hv : x.2 <;> simp [valRead, valText]

theorem normAttrs_strict (p : PCfg) (f : Fmt) (nm : PStr) (a : List (PStr × AVal)) : StrictK (normAttrs p f nm a) := by
  have hE : BS.SortKeys.Sorted (evAttrs f a) := by
    unfold evAttrs fmtAttributes
    rw [BS.SortKeys.Sorted, List.pairwise_map]
    exact sortedK_sort _
  have := adaptAttrs_strict (evAttrs f a) hE
  rw [strictK_iff_keys] at this ⊢
  rw [normAttrs, buildAttrs, List.map_map]
  exact this

/-- **`normAttrs` is idempotent**, for every attribute list, tag name, formatter and configuration in which the space
    is a whitespace character -/
theorem normAttrs_idem (p : PCfg) (h32 : p.reSpace.contains 32 = true) (f : Fmt) (nm : PStr) (a : List (PStr × AVal)) :
    normAttrs p f nm (normAttrs p f nm a) = normAttrs p f nm a := by
  have hs := normAttrs_strict p f nm a
  rw [normAttrs_spec p f nm _ ((keysNodup_iff _).mpr (strictK_nodup _ hs)), sort_strict _ hs]
  conv => rhs; rw [← List.map_id (normAttrs p f nm a)]
  apply List.map_congr_left
  intro x hx
  -- the shape of a normalised attribute
  unfold normAttrs buildAttrs at hx
  obtain ⟨y, _, rfl⟩ := List.mem_map.mp hx
  simp only [normVal, id]
  by_cases hl : isCdataListAttr p nm y.1 = true
  · simp [hl, valRead, valText, splitWs_idem p h32]
  · simp [hl, valRead, valText]

end BS.Render
