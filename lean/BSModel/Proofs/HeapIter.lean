import BSModel.Proofs.HeapBasics
/-! # The navigation views of a well-formed heap, read off the children lists

`pre h.kids f n` is the recursive pre-order walk over `contents`. On a heap with `WF h w` the fuelled pointer chases of
`Model/Heap.lean` are closed forms: `nextElements`, `previousElements`, `descendants` slices of that walk, the sibling chases
slices of the parent's `contents`, `parents` the proper ancestors, innermost first; the ghost fuel `h.cap` always suffices. -/
namespace BS.Heap

/-- the specification: recursive pre-order walk of the children lists (fuel = bound on the depth; every lemma supplies the size, which bounds it) -/
def pre (kids : Nat → List Nat) : Nat → Nat → List Nat
  | 0, n => [n]
  | f + 1, n => n :: (kids n).flatMap (pre kids f)

/-- document order of the tree rooted at `r` -/
def docOrder (h : Heap) (r : Nat) : List Nat := pre h.kids h.cap r

theorem pre_head (kids : Nat → List Nat) (f n : Nat) : pre kids f n = n :: (pre kids f n).tail := by
  cases f <;> rfl

theorem docOrder_cons (h : Heap) (x : Nat) : docOrder h x = x :: (docOrder h x).tail := pre_head _ _ _

theorem docOrder_self_mem (h : Heap) (x : Nat) : x ∈ docOrder h x := by
  rw [docOrder_cons]; exact List.mem_cons_self

theorem docOrder_leaf {h : Heap} {x : Nat} (hk : h.kids x = []) : docOrder h x = [x] := by
  unfold docOrder; cases h.cap <;> simp [pre, hk]

/-- a list whose `j`-th element sits at position `s + j` of tree `t` -/
def Consec (w : Wit) (l : List Nat) (t s : Nat) : Prop :=
  ∀ j (h : j < l.length), w.pos l[j] = s + j ∧ w.tree l[j] = t

theorem consec_append (w : Wit) (l₁ l₂ : List Nat) (t s : Nat)
    (h1 : Consec w l₁ t s) (h2 : Consec w l₂ t (s + l₁.length)) : Consec w (l₁ ++ l₂) t s := by
  intro j hj
  by_cases hlt : j < l₁.length
  · rw [List.getElem_append_left hlt]; exact h1 j hlt
  · have hge : l₁.length ≤ j := by omega
    rw [List.getElem_append_right hge]
    have := h2 (j - l₁.length) (by simp only [List.length_append] at hj; omega)
    refine ⟨by omega, this.2⟩

theorem flatMap_congr' {α β : Type} (f g : α → List β) : ∀ (l : List α), (∀ a ∈ l, f a = g a) →
    l.flatMap f = l.flatMap g :=
  fun l h => by rw [List.flatMap_def, List.flatMap_def, List.map_congr_left h]

/-- the one induction over the tree: the walk of `n` occupies the positions from `pos n` on, in order -/
theorem pre_consec {h : Heap} {w : Wit} (hwf : WF h w) :
    ∀ (f n : Nat), w.size n ≤ f + 1 →
      (pre h.kids f n).length = w.size n ∧ Consec w (pre h.kids f n) (w.tree n) (w.pos n) := by
  intro f
  induction f with
  | zero =>
    intro n hsz
    have h1 := hwf.size_pos n
    simp only [pre, List.length_singleton]
    refine ⟨by omega, ?_⟩
    intro j hj
    simp only [List.length_singleton] at hj
    have : j = 0 := by omega
    subst this; simp
  | succ f ih =>
    intro n hsz
    have ht := hwf.tiles n
    -- for any tiled list, since the start `s` moves along the induction
    have kidsPart : ∀ (ks : List Nat) (s e : Nat), Tiles w.pos w.size ks s e →
        (∀ k ∈ ks, w.size k ≤ f + 1 ∧ w.tree k = w.tree n) →
        (ks.flatMap (pre h.kids f)).length + s = e ∧ Consec w (ks.flatMap (pre h.kids f)) (w.tree n) s := by
      intro ks
      induction ks with
      | nil =>
        intro s e ht _
        simp only [Tiles] at ht
        refine ⟨by simp [ht], ?_⟩
        intro j hj; simp at hj
      | cons k ks ihk =>
        intro s e ht hs
        obtain ⟨hk, hk1, hr⟩ := ht
        have hk' := hs k (by simp)
        have a := ih k hk'.1
        have b := ihk (s + w.size k) e hr (fun k' hk' => hs k' (by simp [hk']))
        simp only [List.flatMap_cons, List.length_append]
        refine ⟨by omega, ?_⟩
        apply consec_append
        · rw [← hk, ← hk'.2]; exact a.2
        · rw [a.1]; exact b.2
    have small : ∀ k ∈ h.kids n, w.size k ≤ f + 1 ∧ w.tree k = w.tree n := by
      intro k hk
      have := wf_kid_lt hwf hk
      exact ⟨by omega, hwf.kid_tree n k hk⟩
    have kp := kidsPart (h.kids n) _ _ ht small
    simp only [pre, List.length_cons]
    refine ⟨by omega, ?_⟩
    intro j hj
    cases j with
    | zero => simp
    | succ j =>
      simp only [List.getElem_cons_succ]
      have := kp.2 j (by simp only [List.length_cons] at hj; omega)
      exact ⟨by omega, this.2⟩

theorem pre_fuel {h : Heap} {w : Wit} (hwf : WF h w) :
    ∀ (f n : Nat), w.size n ≤ f + 1 → pre h.kids (f + 1) n = pre h.kids f n := by
  intro f
  induction f with
  | zero =>
    intro n hf
    simp [pre, wf_size_one_kids hwf (n := n) (by omega)]
  | succ f ih =>
    intro n hf
    simp only [pre]
    congr 1
    apply flatMap_congr'
    intro k hk
    have := wf_kid_lt hwf hk
    exact ih k (by omega)

theorem docOrder_cons_kids {h : Heap} {w : Wit} (hwf : WF h w) (t : Nat) :
    docOrder h t = t :: (h.kids t).flatMap (docOrder h) := by
  unfold docOrder
  obtain ⟨f, hf⟩ := wf_cap_succ hwf
  rw [hf]
  simp only [pre]
  congr 1
  apply flatMap_congr'
  intro k _
  have := hwf.size_cap k
  exact (pre_fuel hwf f k (by omega)).symm

theorem docOrder_mem_iff {h : Heap} {w : Wit} (hwf : WF h w) (t m : Nat) :
    m ∈ docOrder h t ↔ m = t ∨ ∃ c ∈ h.kids t, m ∈ docOrder h c := by
  rw [docOrder_cons_kids hwf t, List.mem_cons, List.mem_flatMap]

theorem docOrder_length {h : Heap} {w : Wit} (hwf : WF h w) (r : Nat) :
    (docOrder h r).length = w.size r :=
  (pre_consec hwf h.cap r (by have := hwf.size_cap r; omega)).1

/-- walk and witness, at any node `x` -/
theorem docOrder_idx {h : Heap} {w : Wit} (hwf : WF h w) (x i d : Nat) :
    (docOrder h x)[i]? = some d ↔ w.inSub x d ∧ w.pos d = w.pos x + i := by
  unfold docOrder
  obtain ⟨hlen, hpos⟩ := pre_consec hwf h.cap x (Nat.le_succ_of_le (hwf.size_cap x))
  constructor
  · intro hid
    obtain ⟨hi, rfl⟩ := List.getElem?_eq_some_iff.mp hid
    have := hpos i hi
    exact ⟨⟨this.2, by omega, by omega⟩, this.1⟩
  · rintro ⟨hin, hp⟩
    have hi : i < (pre h.kids h.cap x).length := by have := hin.2.2; omega
    rw [List.getElem?_eq_getElem hi]
    exact congrArg some (hwf.inj _ _ ((hpos i hi).2.trans hin.1.symm) ((hpos i hi).1.trans hp.symm))

theorem inSub_refl {h : Heap} {w : Wit} (hwf : WF h w) (t : Nat) : w.inSub t t :=
  ⟨rfl, Nat.le_refl _, Nat.lt_add_of_pos_right (hwf.size_pos t)⟩

theorem docOrder_mem_inSub {h : Heap} {w : Wit} (hwf : WF h w) (x m : Nat) :
    m ∈ docOrder h x ↔ w.inSub x m := by
  refine ⟨fun hm => ?_, fun hin => ?_⟩
  · obtain ⟨i, hi⟩ := List.getElem?_of_mem hm
    exact ((docOrder_idx hwf x i m).mp hi).1
  · exact List.mem_of_getElem? ((docOrder_idx hwf x (w.pos m - w.pos x) m).mpr ⟨hin, (Nat.add_sub_of_le hin.2.1).symm⟩)

theorem parent_not_in_subtree {h : Heap} {w : Wit} (hwf : WF h w) {t c : Nat} (hc : c ∈ h.kids t) :
    t ∉ docOrder h c := by
  intro hm
  have := ((docOrder_mem_inSub hwf c t).mp hm).2.1
  have := wf_kid_lt hwf hc
  omega

theorem docOrder_getElem {h : Heap} {w : Wit} (hwf : WF h w) {r : Nat} (hr : h.parent r = none)
    (j : Nat) (hj : j < (docOrder h r).length) :
    w.pos (docOrder h r)[j] = j ∧ w.tree (docOrder h r)[j] = r := by
  have := (docOrder_idx hwf r j _).mp (List.getElem?_eq_getElem hj)
  have hrt := hwf.root_tree r hr
  rw [hrt.2, Nat.zero_add] at this
  exact ⟨this.2, this.1.1.trans hrt.1⟩

theorem docOrder_getElem? {h : Heap} {w : Wit} (hwf : WF h w) {r : Nat} (hr : h.parent r = none) (j m : Nat) :
    (docOrder h r)[j]? = some m ↔ (w.tree m = r ∧ w.pos m = j) := by
  have hrt := hwf.root_tree r hr
  rw [docOrder_idx hwf, Wit.inSub, hrt.1, hrt.2, Nat.zero_add, Nat.zero_add]
  exact ⟨fun hm => ⟨hm.1.1, hm.2⟩, fun hm => ⟨⟨hm.1, Nat.zero_le _, hm.1 ▸ wf_pos_lt hwf m⟩, hm.2⟩⟩

theorem docOrder_self {h : Heap} {w : Wit} (hwf : WF h w) (m : Nat) :
    (docOrder h (w.tree m))[w.pos m]? = some m :=
  (docOrder_getElem? hwf (hwf.tree_root m) _ _).mpr ⟨rfl, rfl⟩

theorem docOrder_mem {h : Heap} {w : Wit} (hwf : WF h w) {r : Nat} (hr : h.parent r = none) (m : Nat) :
    m ∈ docOrder h r ↔ w.tree m = r := by
  refine ⟨fun hm => ?_, fun ht => ht ▸ List.mem_of_getElem? (docOrder_self hwf m)⟩
  obtain ⟨j, hj⟩ := List.getElem?_of_mem hm
  exact ((docOrder_getElem? hwf hr j m).mp hj).1

theorem docOrder_nodup {h : Heap} {w : Wit} (hwf : WF h w) {r : Nat} (hr : h.parent r = none) :
    (docOrder h r).Nodup := by
  unfold List.Nodup
  rw [List.pairwise_iff_getElem]
  intro i j hi hj hij heq
  have a := (docOrder_getElem hwf hr i hi).1
  have b := (docOrder_getElem hwf hr j hj).1
  rw [heq] at a
  omega

theorem docOrder_complete {h : Heap} {w : Wit} (hwf : WF h w) {r : Nat} (hr : h.parent r = none) :
    (∀ m, m ∈ docOrder h r ↔ w.tree m = r) ∧ (docOrder h r).Nodup ∧ (docOrder h r).length = w.size r ∧
    (∀ j m, (docOrder h r)[j]? = some m ↔ (w.tree m = r ∧ w.pos m = j)) ∧
    (∀ j, j < w.size r → ∃ m, w.tree m = r ∧ w.pos m = j) :=
  ⟨docOrder_mem hwf hr, docOrder_nodup hwf hr, docOrder_length hwf _, docOrder_getElem? hwf hr,
   fun j hj => ⟨_, (docOrder_getElem hwf hr j (docOrder_length hwf r ▸ hj)).symm⟩⟩

theorem next_element_is_successor {h : Heap} {w : Wit} (hwf : WF h w) (a : Nat) :
    (w.unl a = false → h.ne a = (docOrder h (w.tree a))[w.pos a + 1]?) ∧ (w.unl a = true → h.ne a = none) := by
  refine ⟨fun hu => Option.ext fun b => ?_, fun hu => Option.ext fun b => ?_⟩
  · rw [hwf.chain_ne, docOrder_getElem? hwf (hwf.tree_root a), hu]
    exact ⟨fun hb => ⟨hb.2.1.symm, hb.2.2⟩, fun hb => ⟨rfl, hb.1.symm, hb.2⟩⟩
  · rw [hwf.chain_ne, hu]
    exact ⟨fun hb => (nomatch hb.1), nofun⟩

/-- `previous_element` is the document-order predecessor; the root has none, and neither has the first element
    beneath a BeautifulSoup root that stands outside the element chain -/
theorem previous_element_is_predecessor {h : Heap} {w : Wit} (hwf : WF h w) (b : Nat) :
    h.pe b = if w.pos b ≤ (if w.unl (w.tree b) = true then 1 else 0) then none
             else (docOrder h (w.tree b))[w.pos b - 1]? := by
  refine Option.ext fun a => ?_
  rw [hwf.chain_pe]
  -- only the root of `b`'s tree can be unlinked, so a predecessor at position 0 counts iff the root is linked: `d ∈ {0, 1}`
  generalize hd : (if w.unl (w.tree b) = true then 1 else 0) = d
  have hdu : (d = 1 ↔ w.unl (w.tree b) = true) ∧ d ≤ 1 := by subst hd; split <;> simp [*]
  have hroot : w.tree a = w.tree b → w.pos a = 0 → w.unl a = w.unl (w.tree b) := fun ht hp => by
    rw [← ht, ← wf_pos_zero hwf hp]
  split
  · rename_i hle
    refine ⟨fun ⟨hu, ht, hp⟩ => ?_, nofun⟩
    rw [hroot ht (by omega), hdu.1.mp (by omega)] at hu
    cases hu
  · rename_i hgt
    rw [docOrder_getElem? hwf (hwf.tree_root b)]
    refine ⟨fun ⟨_, ht, hp⟩ => ⟨ht, by omega⟩, fun ⟨ht, hp⟩ => ⟨?_, ht, by omega⟩⟩
    rcases Nat.eq_zero_or_pos (w.pos a) with h0 | h1
    · rw [hroot ht h0]
      cases hu : w.unl (w.tree b) with
      | false => rfl
      | true => have := hdu.1.mpr hu; omega
    · exact wf_unl_pos hwf h1

theorem chase_none (step : Nat → Option Nat) (f : Nat) : chase step f none = [] := by
  cases f <;> rfl

theorem chase_drop (step : Nat → Option Nat) (l : List Nat) (d : Nat)
    (hstep : ∀ j (hj : j < l.length), d ≤ j → step l[j] = l[j + 1]?) :
    ∀ (f j : Nat), d ≤ j → l.length ≤ f + j → chase step f l[j]? = l.drop j := by
  intro f
  induction f with
  | zero => intro j _ hf; rw [List.drop_eq_nil_of_le (by omega)]; rfl
  | succ f ih =>
    intro j hd hf
    by_cases hlt : j < l.length
    · rw [List.getElem?_eq_getElem hlt, List.drop_eq_getElem_cons hlt]
      simp only [chase]
      rw [hstep j hlt hd, ih (j + 1) (by omega) (by omega)]
    · have hle : l.length ≤ j := by omega
      rw [List.drop_eq_nil_of_le hle, List.getElem?_eq_none hle, chase_none]

theorem chase_take (step : Nat → Option Nat) (l : List Nat) (d : Nat)
    (hstep : ∀ j (hj : j < l.length), step l[j] = if j ≤ d then none else l[j - 1]?) :
    ∀ (f j : Nat), j ≤ f → j ≤ l.length →
      chase step f (if j ≤ d then none else l[j - 1]?) = ((l.take j).drop d).reverse := by
  intro f
  induction f with
  | zero =>
    intro j hj _
    have : j = 0 := by omega
    subst this
    simp [chase]
  | succ f ih =>
    intro j hj hlen
    by_cases hjd : j ≤ d
    · rw [if_pos hjd, chase_none, List.drop_eq_nil_of_le (by rw [List.length_take]; omega)]; rfl
    · rw [if_neg hjd]
      have hlt : j - 1 < l.length := by omega
      rw [List.getElem?_eq_getElem hlt]
      simp only [chase]
      rw [hstep (j - 1) hlt, ih (j - 1) (by omega) (by omega)]
      have ht : l.take j = l.take (j - 1) ++ [l[j - 1]] := by
        conv => lhs; rw [show j = (j - 1) + 1 by omega]
        rw [List.take_add_one, List.getElem?_eq_getElem hlt]; rfl
      rw [ht, List.drop_append_of_le_length (by rw [List.length_take]; omega), List.reverse_append]
      rfl

theorem chase_ne_drop {h : Heap} {w : Wit} (hwf : WF h w) {r : Nat} (hr : h.parent r = none) (f j : Nat)
    (hj : 1 ≤ j) (hf : w.size r ≤ f + j) : chase h.ne f (docOrder h r)[j]? = (docOrder h r).drop j := by
  refine chase_drop h.ne (docOrder h r) 1 (fun j hlt hj => ?_) f j hj (by rw [docOrder_length hwf r]; exact hf)
  have he := docOrder_getElem hwf hr j hlt
  have := (next_element_is_successor hwf (docOrder h r)[j]).1 (wf_unl_pos hwf (by omega))
  rw [he.2, he.1] at this
  exact this

theorem nextElements_eq {h : Heap} {w : Wit} (hwf : WF h w) (x : Nat) :
    (w.unl x = false → nextElements h x = (docOrder h (w.tree x)).drop (w.pos x + 1)) ∧
    (w.unl x = true → nextElements h x = []) := by
  have hs := next_element_is_successor hwf x
  constructor
  · intro hu
    unfold nextElements
    rw [hs.1 hu]
    exact chase_ne_drop hwf (hwf.tree_root x) _ _ (by omega) (by have := hwf.size_cap (w.tree x); omega)
  · intro hu
    unfold nextElements
    rw [hs.2 hu, chase_none]

/-- chasing `previous_element` from `x`: the elements before `x`, nearest first, without the root when it is an unlinked
    BeautifulSoup object (the chain stops before it) -/
theorem previousElements_take {h : Heap} {w : Wit} (hwf : WF h w) (x : Nat) :
    previousElements h x = (((docOrder h (w.tree x)).take (w.pos x)).drop
      (if w.unl (w.tree x) = true then 1 else 0)).reverse := by
  have hr := hwf.tree_root x
  have hcap := hwf.size_cap (w.tree x)
  have hlt := wf_pos_lt hwf x
  unfold previousElements
  rw [previous_element_is_predecessor hwf x]
  refine chase_take h.pe (docOrder h (w.tree x)) _ (fun j hj => ?_) h.cap (w.pos x) (by omega)
    (by rw [docOrder_length hwf _]; omega)
  have he := docOrder_getElem hwf hr j hj
  have := previous_element_is_predecessor hwf (docOrder h (w.tree x))[j]
  rw [he.2, he.1] at this
  exact this

theorem previousElements_eq {h : Heap} {w : Wit} (hwf : WF h w) (x : Nat) :
    (w.unl (w.tree x) = false →
      previousElements h x = ((docOrder h (w.tree x)).take (w.pos x)).reverse) ∧
    (w.unl (w.tree x) = true →
      previousElements h x = (((docOrder h (w.tree x)).take (w.pos x)).drop 1).reverse) := by
  have := previousElements_take hwf x
  constructor
  · intro hu; rw [this, hu]; rfl
  · intro hu; rw [this, hu]; rfl

theorem kids_nodup {h : Heap} {w : Wit} (hwf : WF h w) (n : Nat) : (h.kids n).Nodup :=
  tiles_nodup _ _ _ _ _ (hwf.tiles n)

theorem ns_kid {h : Heap} {w : Wit} (hwf : WF h w) {p i a : Nat} (ha : (h.kids p)[i]? = some a) :
    h.ns a = (h.kids p)[i + 1]? := by
  have hadj := tiles_adj w.pos w.size _ _ _ i a (hwf.tiles p) ha
  have hmem : a ∈ h.kids p := List.mem_of_getElem? ha
  have hpa := hwf.kid_parent p a hmem
  cases hb : (h.kids p)[i + 1]? with
  | some b =>
    have hmb : b ∈ h.kids p := List.mem_of_getElem? hb
    exact (hwf.sib_ns a b).mpr ⟨⟨p, hpa, hwf.kid_parent p b hmb⟩, hadj.2.1 b hb⟩
  | none =>
    cases hn : h.ns a with
    | none => rfl
    | some b =>
      obtain ⟨⟨q, hq1, hq2⟩, hpos⟩ := (hwf.sib_ns a b).mp hn
      rw [hpa] at hq1; cases hq1
      have := wf_kid_lt hwf (hwf.parent_kid b p hq2)
      have := hadj.2.2 hb
      omega

theorem ps_kid {h : Heap} {w : Wit} (hwf : WF h w) {p i b : Nat} (hb : (h.kids p)[i]? = some b) :
    h.ps b = if i = 0 then none else (h.kids p)[i - 1]? := by
  have hmem : b ∈ h.kids p := List.mem_of_getElem? hb
  have hpb := hwf.kid_parent p b hmem
  split
  · rename_i h0
    have hadj := tiles_adj w.pos w.size _ _ _ i b (hwf.tiles p) hb
    cases hn : h.ps b with
    | none => rfl
    | some a =>
      obtain ⟨⟨q, hq1, hq2⟩, hpos⟩ := (hwf.sib_ps a b).mp hn
      rw [hpb] at hq2; cases hq2
      have := wf_kid_lt hwf (hwf.parent_kid a p hq1)
      have := hadj.1 h0
      omega
  · rename_i h0
    have hlt : i - 1 < (h.kids p).length := by
      have := (List.getElem?_eq_some_iff.mp hb).1; omega
    rw [List.getElem?_eq_getElem hlt]
    have hn := ns_kid hwf (List.getElem?_eq_getElem hlt)
    rw [show i - 1 + 1 = i by omega, hb] at hn
    exact (hwf.sib_ps _ b).mpr ((hwf.sib_ns _ b).mp hn)

theorem kids_length_lt {h : Heap} {w : Wit} (hwf : WF h w) (p : Nat) : (h.kids p).length < h.cap := by
  have := tiles_length _ _ _ _ _ (hwf.tiles p)
  have := hwf.size_cap p
  omega

theorem kids_idxOf {h : Heap} {w : Wit} (hwf : WF h w) {x p : Nat} (hp : h.parent x = some p) :
    (h.kids p)[(h.kids p).idxOf x]? = some x := by
  have hmem := hwf.parent_kid x p hp
  have hlt : (h.kids p).idxOf x < (h.kids p).length := List.idxOf_lt_length_of_mem hmem
  rw [List.getElem?_eq_getElem hlt, List.getElem_idxOf hlt]

theorem nextSiblings_eq {h : Heap} {w : Wit} (hwf : WF h w) {x p i : Nat} (hp : h.parent x = some p)
    (hi : (h.kids p).idxOf x = i) : nextSiblings h x = (h.kids p).drop (i + 1) := by
  have hx := kids_idxOf hwf hp
  rw [hi] at hx
  unfold nextSiblings
  rw [ns_kid hwf hx]
  exact chase_drop h.ns (h.kids p) 0 (fun j hj _ => ns_kid hwf (List.getElem?_eq_getElem hj)) h.cap (i + 1)
    (Nat.zero_le _) (by have := kids_length_lt hwf p; omega)

theorem previousSiblings_eq {h : Heap} {w : Wit} (hwf : WF h w) {x p i : Nat} (hp : h.parent x = some p)
    (hi : (h.kids p).idxOf x = i) : previousSiblings h x = ((h.kids p).take i).reverse := by
  have hx := kids_idxOf hwf hp
  rw [hi] at hx
  have hlt := (List.getElem?_eq_some_iff.mp hx).1
  have hps : ∀ j b, (h.kids p)[j]? = some b → h.ps b = if j ≤ 0 then none else (h.kids p)[j - 1]? :=
    fun j b hb => by rw [ps_kid hwf hb]; simp only [Nat.le_zero]
  unfold previousSiblings
  rw [hps i x hx]
  exact chase_take h.ps (h.kids p) 0 (fun j hj => hps j _ (List.getElem?_eq_getElem hj)) h.cap i
    (by have := kids_length_lt hwf p; omega) (by omega)

theorem siblings_root {h : Heap} {w : Wit} (hwf : WF h w) {x : Nat} (hp : h.parent x = none) :
    h.ns x = none ∧ h.ps x = none ∧ nextSiblings h x = [] ∧ previousSiblings h x = [] := by
  have hns := no_ns_of_root hwf hp
  have hps := no_ps_of_root hwf hp
  refine ⟨hns, hps, ?_, ?_⟩
  · unfold nextSiblings; rw [hns, chase_none]
  · unfold previousSiblings; rw [hps, chase_none]

theorem inSub_root {h : Heap} {w : Wit} (hwf : WF h w) {c : Nat} (hp : h.parent c = none) (a : Nat) :
    ¬ (a ≠ c ∧ w.inSub a c) := by
  rintro ⟨hne, ht, h1, _⟩
  have := (hwf.root_tree c hp).2
  exact hne (hwf.inj a c ht.symm (by omega))

theorem inSub_parent {h : Heap} {w : Wit} (hwf : WF h w) {c p : Nat} (hp : h.parent c = some p) (a : Nat) :
    (a ≠ c ∧ w.inSub a c) ↔ w.inSub a p := by
  have hck := hwf.parent_kid c p hp
  -- `c` starts after `p`
  have hne : w.inSub a p → c ≠ a := fun hs e => by
    have := (wf_parent_pos hwf hp).2.1
    have := hs.2.1
    subst e; omega
  exact ⟨fun hin => (kid_inSub_iff hwf a p c hck (Ne.symm hin.1)).mp hin.2,
    fun hs => ⟨Ne.symm (hne hs), (kid_inSub_iff hwf a p c hck (hne hs)).mpr hs⟩⟩

theorem chase_parent_fuel {h : Heap} {w : Wit} (hwf : WF h w) :
    ∀ (f c : Nat), w.pos c ≤ f → chase h.parent (f + 1) (h.parent c) = chase h.parent f (h.parent c) := by
  intro f
  induction f with
  | zero =>
    intro c hf
    have hc : c = w.tree c := wf_pos_zero hwf (by omega)
    have : h.parent c = none := by rw [hc]; exact hwf.tree_root c
    rw [this, chase_none, chase_none]
  | succ f ih =>
    intro c hf
    cases hp : h.parent c with
    | none => rw [chase_none, chase_none]
    | some p =>
      have hc := wf_parent_pos hwf hp
      simp only [chase]
      rw [ih p (by omega)]

theorem parents_cons {h : Heap} {w : Wit} (hwf : WF h w) {x p : Nat} (hp : h.parent x = some p) :
    parents h x = p :: parents h p := by
  have hc := wf_parent_pos hwf hp
  have hlt := wf_pos_lt hwf x
  have hcap := hwf.size_cap (w.tree x)
  unfold parents
  rw [hp]
  cases hcapv : h.cap with
  | zero => omega
  | succ f =>
    simp only [chase]
    rw [← chase_parent_fuel hwf f p (by omega)]

theorem parents_root {h : Heap} {x : Nat} (hp : h.parent x = none) : parents h x = [] := by
  unfold parents; rw [hp, chase_none]

theorem chase_parent_spec {h : Heap} {w : Wit} (hwf : WF h w) :
    ∀ (f c : Nat), w.pos c ≤ f →
      (∀ a, a ∈ chase h.parent f (h.parent c) ↔ (a ≠ c ∧ w.inSub a c)) ∧
      (chase h.parent f (h.parent c)).Pairwise (fun a b => w.pos b < w.pos a) ∧
      (h.parent c ≠ none → (chase h.parent f (h.parent c)).getLast? = some (w.tree c)) := by
  intro f
  induction f with
  | zero =>
    intro c hf
    have hp : h.parent c = none := by rw [wf_pos_zero hwf (Nat.le_zero.mp hf)]; exact hwf.tree_root c
    rw [hp]
    exact ⟨fun a => ⟨nofun, fun hm => absurd hm (inSub_root hwf hp a)⟩, List.Pairwise.nil, fun hh => absurd rfl hh⟩
  | succ f ih =>
    intro c hf
    cases hp : h.parent c with
    | none =>
      rw [chase_none]
      exact ⟨fun a => ⟨nofun, fun hm => absurd hm (inSub_root hwf hp a)⟩, List.Pairwise.nil, fun hh => absurd rfl hh⟩
    | some p =>
      have hc := wf_parent_pos hwf hp
      obtain ⟨i1, i2, i3⟩ := ih p (by omega)
      simp only [chase]
      have hsp := inSub_refl hwf p
      refine ⟨fun a => ?_, List.pairwise_cons.mpr ⟨fun a ha => ?_, i2⟩, fun _ => ?_⟩
      · rw [inSub_parent hwf hp a, List.mem_cons, i1 a]
        exact ⟨fun hm => hm.elim (fun e => e ▸ hsp) (·.2), fun hs => (Classical.em (a = p)).imp_right (⟨·, hs⟩)⟩
      · obtain ⟨hne, ht, h1, _⟩ := (i1 a).mp ha
        exact Nat.lt_of_le_of_ne h1 fun e => hne (hwf.inj a p ht.symm e)
      · rw [List.getLast?_cons, hc.1]
        cases hpp : h.parent p with
        | none => rw [chase_none, (hwf.root_tree p hpp).1]; rfl
        | some q => rw [hpp] at i3; rw [i3 nofun]; rfl

/-- `parents` lists exactly the proper ancestors (`a ≠ x` with `x` in the subtree of `a`), innermost
    first (strictly decreasing pre-order position), ending with the root of the tree -/
theorem parents_eq {h : Heap} {w : Wit} (hwf : WF h w) (x : Nat) :
    (∀ a, a ∈ parents h x ↔ (a ≠ x ∧ w.inSub a x)) ∧
    (parents h x).Pairwise (fun a b => w.pos b < w.pos a) ∧
    (h.parent x ≠ none → (parents h x).getLast? = some (w.tree x)) ∧
    (h.parent x = none → parents h x = []) ∧
    (∀ p, h.parent x = some p → parents h x = p :: parents h p) := by
  have hlt := wf_pos_lt hwf x
  have hcap := hwf.size_cap (w.tree x)
  obtain ⟨a1, a2, a3⟩ := chase_parent_spec hwf h.cap x (by omega)
  exact ⟨a1, a2, a3, parents_root, fun p hp => parents_cons hwf hp⟩

theorem chaseNe_eq_chase (h : Heap) (f : Nat) (o : Option Nat) : chaseNe h f o = chase h.ne f o := by
  fun_induction chaseNe h f o with
  | case1 => rfl
  | case2 f => cases f <;> rfl
  | case3 f e ih => simp only [chase, ih]

theorem pre_slice {h : Heap} {w : Wit} (hwf : WF h w) (t : Nat) :
    pre h.kids h.cap t = ((docOrder h (w.tree t)).drop (w.pos t)).take (w.size t) := by
  have hcap := hwf.size_cap t
  have hP := pre_consec hwf h.cap t (by omega)
  apply List.ext_getElem?
  intro i
  rw [List.getElem?_take]
  by_cases hi : i < w.size t
  · rw [if_pos hi, List.getElem?_drop]
    have hlt : i < (pre h.kids h.cap t).length := by rw [hP.1]; exact hi
    have := hP.2 i hlt
    rw [List.getElem?_eq_getElem hlt]
    exact ((docOrder_getElem? hwf (hwf.tree_root t) _ _).mpr ⟨this.2, this.1⟩).symm
  · rw [if_neg hi, List.getElem?_eq_none (by rw [hP.1]; omega)]

/-- `_last_descendant()` never fails and returns the last node of the subtree (through the next-sibling
    shortcut or through the down-walk) -/
theorem lastDescendant_ok {h : Heap} {w : Wit} (hwf : WF h w) (t : Nat) :
    ∃ l, lastDescendant h t true = .ok l ∧ w.tree l = w.tree t ∧ w.pos l + 1 = w.pos t + w.size t := by
  unfold lastDescendant
  simp only [if_true]
  cases hn : h.ns t with
  | none =>
    have := last_facts h w hwf t
    exact ⟨_, rfl, this.1, this.2.1⟩
  | some s =>
    obtain ⟨⟨q, hq1, hq2⟩, hpos⟩ := (hwf.sib_ns t s).mp hn
    have ht := wf_parent_pos hwf hq1
    have hs := wf_parent_pos hwf hq2
    have hsz := hwf.size_pos t
    have hpe := previous_element_is_predecessor hwf s
    -- `s` stands after its parent and after `t`: position ≥ 2
    rw [if_neg (by split <;> omega)] at hpe
    have hlt : w.pos s - 1 < (docOrder h (w.tree s)).length := by
      rw [docOrder_length hwf _]; have := wf_pos_lt hwf s; omega
    rw [List.getElem?_eq_getElem hlt] at hpe
    have he := docOrder_getElem hwf (hwf.tree_root s) _ hlt
    simp only [hpe]
    exact ⟨_, rfl, by rw [he.2, hs.1, ht.1], by omega⟩

theorem takeWhile_ne_getElem? : ∀ (l : List Nat) (k : Nat) (stop : Option Nat), l.Nodup → l[k]? = stop →
    l.takeWhile (fun e => decide (some e ≠ stop)) = l.take k := by
  intro l
  induction l with
  | nil => intro k stop _ _; simp
  | cons a l ih =>
    intro k stop hnd hk
    obtain ⟨ha, hnd'⟩ := List.nodup_cons.mp hnd
    cases k with
    | zero =>
      simp only [List.getElem?_cons_zero] at hk
      subst hk
      simp
    | succ k =>
      simp only [List.getElem?_cons_succ] at hk
      have hne : some a ≠ stop := by
        intro heq
        rw [← heq] at hk
        exact ha (List.mem_of_getElem? hk)
      rw [List.takeWhile_cons_of_pos (by simpa using hne), List.take_succ_cons, ih k stop hnd' hk]

/-- `Tag.descendants` is the walk of the subtree without the tag itself; `_last_descendant` does not
    fail, the chase has enough fuel and the `takeWhile` stops exactly after the last descendant -/
theorem descendants_eq {h : Heap} {w : Wit} (hwf : WF h w) (t : Nat) :
    descendants h t = .ok ((pre h.kids h.cap t).tail) := by
  obtain ⟨l, hl, hlt, hlp⟩ := lastDescendant_ok hwf t
  have hr := hwf.tree_root t
  have hcapr := hwf.size_cap (w.tree t)
  unfold descendants
  cases hk : h.kids t with
  | nil =>
    rw [show pre h.kids h.cap t = [t] from docOrder_leaf hk]; rfl
  | cons first rest =>
    simp only [List.head?_cons, hl]
    congr 1
    have hfm : first ∈ h.kids t := by simp [hk]
    have hft := hwf.kid_tree t first hfm
    have hfp : w.pos first = w.pos t + 1 := by
      have := hwf.tiles t; rw [hk] at this; exact this.1
    have hfs := wf_kid_lt hwf hfm
    -- the chase from the first child is the rest of the document order
    have hfirst : some first = (docOrder h (w.tree t))[w.pos t + 1]? :=
      ((docOrder_getElem? hwf hr _ _).mpr ⟨hft, hfp⟩).symm
    rw [chaseNe_eq_chase, hfirst, chase_ne_drop hwf hr h.cap (w.pos t + 1) (by omega) (by omega)]
    -- the stop element is the one at position `pos t + size t`, if any
    have hstop := (next_element_is_successor hwf l).1 (wf_unl_pos hwf (by omega))
    rw [hlt] at hstop
    have hidx : ((docOrder h (w.tree t)).drop (w.pos t + 1))[w.size t - 1]? = h.ne l := by
      rw [hstop, List.getElem?_drop]; congr 1; omega
    have hnd : ((docOrder h (w.tree t)).drop (w.pos t + 1)).Nodup :=
      (docOrder_nodup hwf hr).sublist (List.drop_sublist _ _)
    rw [takeWhile_ne_getElem? _ _ _ hnd hidx, pre_slice hwf t]
    have hlen : w.pos t < (docOrder h (w.tree t)).length := by
      rw [docOrder_length hwf _]; exact wf_pos_lt hwf t
    have hsz : w.size t = (w.size t - 1) + 1 := by omega
    rw [List.drop_eq_getElem_cons hlen]
    conv => rhs; rw [hsz, List.take_succ_cons]
    rfl

theorem descendants_docOrder {h : Heap} {w : Wit} (hwf : WF h w) (t : Nat) :
    ∃ ds, descendants h t = .ok ds ∧ docOrder h t = t :: ds ∧ ds.length + 1 = w.size t := by
  refine ⟨_, descendants_eq hwf t, pre_head _ _ _, ?_⟩
  have := docOrder_length hwf t
  unfold docOrder at this
  rw [pre_head] at this
  simpa using this

theorem detached_root {h : Heap} {w : Wit} (hwf : WF h w) {r : Nat} (hr : h.parent r = none)
    (_ : h.kind r ≠ .soup) :
    h.ps r = none ∧ h.ns r = none ∧ h.pe r = none ∧
    ∀ l, l ∈ docOrder h r → w.pos l + 1 = w.size r → h.ne l = none :=
  have ⟨hpe, _, hps, hns⟩ := root_links hwf hr
  ⟨hps, hns, hpe, fun l hl hpos => ne_last hwf (by rw [(docOrder_mem hwf hr l).mp hl]; exact hpos)⟩

end BS.Heap
