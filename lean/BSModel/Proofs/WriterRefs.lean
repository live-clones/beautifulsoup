import BSModel.Proofs.Digits
/-! C04 (`emit_build`): a numeric reference — decimal or hexadecimal, any number of leading zeros, either case —
    parses back to its number, and `handle_charref` turns it into that character wherever `numericOK` holds
    (below 256: `numericOK_of_table`) -/
namespace BS.Writer
open BS.Builder BS.Adapter

theorem hexName_eq (ux ud : Bool) (z n : Nat) :
    hexName ux ud z n = (if ux then 88 else 120) :: zdigits 16 (hexDig ud) z (n + 1) n := rfl

theorem zdec_mem (z f n : Nat) : ∀ x ∈ zdigits 10 decDig z f n, 48 ≤ x ∧ x ≤ 57 :=
  zdigits_mem 10 decDig _ (by omega) (by omega) (by intro k hk; simp only [decDig]; omega) z f n

theorem decName_mem (z n : Nat) : ∀ x ∈ decName z n, 48 ≤ x ∧ x ≤ 57 := zdec_mem z (n + 1) n

theorem decName_ne_nil (z n : Nat) : decName z n ≠ [] := zdigits_ne_nil 10 decDig z n n

theorem number_of_decimal (cfg : ACfg) (s : PStr) (n : Nat) (hd : ∀ x ∈ s, 48 ≤ x ∧ x ≤ 57)
    (hp : parseDigits 10 decVal s = some n) (hlen : s.length ≤ cfg.maxDigits) : charrefNumber cfg s = some n := by
  cases s with
  | nil => cases hp
  | cons d ds =>
    have hdr := hd d List.mem_cons_self
    have h1 : d ≠ 120 := by omega
    have h2 : d ≠ 88 := by omega
    have h3 : ¬ (d :: ds).length > cfg.maxDigits := by omega
    simp only [charrefNumber, List.head?_cons, Option.some.injEq, h1, h2, if_false, h3, hp]

theorem number_zdec (cfg : ACfg) (z f n : Nat) (hn : n < 10 ^ (f + 1)) (hlen : (zdigits 10 decDig z (f + 1) n).length ≤ cfg.maxDigits) :
    charrefNumber cfg (zdigits 10 decDig z (f + 1) n) = some n :=
  number_of_decimal cfg _ n (zdec_mem z (f + 1) n) (parse_zdigits 10 decDig decVal (by omega) rfl (by decide) z f n hn) hlen

theorem number_decName (cfg : ACfg) (z n : Nat) (hlen : (decName z n).length ≤ cfg.maxDigits) :
    charrefNumber cfg (decName z n) = some n :=
  number_zdec cfg z n n (lt_pow_succ_self 10 n (by omega)) hlen

theorem hexVal_hexDig (ud : Bool) (k : Nat) (h : k < 16) : hexVal (hexDig ud k) = some k := by
  revert ud k; decide

theorem hexDig_not_x (ud : Bool) (k : Nat) (h : k < 16) : hexDig ud k ≠ 120 ∧ hexDig ud k ≠ 88 := by
  revert ud k; decide

theorem lstrip_body (c : Nat) (s : PStr) (h : ∀ x ∈ s, x ≠ c) : lstrip c s = s := by
  cases s with
  | nil => rfl
  | cons d ds =>
    have : d ≠ c := h d (by simp)
    simp [lstrip, this]

theorem number_hexName (cfg : ACfg) (ux ud : Bool) (z n : Nat) :
    charrefNumber cfg (hexName ux ud z n) = some n := by
  have hm := zdigits_mem 16 (hexDig ud) (fun x => x ≠ 120 ∧ x ≠ 88) (by omega) (by omega) (hexDig_not_x ud) z (n + 1) n
  have hp := parse_zdigits 16 (hexDig ud) hexVal (by omega) rfl (hexVal_hexDig ud) z n n (lt_pow_succ_self 16 n (by omega))
  rw [hexName_eq]
  unfold charrefNumber
  cases ux
  · simp only [Bool.false_eq_true, if_false, List.head?_cons, if_true, lstrip]
    rw [lstrip_body 120 _ (fun x hx => (hm x hx).1)]
    exact hp
  · have : ¬ ((88 : Nat) = 120) := by omega
    simp only [if_true, List.head?_cons, Option.some.injEq, this, if_false, lstrip]
    rw [lstrip_body 88 _ (fun x hx => (hm x hx).2)]
    exact hp

theorem handle_of_number (cfg : ACfg) (name : PStr) (n : Nat) (hnum : charrefNumber cfg name = some n)
    (hok : numericOK cfg n = true) : handleCharref cfg name = [n] := by
  simp only [numericOK, Bool.and_eq_true, decide_eq_true_eq, Bool.or_eq_true] at hok
  obtain ⟨hmax, hdet⟩ := hok
  have hchr : chrOK n = true := by simpa [chrOK] using hmax
  simp only [handleCharref, hnum]
  by_cases h256 : n < 256
  · have hdet := hdet.resolve_left (by omega)
    simp only [h256, if_true]
    cases hcp : cfg.cp1252 n with
    | some c =>
      simp only [hcp, beq_iff_eq] at hdet
      simp [hdet]
    | none =>
      cases ho : cfg.origDecode n with
      | none => simp [hchr]
      | some d =>
        simp only [hcp, ho, Bool.or_eq_true, beq_iff_eq] at hdet
        rcases hdet with hd | hd <;> simp [hd, hchr]
  · simp [h256, hchr]

/-- **a decimal reference denotes its character** — any number of leading zeros, as long as `int()` accepts the
    digit string — for every code point `numericOK` admits -/
theorem dec_denotes (cfg : ACfg) (z n : Nat) (hok : numericOK cfg n = true)
    (hlen : (decName z n).length ≤ cfg.maxDigits) : handleCharref cfg (decName z n) = [n] :=
  handle_of_number cfg _ n (number_decName cfg z n hlen) hok

/-- **a hexadecimal reference denotes its character**: `x` or `X`, any number of leading zeros, digits in either
    case, no length limit (`int(s, 16)` has none) -/
theorem hex_denotes (cfg : ACfg) (ux ud : Bool) (z n : Nat) (hok : numericOK cfg n = true) :
    handleCharref cfg (hexName ux ud z n) = [n] :=
  handle_of_number cfg _ n (number_hexName cfg ux ud z n) hok

/-- `T`: Windows-1252 as (byte, code point) pairs; `R`: the closed form claimed; `S`: the bytes where `R` may be false -/
theorem numericOK_of_table (cfg : ACfg) (T : List (Nat × Nat)) (R : Nat → Bool) (S : List Nat)
    (hT : T.all (fun e => (e.2 == e.1) == R e.1) = true)
    (hS : S.all (fun n => T.any (fun e => e.1 == n) || R n) = true)
    (n : Nat) (hn : n < 256) (hR : n ∈ S ∨ R n = true)
    (hcp : cfg.cp1252 n = (T.find? (fun e => e.1 == n)).map (·.2)) (ho : cfg.origDecode n = none) :
    numericOK cfg n = R n := by
  have h1 : n ≤ 0x10FFFF := by omega
  have h2 : ¬ 256 ≤ n := by omega
  simp only [numericOK, h1, h2, decide_true, decide_false, Bool.true_and, Bool.false_or, hcp, ho]
  cases hf : T.find? (fun e => e.1 == n) with
  | some e =>
    have hk : e.1 = n := by simpa using List.find?_some hf
    have := List.all_eq_true.mp hT e (List.mem_of_find?_eq_some hf)
    rw [hk] at this
    simpa using this
  | none =>
    have hany : T.any (fun e => e.1 == n) = false := by simpa using List.find?_eq_none.mp hf
    rcases hR with hR | hR
    · have := List.all_eq_true.mp hS n hR
      rw [hany] at this
      simpa using this.symm
    · simpa using hR.symm

end BS.Writer
