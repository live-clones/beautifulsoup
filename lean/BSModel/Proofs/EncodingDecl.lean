import BSModel.Model.EncodingIn
/-! declaration matchers (`xmlMatch`, `htmlSearch`) on well-formed shapes.
    Bytes: 10 LF, 34 `"`, 39 `'`, 60-63 `<=>?`, 99 `c`, 101 `e`, 109 `m`. -/
namespace BS.EncodingIn

/-! ## `<meta … charset=…>` -/

/-- every `<` in the text is directly followed by a character that is neither white space nor
    `m`/`M` (so no `<meta` can start there), and the text does not end in `<` -/
def tagsNotMeta : Bytes → Bool
  | [] => true
  | c :: t => (c != 60 || (match t with | [] => false | d :: _ => !isSpace d && lowerC d != 109)) && tagsNotMeta t

theorem metaAt_none_of_head (d : Nat) (t : Bytes) (h1 : isSpace d = false) (h2 : lowerC d ≠ 109) :
    metaAt (d :: t) = none := by
  simp [metaAt, h1, startsCI, litMeta, h2]

/-- a position at which `<\s*meta…` does not match is passed over -/
theorem htmlSearch_cons_none (c : Nat) (t : Bytes) (h : c = 60 → metaAt t = none) : htmlSearch (c :: t) = htmlSearch t := by
  rw [htmlSearch]
  split
  · rw [h (by simp_all)]
  · rfl

theorem htmlSearch_skip (pre X : Bytes) (h : tagsNotMeta pre = true) :
    htmlSearch (pre ++ 60 :: X) = htmlSearch (60 :: X) := by
  induction pre with
  | nil => rfl
  | cons c t ih =>
    simp only [tagsNotMeta, Bool.and_eq_true, Bool.or_eq_true, bne_iff_ne] at h
    rw [List.cons_append, htmlSearch_cons_none c _ fun hc => ?_, ih h.2]
    rcases h.1 with hne | hd
    · exact absurd hc hne
    · cases t with
      | nil => cases hd
      | cons d t' =>
        simp only [Bool.and_eq_true, Bool.not_eq_true', bne_iff_ne, ne_eq] at hd
        exact metaAt_none_of_head d _ hd.1 hd.2

theorem lastCharset_append_some (a l g : Bytes) (ha : ∀ c ∈ a, c ≠ 62) (h : lastCharset l = some g) :
    lastCharset (a ++ l) = some g := by
  induction a with
  | nil => exact h
  | cons c t ih =>
    have hc : (c == 62) = false := by simpa using ha c List.mem_cons_self
    simp only [List.cons_append, lastCharset, hc, Bool.false_eq_true, if_false,
      ih (fun x hx => ha x (List.mem_cons_of_mem _ hx))]

/-- `>` resets the search; otherwise nothing may match behind `c` -/
theorem lastCharset_cons_none (c : Nat) (t : Bytes) (h : c = 62 ∨ lastCharset t = none)
    (hc : charsetHere (c :: t) = none) : lastCharset (c :: t) = none := by
  rw [lastCharset, hc]
  rcases h with rfl | h
  · rfl
  · rw [h]; cases c == 62 <;> rfl

theorem lastCharset_skip (sfx l : Bytes) (h : ∀ c ∈ sfx, lowerC c ≠ 99) (hl : lastCharset l = none) :
    lastCharset (sfx ++ l) = none := by
  induction sfx with
  | nil => exact hl
  | cons c t ih =>
    exact lastCharset_cons_none c _ (Or.inr (ih fun x hx => h x (List.mem_cons_of_mem _ hx)))
      (by simp [charsetHere, startsCI, litCharset, h c List.mem_cons_self])

/-- no match across an `x` that is none of the literal's letters -/
theorem startsCI_of_short (lit l : Bytes) (x : Nat) (X : Bytes) (hx : ∀ a ∈ lit, lowerC x ≠ a)
    (hl : l.length < lit.length) : startsCI lit (l ++ x :: X) = false := by
  induction lit generalizing l with
  | nil => simp at hl
  | cons a as ih =>
    cases l with
    | nil => simp [startsCI, hx a List.mem_cons_self]
    | cons b bs =>
      simp only [List.cons_append, startsCI, Bool.and_eq_false_iff]
      exact Or.inr (ih bs (fun y hy => hx y (List.mem_cons_of_mem _ hy)) (by simpa using hl))

theorem startsCI_append (lit l r : Bytes) (h : lit.length ≤ l.length) : startsCI lit (l ++ r) = startsCI lit l := by
  induction lit generalizing l with
  | nil => simp [startsCI]
  | cons a as ih =>
    cases l with
    | nil => simp at h
    | cons b bs => simp only [List.cons_append, startsCI, ih bs (by simpa using h)]

theorem head?_dropWhile_append (p : Nat → Bool) (a : Bytes) (x : Nat) (r : Bytes) (hx : p x = false) :
    ((a ++ x :: r).dropWhile p).head? = ((a.dropWhile p).head?).or (some x) := by
  induction a with
  | nil => simp [hx]
  | cons c t ih =>
    simp only [List.cons_append, List.dropWhile_cons]
    split
    · exact ih
    · rfl

/-- `charset\s*=` matches at the head of `l` -/
def charsetEqHere (l : Bytes) : Bool :=
  startsCI litCharset l && ((l.drop 7).dropWhile isSpace).head? == some 61

/-- `charset\s*=` matches somewhere in `l` -/
def containsCharsetEq : Bytes → Bool
  | [] => false
  | c :: t => charsetEqHere (c :: t) || containsCharsetEq t

theorem containsCharsetEq_of_no_eq (l : Bytes) (h : ∀ c ∈ l, c ≠ 61) : containsCharsetEq l = false := by
  have key : ∀ l : Bytes, (∀ c ∈ l, c ≠ 61) → charsetEqHere l = false := by
    intro l h
    unfold charsetEqHere
    cases hh : ((l.drop 7).dropWhile isSpace).head? with
    | none => simp
    | some y =>
      have hy : y ∈ l := List.mem_of_mem_drop ((List.dropWhile_sublist _).subset (List.mem_of_mem_head? hh))
      simp [h y hy]
  induction l with
  | nil => rfl
  | cons c t ih => simp only [containsCharsetEq, key _ h, ih (fun x hx => h x (List.mem_cons_of_mem _ hx)), Bool.or_self]

/-- `x`: a stop character that is no part of `charset\s*=` -/
theorem charsetHere_none (x : Nat) (hx : ∀ a ∈ litCharset, lowerC x ≠ a) (hsp : isSpace x = false) (h61 : x ≠ 61)
    (s X : Bytes) (hs : charsetEqHere s = false) : charsetHere (s ++ x :: X) = none := by
  unfold charsetHere
  split
  · rename_i hst
    by_cases hl : s.length < 7  -- `litCharset.length`
    · rw [startsCI_of_short litCharset s x X hx hl] at hst; cases hst
    · rw [startsCI_append litCharset s _ (Nat.le_of_not_lt hl)] at hst
      rw [List.drop_append_of_le_length (by omega)]
      have hh : ((s.drop 7 ++ x :: X).dropWhile isSpace).head? ≠ some 61 := by
        rw [head?_dropWhile_append _ _ _ _ hsp]
        unfold charsetEqHere at hs
        rw [hst, Bool.true_and] at hs
        cases hd : ((s.drop 7).dropWhile isSpace).head? with
        | none => simpa using h61
        | some y => rw [hd] at hs; simpa using hs
      split
      · rename_i r heq; rw [heq] at hh; exact absurd rfl hh
      · rfl
  · rfl

/-- `x`: the stop character (`>` or a quote); `hY`: it closes the tag or nothing matches behind it -/
theorem lastCharset_none_upto (x : Nat) (hx : ∀ a ∈ litCharset, lowerC x ≠ a) (hsp : isSpace x = false) (h61 : x ≠ 61)
    (s Y : Bytes) (hs : containsCharsetEq s = false) (hY : x = 62 ∨ lastCharset Y = none) :
    lastCharset (s ++ x :: Y) = none := by
  induction s with
  | nil => exact lastCharset_cons_none x Y hY (charsetHere_none x hx hsp h61 [] Y rfl)
  | cons c cs ih =>
    simp only [containsCharsetEq, Bool.or_eq_false_iff] at hs
    exact lastCharset_cons_none c _ (Or.inr (ih hs.2)) (charsetHere_none x hx hsp h61 (c :: cs) Y hs.1)

theorem lastCharset_none_of_no_eq (l r : Bytes) (h : ∀ c ∈ l, c ≠ 61 ∧ c ≠ 62) : lastCharset (l ++ 62 :: r) = none :=
  lastCharset_none_upto 62 (by decide) rfl (by decide) l r (containsCharsetEq_of_no_eq l fun c hc => (h c hc).1) (Or.inl rfl)

theorem splitTerm_name (name more acc : Bytes) (t : Nat) (ht : isTerm t = true)
    (hn : ∀ c ∈ name, isTerm c = false) :
    splitTerm (name ++ t :: more) acc = some (acc.reverse ++ name) := by
  induction name generalizing acc with
  | nil => simp [splitTerm, ht]
  | cons c r ih =>
    have hc := hn c List.mem_cons_self
    simp only [List.cons_append, splitTerm, hc, Bool.false_eq_true, if_false]
    rw [ih (c :: acc) (fun x hx => hn x (List.mem_cons_of_mem _ hx))]
    simp

theorem isQuote_iff (q : Nat) : isQuote q = true ↔ q = 39 ∨ q = 34 := by
  simp [isQuote]

theorem isQuote_isTerm (q : Nat) (h : isQuote q = true) : isTerm q = true := by
  rcases (isQuote_iff q).mp h with rfl | rfl <;> decide

/-- the value after `charset=`: optional quote, a name without closing-class characters or white
    space, then a closing-class character -/
theorem htmlValue_name (qs name more : Bytes) (t : Nat) (ht : isTerm t = true)
    (hqs : qs = [] ∨ ∃ q, qs = [q] ∧ isQuote q = true)
    (hne : qs = [] → name ≠ [])  -- else the terminator would start the value
    (hn : ∀ c ∈ name, isTerm c = false ∧ isSpace c = false) :
    htmlValue (qs ++ (name ++ t :: more)) = some name := by
  have hsp : ∀ q, isQuote q = true → isSpace q = false := by
    intro q hq
    rcases (isQuote_iff q).mp hq with rfl | rfl <;> decide
  rcases hqs with rfl | ⟨q, rfl, hq⟩
  · cases name with
    | nil => exact absurd rfl (hne rfl)
    | cons n0 name' =>
      have h0 := hn n0 List.mem_cons_self
      have hq0 : isQuote n0 = false := by
        cases hq : isQuote n0 with
        | false => rfl
        | true => rw [isQuote_isTerm n0 hq] at h0; exact absurd h0.1 (by simp)
      unfold htmlValue
      simp only [List.nil_append, List.cons_append, List.dropWhile_cons, h0.2, Bool.false_eq_true, if_false, hq0]
      have := splitTerm_name (n0 :: name') more [] t ht (fun c hc => (hn c hc).1)
      simp only [List.cons_append, List.reverse_nil, List.nil_append] at this
      rw [this]
  · unfold htmlValue
    simp only [List.cons_append, List.nil_append, List.dropWhile_cons, hsp q hq, Bool.false_eq_true, if_false, hq, if_true]
    rw [splitTerm_name name more [] t ht (fun c hc => (hn c hc).1)]
    simp

/-- `meta`, a character, anything without `>`, `charset=`, then a text whose value is `name` and in which no
    later `charset=` matches -/
theorem metaAt_of_value (m0 : Nat) (mid tail name : Bytes) (hm0 : m0 ≠ 62) (hmid : ∀ c ∈ mid, c ≠ 62)
    (hval : htmlValue tail = some name) (hV : lastCharset tail = none) :
    metaAt (litMeta ++ m0 :: (mid ++ (litCharset ++ 61 :: tail))) = some name := by
  have hm0' : (m0 == 62) = false := by simpa using hm0
  have hCS : lastCharset (litCharset ++ 61 :: tail) = some name := by
    -- "harset=": `lastCharset_skip` steps over the rest of the literal
    have hrest : lastCharset ([104, 97, 114, 115, 101, 116, 61] ++ tail) = none := lastCharset_skip _ _ (by decide) hV
    have hs : startsCI litCharset (litCharset ++ 61 :: tail) = true := by simp [startsCI, litCharset, lowerC]
    show lastCharset (99 :: ([104, 97, 114, 115, 101, 116, 61] ++ tail)) = some name
    rw [lastCharset, hrest]
    show charsetHere (litCharset ++ 61 :: tail) = some name
    rw [charsetHere, if_pos hs]
    exact hval
  unfold metaAt
  have hnosp : (litMeta ++ m0 :: (mid ++ (litCharset ++ 61 :: tail))).dropWhile isSpace
      = litMeta ++ m0 :: (mid ++ (litCharset ++ 61 :: tail)) := by
    simp [litMeta, isSpace]
  simp only [hnosp]
  have hs : startsCI litMeta (litMeta ++ m0 :: (mid ++ (litCharset ++ 61 :: tail))) = true := by
    simp [startsCI, litMeta, lowerC]
  simp only [hs, if_true]
  simp only [litMeta, List.cons_append, List.nil_append, List.drop_succ_cons, List.drop_zero, hm0', Bool.false_eq_true, if_false]
  exact lastCharset_append_some mid _ name hmid hCS

/-- optional quote, name, then a terminator (or the closing `>`): the value is the name -/
theorem htmlValue_decl (qs name close rest : Bytes) (hqs : qs = [] ∨ ∃ q, qs = [q] ∧ isQuote q = true) (hne : name ≠ [])
    (hn : ∀ c ∈ name, isTerm c = false ∧ isSpace c = false)
    (hterm : close = [] ∨ ∃ t r, close = t :: r ∧ isTerm t = true) :
    htmlValue (qs ++ (name ++ (close ++ 62 :: rest))) = some name := by
  obtain ⟨t, more, hsplit, ht⟩ : ∃ t more, close ++ 62 :: rest = t :: more ∧ isTerm t = true := by
    rcases hterm with rfl | ⟨t, r, rfl, ht⟩
    · exact ⟨62, rest, rfl, by decide⟩
    · exact ⟨t, r ++ 62 :: rest, rfl, ht⟩
  rw [hsplit]
  exact htmlValue_name qs name more t ht hqs (fun _ => hne) hn

/-! ## nothing is found without the markers -/

/-- some `<` in the text is followed (after optional white space) by `meta`, in any case -/
def hasMetaOpen : Bytes → Bool
  | [] => false
  | c :: t => (c == 60 && startsCI litMeta (t.dropWhile isSpace)) || hasMetaOpen t

/-- `lit` occurs in `l`, ignoring case -/
def containsCI (lit : Bytes) : Bytes → Bool
  | [] => startsCI lit []
  | c :: t => startsCI lit (c :: t) || containsCI lit t

theorem htmlSearch_none_of_no_meta (w : Bytes) (h : hasMetaOpen w = false) : htmlSearch w = none := by
  induction w with
  | nil => rfl
  | cons c t ih =>
    simp only [hasMetaOpen, Bool.or_eq_false_iff, Bool.and_eq_false_iff] at h
    rw [htmlSearch_cons_none c t fun hc => ?_, ih h.2]
    have hs : startsCI litMeta (t.dropWhile isSpace) = false := by
      rcases h.1 with h1 | h1
      · rw [hc] at h1; cases h1
      · exact h1
    simp [metaAt, hs]

theorem lastCharset_none_of_no_charset (l : Bytes) (h : containsCI litCharset l = false) : lastCharset l = none := by
  induction l with
  | nil => rfl
  | cons c t ih =>
    simp only [containsCI, Bool.or_eq_false_iff] at h
    exact lastCharset_cons_none c t (Or.inr (ih h.2)) (by simp [charsetHere, h.1])

theorem containsCI_suffix {lit l l' : Bytes} (hs : l' <:+ l) (h : containsCI lit l = false) : containsCI lit l' = false := by
  induction l with
  | nil => rwa [List.suffix_nil.mp hs]
  | cons c t ih =>
    rcases List.suffix_cons_iff.mp hs with rfl | hs
    · exact h
    · simp only [containsCI, Bool.or_eq_false_iff] at h
      exact ih hs h.2

theorem htmlSearch_none_of_no_charset (w : Bytes) (h : containsCI litCharset w = false) : htmlSearch w = none := by
  induction w with
  | nil => rfl
  | cons c t ih =>
    have ht := containsCI_suffix (List.suffix_cons c t) h
    have hm : metaAt t = none := by
      unfold metaAt
      dsimp only
      split
      · cases hd : (t.dropWhile isSpace).drop 4 with
        | nil => rfl
        | cons x u =>
          have hu : u <:+ t :=
            ((List.suffix_cons x u).trans (hd ▸ List.drop_suffix 4 _)).trans (List.dropWhile_suffix isSpace)
          simp only [lastCharset_none_of_no_charset u (containsCI_suffix hu ht)]
          split <;> rfl
      · rfl
    rw [htmlSearch_cons_none c t fun _ => hm, ih ht]

theorem lastEncoding_none_of_no_encoding (l : Bytes) (h : containsCI litEncodingEq l = false) : lastEncoding l = none := by
  induction l with
  | nil => rfl
  | cons c t ih =>
    simp only [containsCI, Bool.or_eq_false_iff] at h
    have hh : encHere (c :: t) = none := by simp [encHere, h.1]
    simp only [lastEncoding, ih h.2, hh]

theorem startsCI_of_takeWhile (p : Nat → Bool) : ∀ (lit l : Bytes), startsCI lit (l.takeWhile p) = true → startsCI lit l = true
  | [], _, _ => by simp [startsCI]
  | _ :: _, [], h => h
  | a :: as, b :: bs, h => by
    rw [List.takeWhile_cons] at h
    split at h
    · simp only [startsCI, Bool.and_eq_true] at h ⊢
      exact ⟨h.1, startsCI_of_takeWhile p as bs h.2⟩
    · exact nomatch h

theorem containsCI_takeWhile (lit l : Bytes) (p : Nat → Bool) (h : containsCI lit l = false) :
    containsCI lit (l.takeWhile p) = false := by
  induction l with
  | nil => exact h
  | cons c t ih =>
    simp only [containsCI, Bool.or_eq_false_iff] at h
    have h1 : startsCI lit ((c :: t).takeWhile p) = false :=
      Bool.eq_false_iff.2 fun ht => Bool.eq_false_iff.1 h.1 (startsCI_of_takeWhile p lit _ ht)
    rw [List.takeWhile_cons] at h1 ⊢
    by_cases hc : p c = true
    · rw [if_pos hc] at h1 ⊢
      simp only [containsCI, Bool.or_eq_false_iff]
      exact ⟨h1, ih h.2⟩
    · rw [if_neg hc] at h1 ⊢
      exact h1

/-! ## the well-formed shapes: "the pattern does not match again" (`xmlMatch_decl_gen`, `metaAt_decl_of`), and its
    instance "no `=`" (`xmlMatch_decl`, `metaAt_decl`) -/

theorem lastEncoding_append_some (pre l : Bytes) (g : Bytes) (h : lastEncoding l = some g) :
    lastEncoding (pre ++ l) = some g := by
  induction pre with
  | nil => exact h
  | cons c t ih => simp only [List.cons_append, lastEncoding, ih]

theorem lazyQuote_name (name t acc : Bytes) (q : Nat) (hq : isQuote q = true)
    (hn : ∀ c ∈ name, isQuote c = false) (ht : containsQmGt t = true) :
    lazyQuote (name ++ q :: t) acc = some (acc.reverse ++ name) := by
  induction name generalizing acc with
  | nil => simp [lazyQuote, hq, ht]
  | cons c r ih =>
    have hc := hn c List.mem_cons_self
    simp only [List.cons_append, lazyQuote, hc, Bool.false_and, Bool.false_eq_true, if_false]
    rw [ih (c :: acc) (fun x hx => hn x (List.mem_cons_of_mem _ hx))]
    simp

theorem lastEncoding_skip (sfx l : Bytes) (h : ∀ c ∈ sfx, lowerC c ≠ 101) (hl : lastEncoding l = none) :
    lastEncoding (sfx ++ l) = none := by
  induction sfx with
  | nil => exact hl
  | cons c t ih =>
    simp only [List.cons_append, lastEncoding, ih (fun x hx => h x (List.mem_cons_of_mem _ hx))]
    simp [encHere, litEncodingEq, startsCI, h c List.mem_cons_self]

theorem lastEncoding_decl_gen (name after : Bytes) (q1 q2 : Nat) (hq1 : isQuote q1 = true) (hq2 : isQuote q2 = true)
    (hn : ∀ c ∈ name, isQuote c = false) (hqm : containsQmGt after = true)
    (hno : containsCI litEncodingEq (name ++ q2 :: after) = false) :
    lastEncoding (litEncodingEq ++ q1 :: (name ++ q2 :: after)) = some name := by
  have hq1e : lowerC q1 ≠ 101 := by rcases (isQuote_iff q1).mp hq1 with rfl | rfl <;> decide
  have hrest : lastEncoding ([110, 99, 111, 100, 105, 110, 103, 61] ++ ([q1] ++ (name ++ q2 :: after))) = none :=
    lastEncoding_skip _ _ (by decide) (lastEncoding_skip _ _ (by simpa using hq1e) (lastEncoding_none_of_no_encoding _ hno))
  have hs : startsCI litEncodingEq (litEncodingEq ++ q1 :: (name ++ q2 :: after)) = true := by
    simp [startsCI, litEncodingEq, lowerC]
  show lastEncoding (101 :: ([110, 99, 111, 100, 105, 110, 103, 61] ++ ([q1] ++ (name ++ q2 :: after)))) = some name
  rw [lastEncoding, hrest]
  show encHere (litEncodingEq ++ q1 :: (name ++ q2 :: after)) = some name
  rw [encHere, if_pos hs]
  show (if isQuote q1 then lazyQuote (name ++ q2 :: after) [] else none) = some name
  rw [if_pos hq1, lazyQuote_name name _ [] q2 hq2 hn hqm]
  rfl

/-- `xmlMatch` on: white space, `<?`, anything without newline, `encoding=`, quoted name, then a rest of
    the line that contains `?>` and no further `encoding=`, then end of input or a newline — all within
    the first 1024 bytes. -/
theorem xmlMatch_decl_gen (ws pre name after tail : Bytes) (q1 q2 : Nat)
    (hws : ∀ c ∈ ws, isSpace c = true) (hpre : ∀ c ∈ pre, c ≠ 10)
    (hq1 : isQuote q1 = true) (hq2 : isQuote q2 = true)
    (hn : ∀ c ∈ name, isQuote c = false ∧ c ≠ 10)
    (ha : ∀ c ∈ after, c ≠ 10) (hqm : containsQmGt after = true)
    (hno : containsCI litEncodingEq (name ++ q2 :: after) = false)
    (ht : tail = [] ∨ ∃ r, tail = 10 :: r)
    (hlen : (ws ++ 60 :: 63 :: (pre ++ (litEncodingEq ++ q1 :: (name ++ q2 :: after)))).length ≤ 1024) :
    xmlMatch (ws ++ 60 :: 63 :: (pre ++ (litEncodingEq ++ q1 :: (name ++ q2 :: after))) ++ tail) = some name := by
  have hq : ∀ q, isQuote q = true → q ≠ 10 := fun q hq h => by rw [h] at hq; cases hq
  have hline : ∀ c ∈ pre ++ (litEncodingEq ++ q1 :: (name ++ q2 :: after)), (c != 10) = true := by
    intro c hc
    simp only [List.mem_append, List.mem_cons] at hc
    rw [bne_iff_ne]
    rcases hc with hc | hc | rfl | hc | rfl | hc
    · exact hpre c hc
    · revert c; decide
    · exact hq c hq1
    · exact (hn c hc).2
    · exact hq c hq2
    · exact ha c hc
  have hstop : (tail.take (1024 - (ws ++ 60 :: 63 :: (pre ++ (litEncodingEq ++ q1 :: (name ++ q2 :: after)))).length)).takeWhile
      (· != 10) = [] := by
    rcases ht with rfl | ⟨r, rfl⟩
    · simp
    · cases 1024 - (ws ++ 60 :: 63 :: (pre ++ (litEncodingEq ++ q1 :: (name ++ q2 :: after)))).length <;> simp
  have h60 : isSpace 60 = false := by decide
  unfold xmlMatch
  rw [List.take_append, List.take_of_length_le hlen, List.append_assoc, List.dropWhile_append_of_pos hws]
  simp only [List.cons_append, List.dropWhile_cons, h60, Bool.false_eq_true, if_false]
  rw [List.takeWhile_append_of_pos hline, hstop, List.append_nil]
  exact lastEncoding_append_some _ _ _
    (lastEncoding_decl_gen name after q1 q2 hq1 hq2 (fun c hc => (hn c hc).1) hqm hno)

theorem lowerC_eq_61 (c : Nat) (h : lowerC c = 61) : c = 61 := by
  unfold lowerC at h; split at h <;> omega

theorem startsCI_mem (lit l : Bytes) (h : startsCI lit l = true) : ∀ a ∈ lit, ∃ c ∈ l, lowerC c = a := by
  induction lit generalizing l with
  | nil => intro a ha; cases ha
  | cons x xs ih =>
    cases l with
    | nil => simp [startsCI] at h
    | cons b bs =>
      simp only [startsCI, Bool.and_eq_true, beq_iff_eq] at h
      intro a ha
      rcases List.mem_cons.mp ha with rfl | ha
      · exact ⟨b, List.mem_cons_self, h.1⟩
      · obtain ⟨c, hc, hca⟩ := ih bs h.2 a ha
        exact ⟨c, List.mem_cons_of_mem _ hc, hca⟩

theorem containsQmGt_cons_cons (t : Bytes) : containsQmGt (63 :: 62 :: t) = true := by
  simp [containsQmGt]

theorem no_encodingEq_of_no_eq (l : Bytes) (h : ∀ c ∈ l, c ≠ 61) : containsCI litEncodingEq l = false := by
  have key : ∀ l : Bytes, (∀ c ∈ l, c ≠ 61) → startsCI litEncodingEq l = false := by
    intro l h
    refine Bool.eq_false_iff.mpr fun hs => ?_
    obtain ⟨c, hc, he⟩ := startsCI_mem _ _ hs 61 (by decide)
    exact h c hc (lowerC_eq_61 c he)
  induction l with
  | nil => exact key [] h
  | cons c t ih => simp only [containsCI, key _ h, ih (fun x hx => h x (by simp [hx])), Bool.or_self]

/-- `xmlMatch` on: white space, `<?`, anything without newline, `encoding=`, quoted name, `?>`,
    rest of the line without `=`, then end of input or a newline — all within the first 1024 bytes. -/
theorem xmlMatch_decl (ws pre name restLine tail : Bytes) (q1 q2 : Nat)
    (hws : ∀ c ∈ ws, isSpace c = true) (hpre : ∀ c ∈ pre, c ≠ 10)
    (hq1 : isQuote q1 = true) (hq2 : isQuote q2 = true)
    (hn : ∀ c ∈ name, isQuote c = false ∧ c ≠ 61 ∧ c ≠ 10)
    (hr : ∀ c ∈ restLine, c ≠ 61 ∧ c ≠ 10)
    (ht : tail = [] ∨ ∃ r, tail = 10 :: r)
    (hlen : (ws ++ 60 :: 63 :: (pre ++ (litEncodingEq ++ q1 :: (name ++ q2 :: 63 :: 62 :: restLine)))).length ≤ 1024) :
    xmlMatch (ws ++ 60 :: 63 :: (pre ++ (litEncodingEq ++ q1 :: (name ++ q2 :: 63 :: 62 :: restLine))) ++ tail) = some name := by
  have hq2' : q2 ≠ 61 := by intro h; rw [h] at hq2; simp [isQuote] at hq2
  refine xmlMatch_decl_gen ws pre name (63 :: 62 :: restLine) tail q1 q2 hws hpre hq1 hq2
    (fun c hc => ⟨(hn c hc).1, (hn c hc).2.2⟩) ?_ (containsQmGt_cons_cons _) (no_encodingEq_of_no_eq _ ?_) ht hlen
  · intro c hc
    simp only [List.mem_cons] at hc
    rcases hc with rfl | rfl | hc
    · decide
    · decide
    · exact (hr c hc).2
  · intro c hc
    simp only [List.mem_append, List.mem_cons] at hc
    rcases hc with hc | rfl | rfl | rfl | hc
    · exact (hn c hc).2.1
    · exact hq2'
    · decide
    · decide
    · exact (hr c hc).1

theorem containsCharsetEq_of_no_charset (l : Bytes) (h : containsCI litCharset l = false) : containsCharsetEq l = false := by
  induction l with
  | nil => rfl
  | cons c t ih =>
    simp only [containsCI, Bool.or_eq_false_iff] at h
    simp only [containsCharsetEq, charsetEqHere, h.1, Bool.false_and, ih h.2, Bool.or_self]

/-- the whole tag; after the value `charset\s*=` does not match again before the `>` -/
theorem metaAt_decl_of (m0 : Nat) (mid qs name close rest : Bytes)
    (hm0 : m0 ≠ 62) (hmid : ∀ c ∈ mid, c ≠ 62)
    (hqs : qs = [] ∨ ∃ q, qs = [q] ∧ isQuote q = true) (hne : name ≠ [])
    (hn : ∀ c ∈ name, isTerm c = false ∧ isSpace c = false)
    (hno : containsCharsetEq (qs ++ name ++ close) = false)
    (hterm : close = [] ∨ ∃ t r, close = t :: r ∧ isTerm t = true) :
    metaAt (litMeta ++ m0 :: (mid ++ (litCharset ++ 61 :: (qs ++ (name ++ (close ++ 62 :: rest)))))) = some name := by
  refine metaAt_of_value m0 mid _ name hm0 hmid (htmlValue_decl qs name close rest hqs hne hn hterm) ?_
  rw [show qs ++ (name ++ (close ++ 62 :: rest)) = (qs ++ name ++ close) ++ 62 :: rest by simp]
  exact lastCharset_none_upto 62 (by decide) rfl (by decide) _ rest hno (Or.inl rfl)

/-- `metaAt_decl_of` when there is no `=` -/
theorem metaAt_decl (m0 : Nat) (mid qs name close rest : Bytes)
    (hm0 : m0 ≠ 62) (hmid : ∀ c ∈ mid, c ≠ 62)
    (hqs : qs = [] ∨ ∃ q, qs = [q] ∧ isQuote q = true) (hne : name ≠ [])
    (hn : ∀ c ∈ name, isTerm c = false ∧ isSpace c = false ∧ c ≠ 61)
    (hclose : ∀ c ∈ close, c ≠ 61 ∧ c ≠ 62)
    (hterm : close = [] ∨ ∃ t r, close = t :: r ∧ isTerm t = true) :
    metaAt (litMeta ++ m0 :: (mid ++ (litCharset ++ 61 :: (qs ++ (name ++ (close ++ 62 :: rest)))))) = some name := by
  refine metaAt_decl_of m0 mid qs name close rest hm0 hmid hqs hne (fun c hc => ⟨(hn c hc).1, (hn c hc).2.1⟩)
    (containsCharsetEq_of_no_eq _ fun c hc => ?_) hterm
  simp only [List.mem_append] at hc
  rcases hc with (hc | hc) | hc
  · rcases hqs with rfl | ⟨q, rfl, hq⟩
    · cases hc
    · simp only [List.mem_singleton] at hc; subst hc
      rcases (isQuote_iff c).mp hq with rfl | rfl <;> decide
  · exact (hn c hc).2.2
  · exact (hclose c hc).1

end BS.EncodingIn
