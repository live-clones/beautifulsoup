import BSModel.Proofs.HeapShape
/-! C02: several elements inserted by one call end up contiguous and in order (the slot arithmetic of
    `Tag.insert`: "next slot = index of the last inserted element + 1") -/
namespace BS.Heap

theorem insertIdx_append_length (l₁ l₂ : List Nat) (x : Nat) :
    (l₁ ++ l₂).insertIdx l₁.length x = l₁ ++ x :: l₂ := by
  induction l₁ with
  | nil => rfl
  | cons a l ih => exact congrArg (a :: ·) ih

theorem idxOf?_append_cons_of_not_mem (l₁ l₂ : List Nat) (x : Nat) (hx : x ∉ l₁) :
    (l₁ ++ x :: l₂).idxOf? x = some l₁.length := by
  rw [List.idxOf?_eq_some_iff]
  refine ⟨by simp, by simp, fun j hj e => hx ?_⟩
  rw [List.getElem_append_left hj] at e
  exact e ▸ List.getElem_mem hj

/-- one step of the loop on a children list that already holds the block `ys` at `pre.length` -/
theorem block_step (pre ys post : List Nat) (x : Nat) (hnd : (pre ++ ys ++ post).Nodup) (hx : x ∉ ys) :
    ((pre ++ ys ++ post).erase x).insertIdx (slotOf (pre ++ ys ++ post) (pre ++ ys).length x) x
      = pre.erase x ++ (ys ++ [x]) ++ post.erase x ∧
    (pre.erase x ++ (ys ++ [x]) ++ post.erase x).idxOf? x = some (pre.erase x ++ ys).length := by
  have hndpy : (pre ++ ys).Nodup := (List.nodup_append.mp hnd).1
  have hndpre : pre.Nodup := (List.nodup_append.mp hndpy).1
  have hys : ys.filter (· != x) = ys := List.filter_eq_self.mpr fun k hk => bne_iff_ne.mpr fun e => hx (e ▸ hk)
  have hslot : slotOf (pre ++ ys ++ post) (pre ++ ys).length x = (pre.erase x ++ ys).length := by
    unfold slotOf
    rw [List.take_left' rfl, hndpy.erase_eq_filter, List.filter_append, hys, ← hndpre.erase_eq_filter]
  have herase : (pre ++ ys ++ post).erase x = pre.erase x ++ ys ++ post.erase x := by
    rw [hnd.erase_eq_filter, List.filter_append, List.filter_append, hys, ← hndpre.erase_eq_filter,
      ← (List.nodup_append.mp hnd).2.1.erase_eq_filter]
  have hnotin : x ∉ pre.erase x ++ ys := by
    intro hm
    rcases List.mem_append.mp hm with h1 | h1
    · exact ((List.Nodup.mem_erase_iff hndpre).mp h1).1 rfl
    · exact hx h1
  constructor
  · rw [hslot, herase, insertIdx_append_length]
    simp
  · rw [show pre.erase x ++ (ys ++ [x]) ++ post.erase x = (pre.erase x ++ ys) ++ x :: post.erase x by simp]
    exact idxOf?_append_cons_of_not_mem _ _ _ hnotin

theorem not_mem_of_nodup_middle {pre post : List Nat} {x : Nat} (h : (pre ++ x :: post).Nodup) : x ∉ pre :=
  fun hm => (List.nodup_append.mp h).2.2 x hm x List.mem_cons_self rfl

theorem idxOf?_of_split {l pre post : List Nat} {x : Nat} (hnd : l.Nodup) (hl : l = pre ++ x :: post) :
    l.idxOf? x = some pre.length := by
  subst hl
  exact idxOf?_append_cons_of_not_mem pre post x (not_mem_of_nodup_middle hnd)

theorem map_replace_of_not_mem {a n : Nat} (l : List Nat) (hm : a ∉ l) :
    l.map (fun k => if k = a then n else k) = l := by
  have : ∀ k ∈ l, (if k = a then n else k) = id k := fun k hk => if_neg fun e : k = a => hm (e ▸ hk)
  rw [List.map_congr_left this, List.map_id]

theorem eraseIdx_insertIdx_replace (y : Nat) : ∀ (l : List Nat) (i : Nat) (hi : i < l.length), l.Nodup →
    (l.eraseIdx i).insertIdx i y = l.map (fun k => if k = l[i] then y else k) := by
  intro l
  induction l with
  | nil => intro i hi; simp at hi
  | cons a l ih =>
    intro i hi hnd
    have hnd' := List.nodup_cons.mp hnd
    cases i with
    | zero =>
      simp only [List.eraseIdx_cons_zero, List.insertIdx_zero, List.getElem_cons_zero, List.map_cons, if_true]
      rw [map_replace_of_not_mem l hnd'.1]
    | succ i =>
      have hi' : i < l.length := by simpa using hi
      simp only [List.eraseIdx_cons_succ, List.insertIdx_succ_cons, List.getElem_cons_succ, List.map_cons]
      rw [if_neg (fun (hc : a = l[i]) => hnd'.1 (hc ▸ List.getElem_mem _)), ih i hi' hnd'.2]

theorem filter_not_mem_nil (l : List Nat) : l.filter (fun k => !([] : List Nat).contains k) = l :=
  List.filter_eq_self.mpr (fun _ _ => rfl)

theorem filter_not_mem_self (l : List Nat) : l.filter (fun k => !l.contains k) = [] :=
  List.filter_eq_nil_iff.mpr fun k hk => by simp [hk]

theorem filter_erase_cons {l : List Nat} (hnd : l.Nodup) (x : Nat) (xs : List Nat) :
    (l.erase x).filter (fun k => !xs.contains k) = l.filter (fun k => !(x :: xs).contains k) := by
  rw [List.Nodup.erase_eq_filter hnd, List.filter_filter]
  apply List.filter_congr
  intro k _
  simp only [List.contains_cons, Bool.not_or]
  cases hkx : k == x <;> simp_all [bne]

theorem split_unique {x : Nat} {a c b d : List Nat} (h : a ++ x :: b = c ++ x :: d) (ha : x ∉ a) (hc : x ∉ c) :
    a = c ∧ b = d := by
  have hl : a.length = c.length := by simpa [List.idxOf_append, ha, hc] using congrArg (List.idxOf x) h
  obtain ⟨e1, e2⟩ := List.append_inj h hl
  exact ⟨e1, (List.cons.inj e2).2⟩

/-- the split at `x` of `l` without `y :: ys` is that of `l` without `y`, filtered by `ys` -/
theorem filter_split {l pre1 post1 pre post ys : List Nat} {x y : Nat} (hnd : l.Nodup)
    (hsp1 : l.erase y = pre1 ++ x :: post1) (hx : x ∉ ys)
    (hsplit : l.filter (fun k => !(y :: ys).contains k) = pre ++ x :: post) :
    pre = pre1.filter (fun k => !ys.contains k) ∧ post = post1.filter (fun k => !ys.contains k) := by
  have hview : l.filter (fun k => !(y :: ys).contains k) =
      pre1.filter (fun k => !ys.contains k) ++ x :: post1.filter (fun k => !ys.contains k) := by
    rw [← filter_erase_cons hnd, hsp1, List.filter_append, List.filter_cons]
    simp [hx]
  have hnd1 : (pre1 ++ x :: post1).Nodup := by rw [← hsp1]; exact hnd.erase y
  have hnd0 : (pre ++ x :: post).Nodup := by rw [← hsplit]; exact hnd.filter _
  exact split_unique (hsplit.symm.trans hview) (not_mem_of_nodup_middle hnd0)
    fun hm => not_mem_of_nodup_middle hnd1 (List.mem_filter.mp hm).1

/-- **Contiguity of a multi-element insertion.** If `p`'s children are `pre ++ ys ++ post`, the running
    position stands right after the block `ys`, and the distinct elements `xs` (none of them in `ys`) are inserted
    by the loop of `Tag.insert`, then afterwards `p`'s children are `pre' ++ ys ++ xs ++ post'`, where `pre'`,
    `post'` are `pre`, `post` without the elements of `xs`: the inserted elements are contiguous, in the requested
    order, right where the block was, and the other children keep their order. -/
theorem insertElems_contiguous {p : Nat} (xs : List Nat) (h : Heap) (pos : Nat) (h' : Heap) (pos' : Nat)
    (pre ys post : List Nat)
    (hg : Good2 h) (hp : (h.kind p).isTag = true) (hnd : xs.Nodup) (hkx : ∀ x ∈ xs, h.kind x ≠ .soup)
    (hxy : ∀ x ∈ xs, x ∉ ys) (hk : h.kids p = pre ++ ys ++ post) (hpos : pos = (pre ++ ys).length)
    (hi : insertElems h p pos xs = .ok (h', pos')) :
    h'.kids p = pre.filter (fun k => !xs.contains k) ++ (ys ++ xs) ++ post.filter (fun k => !xs.contains k) ∧
    pos' = (pre.filter (fun k => !xs.contains k) ++ (ys ++ xs)).length ∧
    (∀ n, n ∉ xs → h'.parent n = h.parent n) ∧
    (∀ n, n ≠ p → h'.kids n = (h.kids n).filter (fun k => !xs.contains k)) := by
  fun_induction insertElems h p pos xs generalizing pre ys post with
  | case1 =>
    cases hi
    rw [hk, hpos, filter_not_mem_nil, filter_not_mem_nil]
    exact ⟨by simp, by simp, fun _ _ => rfl, fun _ _ => (filter_not_mem_nil _).symm⟩
  | case2 => cases hi   -- `_insert` failed
  | case3 => cases hi   -- `index` failed
  | case4 h pos x xs h1 hc i hi1 ih =>
    obtain ⟨e1, hshape, hso, hpa⟩ := insertCore_good2 hg hp (hkx x (by simp)) hc
    have hndk : (pre ++ ys ++ post).Nodup := by rw [← hk]; exact good_kids_nodup hg.1 p
    obtain ⟨hb1, hb2⟩ := block_step pre ys post x hndk (hxy x (by simp))
    rw [hk, hpos, hb1] at hshape
    have hidx : i = (pre.erase x ++ ys).length := by
      unfold indexOf at hi1; rw [hshape, hb2] at hi1; exact (Option.some.inj hi1).symm
    have hndpre : pre.Nodup := (List.nodup_append.mp (List.nodup_append.mp hndk).1).1
    have hndpost : post.Nodup := (List.nodup_append.mp hndk).2.1
    obtain ⟨ihkids, ihpos, ihparent, ihothers⟩ := ih (pre.erase x) (ys ++ [x]) (post.erase x) e1.1 (e1.2.isTag hp)
      (List.nodup_cons.mp hnd).2
      (fun y hy => e1.2.notSoup (hkx y (by simp [hy])))
      (fun y hy hm => by
        rcases List.mem_append.mp hm with h1' | h1'
        · exact hxy y (by simp [hy]) h1'
        · rw [List.mem_singleton.mp h1'] at hy; exact (List.nodup_cons.mp hnd).1 hy)
      hshape (by simp only [List.length_append, List.length_cons, List.length_nil] at hidx ⊢; omega) hi
    rw [filter_erase_cons hndpre] at ihkids ihpos
    rw [filter_erase_cons hndpost] at ihkids
    refine ⟨by rw [ihkids]; simp, by rw [ihpos]; simp, fun n hn => ?_, fun n hn => ?_⟩
    · rw [ihparent n (fun hm => hn (by simp [hm])), hpa n, if_neg (fun e => hn (by simp [e]))]
    · rw [ihothers n hn, hso n hn, filter_erase_cons (good_kids_nodup hg.1 n)]

end BS.Heap
