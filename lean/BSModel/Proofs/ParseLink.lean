import BSModel.Model.ParseLink
import BSModel.Proofs.HeapLinkCode
/-! # Parse-time linkage: what `parseAppend` writes, and cutting a root out of the element chain

`PageElement.setup(parent, previous_element)` + `contents.append` is — in the states the parser reaches — the
linking part of `Tag._insert` at the end of the document (`linkChild h cur len(contents) x`), except for the very
first element, where the parser leaves the BeautifulSoup object outside the element chain
(`soup.next_element` stays `None`, the first element's `previous_element` is `None`). -/
namespace BS.ParseLink
open BS.Heap

theorem heap_ext {a b : Heap} (h1 : ∀ j, a.parent j = b.parent j) (h2 : ∀ j, a.ps j = b.ps j)
    (h3 : ∀ j, a.ns j = b.ns j) (h4 : ∀ j, a.pe j = b.pe j) (h5 : ∀ j, a.ne j = b.ne j)
    (h6 : ∀ j, a.kids j = b.kids j) (h7 : a.kind = b.kind) (h8 : a.val = b.val) (h9 : a.next = b.next)
    (h10 : a.cap = b.cap) : a = b := by
  cases a; cases b
  simp only [Heap.mk.injEq]
  exact ⟨funext h1, funext h2, funext h3, funext h4, funext h5, funext h6, h7, h8, h9, h10⟩

theorem lastDown_leaf (h : Heap) (f n : Nat) (hk : h.kids n = []) : lastDown h f n = n := by
  cases f with
  | zero => rfl
  | succ f => simp [lastDown, hk]

theorem prevSibOf_end (h : Heap) (p : Nat) : prevSibOf h p (h.kids p).length = (h.kids p).getLast? := by
  unfold prevSibOf
  cases h.kids p with
  | nil => simp
  | cons a l => simp [List.getLast?_eq_getElem?]

/-- closed form of `parseAppend`, in the order of the fields of `Heap` -/
theorem parseAppend_reads (h : Heap) (cur : Nat) (mre : Option Nat) (x : Nat) :
    (∀ j, (parseAppend h cur mre x).parent j = if j = x then some cur else h.parent j) ∧
    (∀ j, (parseAppend h cur mre x).ps j = if j = x then (h.kids cur).getLast? else h.ps j) ∧
    (∀ j, (parseAppend h cur mre x).ns j =
      if (h.kids cur).getLast? = some j then some x else if j = x then none else h.ns j) ∧
    (∀ j, (parseAppend h cur mre x).pe j = if j = x then mre else h.pe j) ∧
    (∀ j, (parseAppend h cur mre x).ne j = if j = x then none else if mre = some j then some x else h.ne j) ∧
    (∀ j, (parseAppend h cur mre x).kids j = if j = cur then h.kids cur ++ [x] else h.kids j) ∧
    (parseAppend h cur mre x).kind = h.kind ∧ (parseAppend h cur mre x).val = h.val ∧
    (parseAppend h cur mre x).next = h.next ∧ (parseAppend h cur mre x).cap = h.cap + h.cap := by
  unfold parseAppend
  cases mre <;> cases (h.kids cur).getLast? <;>
    refine ⟨fun _ => rfl, fun _ => rfl, fun j => ?_, fun _ => rfl, fun j => ?_, fun _ => rfl, rfl, rfl, rfl, rfl⟩
  all_goals simp [setNeO, setNsO, eq_comm]

/-- mark the root `r` as standing outside the element chain -/
def unlWit (w : Wit) (r : Nat) : Wit := { w with unl := fun n => if n = r then true else w.unl n }

/-- cutting the link between a BeautifulSoup root and its first element keeps the heap consistent -/
theorem unlink_root {h : Heap} {w : Wit} (hwf : WF h w) (r f : Nat) (hk : h.kind r = .soup)
    (hr : h.parent r = none) (hrn : r < h.next) (hft : w.tree f = r) (hfp : w.pos f = 1) :
    WF (setPe (setNe h r none) f none) (unlWit w r) := by
  obtain ⟨hrt, hrp⟩ := hwf.root_tree r hr
  refine { hwf with chain_ne := fun a b => ?_, chain_pe := fun a b => ?_, unl_soup := fun n hn => ?_, fresh := fun n hn => ?_ }
  · have := hwf.chain_ne a b
    simp only [setPe_ne, setNe_ne, unlWit]
    by_cases ha : a = r
    · simp [ha]
    · simp only [ha, if_false]; exact this
  · have := hwf.chain_pe a b
    simp only [setPe_pe, unlWit]
    show (if b = f then none else h.pe b) = some a ↔ _
    by_cases hb : b = f
    · subst hb
      simp only [if_true]
      constructor
      · intro e; cases e
      · rintro ⟨h1, h2, h3⟩
        have : a = r := hwf.inj a r (by rw [h2, hft, hrt]) (by omega)
        simp [this] at h1
    · simp only [hb, if_false]
      by_cases ha : a = r
      · subst ha
        simp only [if_true]
        constructor
        · intro e
          have := this.mp e
          exact absurd (hwf.inj b f (by rw [← this.2.1, hrt, hft]) (by omega)) hb
        · rintro ⟨h1, _⟩; cases h1
      · simp only [ha, if_false]; exact this
  · simp only [unlWit] at hn
    by_cases hnr : n = r
    · subst hnr; exact ⟨hk, hr⟩
    · simp only [hnr, if_false] at hn; exact hwf.unl_soup n hn
  · have := hwf.fresh n hn
    refine ⟨this.1, this.2.1, ?_⟩
    simp only [unlWit]
    have : n ≠ r := by
      intro e; subst e
      exact absurd hn (by simp only [setPe_next, setNe_next]; omega)
    simp only [this, if_false]
    exact (hwf.fresh n hn).2.2

end BS.ParseLink
