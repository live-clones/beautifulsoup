/-! Association lists: `List.lookup` against membership (what core leaves out); `find?` under another listing or predicate. -/
namespace BS

theorem mem_of_lookup {α β : Type} [BEq α] [LawfulBEq α] {l : List (α × β)} {k : α} {v : β}
    (h : l.lookup k = some v) : (k, v) ∈ l := by
  obtain ⟨l₁, l₂, rfl, _⟩ := List.lookup_eq_some_iff.mp h
  simp

theorem lookup_of_mem {α β : Type} [BEq α] [LawfulBEq α] {l : List (α × β)} (hn : (l.map (·.1)).Nodup)
    {e : α × β} (he : e ∈ l) : l.lookup e.1 = some e.2 := by
  obtain ⟨s, t, rfl⟩ := List.append_of_mem he
  rw [List.map_append, List.map_cons, List.nodup_append] at hn
  -- `hn.2.2`: no key before `e` is `e`'s
  exact List.lookup_eq_some_iff.mpr ⟨s, t, rfl, fun p hp =>
    bne_iff_ne.mpr fun e' => hn.2.2 _ (List.mem_map_of_mem hp) _ List.mem_cons_self e'.symm⟩

theorem inj_of_nodup_map {α β} (f : α → β) (l : List α) (h : (l.map f).Nodup) :
    ∀ a b, a ∈ l → b ∈ l → f a = f b → a = b := by
  have hp := List.pairwise_map.1 h
  -- `f a = f b → a = b` holds of equal elements, of earlier/later pairs and of later/earlier pairs
  exact fun a b ha hb => List.Pairwise.forall_of_forall_of_flip (R := fun a b => f a = f b → a = b) (fun _ _ _ => rfl)
    (hp.imp fun hne e => absurd e hne) (hp.imp fun hne e => absurd e.symm hne) ha hb

theorem find?_of_same_members {α} (p : α → Bool) {l₁ l₂ : List α} (hm : ∀ a, a ∈ l₁ ↔ a ∈ l₂)
    (hu : ∀ a ∈ l₂, ∀ b ∈ l₂, p a = true → p b = true → a = b) : l₁.find? p = l₂.find? p := by
  cases h1 : l₁.find? p <;> cases h2 : l₂.find? p
  · rfl
  · exact absurd (List.find?_some h2) (List.find?_eq_none.1 h1 _ ((hm _).2 (List.mem_of_find?_eq_some h2)))
  · exact absurd (List.find?_some h1) (List.find?_eq_none.1 h2 _ ((hm _).1 (List.mem_of_find?_eq_some h1)))
  · rw [hu _ ((hm _).1 (List.mem_of_find?_eq_some h1)) _ (List.mem_of_find?_eq_some h2) (List.find?_some h1) (List.find?_some h2)]

theorem find?_congr_mem {α : Type} (l : List α) (p q : α → Bool) (h : ∀ a ∈ l, p a = q a) :
    l.find? p = l.find? q := by
  rw [← List.head?_filter, ← List.head?_filter, List.filter_congr h]

end BS
