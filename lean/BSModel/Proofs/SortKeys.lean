import BSModel.Base.PStr
/-! `sorted(...)` of `(key, value)` pairs as the models write it: insertion sort by key, any value type, any comparison.
    Instances (`sortK_unique`): `Render.sortAttrs`, `Formatter.sortAttrs`, `EncodingOut.sortAttrs`; `Attrs.sortItems` for its
    permutation lemma only: its invariant `Attrs.SortedAdj` is on adjacent pairs and needs neither transitivity nor the order of
    `List Nat`. -/
namespace BS.SortKeys
variable {β : Type}

def insertK (le : PStr → PStr → Bool) (x : PStr × β) : List (PStr × β) → List (PStr × β)
  | [] => [x]
  | y :: ys => if le x.1 y.1 then x :: y :: ys else y :: insertK le x ys

def sortK (le : PStr → PStr → Bool) : List (PStr × β) → List (PStr × β)
  | [] => []
  | x :: xs => insertK le x (sortK le xs)

/-- `le` agrees with the order of code-point lists; a `<` and a `≤` both qualify -/
structure Cmp (le : PStr → PStr → Bool) : Prop where
  le_of : ∀ a b, le a b = true → a ≤ b
  ge_of : ∀ a b, le a b = false → b ≤ a

/-- the two equations of an insertion sort determine it -/
theorem sortK_unique {le : PStr → PStr → Bool} {ins : PStr × β → List (PStr × β) → List (PStr × β)}
    {srt : List (PStr × β) → List (PStr × β)} (hnil : ∀ x, ins x [] = [x])
    (hcons : ∀ x y ys, ins x (y :: ys) = if le x.1 y.1 then x :: y :: ys else y :: ins x ys)
    (hs0 : srt [] = []) (hs1 : ∀ x xs, srt (x :: xs) = ins x (srt xs)) (l : List (PStr × β)) : srt l = sortK le l := by
  induction l with
  | nil => exact hs0
  | cons x xs ih =>
    have hins : ∀ l, ins x l = insertK le x l := by
      intro l
      induction l with
      | nil => exact hnil x
      | cons y ys ihl => rw [hcons, insertK, ihl]
    rw [hs1, sortK, ih, hins]

theorem insertK_perm (le : PStr → PStr → Bool) (x : PStr × β) (l : List (PStr × β)) : (insertK le x l).Perm (x :: l) := by
  fun_induction insertK le x l with
  | case1 => exact .refl _
  | case2 => exact .refl _
  | case3 y ys _ ih => exact (ih.cons y).trans (.swap x y ys)

theorem sortK_perm (le : PStr → PStr → Bool) : ∀ (l : List (PStr × β)), (sortK le l).Perm l
  | [] => .refl _
  | x :: xs => (insertK_perm le x _).trans ((sortK_perm le xs).cons x)

abbrev Sorted (l : List (PStr × β)) : Prop := l.Pairwise fun x y => x.1 ≤ y.1

theorem insertK_sorted {le : PStr → PStr → Bool} (hc : Cmp le) (x : PStr × β) :
    ∀ (l : List (PStr × β)), Sorted l → Sorted (insertK le x l)
  | [], _ => by simp [insertK, Sorted]
  | y :: ys, h => by
    obtain ⟨hy, hys⟩ := List.pairwise_cons.mp h
    simp only [insertK]
    split
    · rename_i hle
      exact List.pairwise_cons.mpr ⟨List.forall_mem_cons.mpr ⟨hc.le_of _ _ hle,
        fun z hz => List.le_trans (hc.le_of _ _ hle) (hy z hz)⟩, h⟩
    · rename_i hle
      refine List.pairwise_cons.mpr ⟨fun z hz => ?_, insertK_sorted hc x ys hys⟩
      rcases List.mem_cons.mp ((insertK_perm le x ys).mem_iff.mp hz) with rfl | hz
      · exact hc.ge_of _ _ (by simpa using hle)
      · exact hy z hz

theorem sortK_sorted {le : PStr → PStr → Bool} (hc : Cmp le) : ∀ (l : List (PStr × β)), Sorted (sortK le l)
  | [] => List.Pairwise.nil
  | x :: xs => insertK_sorted hc x _ (sortK_sorted hc xs)

theorem sortK_fixed (le : PStr → PStr → Bool) : ∀ (l : List (PStr × β)),
    l.Pairwise (fun x y => le x.1 y.1 = true) → sortK le l = l
  | [], _ => rfl
  | x :: xs, h => by
    rw [sortK, sortK_fixed le xs (List.pairwise_cons.mp h).2]
    cases xs with
    | nil => rfl
    | cons y ys => simp [insertK, (List.pairwise_cons.mp h).1 y (by simp)]

theorem sortK_map {γ : Type} (le : PStr → PStr → Bool) (φ : PStr × β → PStr × γ) (hφ : ∀ x, (φ x).1 = x.1) :
    ∀ (l : List (PStr × β)), sortK le (l.map φ) = (sortK le l).map φ
  | [] => rfl
  | x :: xs => by
    have ins : ∀ (l : List (PStr × β)), insertK le (φ x) (l.map φ) = (insertK le x l).map φ := by
      intro l
      induction l with
      | nil => rfl
      | cons y ys ih =>
        simp only [List.map_cons, insertK, hφ]
        split <;> simp [ih]
    simp only [List.map_cons, sortK, sortK_map le φ hφ xs, ins]

end BS.SortKeys
