import BSModel.Model.WriterText
import BSModel.Proofs.WriterAdapter
import BSModel.Proofs.BuilderText
/-! The adapter and the builder cannot tell how character data is cut into `data` callbacks: `adapterBuild` of two
callback streams that agree after `mergeData` is the same. -/
namespace BS.WriterText
open BS.Builder BS.Adapter BS.Writer

theorem adapterBuild_chunk (bcfg : Cfg) (acfg : ACfg) (hc : CfgOK bcfg) (X Y : List SEv) (a b : PStr) :
    adapterBuild bcfg acfg (X ++ .data a :: .data b :: Y) = adapterBuild bcfg acfg (X ++ .data (a ++ b) :: Y) := by
  simp only [adapterBuild, toEvents, arun_append, arun_cons, astep]
  refine Prod.ext ?_ ?_
  · simp only
    rw [build_eq_buildSpec hc, build_eq_buildSpec hc]
    have := buildSpec_chunking bcfg (arun (astep acfg) ⟨[]⟩ X).1 (arun (astep acfg) (afinal acfg ⟨[]⟩ X) Y).1 a b
    simpa [List.append_assoc] using this
  · simp

theorem adapterBuild_mergeData (bcfg : Cfg) (acfg : ACfg) (hc : CfgOK bcfg) : ∀ (ys X : List SEv),
    adapterBuild bcfg acfg (X ++ mergeData ys) = adapterBuild bcfg acfg (X ++ ys) := by
  intro ys
  induction ys with
  | nil => intro X; rfl
  | cons e rest ih =>
    intro X
    have hgen : adapterBuild bcfg acfg (X ++ e :: mergeData rest) = adapterBuild bcfg acfg (X ++ e :: rest) := by
      have := ih (X ++ [e])
      simpa [List.append_assoc] using this
    simp only [mergeData]
    split
    · rename_i a b r hm
      rw [← adapterBuild_chunk bcfg acfg hc X r a b, ← hm]
      exact hgen
    · exact hgen

/-- **the chunking of character data is invisible to adapter and builder** -/
theorem adapterBuild_congr (bcfg : Cfg) (acfg : ACfg) (hc : CfgOK bcfg) (xs ys : List SEv) (h : mergeData xs = mergeData ys) :
    adapterBuild bcfg acfg xs = adapterBuild bcfg acfg ys := by
  have h1 := adapterBuild_mergeData bcfg acfg hc xs []
  have h2 := adapterBuild_mergeData bcfg acfg hc ys []
  simp only [List.nil_append] at h1 h2
  rw [← h1, ← h2, h]

end BS.WriterText
