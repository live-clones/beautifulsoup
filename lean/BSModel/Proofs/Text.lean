import BSModel.Model.Text
import BSModel.Proofs.Trim
import BSModel.Proofs.Assoc
/-! C13: `walk` lists the pre-order, so `_all_strings` is the recursive evaluator `textOf` after the class test; laws of
    `textOf`, `join`, `strip`, `.string`, one-shot iterators, configuration. Core Lean only. -/
namespace BS.Text

mutual
def preN : Node → List Node
  | .str c v => [.str c v]
  | .tag n i ks => .tag n i ks :: preL ks
def preL : List Node → List Node
  | [] => []
  | k :: ks => preN k ++ preL ks
end

mutual
theorem walk_node (n : Node) (rest : List Node) : walk (n :: rest) = preN n ++ walk rest := by
  cases n with
  | str c v => rw [walk]; simp [kidsOf, preN]
  | tag nm i ks =>
    rw [walk]; simp only [kidsOf, preN]
    rw [walk_list ks rest]; simp
theorem walk_list (l rest : List Node) : walk (l ++ rest) = preL l ++ walk rest := by
  cases l with
  | nil => simp [preL]
  | cons k ks =>
    simp only [List.cons_append, preL]
    rw [walk_node k (ks ++ rest), walk_list ks rest]; simp
end

theorem walk_eq_pre (l : List Node) : walk l = preL l := by
  have := walk_list l []
  simpa [walk] using this

/-- what happens to the value of a string that passed the class test -/
def piece (strp : Bool) (v : PStr) : Option PStr :=
  if strp then (if (strip v).length == 0 then none else some (strip v)) else some v

theorem tagKeep_str (t : Types) (strp : Bool) (c : StrClass) (v : PStr) :
    tagKeep t strp (.str c v) = if t.keeps c then piece strp v else none := by
  unfold tagKeep piece
  cases h : t.keeps c <;> cases strp <;> simp [h]

mutual
theorem filterMap_preN (t : Types) (strp : Bool) (n : Node) :
    (preN n).filterMap (tagKeep t strp) = (textOf t.keeps n).filterMap (piece strp) := by
  cases n with
  | str c v =>
    simp only [preN, textOf, List.filterMap_cons, List.filterMap_nil, tagKeep_str]
    cases h : t.keeps c
    · simp
    · cases hp : piece strp v <;> simp [hp]
  | tag nm i ks =>
    simp only [preN, textOf, List.filterMap_cons, tagKeep]
    exact filterMap_preL t strp ks
theorem filterMap_preL (t : Types) (strp : Bool) (l : List Node) :
    (preL l).filterMap (tagKeep t strp) = (textOfL t.keeps l).filterMap (piece strp) := by
  cases l with
  | nil => simp [preL, textOfL]
  | cons k ks =>
    simp only [preL, textOfL, List.filterMap_append]
    rw [filterMap_preN t strp k, filterMap_preL t strp ks]
end

theorem filterMap_piece (strp : Bool) (l : List PStr) :
    l.filterMap (piece strp) = if strp then (l.map strip).filter (fun s => !s.isEmpty) else l := by
  cases strp
  · induction l with
    | nil => rfl
    | cons a l ih => simp_all [piece]
  · induction l with
    | nil => rfl
    | cons a l ih =>
      simp only [List.filterMap_cons, List.map_cons, List.filter_cons, piece, if_true] at ih ⊢
      rw [ih]
      cases h : strip a <;> simp

theorem allStrings_str (mn : List StrClass) (strp : Bool) (types : TypesArg) (c : StrClass) (v : PStr) :
    allStringsImpl mn strp types (.str c v) =
      if (resolveStr mn types).keeps c then [if strp then strip v else v].filter (fun s => !s.isEmpty) else [] := by
  simp only [allStringsImpl]
  generalize (if strp then strip v else v) = fv
  cases (resolveStr mn types).keeps c <;> cases fv <;> simp

theorem textOfL_append (sel : StrClass → Bool) (a b : List Node) :
    textOfL sel (a ++ b) = textOfL sel a ++ textOfL sel b := by
  induction a with
  | nil => simp [textOfL]
  | cons k ks ih => simp [textOfL, ih]

theorem textOf_congr (s1 s2 : StrClass → Bool) (h : ∀ c, s1 c = s2 c) (n : Node) : textOf s1 n = textOf s2 n :=
  congrArg (textOf · n) (funext h)

theorem textOfL_congr (s1 s2 : StrClass → Bool) (h : ∀ c, s1 c = s2 c) (l : List Node) : textOfL s1 l = textOfL s2 l :=
  congrArg (textOfL · l) (funext h)

mutual
theorem textOf_eq_filter (sel : StrClass → Bool) (n : Node) :
    textOf sel n = ((strNodes n).filter (fun p => sel p.1)).map (·.2) := by
  cases n with
  | str c v => cases h : sel c <;> simp [textOf, strNodes, h]
  | tag nm i ks => simp only [textOf, strNodes]; exact textOfL_eq_filter sel ks
theorem textOfL_eq_filter (sel : StrClass → Bool) (l : List Node) :
    textOfL sel l = ((strNodesL l).filter (fun p => sel p.1)).map (·.2) := by
  cases l with
  | nil => simp [textOfL, strNodesL]
  | cons k ks =>
    simp only [textOfL, strNodesL, List.filter_append, List.map_append]
    rw [textOf_eq_filter sel k, textOfL_eq_filter sel ks]
end

mutual
theorem mem_textOf (sel : StrClass → Bool) (n : Node) (p : PStr) :
    p ∈ textOf sel n ↔ ∃ c, Occurs n c p ∧ sel c = true := by
  cases n with
  | str c v =>
    simp only [textOf]
    constructor
    · intro h
      by_cases hs : sel c = true
      · simp [hs] at h; subst h; exact ⟨c, .here c p, hs⟩
      · simp [hs] at h
    · rintro ⟨c', ho, hs⟩
      cases ho; simp [hs]
  | tag nm i ks =>
    simp only [textOf]
    rw [mem_textOfL sel ks p]
    constructor
    · rintro ⟨c, ho, hs⟩; exact ⟨c, .inTag ho, hs⟩
    · rintro ⟨c, ho, hs⟩; cases ho with | inTag h => exact ⟨c, h, hs⟩
theorem mem_textOfL (sel : StrClass → Bool) (l : List Node) (p : PStr) :
    p ∈ textOfL sel l ↔ ∃ c, OccursL l c p ∧ sel c = true := by
  cases l with
  | nil =>
    simp only [textOfL, List.not_mem_nil, false_iff]
    rintro ⟨c, ho, _⟩; cases ho
  | cons k ks =>
    simp only [textOfL, List.mem_append]
    rw [mem_textOf sel k p, mem_textOfL sel ks p]
    constructor
    · rintro (⟨c, ho, hs⟩ | ⟨c, ho, hs⟩)
      · exact ⟨c, .head ho, hs⟩
      · exact ⟨c, .tail ho, hs⟩
    · rintro ⟨c, ho, hs⟩
      cases ho with
      | head h => exact Or.inl ⟨c, h, hs⟩
      | tail h => exact Or.inr ⟨c, h, hs⟩
end

mutual
theorem textOf_prune (keep sel : StrClass → Bool) (n : Node) :
    textOfL sel (prune keep n) = textOf (fun c => keep c && sel c) n := by
  cases n with
  | str c v =>
    simp only [prune, textOf]
    by_cases hk : keep c = true
    · simp [hk, textOfL, textOf]
    · simp [hk, textOfL]
  | tag nm i ks =>
    simp only [prune, textOfL, textOf, List.append_nil]
    exact textOfL_pruneL keep sel ks
theorem textOfL_pruneL (keep sel : StrClass → Bool) (l : List Node) :
    textOfL sel (pruneL keep l) = textOfL (fun c => keep c && sel c) l := by
  cases l with
  | nil => simp [pruneL, textOfL]
  | cons k ks =>
    simp only [pruneL, textOfL, textOfL_append]
    rw [textOf_prune keep sel k, textOfL_pruneL keep sel ks]
end

/-- `cm`: the tag class's own list; `mn`: `resolveTag`'s fallback, not reached -/
theorem keeps_ordinary (mn cm : List StrClass) (cont : List (PStr × StrClass)) (nm : PStr) (h : cont.lookup nm = none) :
    (resolveTag mn (interestingFor cm cont nm) .dflt).keeps = fun c => cm.contains c := by
  simp only [interestingFor, h, resolveTag]; rfl

theorem keeps_container (mn cm : List StrClass) (cont : List (PStr × StrClass)) (nm : PStr) (c : StrClass)
    (h : cont.lookup nm = some c) : (resolveTag mn (interestingFor cm cont nm) .dflt).keeps = fun d => d == c := by
  funext d
  simp only [interestingFor, h, resolveTag, Types.keeps, List.contains_cons, List.contains_nil, Bool.or_false]

theorem foldl_join (sep : PStr) (ps : List PStr) (p : PStr) :
    ps.foldl (fun acc q => acc ++ sep ++ q) p = p ++ (ps.map (fun q => sep ++ q)).flatten := by
  induction ps generalizing p with
  | nil => simp
  | cons q qs _ => simp [List.append_assoc]

theorem joinSpec_cons (sep : PStr) (p : PStr) (ps : List PStr) :
    joinSpec sep (p :: ps) = p ++ (ps.map (fun q => sep ++ q)).flatten := by
  induction ps generalizing p with
  | nil => simp [joinSpec]
  | cons q qs ih => simp [joinSpec, ih]

theorem joinImpl_eq_joinSpec (sep : PStr) (l : List PStr) : joinImpl sep l = joinSpec sep l := by
  cases l with
  | nil => rfl
  | cons p ps => rw [joinSpec_cons]; simp only [joinImpl]; exact foldl_join sep ps p

theorem joinSpec_eq_intercalate (sep : PStr) : ∀ l : List PStr, joinSpec sep l = List.intercalate sep l
  | [] => rfl
  | [p] => List.intercalate_singleton.symm
  | p :: q :: r => by rw [joinSpec, List.intercalate_cons_cons, joinSpec_eq_intercalate sep (q :: r)]

theorem length_flatten_sep (sep : PStr) (ps : List PStr) :
    ((ps.map (fun q => sep ++ q)).flatten).length = ps.length * sep.length + ps.flatten.length := by
  induction ps with
  | nil => simp
  | cons q qs ih =>
    simp only [List.map_cons, List.flatten_cons, List.length_append, ih, List.length_cons, Nat.add_mul]
    omega

theorem strip_idem (s : PStr) : strip (strip s) = strip s := Trim.trim_idem isSpace s

/-- a generated table against a literal list, below `n` -/
theorem contains_below (l m : List Nat) (n : Nat) (h : l.filter (· < n) = m) :
    ((List.range n).all fun c => l.contains c == m.contains c) = true := by
  subst h
  simp only [List.all_eq_true, List.mem_range, beq_iff_eq]
  intro c hc
  rw [Bool.eq_iff_iff]
  simp [List.mem_filter, hc]

mutual
theorem stringProp_sound (n : Node) (c : StrClass) (v : PStr) (h : stringProp n = some (c, v)) : SoleChain n c v := by
  cases n with
  | str c' v' => simp only [stringProp, Option.some.injEq, Prod.mk.injEq] at h; obtain ⟨rfl, rfl⟩ := h; exact .here _ _
  | tag nm i ks =>
    simp only [stringProp] at h
    exact stringPropL_sound nm i ks c v h
theorem stringPropL_sound (nm : PStr) (i : Interesting) (l : List Node) (c : StrClass) (v : PStr)
    (h : stringPropL l = some (c, v)) : SoleChain (.tag nm i l) c v := by
  match l, h with
  | [k], h =>
    simp only [stringPropL] at h
    exact .down (stringProp_sound k c v h)
end

theorem stringProp_complete (n : Node) (c : StrClass) (v : PStr) (h : SoleChain n c v) : stringProp n = some (c, v) := by
  induction h with
  | here c v => simp [stringProp]
  | down _ ih => simp [stringProp, stringPropL, ih]

theorem iterIn_spec (c : StrClass) : ∀ (it : List StrClass),
    ((iterIn c it).1 = true → c ∈ it) ∧ (∀ d ∈ (iterIn c it).2, d ∈ it) := by
  intro it
  fun_induction iterIn c it with   -- `[]`, head `c`, head not `c`
  | case1 => simp
  | case2 d ds h => exact ⟨fun _ => by simp [beq_iff_eq.mp h], fun x hx => List.mem_cons_of_mem _ hx⟩
  | case3 d ds h ih => exact ⟨fun hf => List.mem_cons_of_mem _ (ih.1 hf), fun x hx => List.mem_cons_of_mem _ (ih.2 x hx)⟩

theorem tagKeep_all_of_many (cs : List StrClass) (strp : Bool) (c : StrClass) (v : PStr) (hc : c ∈ cs) :
    tagKeep (.many cs) strp (.str c v) = tagKeep .all strp (.str c v) := by
  simp [tagKeep, Types.keeps, hc]

theorem iterWalk_sublist (strp : Bool) (cs : List StrClass) : ∀ (l : List Node) (it : List StrClass),
    (∀ d ∈ it, d ∈ cs) → (iterWalk strp it l).Sublist (l.filterMap (tagKeep (.many cs) strp)) := by
  intro l it hit
  fun_induction iterWalk strp it l with
  | case1 => simp
  | case2 it nm i ks ns ih => simpa only [List.filterMap_cons, tagKeep] using ih hit
  | case3 it c v ns it' hr ih =>   -- found, hence in `cs`: `.many cs` keeps what `.all` does
    have hsp := iterIn_spec c it
    rw [hr] at hsp
    have hsub := ih fun d hd => hit d (hsp.2 d hd)
    rw [List.filterMap_cons, tagKeep_all_of_many cs strp c v (hit c (hsp.1 rfl))]
    cases tagKeep .all strp (.str c v) with
    | none => simpa using hsub
    | some x => simpa using hsub.cons_cons x
  | case4 it c v ns it' hr ih =>
    have hsp := iterIn_spec c it
    rw [hr] at hsp
    have hsub := ih fun d hd => hit d (hsp.2 d hd)
    rw [List.filterMap_cons]
    cases tagKeep (.many cs) strp (.str c v) with
    | none => exact hsub
    | some x => exact hsub.cons x

/- `copy_self`: no builder, `interesting_string_types` handed on — the copy is the tree -/
mutual
theorem copyNode_id (main : List StrClass) (n : Node) : copyNode main n = n := by
  cases n with
  | str c v => simp [copyNode]
  | tag nm i ks =>
    simp only [copyNode, copySelfInteresting, tagInitInteresting]
    rw [copyNodeL_id main ks]
theorem copyNodeL_id (main : List StrClass) (l : List Node) : copyNodeL main l = l := by
  cases l with
  | nil => simp [copyNodeL]
  | cons k ks => simp only [copyNodeL]; rw [copyNode_id main k, copyNodeL_id main ks]
end

theorem ofCode_code (c : StrClass) : StrClass.ofCode c.code = c := by
  cases c with
  | other k => simp only [StrClass.code]; rw [Nat.add_comm]; rfl
  | _ => rfl

theorem code_eq_zero (c : StrClass) : c.code = 0 ↔ c = .navigableString := by
  cases c <;> simp [StrClass.code]

theorem code_inj (a b : StrClass) (h : a.code = b.code) : a = b := by
  rw [← ofCode_code a, ← ofCode_code b, h]

theorem lookup_not_contains {cont : List (PStr × StrClass)} {main : List StrClass}
    (hall : (cont.all fun p => !main.contains p.2) = true) {nm : PStr} {c : StrClass} (h : cont.lookup nm = some c) :
    main.contains c = false := by
  simpa using List.all_eq_true.mp hall (nm, c) (mem_of_lookup h)

theorem containerStackTop_split (cont : List (PStr × StrClass)) (pre : List PStr) (nm : PStr) (post : List PStr)
    (c : StrClass) (hpre : ∀ g ∈ pre, cont.lookup g = none) (hnm : cont.lookup nm = some c) :
    containerStackTop cont (pre ++ nm :: post) = some nm := by
  have : pre.find? (fun n => (cont.lookup n).isSome) = none :=
    List.find?_eq_none.mpr (fun g hg => by simp [hpre g hg])
  simp [containerStackTop, List.find?_append, this, hnm]

theorem containerStackTop_none (cont : List (PStr × StrClass)) (names : List PStr)
    (h : ∀ g ∈ names, cont.lookup g = none) : containerStackTop cont names = none :=
  List.find?_eq_none.mpr (fun g hg => by simp [h g hg])

end BS.Text
