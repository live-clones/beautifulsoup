import BSModel.Proofs.ParseLinkStep
import BSModel.Proofs.HeapCopy
/-! # Parse-time linkage: the invariant of the parser's state and the theorem `parse_wf` -/
namespace BS.ParseLink
open BS.Heap

theorem appWit_leaf {h : Heap} {w : Wit} {cur x : Nat} (hwf : WF h w) (hx : h.parent x = none) (hxk : h.kids x = [])
    (hx0 : x ≠ 0) (hc0 : w.tree cur = 0) :
    ((appWit w x cur).tree x = 0 ∧ (appWit w x cur).pos x = w.size 0 ∧ (appWit w x cur).size x = 1) ∧
    ∀ m, m ≠ x → (appWit w x cur).tree m = w.tree m ∧ (appWit w x cur).pos m = w.pos m ∧
      (appWit w x cur).size m =
        if w.tree m = 0 ∧ w.pos m ≤ w.pos cur ∧ w.pos cur < w.pos m + w.size m then w.size m + 1 else w.size m := by
  have := pasteWit_leaf (P := w.size 0) hwf hx hxk (by rw [hc0]; exact fun e => hx0 e.symm) (by rw [hc0]; exact Nat.le_refl _)
  rw [hc0] at this
  exact this

/-- the up-walk (`d` descendant, `c` child, `f` fuel, `o` current node) from a node that ends at the end of its document finds no
    next sibling -/
theorem fixerWalk_id {h : Heap} {w : Wit} (hwf : WF h w) (d c f : Nat) (o : Option Nat)
    (ho : ∀ t, o = some t → w.pos t + w.size t = w.size (w.tree t)) : fixerWalk h d c f o = h := by
  fun_induction fixerWalk h d c f o with
  | case1 => rfl
  | case2 => rfl
  | case3 f t s hn =>
    exfalso
    obtain ⟨⟨p, hp1, hp2⟩, hs⟩ := (hwf.sib_ns t s).mp hn
    have hb := hwf.bound s
    have := hwf.size_pos s
    have := ho t rfl
    rw [(wf_parent_pos hwf hp2).1, ← (wf_parent_pos hwf hp1).1] at hb
    omega
  | case4 f t hn ih =>
    refine ih fun q hp => ?_
    obtain ⟨t1, _, t3⟩ := wf_parent_pos hwf hp
    have hb := hwf.bound q
    have := ho t rfl
    rw [← t1] at hb ⊢
    omega

/-- `_linkage_fixer(cur)` right after a leaf `x` was appended to `cur` -/
theorem linkageFixer_id {h : Heap} {w : Wit} {cur x : Nat} {ks : List Nat} (hwf : WF h w)
    (hk : h.kids cur = ks ++ [x]) (hks : ks ≠ []) (hxks : x ∉ ks) (hxk : h.kids x = [])
    (hns : h.ns x = none) (hne : h.ne x = none) (hce : w.pos cur + w.size cur = w.size (w.tree cur)) :
    linkageFixer h cur = h := by
  cases ks with
  | nil => exact absurd rfl hks
  | cons first l =>
    have hh : (h.kids cur).head? = some first := by rw [hk]; rfl
    have hl : (h.kids cur).getLast? = some x := by rw [hk, List.getLast?_append]; rfl
    have hxf : ¬ (x = first) := by intro e; apply hxks; simp [e]
    unfold linkageFixer
    rw [hh, hl]
    -- `x` is not the first child; the writes on the leaf `x` store what is there; the up-walk finds no next sibling
    simp only [hxf, false_and, if_false, setNs_self _ _ _ hns, hxk, List.isEmpty_nil, not_true_eq_false, and_false,
      setNe_self _ _ _ hne]
    exact fixerWalk_id hwf x x _ _ fun t e => Option.some.inj e ▸ hce

/-- the open elements (`tagStack`) are the right spine of the document rooted at the BeautifulSoup object `0`:
    each of them ends at the end of the document; `_most_recent_element` is the last element of the document;
    the BeautifulSoup object stands outside the element chain -/
structure PInv (st : PSt) (w : Wit) : Prop where
  wf : WF st.heap w
  unl0 : w.unl 0 = true
  stk : ∀ c ∈ st.stack, (st.heap.kind c).isTag = true ∧ c < st.heap.next ∧ w.tree c = 0 ∧
    w.pos c + w.size c = w.size 0
  ord : st.stack.Pairwise (fun a b => w.pos b < w.pos a)
  root : st.stack.getLast? = some 0
  mre_some : ∀ m, st.mre = some m → w.tree m = 0 ∧ w.pos m + 1 = w.size 0 ∧ 1 ≤ w.pos m
  mre_none : st.mre = none → st.stack = [0] ∧ w.size 0 = 1
  kstr : ∀ n, st.heap.next ≤ n → st.heap.kind n = .str
  /-- every object created so far is in the document, at the position given by its creation number -/
  created : ∀ n, n < st.heap.next → w.tree n = 0 ∧ w.pos n = n
  size0 : w.size 0 = st.heap.next

-- tree = self, pos = 0, size = 1, outside the chain = object 0 only
theorem PSt.init_wf : WF PSt.init.heap ⟨fun n => n, fun _ => 0, fun _ => 1, fun n => n = 0⟩ where
  size_pos := fun _ => Nat.le_refl 1
  size_cap := fun _ => Nat.le_succ 1
  str_leaf := fun _ _ => rfl
  tiles := fun _ => rfl
  kid_parent := fun _ _ hk => nomatch hk
  kid_tree := fun _ _ hk => nomatch hk
  parent_kid := fun _ _ hp => nomatch hp
  root_tree := fun _ _ => ⟨rfl, rfl⟩
  tree_root := fun _ => rfl
  bound := fun _ => Nat.le_refl 1
  inj := fun _ _ h _ => h
  laminar := fun _ _ _ _ _ => Nat.le_refl 1
  chain_ne := fun _ _ => ⟨nofun, fun h => nomatch h.2.2⟩
  chain_pe := fun _ _ => ⟨nofun, fun h => nomatch h.2.2⟩
  sib_ns := fun _ _ => ⟨nofun, fun ⟨⟨_, h, _⟩, _⟩ => nomatch h⟩
  sib_ps := fun _ _ => ⟨nofun, fun ⟨⟨_, h, _⟩, _⟩ => nomatch h⟩
  unl_soup := fun r hr => by cases of_decide_eq_true hr; exact ⟨rfl, rfl⟩
  soup_root := fun _ _ => rfl
  fresh := fun n hn => ⟨rfl, rfl, decide_eq_false (Nat.ne_of_gt hn)⟩

theorem PInv.init : PInv PSt.init ⟨fun n => n, fun _ => 0, fun _ => 1, fun n => n = 0⟩ := by
  refine { wf := PSt.init_wf, unl0 := (decide_eq_true rfl : decide (0 = 0) = true), stk := fun c hc => ?stk,
           ord := List.pairwise_singleton .., root := rfl, mre_some := nofun, mre_none := fun _ => ⟨rfl, rfl⟩,
           kstr := fun n hn => if_neg (Nat.ne_of_gt hn), created := fun n hn => ?created, size0 := rfl }
  case stk =>
    cases List.mem_singleton.mp hc
    exact ⟨rfl, Nat.one_pos, rfl, rfl⟩
  case created =>
    cases Nat.lt_one_iff.mp hn
    exact ⟨rfl, rfl⟩

theorem append_inv {st : PSt} {w : Wit} (I : PInv st w) {cur : Nat} {rest : List Nat}
    (hs : st.stack = cur :: rest) (k : Kind) (hks : k ≠ .soup) :
    PInv ⟨parseAppend (alloc st.heap k []).1 cur st.mre st.heap.next,
      if k = .tag then st.heap.next :: st.stack else st.stack, some st.heap.next⟩ (appWit w st.heap.next cur) := by
  have hwf1 : WF (alloc st.heap k []).1 w := alloc_wf_any I.wf k []
  obtain ⟨hx, hxk, _⟩ := I.wf.fresh st.heap.next (Nat.le_refl _)
  have hcm : cur ∈ st.stack := hs ▸ List.mem_cons_self
  obtain ⟨c1, c2, c3, c4⟩ := I.stk cur hcm
  have hx0 : st.heap.next ≠ 0 := Nat.ne_of_gt (I.size0 ▸ I.wf.size_pos 0)
  have hkx : (alloc st.heap k []).1.kind st.heap.next = k := if_pos rfl
  have hko : ∀ c, c ≠ st.heap.next → (alloc st.heap k []).1.kind c = st.heap.kind c := fun c hc => if_neg hc
  have hwf2 := parseAppend_wf (mre := st.mre) hwf1 I.unl0 hx hxk (fun e => hks (hkx.symm.trans e)) (Nat.lt_succ_self _)
    ((congrArg Kind.isTag (hko cur (Nat.ne_of_lt c2))).trans c1) (Nat.lt_succ_of_lt c2) c3 c4 I.mre_some
    (fun hm => by
      obtain ⟨e1, e2⟩ := I.mre_none hm
      rw [hs] at e1
      exact ⟨by cases e1; rfl, e2⟩)
  obtain ⟨_, _, _, _, _, _, rkind, _, rnext, _⟩ := parseAppend_reads (alloc st.heap k []).1 cur st.mre st.heap.next
  obtain ⟨⟨x1, x2, x3⟩, hold⟩ := appWit_leaf (cur := cur) hwf1 hx hxk hx0 c3
  generalize parseAppend (alloc st.heap k []).1 cur st.mre st.heap.next = h' at hwf2 rkind rnext ⊢
  have hu : (appWit w st.heap.next cur).unl 0 = true := I.unl0
  generalize appWit w st.heap.next cur = w' at hwf2 x1 x2 x3 hold hu ⊢
  have hnext : h'.next = st.heap.next + 1 := rnext
  have hstk : ∀ c ∈ st.stack, w'.tree c = 0 ∧ w'.pos c = w.pos c ∧ w'.size c = w.size c + 1 ∧ w.pos c < w.size 0 := by
    intro c hc
    obtain ⟨_, d2, d3, d4⟩ := I.stk c hc
    obtain ⟨o1, o2, o3⟩ := hold c (Nat.ne_of_lt d2)
    have hle : w.pos c ≤ w.pos cur := by
      have ho := I.ord
      rw [hs] at hc ho
      rcases List.mem_cons.mp hc with rfl | hc'
      · exact Nat.le_refl _
      · exact Nat.le_of_lt ((List.pairwise_cons.mp ho).1 c hc')
    have hin : w.pos cur < w.pos c + w.size c := by rw [d4, ← c4]; exact Nat.lt_add_of_pos_right (I.wf.size_pos cur)
    exact ⟨o1.trans d3, o2, by rw [o3, if_pos ⟨d3, hle, hin⟩], d4 ▸ Nat.lt_add_of_pos_right (I.wf.size_pos c)⟩
  have hs0 : w'.size 0 = w.size 0 + 1 := (hstk 0 (List.mem_of_getLast? I.root)).2.2.1
  have hold_stk : ∀ c ∈ st.stack, (h'.kind c).isTag = true ∧ c < h'.next ∧ w'.tree c = 0 ∧ w'.pos c + w'.size c = w'.size 0 := by
    intro c hc
    obtain ⟨d1, d2, d3, d4⟩ := I.stk c hc
    obtain ⟨o1, o2, o3, _⟩ := hstk c hc
    exact ⟨by rw [rkind, hko c (Nat.ne_of_lt d2)]; exact d1, hnext ▸ Nat.lt_succ_of_lt d2, o1,
      by rw [o2, o3, hs0, ← Nat.add_assoc, d4]⟩
  have hold_ord : st.stack.Pairwise (fun a b => w'.pos b < w'.pos a) :=
    I.ord.imp_of_mem fun {a b} ha hb hab => by rw [(hstk a ha).2.1, (hstk b hb).2.1]; exact hab
  refine { wf := hwf2, unl0 := hu, stk := forall_mem_ite_cons (fun hkt => ?stk_new) hold_stk,
           ord := pairwise_ite_cons (fun c hc => ?ord_new) hold_ord, root := ?root, mre_some := ?mre_some, mre_none := nofun,
           kstr := fun n hn => ?kstr, created := fun n hn => ?created, size0 := ?size0 }
  case stk_new =>
    exact ⟨by rw [rkind, hkx, hkt]; rfl, hnext ▸ Nat.lt_succ_self _, x1, by rw [x2, x3, hs0]⟩
  case ord_new =>
    obtain ⟨_, hpos, _, hin⟩ := hstk c hc
    rw [x2, hpos]; exact hin
  case root =>
    split
    · show (st.heap.next :: st.stack).getLast? = some 0
      rw [hs, List.getLast?_cons_cons, ← hs]; exact I.root
    · exact I.root
  case mre_some =>
    intro m hm
    cases hm
    exact ⟨x1, by rw [x2, hs0], by rw [x2]; exact I.wf.size_pos 0⟩
  case kstr =>
    have hn' : st.heap.next < n := by rw [hnext] at hn; exact hn
    rw [rkind, hko n (Nat.ne_of_gt hn')]
    exact I.kstr n (Nat.le_of_lt hn')
  case created =>
    by_cases hnx : n = st.heap.next
    · rw [hnx]; exact ⟨x1, x2.trans I.size0⟩
    · have hn' : n < st.heap.next := Nat.lt_of_le_of_ne (Nat.le_of_lt_succ (by rw [hnext] at hn; exact hn)) hnx
      obtain ⟨e1, e2⟩ := I.created n hn'
      exact ⟨(hold n hnx).1.trans e1, (hold n hnx).2.1.trans e2⟩
  case size0 =>
    rw [hs0, hnext, I.size0]

theorem pstep_newTag {st : PSt} {cur : Nat} {rest : List Nat} (hs : st.stack = cur :: rest) :
    pstep st .newTag = ⟨parseAppend (alloc st.heap .tag []).1 cur st.mre st.heap.next, st.heap.next :: st.stack,
      some st.heap.next⟩ := by
  simp only [pstep, hs]; rfl

theorem pstep_newStr {st : PSt} {cur : Nat} {rest : List Nat} (hs : st.stack = cur :: rest) :
    pstep st .newStr =
      ⟨if (alloc st.heap .str []).1.ne cur ≠ none
        then linkageFixer (parseAppend (alloc st.heap .str []).1 cur st.mre st.heap.next) cur
        else parseAppend (alloc st.heap .str []).1 cur st.mre st.heap.next, st.stack, some st.heap.next⟩ := by
  simp only [pstep, hs]; rfl

theorem pstep_nil {st : PSt} (hs : st.stack = []) (a : Act) : pstep st a = st := by
  cases a <;> simp only [pstep, hs]

theorem pstep_pop_root {st : PSt} {a : Nat} (hs : st.stack = [a]) : pstep st .pop = st := by
  simp only [pstep, hs]

theorem pstep_pop {st : PSt} {a b : Nat} {r : List Nat} (hs : st.stack = a :: b :: r) :
    pstep st .pop = { st with stack := b :: r } := by
  simp only [pstep, hs]

/-- in every reachable state `_linkage_fixer` is a no-op: the parent already had children, the new string is the
    last element of the document, and no open element has a next sibling -/
theorem newStr_fixer_noop {st : PSt} {w : Wit} (I : PInv st w) {cur : Nat} {rest : List Nat}
    (hs : st.stack = cur :: rest) (hfix : (alloc st.heap .str []).1.ne cur ≠ none) :
    linkageFixer (parseAppend (alloc st.heap .str []).1 cur st.mre st.heap.next) cur =
      parseAppend (alloc st.heap .str []).1 cur st.mre st.heap.next := by
  have J := append_inv I hs .str (by decide)
  rw [if_neg (by decide)] at J
  obtain ⟨_, _, rns, _, rne, rkids, _, _, _, _⟩ :=
    parseAppend_reads (alloc st.heap .str []).1 cur st.mre st.heap.next
  have hcm : cur ∈ st.stack := by rw [hs]; simp
  obtain ⟨c1, c2, c3, c4⟩ := I.stk cur hcm
  obtain ⟨hx, hxk, _⟩ := I.wf.fresh st.heap.next (Nat.le_refl _)
  have hxnk : st.heap.next ∉ st.heap.kids cur := good_root_not_kid ⟨w, I.wf⟩ hx cur
  have hl : ((alloc st.heap .str []).1.kids cur).getLast? ≠ some st.heap.next :=
    fun e => hxnk (List.mem_of_getLast? e)
  -- `cur.next_element` was set, so `cur` already had children
  have hks : st.heap.kids cur ≠ [] := fun hk =>
    hfix (ne_last I.wf (by rw [c3, ← c4, wf_leaf_size_one I.wf hk]))
  obtain ⟨d1, d2, d3, d4⟩ := J.stk cur hcm
  apply linkageFixer_id (w := appWit w st.heap.next cur) (x := st.heap.next) (ks := st.heap.kids cur) J.wf
  case hk => rw [rkids, if_pos rfl]; rfl
  case hks => exact hks
  case hxks => exact hxnk
  case hxk => rw [rkids, if_neg (by omega)]; exact hxk
  case hns => rw [rns, if_neg hl, if_pos rfl]
  case hne => rw [rne, if_pos rfl]
  case hce => rw [d3]; exact d4

theorem pstep_inv {st : PSt} {w : Wit} (I : PInv st w) (a : Act) : ∃ w', PInv (pstep st a) w' := by
  cases hs : st.stack with
  | nil => rw [pstep_nil hs]; exact ⟨w, I⟩
  | cons cur rest =>
    cases a with
    | newTag =>
      have J := append_inv I hs .tag (by decide)
      rw [if_pos rfl] at J
      rw [pstep_newTag hs]; exact ⟨_, J⟩
    | newStr =>
      have J := append_inv I hs .str (by decide)
      rw [if_neg (by decide)] at J
      rw [pstep_newStr hs]
      refine ⟨appWit w st.heap.next cur, ?_⟩
      by_cases hfix : (alloc st.heap .str []).1.ne cur ≠ none
      · rw [if_pos hfix, newStr_fixer_noop I hs hfix]; exact J
      · rw [if_neg hfix]; exact J
    | pop =>
      cases rest with
      | nil => rw [pstep_pop_root hs]; exact ⟨w, I⟩
      | cons b r =>
        rw [pstep_pop hs]
        refine ⟨w, { I with stk := fun c hc => ?stk, ord := ?ord, root := ?root, mre_none := fun hm => ?mre_none }⟩
        case stk =>
          exact I.stk c (by rw [hs]; exact List.mem_cons_of_mem _ hc)
        case ord =>
          have := I.ord
          rw [hs] at this
          exact (List.pairwise_cons.mp this).2
        case root =>
          have := I.root
          rw [hs, List.getLast?_cons_cons] at this
          exact this
        case mre_none =>
          have := (I.mre_none hm).1
          rw [hs] at this; cases this

theorem prun_inv : ∀ (acts : List Act) (st : PSt) (w : Wit), PInv st w → ∃ w', PInv (prun st acts) w'
  | [], _, w, I => ⟨w, I⟩
  | a :: as, st, _, I => by
    obtain ⟨w1, I1⟩ := pstep_inv I a
    exact prun_inv as (pstep st a) w1 I1

theorem parse_inv (acts : List Act) : ∃ w, PInv (prun PSt.init acts) w := prun_inv acts _ _ PInv.init

theorem parse_good2 : ∀ acts, Good2 (prun PSt.init acts).heap := by
  intro acts
  obtain ⟨w, I⟩ := parse_inv acts
  exact ⟨⟨w, I.wf⟩, I.kstr⟩

theorem parse_wf : ∀ acts, Good (prun PSt.init acts).heap :=
  fun acts => (parse_good2 acts).1

end BS.ParseLink

#print axioms BS.ParseLink.parse_wf
#print axioms BS.ParseLink.parse_good2
