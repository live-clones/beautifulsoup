import BSModel.Proofs.ReparseIdem
/-! C05 helper lemmas: `DoctypeStable` is also *necessary* for the normal form to be a fixpoint. The total length of
    the character data grows by one for every doctype whose newline is not absorbed (one that stands in a
    preserve-whitespace context or is followed by visible text): the second normalisation is run in lockstep with
    the first as in `reabsorbL`, counting instead of comparing. -/
namespace BS.Render

theorem tlenL_append : ∀ (a b : List Node), tlenL (a ++ b) = tlenL a + tlenL b
  | [], b => by simp [tlenL]
  | x :: xs, b => by simp [tlenL, tlenL_append xs b, Nat.add_assoc]

theorem tlenL_txt_cons (p : PCfg) {ctx : Ctx} (hctx : CtxOK ctx) (x : PStr) (xs : List PStr) :
    tlenL (txt p ctx (x :: xs)) = (wsRule p ctx.pres (concatL (x :: xs))).length := by
  rw [txt_cons]
  simp [tlenL, tlenN, strKind_text _ hctx]

/-- a newline known to stay visible is paid for, at the next flush or at the end -/
theorem owed_pending (p : PCfg) (ctx : Ctx) : ∀ (ds : List Node),
    1 ≤ (growL p ctx true true ds).1 + owed (growL p ctx true true ds).2.1 (growL p ctx true true ds).2.2
  | [] => by simp [growL, owed]
  | .tag i ks :: ns => by
    simp only [growL, owed]
    simp
    omega
  | .str c s :: ns => by
    simp only [growL]
    cases hk : strKind c s with
    | text t =>
      simp only
      split
      · exact owed_pending p ctx ns
      · simp only [brkText, Bool.true_or]; exact owed_pending p ctx ns
    | special c' s' nl =>
      simp only [owed]
      simp
      omega

mutual
/-- only `brk = false` needs the induction: a newline known to stay visible is owed whatever follows (`owed_pending`) -/
theorem grow_unstableL (p : PCfg) : ∀ (ds : List Node) (ctx : Ctx) (after : Bool), dstableL p ctx after ds = false →
    1 ≤ (growL p ctx after false ds).1 + owed (growL p ctx after false ds).2.1 (growL p ctx after false ds).2.2
  | [] => by
    intro _ _ h
    simp [dstableL] at h
  | .tag i ks :: ns => by
    intro ctx after h
    simp only [dstableL, headOK, nextAfter, Bool.and_true, Bool.and_eq_false_iff] at h
    simp only [growL]
    rcases h with h | h
    · have := grow_unstableN p (.tag i ks) ctx h
      omega
    · have := grow_unstableL p ns ctx false h
      omega
  | .str c s :: ns => by
    intro ctx after h
    simp only [dstableL, dstableN, headOK, nextAfter, Bool.true_and, Bool.and_eq_false_iff] at h
    simp only [growL]
    cases hk : strKind c s with
    | text t =>
      simp only [hk] at h ⊢
      cases hb : brkText p after false t with
      | true =>
        -- visible text after a doctype
        obtain ⟨rfl, hsp⟩ : after = true ∧ isSp p t = false := by simpa [brkText] using hb
        have hne : t.isEmpty = false := by cases t <;> simp_all [isSp]
        simp only [hne]
        exact owed_pending p ctx ns
      | false =>
        have hns : dstableL p ctx after ns = false := by
          refine h.resolve_left fun h => ?_
          rw [brkText_false, h] at hb
          exact absurd hb (by decide)
        simp only [ite_self]
        exact grow_unstableL p ns ctx after hns
    | special c' s' nl =>
      simp only [hk] at h ⊢
      cases hb : (nl && ctx.pres) with
      | true =>
        -- a doctype in a preserve-whitespace context
        obtain ⟨rfl, _⟩ : nl = true ∧ ctx.pres = true := by simpa using hb
        have := owed_pending p ctx ns
        omega
      | false =>
        have hns : dstableL p ctx nl ns = false := by
          refine h.resolve_left fun h => ?_
          rw [← Bool.not_and, hb] at h
          exact absurd h (by decide)
        have := grow_unstableL p ns ctx nl hns
        omega
theorem grow_unstableN (p : PCfg) : ∀ (n : Node) (ctx : Ctx), dstableN p ctx n = false → 1 ≤ growN p ctx n
  | .str _ _, _, h => by simp [dstableN] at h
  | .tag i ks, ctx, h => grow_unstableL p ks (pushCtx p ctx (fullName i)) false h
end

theorem grow_unstable (p : PCfg) (ctx : Ctx) (ds : List Node) (h : dstableL p ctx false ds = false) : 1 ≤ grow p ctx ds :=
  grow_unstableL p ds ctx false h

/-- the whitespace rule leaves a string alone in a preserve-whitespace context or when it has a visible character -/
theorem wsRule_keep (p : PCfg) (pres : Bool) (s : PStr) (h : pres = true ∨ isSp p s = false) : wsRule p pres s = s := by
  unfold wsRule
  rw [if_neg]
  rcases h with h | h
  · simp [h]
  · simp only [isSp] at h
    rw [h]; simp

/-- the text node the first pass flushes, taken up and flushed again by the second pass: one longer if the doctype's
    newline stays visible -/
theorem tlen_repend (p : PCfg) (h10 : p.asciiSpaces.contains 10 = true) {ctx : Ctx} (hctx : CtxOK ctx)
    {after brk : Bool} {b c : List PStr} (hr : Rel2 p ctx after brk b c) :
    tlenL (txt p ctx (repend p ctx b c)) = tlenL (txt p ctx b) + owed after brk := by
  cases brk with
  | false => rw [txt_repend p h10 hr]; simp [owed]
  | true =>
    cases after with
    | false => simp [rel2_false] at hr
    | true =>
      obtain ⟨_hne, rfl, rest, rfl, hk⟩ := rel2_true.mp hr
      have hcase : ctx.pres = true ∨ isSp p (concatL rest) = false := by simpa using hk.symm
      have hk1 : ctx.pres = true ∨ isSp p (concatL ([10] :: rest)) = false :=
        hcase.imp_right fun h => by simp only [concatL, isSp_append, h, Bool.and_false]
      have ht : wsRule p ctx.pres (concatL ([10] :: rest)) = concatL ([10] :: rest) := wsRule_keep p _ _ hk1
      have hk2 : ctx.pres = true ∨ isSp p (concatL [[10], concatL ([10] :: rest)]) = false :=
        hk1.imp_right fun h => by simp only [concatL, isSp_append, List.append_nil] at h ⊢; simp [h]
      have ht2 := wsRule_keep p _ _ hk2
      simp only [repend, List.isEmpty_cons, Bool.false_eq_true, if_false, ht, List.cons_append, List.nil_append,
        tlenL_txt_cons p hctx, ht2, owed]
      simp [concatL]

theorem tlen_normIn (p : PCfg) (f : Fmt) (h10 : p.asciiSpaces.contains 10 = true) {ctx : Ctx} (hctx : CtxOK ctx)
    {ds : List Node} {after brk : Bool} {g : Nat}
    (h : tlenL (absorb p f ctx [] (absorb p f ctx [] ds).1).1 = tlenL (absorb p f ctx [] ds).1 + g)
    (hr : Rel2 p ctx after brk (absorb p f ctx [] ds).2 (absorb p f ctx [] (absorb p f ctx [] ds).1).2) :
    tlenL (normIn p f ctx (normIn p f ctx ds)) = tlenL (normIn p f ctx ds) + (g + owed after brk) := by
  have hn : normIn p f ctx ds = (absorb p f ctx [] ds).1 ++ txt p ctx (absorb p f ctx [] ds).2 := rfl
  rw [hn, normIn_append, absorb_txt p f hctx hr.ne_nil]
  simp only [tlenL_append, h, tlen_repend p h10 hctx hr, tlenL]
  omega

theorem growL_cons (p : PCfg) (ctx : Ctx) (after brk : Bool) (n : Node) (ns : List Node) :
    growL p ctx after brk (n :: ns) =
      ((growL p ctx after brk [n]).1 + (growL p ctx (growL p ctx after brk [n]).2.1 (growL p ctx after brk [n]).2.2 ns).1,
       (growL p ctx (growL p ctx after brk [n]).2.1 (growL p ctx after brk [n]).2.2 ns).2) := by
  cases n with
  | tag i ks => simp [growL]
  | str c s =>
    simp only [growL]
    cases strKind c s with
    | text t => simp only; split <;> simp
    | special c' s' nl => simp

/-- pending text flushed by a node that is not text: what the second pass produces, counted -/
theorem flush_node (p : PCfg) (f : Fmt) (h10 : p.asciiSpaces.contains 10 = true) (ctx : Ctx) (hctx : CtxOK ctx)
    (after brk : Bool) (b c : List PStr) (hr : Rel2 p ctx after brk b c) (X X' : Node) (bx : List PStr)
    (hX : ∀ c2, absorb1 p f ctx c2 X = (txt p ctx c2 ++ [X'], bx)) :
    (absorb p f ctx c (txt p ctx b ++ [X])).2 = bx ∧
      tlenL (absorb p f ctx c (txt p ctx b ++ [X])).1 = tlenL (txt p ctx b) + owed after brk + tlenN X' := by
  rw [absorb_append, absorb_txt p f hctx hr.ne_nil, absorb_cons, absorb_nil, hX]
  simp only [List.nil_append, List.append_nil, tlenL_append, tlen_repend p h10 hctx hr, tlenL, Nat.add_zero, and_self]

mutual
/-- the lockstep of `reabsorbL` for any `brk`, counting instead of comparing -/
theorem countL (p : PCfg) (f : Fmt) (hc : contOK p = true) (h10 : p.asciiSpaces.contains 10 = true) :
    ∀ (ds : List Node) (ctx : Ctx) (after brk : Bool) (b c : List PStr), CtxOK ctx → Rel2 p ctx after brk b c →
      tlenL (absorb p f ctx c (absorb p f ctx b ds).1).1 = tlenL (absorb p f ctx b ds).1 + (growL p ctx after brk ds).1 ∧
      Rel2 p ctx (growL p ctx after brk ds).2.1 (growL p ctx after brk ds).2.2 (absorb p f ctx b ds).2
        (absorb p f ctx c (absorb p f ctx b ds).1).2
  | [] => by
    intro ctx after brk b c _ hr
    simpa [absorb_nil, growL, tlenL] using hr
  | d :: ds => by
    intro ctx after brk b c hctx hr
    obtain ⟨h1, r1⟩ := count1 p f hc h10 d ctx after brk b c hctx hr
    obtain ⟨h2, r2⟩ := countL p f hc h10 ds ctx _ _ _ _ hctx r1
    rw [growL_cons, absorb_cons]
    simp only [absorb_append, tlenL_append]
    refine ⟨?_, r2⟩
    rw [h1, h2]; omega
theorem count1 (p : PCfg) (f : Fmt) (hc : contOK p = true) (h10 : p.asciiSpaces.contains 10 = true) :
    ∀ (d : Node) (ctx : Ctx) (after brk : Bool) (b c : List PStr), CtxOK ctx → Rel2 p ctx after brk b c →
      tlenL (absorb p f ctx c (absorb1 p f ctx b d).1).1 = tlenL (absorb1 p f ctx b d).1 + (growL p ctx after brk [d]).1 ∧
      Rel2 p ctx (growL p ctx after brk [d]).2.1 (growL p ctx after brk [d]).2.2 (absorb1 p f ctx b d).2
        (absorb p f ctx c (absorb1 p f ctx b d).1).2
  | .str k s => by
    intro ctx after brk b c hctx hr
    simp only [growL]
    cases hk : strKind k s with
    | text t =>
      simp only [absorb1_text hk, absorb_nil, tlenL, Nat.zero_add]
      by_cases he : t.isEmpty = true
      · simpa [he, growL] using hr
      · simpa [he, growL] using rel2_text hr (t := t) (by simpa using he)
    | special k' s' nl =>
      have hfix := strKind_special_fix hk (wsRule p ctx.pres s')
      obtain ⟨g1, g2⟩ := flush_node p f h10 ctx hctx after brk b c hr _ _ _ fun c2 => by
        rw [absorb1_special hfix, wsRule_idem]
      have hz : tlenN (Node.str k' (wsRule p ctx.pres s')) = 0 := by simp [tlenN, hfix]
      simp only [absorb1_special hk, g1, g2, hz, tlenL_append, tlenL]
      refine ⟨by omega, ?_⟩
      cases nl with
      | false => exact rel2_start p ctx
      | true => simpa using rel2_doctype p ctx
  | .tag i ks => by
    intro ctx after brk b c hctx hr
    have hctx' := ctxOK_push p hc ctx hctx (fullName i)
    -- the children: second normalisation of the normalised children, counted
    obtain ⟨hk1, hk2⟩ := countL p f hc h10 ks (pushCtx p ctx (fullName i)) false false [] [] hctx' (rel2_start p _)
    have hkids := tlen_normIn p f h10 hctx' hk1 hk2
    obtain ⟨g1, g2⟩ := flush_node p f h10 ctx hctx after brk b c hr
      (.tag (normInfo p f i) (normIn p f (pushCtx p ctx (fullName i)) ks)) _ _ fun c2 => by
        rw [absorb1_tag, fullName_normInfo]
    simp only [absorb1_tag, g1, g2, tlenL_append, tlenL, tlenN, hkids, growL, growN, Nat.add_zero]
    exact ⟨by omega, rel2_start p ctx⟩
end

/-- **the length of the character data after a second normalisation**: it grows by exactly the number of doctypes whose
    newline is not absorbed -/
theorem tlen_normIn_twice (p : PCfg) (f : Fmt) (hc : contOK p = true) (h10 : p.asciiSpaces.contains 10 = true) {ctx : Ctx}
    (hctx : CtxOK ctx) (ds : List Node) :
    tlenL (normIn p f ctx (normIn p f ctx ds)) = tlenL (normIn p f ctx ds) + grow p ctx ds := by
  obtain ⟨h1, h2⟩ := countL p f hc h10 ds ctx false false [] [] hctx (rel2_start p _)
  exact tlen_normIn p f h10 hctx h1 h2

theorem tlen_second (p : PCfg) (f : Fmt) (hc : contOK p = true) (h10 : p.asciiSpaces.contains 10 = true) (ds : List Node) :
    tlenL (normaliseL p f (normaliseL p f ds)) = tlenL (normaliseL p f ds) + grow p (ctxOf p [rootFrame]) ds := by
  simp only [normaliseL_eq]
  exact tlen_normIn_twice p f hc h10 (ctxOK_root p hc) ds

/-- **`DoctypeStable` is necessary**: a forest that is not doctype-stable is not a fixpoint of the second normalisation -/
theorem normaliseL_not_idem (p : PCfg) (f : Fmt) (hc : contOK p = true) (h10 : p.asciiSpaces.contains 10 = true)
    (ds : List Node) (hs : dstableL p (ctxOf p [rootFrame]) false ds = false) :
    normaliseL p f (normaliseL p f ds) ≠ normaliseL p f ds := by
  intro h
  have h1 := tlen_second p f hc h10 ds
  have h2 := grow_unstable p _ ds hs
  rw [h] at h1
  omega

end BS.Render
