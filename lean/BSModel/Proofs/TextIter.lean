import BSModel.Proofs.PStr
import BSModel.Proofs.TextHeap
import BSModel.Proofs.HeapExtract
/-! C13: the iteration behind `.strings` survives the extraction of the string it just handed out.
    (`PageElement.extract` on the pointer heap, with C01's cut witness.) -/
namespace BS.Text
open BS.Heap

/-- after cutting the subtree of `x` out of its tree, every element that stood after that subtree in document order
    keeps its `next_element` (`cut_adj_iff`: adjacency changes only at the seam, and `a` stands after it) -/
theorem extract_ne_after {h h' : Heap} {w : Wit} {x p : Nat} (hwf : WF h w) (hwf' : WF h' (cutWit w x))
    (hp : h.parent x = some p) (a : Nat) (hpa : w.pos x + w.size x ≤ w.pos a) :
    h'.ne a = h.ne a := by
  apply Option.ext
  intro b
  rw [hwf'.chain_ne a b, hwf.chain_ne a b, cut_adj_iff hwf hp]
  refine and_congr_right fun _ => ?_
  omega

/-- a root stands at position 0, the target of `next_element` at `pos a + 1` -/
theorem ne_target_has_parent {h : Heap} {w : Wit} (hwf : WF h w) {a b : Nat} (hab : h.ne a = some b) :
    h.parent b ≠ none := by
  intro hb
  have := (hwf.chain_ne a b).mp hab
  have hr := (hwf.root_tree b hb).2
  omega

/-- the invariant of the suspended generator: the heap is consistent and the saved successor is not a root -/
def IterInv (h : Heap) (st : GenSt) : Prop :=
  (∃ w, WF h w) ∧ ∀ a, st.current = some a → h.parent a ≠ none

theorem genNext_some {h : Heap} {st st' : GenSt} {c : Nat} (hg : genNext h st = some (c, st')) :
    st.current = some c ∧ st' = ⟨h.ne c, st.stop⟩ := by
  unfold genNext at hg
  cases hc : st.current with
  | none => simp [hc] at hg
  | some c0 =>
    simp only [hc] at hg
    split at hg
    · cases hg
    · simp only [Option.some.injEq, Prod.mk.injEq] at hg
      obtain ⟨rfl, rfl⟩ := hg
      exact ⟨rfl, rfl⟩

theorem iterInv_next (h : Heap) (st : GenSt) (c : Nat) (st' : GenSt) (hI : IterInv h st)
    (hg : genNext h st = some (c, st')) : IterInv h st' := by
  obtain ⟨⟨w, hwf⟩, _⟩ := hI
  obtain ⟨_, rfl⟩ := genNext_some hg
  exact ⟨⟨w, hwf⟩, fun a ha => ne_target_has_parent hwf ha⟩

/-- the rest of the walk, from any element after `c`, is the same before and after extracting the leaf `c` -/
theorem genList_after_extract {h h1 : Heap} {w : Wit} {c p : Nat} (hwf : WF h w) (hwf1 : WF h1 (cutWit w c))
    (hp : h.parent c = some p) (hsz : w.size c = 1) (stop : Option Nat) : ∀ (f : Nat) (cur : Option Nat),
    (∀ a, cur = some a → w.pos c + 1 ≤ w.pos a) →
    genList h1 f ⟨cur, stop⟩ = genList h f ⟨cur, stop⟩ := by
  intro f
  induction f with
  | zero => intro cur _; rfl
  | succ f ih =>
    intro cur hcur
    cases cur with
    | none => simp [genList, genNext]
    | some a =>
      have hpa := hcur a rfl
      have hne : h1.ne a = h.ne a := extract_ne_after hwf hwf1 hp a (by omega)
      by_cases hs : some a = stop
      · simp [genList, genNext, hs]
      · simp only [genList, genNext, hs, if_false, hne]
        congr 1
        apply ih
        intro b hb
        have := (hwf.chain_ne a b).mp hb
        omega

/-- the string handed out is a leaf and its successor was read before: extracting it leaves the rest of the walk alone -/
theorem extract_frame (main : List StrClass) (L : Labels) (types : TypesArg) (x : Nat)
    (h : Heap) (st : GenSt) (c : Nat) (st' : GenSt) (h1 : Heap) (hI : IterInv h st)
    (hg : genNext h st = some (c, st')) (hk : heapKeeps main L types x h c = true) (hs : step h (.extract c) = .ok h1) :
    IterInv h1 st' ∧ EditFrame (heapKeeps main L types x) h h1 st' := by
  obtain ⟨⟨w, hwf⟩, hcur⟩ := hI
  obtain ⟨hc, rfl⟩ := genNext_some hg
  obtain ⟨p, hp⟩ := Option.ne_none_iff_exists'.mp (hcur c hc)
  -- a kept element is a string, hence a leaf
  have hstr : (h.kind c).isTag = false := by
    cases hkc : (h.kind c).isTag with
    | false => rfl
    | true => simp [heapKeeps, shallow, hkc, tagKeep] at hk
  have hsz := wf_leaf_size_one hwf (hwf.str_leaf c hstr)
  obtain ⟨h', he, hwf', _hkids, hpar, hkind, hval, _hnext, _hcap⟩ := extract_spec h w c hwf
  have : h1 = h' := by
    simp only [step] at hs
    rw [he] at hs
    cases hs; rfl
  subst this
  refine ⟨⟨⟨_, hwf'⟩, ?_⟩, ?_⟩
  · intro b hb
    have hb' : h.ne c = some b := hb
    have hpos := (hwf.chain_ne c b).mp hb'
    have hbc : b ≠ c := by intro e; rw [e] at hpos; omega
    rw [hpar b, if_neg hbc]
    exact ne_target_has_parent hwf hb'
  · intro f
    have hcond : ∀ a, h.ne c = some a → w.pos c + 1 ≤ w.pos a := fun a ha =>
      Nat.le_of_eq ((hwf.chain_ne c a).mp ha).2.2.symm
    refine ⟨genList_after_extract hwf hwf' hp hsz st.stop f (h.ne c) hcond, ?_⟩
    intro e _
    simp only [heapKeeps, shallow, hkind, hval]

end BS.Text
