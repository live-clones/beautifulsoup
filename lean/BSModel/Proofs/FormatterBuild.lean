import BSModel.Model.FormatterBuild
import BSModel.Proofs.Formatter
/-! C15, builder side: set/dict-typed configuration is only consulted through membership and key lookup;
    the attribute dict of a start tag without duplicate keys is the source list; attribute order in the source does not
    survive canonicalisation. `FmtEquiv`: formatters that differ in listings only; the `attributes()` hook. -/
namespace BS.Formatter
open List

/-- same members -/
def SetEq (a b : List PStr) : Prop := ∀ x, x ∈ a ↔ x ∈ b

theorem SetEq.contains {a b : List PStr} (h : SetEq a b) (x : PStr) : a.contains x = b.contains x := contains_congr h x

theorem SetEq.isEmpty {a b : List PStr} (h : SetEq a b) : a.isEmpty = b.isEmpty := by
  have h : ∀ x, x ∈ a ↔ x ∈ b := h
  rw [Bool.eq_iff_iff]; simp only [List.isEmpty_iff, List.eq_nil_iff_forall_not_mem, h]

theorem SetEq.of_perm {a b : List PStr} (h : a.Perm b) : SetEq a b := fun _ => h.mem_iff

/-- `None` equals only `None` (`empty_element_tags`) -/
def OptSetEq : Option (List PStr) → Option (List PStr) → Prop
  | none, none => True
  | some s, some s' => SetEq s s'
  | _, _ => False

/-- the same configuration, whatever the listing order of its sets and dicts; `claEmpty`: the code tests
    `if not self.cdata_list_attributes` before any lookup -/
structure BuilderEquiv (b b' : BuilderCfg) : Prop where
  dup : b.onDuplicate = b'.onDuplicate
  empty : OptSetEq b.emptyElementTags b'.emptyElementTags
  pres : SetEq b.preserveWhitespaceTags b'.preserveWhitespaceTags
  claEmpty : b.cdataListAttributes.isEmpty = b'.cdataListAttributes.isEmpty
  cla : ∀ k, OptSetEq (dictGet b.cdataListAttributes k) (dictGet b'.cdataListAttributes k)

theorem isListAttr_equiv (cla cla' : List (PStr × List PStr)) (h : ∀ k, OptSetEq (dictGet cla k) (dictGet cla' k))
    (t a : PStr) : isListAttr cla t a = isListAttr cla' t a := by
  unfold isListAttr
  have hu := h [42]
  have ht := h t
  congr 1
  · cases h1 : dictGet cla [42] <;> cases h2 : dictGet cla' [42] <;> simp only [h1, h2, OptSetEq] at hu
    · rfl
    · simp only [Option.getD_some]; exact hu.contains a
  · cases h1 : dictGet cla t <;> cases h2 : dictGet cla' t <;> simp only [h1, h2, OptSetEq] at ht
    · rfl
    · simp only [ht.isEmpty, ht.contains a]

theorem replaceCdataList_equiv (cla cla' : List (PStr × List PStr)) (he : cla.isEmpty = cla'.isEmpty)
    (h : ∀ k, OptSetEq (dictGet cla k) (dictGet cla' k)) (t : PStr) (d : List (PStr × PStr)) :
    replaceCdataList cla t d = replaceCdataList cla' t d := by
  unfold replaceCdataList
  rw [he]
  split
  · rfl
  · apply List.map_congr_left
    intro e _
    rw [isListAttr_equiv cla cla' h]

theorem canBeEmpty_equiv (b b' : BuilderCfg) (h : BuilderEquiv b b') (n : PStr) : canBeEmpty b n = canBeEmpty b' n := by
  unfold canBeEmpty
  have := h.empty
  cases h1 : b.emptyElementTags <;> cases h2 : b'.emptyElementTags <;> simp only [h1, h2, OptSetEq] at this
  · rfl
  · exact this.contains n

theorem preserves_equiv (b b' : BuilderCfg) (h : BuilderEquiv b b') (n : PStr) : preserves b n = preserves b' n := by
  unfold preserves
  rw [h.pres.isEmpty, h.pres.contains n]

mutual
theorem build_equiv (b b' : BuilderCfg) (h : BuilderEquiv b b') (t : RawNode) : build b t = build b' t := by
  cases t with
  | str k v => simp [build]
  | tag n as ks =>
    simp only [build, h.dup, replaceCdataList_equiv _ _ h.claEmpty h.cla, canBeEmpty_equiv b b' h, preserves_equiv b b' h,
      buildL_equiv b b' h ks]
theorem buildL_equiv (b b' : BuilderCfg) (h : BuilderEquiv b b') (l : List RawNode) : buildL b l = buildL b' l := by
  cases l with
  | nil => simp [buildL]
  | cons k ks => simp only [buildL, build_equiv b b' h k, buildL_equiv b b' h ks]
end

theorem dictGet_perm (d d' : List (PStr × List PStr)) (hp : d'.Perm d) (hn : (d.map (·.1)).Nodup) (k : PStr) :
    dictGet d' k = dictGet d k := by
  unfold dictGet
  rw [find?_of_same_members _ (fun _ => hp.mem_iff)]
  intro a ha b hb h1 h2
  have h1' : a.1 = k := by simpa using h1
  have h2' : b.1 = k := by simpa using h2
  exact inj_of_nodup_map (·.1) d hn a b ha hb (h1'.trans h2'.symm)

theorem optSetEq_refl (o : Option (List PStr)) : OptSetEq o o := by
  cases o <;> simp [OptSetEq, SetEq]

theorem builderEquiv_of_perm (b : BuilderCfg) (e' : Option (List PStr)) (p' : List PStr) (c' : List (PStr × List PStr))
    (he : match b.emptyElementTags, e' with | none, none => True | some s, some s' => s'.Perm s | _, _ => False)
    (hp : p'.Perm b.preserveWhitespaceTags) (hc : c'.Perm b.cdataListAttributes)
    (hn : (b.cdataListAttributes.map (·.1)).Nodup) :
    BuilderEquiv { b with emptyElementTags := e', preserveWhitespaceTags := p', cdataListAttributes := c' } b where
  dup := rfl
  empty := by
    cases h1 : b.emptyElementTags <;> cases e' <;> simp only [h1, OptSetEq] at he ⊢
    · exact SetEq.of_perm he
  pres := SetEq.of_perm hp
  claEmpty := hc.isEmpty_eq
  cla := fun k => by
    simp only
    rw [dictGet_perm _ _ hc hn k]
    exact optSetEq_refl _

theorem attrDictLoop_nodup (od : OnDup) : ∀ (rest : List (PStr × Option PStr)) (acc : List (PStr × PStr)),
    (acc.map (·.1) ++ rest.map (·.1)).Nodup →
    attrDictLoop od acc rest = acc ++ rest.map (fun e => (e.1, e.2.getD []))
  | [], acc, _ => by simp [attrDictLoop]
  | (k, v) :: rest, acc, h => by
    have hk : ¬ acc.any (fun e => e.1 = k) = true := by
      simp only [List.any_eq_true, decide_eq_true_eq, not_exists, not_and]
      intro e he hek
      -- `h1.2.2`: no key of `acc` is a key of the rest
      have h1 := List.nodup_append.1 h
      exact h1.2.2 e.1 (List.mem_map.2 ⟨e, he, rfl⟩) k (by simp) hek
    simp only [attrDictLoop, hk, Bool.false_eq_true, if_false]
    rw [attrDictLoop_nodup od rest (acc ++ [(k, v.getD [])])]
    · simp
    · simpa [List.append_assoc] using h

theorem attrDict_nodup (od : OnDup) (as : List (PStr × Option PStr)) (h : (as.map (·.1)).Nodup) :
    attrDict od as = as.map (fun e => (e.1, e.2.getD [])) := by
  unfold attrDict
  rw [attrDictLoop_nodup od as [] (by simpa using h)]
  simp

theorem replaceCdataList_keys (cla : List (PStr × List PStr)) (t : PStr) (d : List (PStr × PStr)) :
    (replaceCdataList cla t d).map (·.1) = d.map (·.1) := by
  unfold replaceCdataList
  split <;> simp [List.map_map, Function.comp_def]

theorem replaceCdataList_perm (cla : List (PStr × List PStr)) (t : PStr) (d d' : List (PStr × PStr)) (h : d.Perm d') :
    (replaceCdataList cla t d).Perm (replaceCdataList cla t d') := by
  unfold replaceCdataList
  rw [h.isEmpty_eq]
  split
  · exact h.map _
  · exact h.map _

theorem builtAttrs_perm (cla : List (PStr × List PStr)) (od : OnDup) (n : PStr) (as₁ as₂ : List (PStr × Option PStr))
    (hp : as₁.Perm as₂) (hd : (as₁.map (·.1)).Nodup) :
    (replaceCdataList cla n (attrDict od as₁)).Perm (replaceCdataList cla n (attrDict od as₂)) ∧
      ((replaceCdataList cla n (attrDict od as₁)).map (·.1)).Nodup := by
  have hd2 : (as₂.map (·.1)).Nodup := (hp.map _).nodup_iff.1 hd
  rw [attrDict_nodup _ as₁ hd, attrDict_nodup _ as₂ hd2]
  refine ⟨replaceCdataList_perm _ _ _ _ (hp.map _), ?_⟩
  rw [replaceCdataList_keys]
  simpa [List.map_map, Function.comp_def] using hd

mutual
/-- two parses that differ only in the order in which start tags list their (distinct) attributes -/
inductive SameUpToAttrOrder : RawNode → RawNode → Prop
  | str (k : StrKind) (v : PStr) : SameUpToAttrOrder (.str k v) (.str k v)
  | tag (n : PStr) (as₁ as₂ : List (PStr × Option PStr)) (ks₁ ks₂ : List RawNode) :
      as₁.Perm as₂ → (as₁.map (·.1)).Nodup → SameUpToAttrOrderL ks₁ ks₂ → SameUpToAttrOrder (.tag n as₁ ks₁) (.tag n as₂ ks₂)
inductive SameUpToAttrOrderL : List RawNode → List RawNode → Prop
  | nil : SameUpToAttrOrderL [] []
  | cons (a b : RawNode) (as bs : List RawNode) : SameUpToAttrOrder a b → SameUpToAttrOrderL as bs →
      SameUpToAttrOrderL (a :: as) (b :: bs)
end

mutual
theorem canon_build_same (b : BuilderCfg) : ∀ t t', SameUpToAttrOrder t t' → canon (build b t) = canon (build b t')
  | _, _, .str k v => rfl
  | _, _, .tag n as₁ as₂ ks₁ ks₂ hp hd hk => by
    have h := builtAttrs_perm b.cdataListAttributes b.onDuplicate n as₁ as₂ hp hd
    simp only [build, canon]
    rw [sortAttrs_eq_of_perm _ _ h.1 h.2, canonL_buildL_same b ks₁ ks₂ hk]
theorem canonL_buildL_same (b : BuilderCfg) : ∀ l l', SameUpToAttrOrderL l l' → canonL (buildL b l) = canonL (buildL b l')
  | _, _, .nil => rfl
  | _, _, .cons a c as bs h1 h2 => by
    simp only [buildL, canonL]
    rw [canon_build_same b a c h1, canonL_buildL_same b as bs h2]
end

/-- same options, `cdata_containing_tags` the same *set*, and interpretations that agree on the function the formatter holds -/
structure FmtEquiv (c : Cfg) (i : Subst → PStr → PStr) (c' : Cfg) (i' : Subst → PStr → PStr) : Prop where
  es : c.entity_substitution = c'.entity_substitution
  vecp : c.void_element_close_prefix = c'.void_element_close_prefix
  eab : c.empty_attributes_are_booleans = c'.empty_attributes_are_booleans
  indent : c.indent = c'.indent
  cdata : SetEq c.cdata_containing_tags c'.cdata_containing_tags
  interp : ∀ x, i c.entity_substitution x = i' c'.entity_substitution x

/-- interpretations that differ only at `.html`, where they agree on every string -/
theorem FmtEquiv.of_html (c : Cfg) {cd' : List PStr} (hcd : SetEq cd' c.cdata_containing_tags) {f g : PStr → PStr}
    (h : ∀ x, f x = g x) (i : Subst → PStr → PStr) :
    FmtEquiv { c with cdata_containing_tags := cd' } (fun s => if s = .html then f else i s) c
      (fun s => if s = .html then g else i s) :=
  ⟨rfl, rfl, rfl, rfl, hcd, fun x => by simp only; split <;> simp [h]⟩

theorem substitute_fmtEquiv {c i c' i'} (h : FmtEquiv c i c' i') (par : Option PStr) (ns : Bool) (x : PStr) :
    substitute c i par ns x = substitute c' i' par ns x := by
  rw [substitute_eq, substitute_eq, inCdata_congr _ _ h.cdata par]
  unfold applySubst
  rw [h.interp x, h.es]

theorem FmtEquiv.samePieces {c i c' i'} (h : FmtEquiv c i c' i') : SamePieces c i c' i' :=
  .of_interp <| funext fun t => by cases t <;> simp only [interpTok, substitute_fmtEquiv h, h.eab, h.vecp, voidClose]

theorem renderMode_fmtEquiv {c i c' i'} (h : FmtEquiv c i c' i') (m : Mode) (par : Option PStr) (n : Node) :
    renderMode c i m par n = renderMode c' i' m par n := by
  simp only [renderMode, pretty, prettyL, render_congr h.samePieces, renderL_congr h.samePieces,
    prettyItems_congr h.samePieces, prettyItemsL_congr h.samePieces, h.indent]

theorem formatTagHook_default (c : Cfg) (i : Subst → PStr → PStr) (n p : PStr) (as : List (PStr × AttrVal)) (e o : Bool) :
    formatTagHook (attributes c) c i n p as e o = formatTag c i n p as e o := rfl

mutual
theorem renderHook_default (c : Cfg) (i : Subst → PStr → PStr) (par : Option PStr) (n : Node) :
    renderHook (attributes c) c i par n = render c i par n := by
  cases n with
  | str k v => simp [renderHook, render]
  | tag nm p as cbe pre ks => simp only [renderHook, render, formatTagHook_default, renderHookL_default c i (some nm) ks]
theorem renderHookL_default (c : Cfg) (i : Subst → PStr → PStr) (par : Option PStr) (l : List Node) :
    renderHookL (attributes c) c i par l = renderL c i par l := by
  cases l with
  | nil => simp [renderHookL, renderL]
  | cons k ks => simp only [renderHookL, renderL, renderHook_default c i par k, renderHookL_default c i par ks]
end

mutual
/-- two trees that differ at most in attribute lists on which the hook gives the same answer -/
inductive SameUpToHook (h : AttrHook) : Node → Node → Prop
  | str (k : StrKind) (v : PStr) : SameUpToHook h (.str k v) (.str k v)
  | tag (n p : PStr) (as₁ as₂ : List (PStr × AttrVal)) (cbe pre : Bool) (ks₁ ks₂ : List Node) :
      h as₁ = h as₂ → SameUpToHookL h ks₁ ks₂ → SameUpToHook h (.tag n p as₁ cbe pre ks₁) (.tag n p as₂ cbe pre ks₂)
inductive SameUpToHookL (h : AttrHook) : List Node → List Node → Prop
  | nil : SameUpToHookL h [] []
  | cons (a b : Node) (as bs : List Node) : SameUpToHook h a b → SameUpToHookL h as bs → SameUpToHookL h (a :: as) (b :: bs)
end

theorem sameUpToHookL_isEmpty {h : AttrHook} {l l' : List Node} (hs : SameUpToHookL h l l') : l.isEmpty = l'.isEmpty := by
  cases hs <;> rfl

mutual
theorem renderHook_congr (h : AttrHook) (c : Cfg) (i : Subst → PStr → PStr) (par : Option PStr) :
    ∀ t t', SameUpToHook h t t' → renderHook h c i par t = renderHook h c i par t'
  | _, _, .str k v => rfl
  | _, _, .tag n p as₁ as₂ cbe pre ks₁ ks₂ ha hk => by
    simp only [renderHook, formatTagHook, attrStringHook, ha, sameUpToHookL_isEmpty hk, renderHookL_congr h c i (some n) ks₁ ks₂ hk]
theorem renderHookL_congr (h : AttrHook) (c : Cfg) (i : Subst → PStr → PStr) (par : Option PStr) :
    ∀ l l', SameUpToHookL h l l' → renderHookL h c i par l = renderHookL h c i par l'
  | _, _, .nil => rfl
  | _, _, .cons a b as bs h1 h2 => by
    simp only [renderHookL, renderHook_congr h c i par a b h1, renderHookL_congr h c i par as bs h2]
end

end BS.Formatter
