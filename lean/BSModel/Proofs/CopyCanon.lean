import BSModel.Proofs.CopySettle
/-! C12: Boolean tests implying `SettledN` (no processing dict class) and `DictOK` -/
namespace BS.Copy

theorem canonL_copySpecL : ∀ (ks : List Node) (inh : Option Bool) (n : Nat), SettledL ks →
    canonL (copySpecL inh n ks).1 = canonL ks :=
  fun ks inh n hs => canonL_of_shape _ _ inh inh (shapeL_copySpecL ks inh n hs)

theorem dictOKL_copySpecL : ∀ (ks : List Node) (inh : Option Bool) (n : Nat), SettledL ks → DictOKL ks →
    DictOKL (copySpecL inh n ks).1 :=
  fun ks inh n hs h => dictOKL_of_shape ks _ inh inh (shapeL_copySpecL ks inh n hs).symm h

mutual
def allPlainB : Node → Bool
  | .str _ _ _ => true
  | .tag _ d ks => (d.dictCls != 1 && d.dictCls != 2) && allPlainLB ks
def allPlainLB : List Node → Bool
  | [] => true
  | k :: ks => allPlainB k && allPlainLB ks
end

mutual
theorem settledN_of_plain : ∀ (t : Node), allPlainB t = true → SettledN t
  | .str _ _ _, _ => by simp [SettledN]
  | .tag _ d ks, h => by
    simp only [allPlainB, Bool.and_eq_true, bne_iff_ne, ne_eq] at h
    simp only [SettledN]
    exact ⟨settled_plain _ _ h.1.1 h.1.2, settledL_of_plain ks h.2⟩
theorem settledL_of_plain : ∀ (ks : List Node), allPlainLB ks = true → SettledL ks
  | [], _ => by simp [SettledL]
  | k :: ks, h => by
    simp only [allPlainLB, Bool.and_eq_true] at h
    simp only [SettledL]
    exact ⟨settledN_of_plain k h.1, settledL_of_plain ks h.2⟩
end

def nodupB : List PStr → Bool
  | [] => true
  | x :: xs => !(xs.contains x) && nodupB xs

theorem nodup_of_b : ∀ (l : List PStr), nodupB l = true → l.Nodup
  | [], _ => List.nodup_nil
  | x :: xs, h => by
    simp only [nodupB, Bool.and_eq_true, Bool.not_eq_true', List.contains_eq_mem, decide_eq_false_iff_not] at h
    exact List.nodup_cons.mpr ⟨h.1, nodup_of_b xs h.2⟩

mutual
def dictOKB : Node → Bool
  | .str _ _ _ => true
  | .tag _ d ks => nodupB (d.attrs.map Prod.fst) && dictOKLB ks
def dictOKLB : List Node → Bool
  | [] => true
  | k :: ks => dictOKB k && dictOKLB ks
end

mutual
theorem dictOK_of_b : ∀ (t : Node), dictOKB t = true → DictOK t
  | .str _ _ _, _ => by simp [DictOK]
  | .tag _ d ks, h => by
    simp only [dictOKB, Bool.and_eq_true] at h
    simp only [DictOK]
    exact ⟨nodup_of_b _ h.1, dictOKL_of_b ks h.2⟩
theorem dictOKL_of_b : ∀ (ks : List Node), dictOKLB ks = true → DictOKL ks
  | [], _ => by simp [DictOKL]
  | k :: ks, h => by
    simp only [dictOKLB, Bool.and_eq_true] at h
    simp only [DictOKL]
    exact ⟨dictOK_of_b k h.1, dictOKL_of_b ks h.2⟩
end

end BS.Copy
