import BSModel.Proofs.Pretty
import BSModel.Proofs.Trim
/-! laws of the recursive pretty-printing specification (C14): layout in lines, verbatim blocks, whitespace-only changes -/
namespace BS.Pretty

mutual
/-- the lines of the pretty rendering: (nesting depth below the start, content). Content is a tag piece, a non-blank
    string piece with its surrounding whitespace stripped, or the whole plain rendering of an outermost
    whitespace-preserving element. Empty pieces (hidden tags, blank strings) have no line. -/
def items : Nat → Node → List (Nat × PStr)
  | d, .str s => if strip s = [] then [] else [(d, strip s)]
  | d, .void t => if t = [] then [] else [(d, t)]
  | d, .elem i o c pre ks =>
    if pre then [(d, plain (.elem i o c pre ks))]
    else (if o = [] then [] else [(d, o)]) ++ itemsL (d + 1) ks ++ (if c = [] then [] else [(d, c)])
def itemsL : Nat → List Node → List (Nat × PStr)
  | _, [] => []
  | d, k :: ks => items d k ++ itemsL d ks
end

def lineOf (u : PStr) (l : Int) (it : Nat × PStr) : PStr := rep u (l + it.1) ++ it.2 ++ [10]

def layout (u : PStr) (l : Int) (its : List (Nat × PStr)) : PStr := (its.map (lineOf u l)).flatten

theorem layout_nil (u : PStr) (l : Int) : layout u l [] = [] := by simp [layout]

/-- one stretch of the pretty output: `unit^(level+d)` before it or not, the content, a newline after it or not -/
structure Block where
  d : Nat
  ind : Bool
  p : PStr
  nl : Bool
deriving Repr, DecidableEq

def blockOf (u : PStr) (l : Int) (b : Block) : PStr :=
  (if b.ind then rep u (l + b.d) else []) ++ b.p ++ (if b.nl then [10] else [])

mutual
/-- like `items`, for every tree: a whitespace-preserving element whose opening (closing) piece is empty — a hidden one — is
    a block without indentation (without newline) -/
def blocks : Nat → Node → List Block
  | d, .str s => if strip s = [] then [] else [⟨d, true, strip s, true⟩]
  | d, .void t => if t = [] then [] else [⟨d, true, t, true⟩]
  | d, .elem i o c pre ks =>
    if pre then [⟨d, !o.isEmpty, plain (.elem i o c pre ks), !c.isEmpty⟩]
    else (if o = [] then [] else [⟨d, true, o, true⟩]) ++ blocksL (d + 1) ks ++ (if c = [] then [] else [⟨d, true, c, true⟩])
def blocksL : Nat → List Node → List Block
  | _, [] => []
  | d, k :: ks => blocks d k ++ blocksL d ks
end

def layoutB (u : PStr) (l : Int) (bs : List Block) : PStr := (bs.map (blockOf u l)).flatten

theorem layoutB_append (u : PStr) (l : Int) (a b : List Block) : layoutB u l (a ++ b) = layoutB u l a ++ layoutB u l b := by
  simp [layoutB]

theorem fullLine_layoutB (u : PStr) (l : Int) (d : Nat) (p : PStr) :
    fullLine u (l + d) p = layoutB u l (if p = [] then [] else [⟨d, true, p, true⟩]) := by
  by_cases h : p = [] <;> simp [fullLine, h, layoutB, blockOf]

mutual
theorem pretty_blocks : ∀ (u : PStr) (t : Node) (l : Int) (d : Nat),
    prettyNode u (l + d) false t = layoutB u l (blocks d t)
  | u, .str s, l, d => by simp [prettyNode, blocks, fullLine_layoutB]
  | u, .void t, l, d => by simp [prettyNode, blocks, fullLine_layoutB]
  | u, .elem i o c pre ks, l, d => by
    cases pre with
    | true =>
      by_cases ho : o = [] <;> by_cases hc : c = [] <;>
        simp [prettyNode, blocks, openLine, closeLine, ho, hc, layoutB, blockOf, prettyL_lit, plain]
    | false =>
      have hd : l + (d : Int) + 1 = l + ((d + 1 : Nat) : Int) := by omega
      simp only [prettyNode, blocks, fullLine_layoutB, hd]
      rw [prettyL_blocks u ks l (d + 1)]
      simp [layoutB_append]
theorem prettyL_blocks : ∀ (u : PStr) (ks : List Node) (l : Int) (d : Nat),
    prettyL u (l + d) false ks = layoutB u l (blocksL d ks)
  | u, [], l, d => by simp [prettyL, blocksL, layoutB]
  | u, k :: ks, l, d => by
    simp only [prettyL, blocksL, layoutB_append]
    rw [pretty_blocks u k l d, prettyL_blocks u ks l d]
end

mutual
/-- every whitespace-preserving element of the tree met outside literal mode has a non-empty opening and closing piece
    (i.e. is not hidden) -/
def preVisible : Node → Bool
  | .elem _ o c pre ks => if pre then !o.isEmpty && !c.isEmpty else preVisibleL ks
  | _ => true
def preVisibleL : List Node → Bool
  | [] => true
  | k :: ks => preVisible k && preVisibleL ks
end

def lineBlock (it : Nat × PStr) : Block := ⟨it.1, true, it.2, true⟩

mutual
theorem blocks_items : ∀ (t : Node) (d : Nat), preVisible t = true → blocks d t = (items d t).map lineBlock
  | .str s, d, _ => by by_cases h : strip s = [] <;> simp [blocks, items, h, lineBlock]
  | .void t, d, _ => by by_cases h : t = [] <;> simp [blocks, items, h, lineBlock]
  | .elem i o c pre ks, d, h => by
    cases pre with
    | true =>
      simp only [preVisible, if_true, Bool.and_eq_true] at h
      simp [blocks, items, lineBlock, h.1, h.2]
    | false =>
      simp only [preVisible] at h
      have := blocksL_items ks (d + 1) (by simpa using h)
      by_cases ho : o = [] <;> by_cases hc : c = [] <;> simp [blocks, items, ho, hc, this, lineBlock]
theorem blocksL_items : ∀ (ks : List Node) (d : Nat), preVisibleL ks = true → blocksL d ks = (itemsL d ks).map lineBlock
  | [], d, _ => by simp [blocksL, itemsL]
  | k :: ks, d, h => by
    simp only [preVisibleL, Bool.and_eq_true] at h
    simp [blocksL, itemsL, blocks_items k d h.1, blocksL_items ks d h.2]
end

theorem layoutB_lineBlock (u : PStr) (l : Int) (its : List (Nat × PStr)) : layoutB u l (its.map lineBlock) = layout u l its := by
  have : blockOf u l ∘ lineBlock = lineOf u l := rfl
  simp [layoutB, layout, this]

theorem pretty_layout (u : PStr) (t : Node) (l : Int) (d : Nat) (h : preVisible t = true) :
    prettyNode u (l + d) false t = layout u l (items d t) := by
  rw [pretty_blocks, blocks_items t d h, layoutB_lineBlock]

theorem prettyL_layout (u : PStr) (ks : List Node) (l : Int) (d : Nat) (h : preVisibleL ks = true) :
    prettyL u (l + d) false ks = layout u l (itemsL d ks) := by
  rw [prettyL_blocks, blocksL_items ks d h, layoutB_lineBlock]

def EndsNl (s : PStr) : Prop := s = [] ∨ ∃ p, s = p ++ [10]

theorem EndsNl.append {a b : PStr} (ha : EndsNl a) (hb : EndsNl b) : EndsNl (a ++ b) := by
  rcases hb with rfl | ⟨q, rfl⟩
  · simpa using ha
  · exact Or.inr ⟨a ++ q, by simp⟩

theorem layout_endsNl (u : PStr) (l : Int) : ∀ (its : List (Nat × PStr)), EndsNl (layout u l its)
  | [] => Or.inl (layout_nil u l)
  | it :: its => by
    have : layout u l (it :: its) = lineOf u l it ++ layout u l its := by simp [layout]
    rw [this]
    exact EndsNl.append (Or.inr ⟨rep u (l + it.1) ++ it.2, by simp [lineOf]⟩) (layout_endsNl u l its)

theorem EndsNl.getLast {s : PStr} (h : EndsNl s) (hne : s ≠ []) : s.getLast? = some 10 := by
  rcases h with rfl | ⟨p, rfl⟩
  · exact absurd rfl hne
  · simp

/-- `OutermostPre d e t`: `e` is a whitespace-preserving element of `t`, `d` levels below `t`'s own level, and none of
    its ancestors within `t` is whitespace-preserving -/
inductive OutermostPre : Nat → Node → Node → Prop
  | self (i : Nat) (o c : PStr) (ks : List Node) : OutermostPre 0 (.elem i o c true ks) (.elem i o c true ks)
  | inside (i : Nat) (o c : PStr) (ks : List Node) (k e : Node) (d : Nat) :
      k ∈ ks → OutermostPre d e k → OutermostPre (d + 1) e (.elem i o c false ks)

theorem infix_prettyL (u : PStr) (l : Int) (k : Node) : ∀ (ks : List Node), k ∈ ks →
    prettyNode u l false k <:+: prettyL u l false ks
  | k' :: ks, h => by
    simp only [prettyL]
    rcases List.mem_cons.mp h with rfl | h
    · exact List.infix_append_left
    · exact List.infix_append_of_infix_right (infix_prettyL u l k ks h)

theorem infix_mid {x : PStr} (a b y : PStr) (h : x <:+: y) : x <:+: a ++ y ++ b ∧ x <:+: a ++ (y ++ b) :=
  ⟨h.trans (List.infix_append a y b), h.trans (List.infix_append' a y b)⟩

theorem outermost_block (u : PStr) {d : Nat} {e t : Node} (h : OutermostPre d e t) :
    ∀ (l : Int), prettyNode u (l + d) false e <:+: prettyNode u l false t := by
  induction h with
  | self i o c ks => intro l; simp
  | inside i o c ks k e d hk _ ih =>
    intro l
    have hd : l + ((d + 1 : Nat) : Int) = l + 1 + d := by omega
    simp only [prettyNode, Bool.false_eq_true, if_false, hd]
    exact ((ih (l + 1)).trans (infix_prettyL u (l + 1) k ks hk)).trans (List.infix_append _ _ _)

theorem OutermostPre.shape {d : Nat} {e t : Node} (h : OutermostPre d e t) : ∃ i o c ks, e = .elem i o c true ks := by
  induction h with
  | self i o c ks => exact ⟨i, o, c, ks, rfl⟩
  | inside _ _ _ _ _ _ _ _ _ ih => exact ih  -- `e` is the same element one level up

theorem outermost_infix (u : PStr) {d : Nat} {e t : Node} (h : OutermostPre d e t) (l : Int) :
    plain e <:+: prettyNode u l false t := by
  refine .trans ?_ (outermost_block u h l)
  obtain ⟨i, o, c, ks, rfl⟩ := h.shape
  simp only [prettyNode, plain, prettyL_lit, openLine, closeLine, Bool.false_eq_true, if_false, if_true]
  refine ⟨if o = [] then [] else rep u (l + d), if c = [] then [] else [10], ?_⟩
  by_cases ho : o = [] <;> by_cases hc : c = [] <;> simp [ho, hc]

theorem outermost_line (u : PStr) {d : Nat} {e t : Node} (h : OutermostPre d e t) (hv : preVisible e = true) (l : Int) :
    rep u (l + d) ++ plain e ++ [10] <:+: prettyNode u l false t := by
  refine .trans ?_ (outermost_block u h l)
  obtain ⟨i, o, c, ks, rfl⟩ := h.shape
  simp only [preVisible, if_true, Bool.and_eq_true, Bool.not_eq_true', List.isEmpty_eq_false_iff] at hv
  simp [prettyNode, plain, prettyL_lit, openLine, closeLine, hv.1, hv.2]

mutual
/-- the pieces of the plain rendering in order, each with the flag "is a string piece" -/
def pieceSeq : Node → List (Bool × PStr)
  | .str s => [(true, s)]
  | .void t => [(false, t)]
  | .elem _ o c _ ks => (false, o) :: (pieceSeqL ks ++ [(false, c)])
def pieceSeqL : List Node → List (Bool × PStr)
  | [] => []
  | k :: ks => pieceSeq k ++ pieceSeqL ks
end

mutual
theorem plain_pieceSeq : ∀ (t : Node), plain t = ((pieceSeq t).map (·.2)).flatten
  | .str s => by simp [plain, pieceSeq]
  | .void t => by simp [plain, pieceSeq]
  | .elem i o c pre ks => by simp [plain, pieceSeq, plainL_pieceSeq ks]
theorem plainL_pieceSeq : ∀ (ks : List Node), plainL ks = ((pieceSeqL ks).map (·.2)).flatten
  | [] => by simp [plainL, pieceSeqL]
  | k :: ks => by simp [plainL, pieceSeqL, plain_pieceSeq k, plainL_pieceSeq ks]
end

/-- what pretty-printing does to one piece: the piece itself — or, for a string piece, the piece with surrounding whitespace
    stripped — with some copies of the unit before it and possibly a newline after it -/
inductive Decorated (u : PStr) : Bool × PStr → PStr → Prop
  | keep (b : Bool) (p : PStr) (n : Int) (nl : Bool) : Decorated u (b, p) (rep u n ++ p ++ (if nl then [10] else []))
  | stripped (p : PStr) (n : Int) (nl : Bool) : Decorated u (true, p) (rep u n ++ strip p ++ (if nl then [10] else []))

inductive Pointwise {α β : Type} (R : α → β → Prop) : List α → List β → Prop
  | nil : Pointwise R [] []
  | cons {a : α} {b : β} {as : List α} {bs : List β} : R a b → Pointwise R as bs → Pointwise R (a :: as) (b :: bs)

theorem Pointwise.append {α β : Type} {R : α → β → Prop} {a c : List α} {b d : List β}
    (h1 : Pointwise R a b) (h2 : Pointwise R c d) : Pointwise R (a ++ c) (b ++ d) := by
  induction h1 with
  | nil => simpa using h2
  | cons hr _ ih => exact Pointwise.cons hr ih

theorem Pointwise.length_eq {α β : Type} {R : α → β → Prop} {a : List α} {b : List β} (h : Pointwise R a b) :
    a.length = b.length := by
  induction h with
  | nil => rfl
  | cons _ _ ih => simp [ih]

theorem dec_id (u : PStr) (b : Bool) (p : PStr) : Decorated u (b, p) p := by
  simpa using Decorated.keep (u := u) b p 0 false

/-- a piece as the loop wraps it outside literal mode — left out altogether if it is empty -/
theorem dec_wrap (u : PStr) (b : Bool) (p : PStr) (n : Int) (nl : Bool) :
    Decorated u (b, p) (if p = [] then [] else rep u n ++ p ++ (if nl then [10] else [])) := by
  by_cases h : p = []
  · subst h; simpa using Decorated.keep (u := u) b [] 0 false
  · simpa [h] using Decorated.keep (u := u) b p n nl

theorem dec_full (u : PStr) (b : Bool) (p : PStr) (l : Int) : Decorated u (b, p) (fullLine u l p) := by
  simpa [fullLine] using dec_wrap u b p l true

theorem dec_full_strip (u : PStr) (s : PStr) (l : Int) : Decorated u (true, s) (fullLine u l (strip s)) := by
  by_cases h : strip s = []
  · simpa [fullLine, h] using Decorated.stripped (u := u) s 0 false
  · simpa [fullLine, h] using Decorated.stripped (u := u) s l true

mutual
theorem same_pieces (u : PStr) : ∀ (t : Node) (l : Int) (lit : Bool),
    ∃ qs, Pointwise (Decorated u) (pieceSeq t) qs ∧ prettyNode u l lit t = qs.flatten
  | .str s, l, lit => by
    cases lit with
    | false => exact ⟨[fullLine u l (strip s)], .cons (dec_full_strip u s l) .nil, by simp [prettyNode]⟩
    | true => exact ⟨[s], .cons (dec_id u true s) .nil, by simp [prettyNode]⟩
  | .void t, l, lit => by
    cases lit with
    | false => exact ⟨[fullLine u l t], .cons (dec_full u false t l) .nil, by simp [prettyNode]⟩
    | true => exact ⟨[t], .cons (dec_id u false t) .nil, by simp [prettyNode]⟩
  | .elem i o c pre ks, l, lit => by
    cases lit with
    | false =>
      cases pre with
      | false =>
        obtain ⟨qs, hq, he⟩ := same_piecesL u ks (l + 1) false
        exact ⟨fullLine u l o :: (qs ++ [fullLine u l c]),
          .cons (dec_full u false o l) (hq.append (.cons (dec_full u false c l) .nil)), by simp [prettyNode, he]⟩
      | true =>
        obtain ⟨qs, hq, he⟩ := same_piecesL u ks (l + 1) true
        exact ⟨openLine u l o :: (qs ++ [closeLine c]),
          .cons (by simpa [openLine] using dec_wrap u false o l false)
            (hq.append (.cons (by simpa [closeLine] using dec_wrap u false c 0 true) .nil)), by simp [prettyNode, he]⟩
    | true =>
      obtain ⟨qs, hq, he⟩ := same_piecesL u ks (l + 1) true
      exact ⟨o :: (qs ++ [c]), .cons (dec_id u false o) (hq.append (.cons (dec_id u false c) .nil)), by simp [prettyNode, he]⟩
theorem same_piecesL (u : PStr) : ∀ (ks : List Node) (l : Int) (lit : Bool),
    ∃ qs, Pointwise (Decorated u) (pieceSeqL ks) qs ∧ prettyL u l lit ks = qs.flatten
  | [], l, lit => ⟨[], .nil, by simp [prettyL]⟩
  | k :: ks, l, lit => by
    obtain ⟨q1, h1, e1⟩ := same_pieces u k l lit
    obtain ⟨q2, h2, e2⟩ := same_piecesL u ks l lit
    exact ⟨q1 ++ q2, h1.append h2, by simp [prettyL, e1, e2]⟩
end

theorem dropWs_append (a b : PStr) : dropWs (a ++ b) = dropWs a ++ dropWs b := by simp [dropWs]

theorem dropWs_nl : dropWs [10] = [] := by decide

theorem dropWs_all {s : PStr} (h : ∀ c ∈ s, isSpace c = true) : dropWs s = [] := by simpa [dropWs] using h

theorem rep_ws (u : PStr) (hu : ∀ c ∈ u, isSpace c = true) (l : Int) : ∀ c ∈ rep u l, isSpace c = true := by
  intro c hc
  simp only [rep, List.mem_flatten, List.mem_replicate] at hc
  obtain ⟨x, ⟨_, rfl⟩, hx⟩ := hc
  exact hu c hx

theorem dropWs_rep (u : PStr) (n : Int) (hu : ∀ c ∈ u, isSpace c = true) : dropWs (rep u n) = [] :=
  dropWs_all (rep_ws u hu n)

theorem dropWs_strip (s : PStr) : dropWs (strip s) = dropWs s := by
  obtain ⟨a, b, hs, ha, hb⟩ := Trim.trim_decomp isSpace s
  have hs' : s = a ++ strip s ++ b := hs
  conv => rhs; rw [hs']
  simp [dropWs_append, dropWs_all ha, dropWs_all hb]

theorem dropWs_nil_of_strip {s : PStr} (h : strip s = []) : dropWs s = [] := by
  rw [← dropWs_strip, h]; rfl

theorem strip_eq_nil_iff (s : PStr) : strip s = [] ↔ ∀ c ∈ s, isSpace c = true := Trim.trim_eq_nil_iff isSpace s

theorem dropWs_decorated {u : PStr} (hu : ∀ c ∈ u, isSpace c = true) {bp : Bool × PStr} {q : PStr} (h : Decorated u bp q) :
    dropWs q = dropWs bp.2 := by
  rcases h with ⟨b, p, n, nl⟩ | ⟨p, n, nl⟩ <;> cases nl <;>
    simp [dropWs_append, dropWs_rep u _ hu, dropWs_nl, dropWs_strip]

theorem dropWs_pointwise {u : PStr} (hu : ∀ c ∈ u, isSpace c = true) {ps : List (Bool × PStr)} {qs : List PStr}
    (h : Pointwise (Decorated u) ps qs) : dropWs qs.flatten = dropWs (ps.map (·.2)).flatten := by
  induction h with
  | nil => rfl
  | cons hr _ ih => simp [dropWs_append, dropWs_decorated hu hr, ih]

theorem dropWs_pretty (u : PStr) (hu : ∀ c ∈ u, isSpace c = true) (t : Node) (l : Int) (lit : Bool) :
    dropWs (prettyNode u l lit t) = dropWs (plain t) := by
  obtain ⟨qs, hq, he⟩ := same_pieces u t l lit
  rw [he, plain_pieceSeq, dropWs_pointwise hu hq]

theorem dropWs_prettyL (u : PStr) (hu : ∀ c ∈ u, isSpace c = true) (ks : List Node) (l : Int) (lit : Bool) :
    dropWs (prettyL u l lit ks) = dropWs (plainL ks) := by
  obtain ⟨qs, hq, he⟩ := same_piecesL u ks l lit
  rw [he, plainL_pieceSeq, dropWs_pointwise hu hq]

end BS.Pretty
