import BSModel.Model.RenderWritten
import BSModel.Proofs.ReparseIdem
/-! C05 helper lemmas: C04's `normalise` of the written document is this model's `normaliseL` (attributes and
    `can_be_empty_element` forgotten: C04 reports attributes separately, as `startInfos`). -/
namespace BS.Render
open BS.Builder BS.Writer BS.Adapter

/-- the builder configuration C04's theorems speak of, read off this model's `PCfg`; `clsId` numbers the classes -/
def bcfgOf (p : PCfg) (clsId : SCls → Cls) : Cfg :=
  { preserve := fun n => p.preserveWs.contains n
    container := fun n => (lookupL p.containers n).map clsId
    asciiSpaces := p.asciiSpaces
    rootName := rootFrame.name }

mutual
/-- a tree of this model as a tree of C03/C04's builder model -/
def toDoc (clsId : SCls → Cls) : Node → Doc
  | .tag i ks => Doc.elem (fullName i) none (toDocL clsId ks)
  | .str c s => Doc.text (clsId c) s
def toDocL (clsId : SCls → Cls) : List Node → List Doc
  | [] => []
  | n :: ns => toDoc clsId n :: toDocL clsId ns
end

/-- the numbering agrees with the adapter's ids of the special classes; any other string comes back as character
    data, classed by its context -/
def ClsIdOK (clsId : SCls → Cls) : Prop :=
  clsId .navigable = 0 ∧ clsId .comment = clsComment ∧ clsId .cdata = clsCData ∧ clsId .pi = clsPI ∧ clsId .doctype = clsDoctype

/-- this model's context of a list of enclosing element names (innermost first) -/
def ctxOfN (p : PCfg) : List PStr → Ctx
  | [] => ⟨false, none⟩
  | n :: rest => pushCtx p (ctxOfN p rest) n

theorem toDocL_append (clsId : SCls → Cls) : ∀ (a b : List Node), toDocL clsId (a ++ b) = toDocL clsId a ++ toDocL clsId b
  | [], _ => rfl
  | x :: xs, b => by simp [toDocL, toDocL_append clsId xs b]

theorem ctx_pres (p : PCfg) (clsId : SCls → Cls) : ∀ (ns : List PStr), (ctxOfN p ns).pres = ns.any (bcfgOf p clsId).preserve
  | [] => rfl
  | n :: rest => by simp [ctxOfN, pushCtx, ctx_pres p clsId rest, bcfgOf, Bool.or_comm]

theorem ctx_cls (p : PCfg) (clsId : SCls → Cls) (h0 : clsId .navigable = 0) : ∀ (ns : List PStr),
    clsId (BS.Render.textCls (ctxOfN p ns)) = BS.Writer.textCls (bcfgOf p clsId) ns
  | [] => by simp [ctxOfN, BS.Render.textCls, BS.Writer.textCls, h0]
  | n :: rest => by
    have ih := ctx_cls p clsId h0 rest
    simp only [ctxOfN, pushCtx, BS.Render.textCls, BS.Writer.textCls, List.find?_cons, bcfgOf] at ih ⊢
    cases hl : lookupL p.containers n with
    | none => simpa [hl] using ih
    | some k => simp [hl]

theorem wsRule_eq (p : PCfg) (clsId : SCls → Cls) (ns : List PStr) (s : PStr) :
    wsRule p (ctxOfN p ns).pres s = BS.Writer.wsRule (bcfgOf p clsId) ns s := by
  simp [wsRule, BS.Writer.wsRule, ctx_pres p clsId ns, bcfgOf]

/-- pending character data: this model's chunks and C04's joined run -/
def pendOf (b : List PStr) : Option PStr := if b.isEmpty then none else some (concatL b)

theorem flush_eq_txt (p : PCfg) (clsId : SCls → Cls) (h0 : clsId .navigable = 0) (ns : List PStr) (b : List PStr) :
    toDocL clsId (txt p (ctxOfN p ns) b) = flushP (bcfgOf p clsId) ns (pendOf b) := by
  cases b with
  | nil => rfl
  | cons x xs =>
    simp only [txt_cons, toDocL, toDoc, pendOf, List.isEmpty_cons, Bool.false_eq_true, if_false, flushP,
      ctx_cls p clsId h0 ns, wsRule_eq p clsId ns]

theorem normL_append (cfg : Cfg) : ∀ (a b : List WDoc) (ctx : List Name) (pend : Option PStr),
    normL cfg ctx pend (a ++ b) =
      ((normL cfg ctx pend a).1 ++ (normL cfg ctx (normL cfg ctx pend a).2 b).1, (normL cfg ctx (normL cfg ctx pend a).2 b).2)
  | [], _, _, _ => by simp [normL]
  | x :: xs, b, ctx, pend => by
    simp only [List.cons_append, normL, normL_append cfg xs b, List.append_assoc]

theorem pendOf_snoc (b : List PStr) (s : PStr) : pendOf (b ++ [s]) = some ((pendOf b).getD [] ++ s) := by
  cases b with
  | nil => simp [pendOf, concatL]
  | cons x xs =>
    have := concatL_snoc (x :: xs) s
    simp only [List.cons_append] at this
    simp [pendOf, this]

theorem bridge_text (p : PCfg) (f : Fmt) (clsId : SCls → Cls) (names : List PStr) (b : List PStr) (hb : ∀ x ∈ b, x ≠ [])
    (c : SCls) (s : PStr) (hk : strKind c s = .text s) (hw : toWDocStr c s = [.text s]) :
    toDocL clsId (absorb1 p f (ctxOfN p names) b (.str c s)).1 =
        (normL (bcfgOf p clsId) names (pendOf b) (toWDocStr c s)).1 ∧
      pendOf (absorb1 p f (ctxOfN p names) b (.str c s)).2 = (normL (bcfgOf p clsId) names (pendOf b) (toWDocStr c s)).2 ∧
      (∀ x ∈ (absorb1 p f (ctxOfN p names) b (.str c s)).2, x ≠ []) := by
  simp only [absorb1_text hk, hw, normL, norm1, toDocL, List.append_nil]
  refine ⟨trivial, ?_, pending_text hb s⟩
  by_cases he : s.isEmpty = true
  · simp only [he, if_true]
  · simp only [he, Bool.false_eq_true, if_false, pendOf_snoc]

/-- a special string (`nl` = a newline of character data follows: the doctype) -/
theorem bridge_special (p : PCfg) (f : Fmt) (clsId : SCls → Cls) (h0 : clsId .navigable = 0) (names : List PStr) (b : List PStr)
    {c c' : SCls} {s s' : PStr} {k : Kind} {nl : Bool} (hk : strKind c s = .special c' s' nl)
    (hw : toWDocStr c s = .special k s' :: (if nl then [.text [10]] else []))
    (hs : specialText k s' = (clsId c', s')) :
    toDocL clsId (absorb1 p f (ctxOfN p names) b (.str c s)).1 =
        (normL (bcfgOf p clsId) names (pendOf b) (toWDocStr c s)).1 ∧
      pendOf (absorb1 p f (ctxOfN p names) b (.str c s)).2 = (normL (bcfgOf p clsId) names (pendOf b) (toWDocStr c s)).2 ∧
      (∀ x ∈ (absorb1 p f (ctxOfN p names) b (.str c s)).2, x ≠ []) := by
  simp only [absorb1, hk, hw]
  cases nl with
  | false =>
    simp only [Bool.false_eq_true, if_false, normL, norm1, hs, toDocL_append, flush_eq_txt p clsId h0, toDocL, toDoc,
      wsRule_eq p clsId names, List.append_nil]
    simp [pendOf]
  | true =>
    simp only [if_true, normL, norm1, hs, toDocL_append, flush_eq_txt p clsId h0, toDocL, toDoc,
      wsRule_eq p clsId names, List.append_nil]
    simp [pendOf, concatL]

mutual
/-- the third part only carries `hb` along -/
theorem bridgeL (p : PCfg) (f : Fmt) (clsId : SCls → Cls) (hid : ClsIdOK clsId) : ∀ (ds : List Node) (names : List PStr)
    (b : List PStr), (∀ x ∈ b, x ≠ []) →
    toDocL clsId (absorb p f (ctxOfN p names) b ds).1 = (normL (bcfgOf p clsId) names (pendOf b) (toWDocL f ds)).1 ∧
      pendOf (absorb p f (ctxOfN p names) b ds).2 = (normL (bcfgOf p clsId) names (pendOf b) (toWDocL f ds)).2 ∧
      (∀ x ∈ (absorb p f (ctxOfN p names) b ds).2, x ≠ [])
  | [] => by
    intro _ b hb
    simp only [absorb_nil, toWDocL, normL, toDocL, true_and]; exact hb
  | d :: ds => by
    intro names b hb
    obtain ⟨h1, h2, h3⟩ := bridge1 p f clsId hid d names b hb
    obtain ⟨g1, g2, g3⟩ := bridgeL p f clsId hid ds names _ h3
    rw [absorb_cons]
    simp only [toWDocL, normL_append, toDocL_append, h1, ← h2, g1, g2]
    exact ⟨trivial, trivial, g3⟩
theorem bridge1 (p : PCfg) (f : Fmt) (clsId : SCls → Cls) (hid : ClsIdOK clsId) : ∀ (d : Node) (names : List PStr)
    (b : List PStr), (∀ x ∈ b, x ≠ []) →
    toDocL clsId (absorb1 p f (ctxOfN p names) b d).1 = (normL (bcfgOf p clsId) names (pendOf b) (toWDoc f d)).1 ∧
      pendOf (absorb1 p f (ctxOfN p names) b d).2 = (normL (bcfgOf p clsId) names (pendOf b) (toWDoc f d)).2 ∧
      (∀ x ∈ (absorb1 p f (ctxOfN p names) b d).2, x ≠ [])
  | .str c s => by
    intro names b hb
    simp only [toWDoc]
    obtain ⟨hnav, hcomment, hcdata, hpi, hdoctype⟩ := hid
    cases c with
    | comment =>
      exact bridge_special p f clsId hnav names b (c' := .comment) (s' := s) (k := .comment) (nl := false) rfl rfl
        (by simp [specialText, hcomment])
    | cdata =>
      exact bridge_special p f clsId hnav names b (c' := .cdata) (s' := s) (k := .cdata) (nl := false) rfl rfl
        (by simp [specialText, hcdata])
    | pi =>
      exact bridge_special p f clsId hnav names b (c' := .pi) (s' := s) (k := .pi) (nl := false) rfl rfl
        (by simp [specialText, hpi])
    | xmlpi | declaration =>
      exact bridge_special p f clsId hnav names b (c' := .pi) (s' := s ++ [63]) (k := .pi) (nl := false) rfl rfl
        (by simp [specialText, hpi])
    | doctype =>
      exact bridge_special p f clsId hnav names b (c' := .doctype) (s' := s) (k := .doctype) (nl := true) rfl rfl
        (by simp [specialText, hdoctype])
    | _ => exact bridge_text p f clsId names b hb _ s rfl rfl
  | .tag i ks => by
    intro names b _
    obtain ⟨k1, k2, _⟩ := bridgeL p f clsId hid ks (fullName i :: names) [] (by simp)
    have hp : pendOf ([] : List PStr) = none := rfl
    rw [hp] at k1 k2
    simp only [absorb1_tag, normIn, toWDoc, normL, norm1, toDocL_append, flush_eq_txt p clsId hid.1, toDocL, toDoc,
      List.append_nil, fullName_normInfo]
    have hc : pushCtx p (ctxOfN p names) (fullName i) = ctxOfN p (fullName i :: names) := rfl
    rw [hc, k1, flush_eq_txt p clsId hid.1 (fullName i :: names), k2]
    simp [pendOf]
end

/-- **C04's `normalise` of the written document is this model's normal form** (as trees of the builder model) -/
theorem normalise_bridge (p : PCfg) (f : Fmt) (clsId : SCls → Cls) (hid : ClsIdOK clsId) (ds : List Node) :
    toDocL clsId (normaliseL p f ds) = normalise (bcfgOf p clsId) (toWDocL f ds) := by
  obtain ⟨h1, h2, _⟩ := bridgeL p f clsId hid ds [rootFrame.name] [] (by simp)
  have hp : pendOf ([] : List PStr) = none := rfl
  rw [hp] at h1 h2
  have hc : ctxOf p [rootFrame] = ctxOfN p [rootFrame.name] := rfl
  simp only [normaliseL, normalise, hc, toDocL_append, h1, flush_eq_txt p clsId hid.1, h2]
  rfl

end BS.Render
