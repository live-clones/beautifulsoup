import BSModel.Model.FormatterHidden
/-! C15, hidden tags: the model with hidden tags refines the one without on trees that have none; no
    indentation is less deep than the printing level (`indDepths_ge`). -/
namespace BS.Formatter
open List

theorem ofNodeL_isEmpty (l : List Node) : (ofNodeL l).isEmpty = l.isEmpty := by cases l <;> simp [ofNodeL]

mutual
theorem renderH_ofNode (c : Cfg) (i : Subst → PStr → PStr) (par : Option PStr) (n : Node) :
    renderH c i par (HNode.ofNode n) = render c i par n := by
  cases n with
  | str k v => simp [HNode.ofNode, renderH, render]
  | tag nm p as cbe pre ks =>
    simp only [HNode.ofNode, renderH, render, ofNodeL_isEmpty, Bool.false_eq_true, if_false, renderHL_ofNodeL c i (some nm) ks]
theorem renderHL_ofNodeL (c : Cfg) (i : Subst → PStr → PStr) (par : Option PStr) (l : List Node) :
    renderHL c i par (ofNodeL l) = renderL c i par l := by
  cases l with
  | nil => simp [ofNodeL, renderHL, renderL]
  | cons k ks => simp only [ofNodeL, renderHL, renderL, renderH_ofNode c i par k, renderHL_ofNodeL c i par ks]
end

mutual
theorem prettyItemsH_ofNode (c : Cfg) (i : Subst → PStr → PStr) (lv : Nat) (lit : Bool) (par : Option PStr) (n : Node) :
    prettyItemsH c i lv lit par (HNode.ofNode n) = prettyItems c i lv lit par n := by
  cases n with
  | str k v => simp [HNode.ofNode, prettyItemsH, prettyItems]
  | tag nm p as cbe pre ks =>
    simp only [HNode.ofNode, prettyItemsH, prettyItems, ofNodeL_isEmpty, Bool.false_eq_true, if_false,
      prettyItemsHL_ofNodeL c i (lv + 1) _ (some nm) ks]
theorem prettyItemsHL_ofNodeL (c : Cfg) (i : Subst → PStr → PStr) (lv : Nat) (lit : Bool) (par : Option PStr) (l : List Node) :
    prettyItemsHL c i lv lit par (ofNodeL l) = prettyItemsL c i lv lit par l := by
  cases l with
  | nil => simp [ofNodeL, prettyItemsHL, prettyItemsL]
  | cons k ks =>
    simp only [ofNodeL, prettyItemsHL, prettyItemsL, prettyItemsH_ofNode c i lv lit par k, prettyItemsHL_ofNodeL c i lv lit par ks]
end

/-- depths of the `.ind` items -/
def indDepths : List Item → List Nat
  | [] => []
  | .ind d :: rest => d :: indDepths rest
  | .lit _ :: rest => indDepths rest

theorem indDepths_append (a b : List Item) : indDepths (a ++ b) = indDepths a ++ indDepths b := by
  induction a with
  | nil => rfl
  | cons x xs ih => cases x <;> simp [indDepths, ih]

def AllGe (lv : Nat) (items : List Item) : Prop := ∀ d ∈ indDepths items, lv ≤ d

theorem allGe_nil (lv : Nat) : AllGe lv [] := by simp [AllGe, indDepths]
theorem allGe_append {lv : Nat} {a b : List Item} : AllGe lv (a ++ b) ↔ AllGe lv a ∧ AllGe lv b := by
  simp only [AllGe, indDepths_append, List.mem_append]
  exact ⟨fun h => ⟨fun d hd => h d (Or.inl hd), fun d hd => h d (Or.inr hd)⟩, fun h d hd => hd.elim (h.1 d) (h.2 d)⟩
theorem allGe_lit {lv : Nat} {s : PStr} {a : List Item} : AllGe lv (.lit s :: a) ↔ AllGe lv a := Iff.rfl
theorem allGe_ind {lv d : Nat} {a : List Item} : AllGe lv (.ind d :: a) ↔ lv ≤ d ∧ AllGe lv a := by
  simp [AllGe, indDepths]
theorem allGe_mono {lv : Nat} {a : List Item} (ha : AllGe (lv + 1) a) : AllGe lv a := fun d hd => Nat.le_of_succ_le (ha d hd)

mutual
theorem indDepths_ge (c : Cfg) (i : Subst → PStr → PStr) (lv : Nat) (lit : Bool) (par : Option PStr) (n : HNode) :
    AllGe lv (prettyItemsH c i lv lit par n) := by
  cases n with
  | str k v =>
    by_cases hs : strip (outputReady c i par k v) = [] <;> cases lit <;>
      simp [prettyItemsH, hs, allGe_lit, allGe_ind, allGe_nil]
  | tag h nm p as cbe pre ks =>
    -- own pieces at `lv`, contents at `lv + 1` or deeper
    have ih := fun l => allGe_mono (indDepthsL_ge c i (lv + 1) l (some nm) ks)
    by_cases hv : (ks.isEmpty && cbe) = true <;> cases h <;> cases lit <;> cases pre <;>
      simp [prettyItemsH, hv, allGe_append, allGe_lit, allGe_ind, allGe_nil, ih]
theorem indDepthsL_ge (c : Cfg) (i : Subst → PStr → PStr) (lv : Nat) (lit : Bool) (par : Option PStr) (l : List HNode) :
    AllGe lv (prettyItemsHL c i lv lit par l) := by
  cases l with
  | nil => exact allGe_nil _
  | cons k ks => exact allGe_append.2 ⟨indDepths_ge c i lv lit par k, indDepthsL_ge c i lv lit par ks⟩
end

end BS.Formatter
