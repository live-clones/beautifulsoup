import BSModel.Model.Builder
/-! # C03: counter and context stacks of the code-mirror state are functions of the open frames (`cnt`, `pd`, `sd`) -/
namespace BS.Builder

/-- the value a `Counter` reads for a key (0 when absent) -/
def gd (c : List (Name × Nat)) (n : Name) : Nat := (cget c n).getD 0

theorem cget_cons (e : Name × Nat) (es : List (Name × Nat)) (m : Name) :
    cget (e :: es) m = if e.1 = m then some e.2 else cget es m := by
  simp only [cget, List.find?_cons]
  split <;> simp_all

theorem cget_cset (c : List (Name × Nat)) (n m : Name) (v : Nat) :
    cget (cset c n v) m = if n = m then some v else cget c m := by
  induction c with
  | nil => rw [cset, cget_cons]
  | cons e es ih =>
    rw [cset]
    by_cases he : e.1 = n
    · rw [if_pos (beq_iff_eq.mpr he), cget_cons, cget_cons, he]
      by_cases h : n = m
      · rw [if_pos h, if_pos h]
      · rw [if_neg h, if_neg h, if_neg h]
    · rw [if_neg (fun h => he (beq_iff_eq.mp h)), cget_cons, cget_cons, ih]
      by_cases h' : e.1 = m
      · rw [if_pos h', if_pos h', if_neg (fun h => he (h'.trans h.symm))]
      · rw [if_neg h', if_neg h']

theorem gd_cinc (c : List (Name × Nat)) (n m : Name) :
    gd (cinc c n) m = if n = m then gd c n + 1 else gd c m := by
  simp only [gd, cinc, cget_cset]; split <;> simp

theorem gd_cdec (c : List (Name × Nat)) (n m : Name) :
    gd (cdec c n) m = if n = m then gd c n - 1 else gd c m := by
  simp only [gd, cdec]
  cases h : cget c n with
  | none => simp only []; split <;> simp_all
  | some v => simp only [cget_cset]; split <;> simp_all

/-- the BeautifulSoup object's own name is neither whitespace-preserving nor a string container -/
def CfgOK (cfg : Cfg) : Prop := cfg.preserve cfg.rootName = false ∧ cfg.container cfg.rootName = none

instance (cfg : Cfg) : Decidable (CfgOK cfg) := by unfold CfgOK; infer_instance

/-- how many open frames have the name `n` (a tag called like the root object is never counted) -/
def cnt (cfg : Cfg) (s : List Frame) (n : Name) : Nat :=
  if n == cfg.rootName then 0 else (s.filter (fun f => f.name == n)).length

/-- depths of the open whitespace-preserving frames, innermost first -/
def pd (cfg : Cfg) : List Frame → List Nat
  | [] => []
  | f :: rest => if cfg.preserve f.name then (rest.length + 1) :: pd cfg rest else pd cfg rest

/-- depths and names of the open string-container frames, innermost first -/
def sd (cfg : Cfg) : List Frame → List (Nat × Name)
  | [] => []
  | f :: rest =>
    if (cfg.container f.name).isSome then (rest.length + 1, f.name) :: sd cfg rest else sd cfg rest

/-- the stack is non-empty and its last frame is the BeautifulSoup object -/
def RootLast (cfg : Cfg) : List Frame → Prop
  | [] => False
  | [r] => r.name = cfg.rootName ∧ r.pfx = none
  | _ :: b :: rest => RootLast cfg (b :: rest)

/-- root frame last; counter, `pws`, `scs` are `cnt`, `pd`, `sd` of the stack -/
structure Inv (cfg : Cfg) (st : St) : Prop where
  root : RootLast cfg st.stack
  counter : ∀ n, gd st.counter n = cnt cfg st.stack n
  pws : st.pws = pd cfg st.stack
  scs : st.scs = sd cfg st.stack

theorem RootLast.ne_nil {cfg : Cfg} {s : List Frame} (h : RootLast cfg s) : s ≠ [] := by
  cases s <;> simp_all [RootLast]

theorem Inv.stack_pos {cfg : Cfg} {st : St} (h : Inv cfg st) : 1 ≤ st.stack.length :=
  List.length_pos_iff.mpr h.root.ne_nil

theorem RootLast.getLast? {cfg : Cfg} : ∀ {s : List Frame}, RootLast cfg s →
    ∃ r, s.getLast? = some r ∧ r.name = cfg.rootName ∧ r.pfx = none
  | [], h => by simp [RootLast] at h
  | [r], h => ⟨r, by simp, h.1, h.2⟩
  | _ :: b :: rest, h => by
    have := RootLast.getLast? (s := b :: rest) h
    simpa [List.getLast?_cons_cons] using this

theorem RootLast.cons {cfg : Cfg} {s : List Frame} (f : Frame) (h : RootLast cfg s) : RootLast cfg (f :: s) := by
  cases s with
  | nil => simp [RootLast] at h
  | cons b rest => simpa [RootLast] using h

theorem RootLast.setKids {cfg : Cfg} {top : Frame} {rest : List Frame} (k : List Doc)
    (h : RootLast cfg (top :: rest)) : RootLast cfg ({ top with kids := k } :: rest) := by
  cases rest with
  | nil => simpa [RootLast] using h
  | cons b rest => simpa [RootLast] using h

theorem cnt_root (cfg : Cfg) (s : List Frame) : cnt cfg s cfg.rootName = 0 := by simp [cnt]

theorem cnt_cons (cfg : Cfg) (f : Frame) (s : List Frame) (n : Name) :
    cnt cfg (f :: s) n = (if f.name = n ∧ f.name ≠ cfg.rootName then 1 else 0) + cnt cfg s n := by
  by_cases hn : n = cfg.rootName
  · subst hn; simp [cnt_root]
  · by_cases hf : f.name = n
    · subst hf; simp [cnt, hn, Nat.add_comm]
    · simp [cnt, hn, hf]

theorem cnt_single {cfg : Cfg} {r : Frame} (hr : r.name = cfg.rootName) (n : Name) : cnt cfg [r] n = 0 := by
  rw [cnt_cons, if_neg (fun e => e.2 hr)]; simp [cnt]

theorem pd_le (cfg : Cfg) (s : List Frame) : ∀ p ∈ pd cfg s, p ≤ s.length := by
  -- cases of `pd` (and `sd`): nil, frame listed, frame skipped
  fun_induction pd cfg s with
  | case1 => nofun
  | case2 f rest _ ih => exact List.forall_mem_cons.mpr ⟨Nat.le_refl _, fun p hp => Nat.le_succ_of_le (ih p hp)⟩
  | case3 f rest _ ih => exact fun p hp => Nat.le_succ_of_le (ih p hp)

theorem sd_le (cfg : Cfg) (s : List Frame) : ∀ p ∈ sd cfg s, p.1 ≤ s.length := by
  fun_induction sd cfg s with
  | case1 => nofun
  | case2 f rest _ ih => exact List.forall_mem_cons.mpr ⟨Nat.le_refl _, fun p hp => Nat.le_succ_of_le (ih p hp)⟩
  | case3 f rest _ ih => exact fun p hp => Nat.le_succ_of_le (ih p hp)

/-- a counted name is open strictly above the root frame -/
theorem two_of_cnt_pos {cfg : Cfg} {s : List Frame} {n : Name} (hr : RootLast cfg s) (h : 0 < cnt cfg s n) :
    ∃ top below rest, s = top :: below :: rest := by
  -- `RootLast cfg []` is `False`: no `[]` arm
  match s, hr with
  | [r], hr => rw [cnt_single hr.1] at h; exact absurd h (Nat.lt_irrefl 0)
  | t :: b :: rest, _ => exact ⟨t, b, rest, rfl⟩

theorem Inv.init {cfg : Cfg} (h : CfgOK cfg) : Inv cfg (St.init cfg) := by
  refine ⟨?_, ?_, ?_, ?_⟩
  · simp [St.init, RootLast]
  · exact fun n => (cnt_single rfl n).symm
  · simp [St.init, pd, h.1]
  · simp [St.init, sd, h.2]

-- `BS.Builder.pushTag` in full: the short name would be `Inv.pushTag`
theorem Inv.pushTag {cfg : Cfg} {st : St} (h : Inv cfg st) (name : Name) (pfx : Option Name) :
    Inv cfg (pushTag cfg st name pfx) := by
  refine ⟨?_, ?_, ?_, ?_⟩
  · exact RootLast.cons _ h.root
  · intro n
    have hn := h.counter n
    simp only [BS.Builder.pushTag, cnt_cons, beq_iff_eq]
    by_cases hroot : name = cfg.rootName
    · rw [if_pos hroot, hn, if_neg (fun e => e.2 hroot), Nat.zero_add]
    · rw [if_neg hroot, gd_cinc]
      by_cases hnn : name = n
      · subst hnn; rw [if_pos rfl, if_pos ⟨rfl, hroot⟩, hn, Nat.add_comm]
      · rw [if_neg hnn, if_neg (fun e => hnn e.1), Nat.zero_add, hn]
  · simp [BS.Builder.pushTag, pd, h.pws]
  · simp [BS.Builder.pushTag, sd, h.scs]

theorem cnt_setKids (cfg : Cfg) (f : Frame) (k : List Doc) (rest : List Frame) (n : Name) :
    cnt cfg ({ f with kids := k } :: rest) n = cnt cfg (f :: rest) n := by simp only [cnt_cons]

theorem Inv.setKids {cfg : Cfg} {st : St} (h : Inv cfg st) {top : Frame} {rest : List Frame} (hs : st.stack = top :: rest)
    (k : List Doc) (b : List PStr) : Inv cfg { st with stack := { top with kids := k } :: rest, buf := b } :=
  ⟨(hs ▸ h.root).setKids k, fun n => (h.counter n).trans (by rw [hs]; exact (cnt_setKids ..).symm),
    h.pws.trans (by rw [hs]; rfl), h.scs.trans (by rw [hs]; rfl)⟩

theorem Inv.endData {cfg : Cfg} {st : St} (h : Inv cfg st) (cls : Option Cls) :
    Inv cfg (endData cfg st cls) := by
  unfold BS.Builder.endData
  split
  · exact h
  · match hs : st.stack with
    | [] => exact absurd hs h.root.ne_nil
    | top :: rest => exact h.setKids hs _ _

theorem popTag_stack (st : St) (top below : Frame) (rest : List Frame) (hs : st.stack = top :: below :: rest) :
    (popTag st).stack = sClose1 st.stack := by
  simp [popTag, hs, sClose1]

theorem popTag_buf (st : St) : (popTag st).buf = st.buf := by
  unfold popTag; split <;> rfl

/-- the `match` is `popTag`'s update of `pws` -/
theorem pd_pop (cfg : Cfg) (top : Frame) (X : List Frame) :
    (match pd cfg (top :: X) with
      | p :: ps => if p = X.length + 1 then ps else pd cfg (top :: X)
      | [] => []) = pd cfg X := by
  have hle := pd_le cfg X
  by_cases hp : cfg.preserve top.name = true
  · simp [pd, hp]
  · have e : pd cfg (top :: X) = pd cfg X := by simp [pd, hp]
    rw [e]
    cases hq : pd cfg X with
    | nil => rfl
    | cons p ps =>
      have := hle p (by simp [hq])
      simp only []
      rw [if_neg (by omega)]

/-- … and of `scs` -/
theorem sd_pop (cfg : Cfg) (top : Frame) (X : List Frame) :
    (match sd cfg (top :: X) with
      | (p, _) :: ss => if p = X.length + 1 then ss else sd cfg (top :: X)
      | [] => []) = sd cfg X := by
  have hle := sd_le cfg X
  by_cases hp : (cfg.container top.name).isSome = true
  · simp [sd, hp]
  · have e : sd cfg (top :: X) = sd cfg X := by simp [sd, hp]
    rw [e]
    cases hq : sd cfg X with
    | nil => rfl
    | cons p ps =>
      have := hle p (by simp [hq])
      simp only []
      rw [if_neg (by omega)]

theorem Inv.popTag {cfg : Cfg} {st : St} (h : Inv cfg st) (top below : Frame) (rest : List Frame)
    (hs : st.stack = top :: below :: rest) : Inv cfg (popTag st) := by
  have hr := h.root
  have hp := h.pws
  have hc := h.scs
  rw [hs] at hr hp hc
  refine ⟨?_, ?_, ?_, ?_⟩
  · simp only [BS.Builder.popTag, hs]
    simp only [RootLast] at hr
    exact hr.setKids _
  · intro n
    have hn := h.counter n
    rw [hs, cnt_cons] at hn
    simp only [BS.Builder.popTag, hs, gd_cdec]
    rw [cnt_setKids]
    by_cases ht : top.name = n
    · subst ht
      rw [if_pos rfl, hn]
      -- a frame named like the root was never counted
      by_cases hroot : top.name = cfg.rootName
      · rw [if_neg (fun e => e.2 hroot), Nat.zero_add, hroot, cnt_root]
      · rw [if_pos ⟨rfl, hroot⟩, Nat.add_sub_cancel_left]
    · rw [if_neg ht, hn, if_neg (fun e => ht e.1), Nat.zero_add]
  · simp only [BS.Builder.popTag, hs, hp]
    exact pd_pop cfg top (below :: rest)
  · simp only [BS.Builder.popTag, hs, hc]
    exact sd_pop cfg top (below :: rest)

/-- the early exit of `_popToTag`'s loop is taken iff no frame of that name is counted -/
theorem guard_iff {cfg : Cfg} {st : St} (h : Inv cfg st) (name : Name) :
    (cget st.counter name = none ∨ cget st.counter name = some 0) ↔ cnt cfg st.stack name = 0 := by
  have := h.counter name
  simp only [gd] at this
  cases hc : cget st.counter name with
  | none => simp_all
  | some v => simp_all

theorem popLoop_closed {cfg : Cfg} {st : St} (h : Inv cfg st) {name : Name} (hc : cnt cfg st.stack name = 0)
    (pfx : Option Name) (fuel : Nat) : popLoop st name pfx fuel = st := by
  cases fuel with
  | zero => rfl
  | succ fuel =>
    rcases (guard_iff h name).mpr hc with hg | hg <;> simp only [BS.Builder.popLoop, hg]

theorem popLoop_open {cfg : Cfg} {st : St} (h : Inv cfg st) {name : Name} (hc : cnt cfg st.stack name ≠ 0)
    (pfx : Option Name) (fuel : Nat) :
    ∃ top below rest, st.stack = top :: below :: rest ∧
      popLoop st name pfx (fuel + 1) =
        if top.name == name && top.pfx == pfx then popTag st else popLoop (popTag st) name pfx fuel := by
  obtain ⟨top, below, rest, hs⟩ := two_of_cnt_pos h.root (Nat.pos_of_ne_zero hc)
  refine ⟨top, below, rest, hs, ?_⟩
  rw [BS.Builder.popLoop]
  split
  · rename_i hg; exact absurd ((guard_iff h name).mp (Or.inl hg)) hc
  · rename_i hg; exact absurd ((guard_iff h name).mp (Or.inr hg)) hc
  · simp only [hs]

theorem Inv.popLoop {cfg : Cfg} (name : Name) (pfx : Option Name) : ∀ (fuel : Nat) {st : St}, Inv cfg st →
    Inv cfg (popLoop st name pfx fuel)
  | 0, st, h => h
  | fuel + 1, st, h => by
    by_cases hc : cnt cfg st.stack name = 0
    · rw [popLoop_closed h hc]; exact h
    · obtain ⟨top, below, rest, hs, he⟩ := popLoop_open h hc pfx fuel
      rw [he]
      split
      · exact h.popTag top below rest hs
      · exact Inv.popLoop name pfx fuel (h.popTag top below rest hs)

theorem Inv.popToTag {cfg : Cfg} {st : St} (h : Inv cfg st) (name : Name) (pfx : Option Name) :
    Inv cfg (popToTag cfg st name pfx) := by
  unfold BS.Builder.popToTag
  split
  · exact h
  · exact Inv.popLoop name pfx _ h

theorem Inv.step {cfg : Cfg} {st : St} (h : Inv cfg st) (ev : Ev) : Inv cfg (step cfg st ev) := by
  cases ev with
  | start name pfx => exact (h.endData none).pushTag name pfx
  | stop name pfx => exact (h.endData none).popToTag name pfx
  | data s => exact ⟨h.root, h.counter, h.pws, h.scs⟩
  | endData cls => exact h.endData cls

theorem Inv.run {cfg : Cfg} (evs : List Ev) : ∀ {st : St}, Inv cfg st → Inv cfg (BS.Builder.run cfg st evs) := by
  induction evs with
  | nil => intro st h; exact h
  | cons e es ih => intro st h; exact ih (h.step e)

theorem Inv.reachable {cfg : Cfg} (hc : CfgOK cfg) (evs : List Ev) : Inv cfg (BS.Builder.run cfg (St.init cfg) evs) :=
  Inv.run evs (Inv.init hc)

end BS.Builder
