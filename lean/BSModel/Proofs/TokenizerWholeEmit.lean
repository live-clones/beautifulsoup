import BSModel.Proofs.TokenizerWholeToks
/-! The writer's tokens against `Writer.emit`: the tokens of a text and of a special string are `Good`; the callbacks
the tokenizer makes for a token sequence are `emit`'s up to data chunking, with the positions the text gives the start
tags. -/
namespace BS.WriterText
open BS.Writer BS.Tokenizer BS.SourcePos BS.Adapter

theorem good_flushLit (P : Params) (cur : PStr) (h : ∀ x ∈ cur, isPlain x = true) : ∀ t ∈ flushLitTok cur, Good P t := by
  intro t ht
  simp only [flushLitTok] at ht
  split at ht
  · simp at ht
  · simp only [List.mem_singleton] at ht; subst ht; exact h

theorem good_charToks (P : Params) (sp : Nat → CharSp) (s : PStr) (i : Nat) (cur : PStr)
    (hc : ∀ x ∈ cur, isPlain x = true) (hw : charsWritable sp i s = true) : ∀ t ∈ charToks sp i cur s, Good P t := by
  have hnil : ∀ x ∈ ([] : PStr), isPlain x = true := by simp
  -- end; literal cut / appended; dec; hex; named
  fun_induction charToks sp i cur s
  case case1 => exact good_flushLit P _ hc
  all_goals
    rename_i hsp ih
    simp only [charsWritable, hsp, charWritable, Bool.and_eq_true, bne_iff_ne, ne_eq] at hw
  case case2 => exact List.forall_mem_append.mpr ⟨good_flushLit P _ hc, ih (by simp [isPlain, hw.1]) hw.2⟩
  case case3 hsp' =>
    simp only [hsp', Bool.and_eq_true, bne_iff_ne, ne_eq] at hw
    exact ih (List.forall_mem_append.mpr ⟨hc, by simp [isPlain, hw.1]⟩) hw.2
  case case4 => exact List.forall_mem_append.mpr ⟨good_flushLit P _ hc, List.forall_mem_cons.mpr ⟨good_dec P _ _, ih hnil hw.2⟩⟩
  case case5 => exact List.forall_mem_append.mpr ⟨good_flushLit P _ hc, List.forall_mem_cons.mpr ⟨good_hex P _ _ _ _, ih hnil hw.2⟩⟩
  case case6 => exact List.forall_mem_append.mpr ⟨good_flushLit P _ hc, List.forall_mem_cons.mpr ⟨good_eref P _ hw.1, ih hnil hw.2⟩⟩

theorem mem_of_contains_false (s : PStr) (c : Nat) (h : s.contains c = false) : ∀ x ∈ s, x ≠ c := by
  intro x hx hxc
  simp [← hxc, hx] at h

theorem good_special (P : Params) (k : Kind) (up : Nat → Bool) (s : PStr) (h : specialWritable k s = true) :
    Good P (specialWTok k up s) := by
  cases k with
  | comment =>
    simp only [specialWritable, Bool.or_eq_true, Bool.not_eq_true'] at h
    exact good_comment P up s (h.imp (mem_of_contains_false s 62) (mem_of_contains_false s 45))
  | cdata => exact good_cdata P up s (mem_of_contains_false s 62 (by simpa [specialWritable] using h))
  | doctype => exact good_doctype P up s (mem_of_contains_false s 62 (by simpa [specialWritable] using h))
  | decl =>
    simp only [specialWritable, Bool.and_eq_true, Bool.not_eq_true'] at h
    exact good_decl P up s (mem_of_contains_false s 62 h.1) h.2
  | pi => exact good_pi P up s (mem_of_contains_false s 62 (by simpa [specialWritable] using h))

/-! ### the callbacks of a token sequence, chunked as the writer thinks of them -/

/-- the adapter-level callback of a tokenizer callback made at `pos` (`toSEv` ignores the source: `toSEv_src`) -/
def sevOf (k : Tok) (pos : Nat × Nat) : List SEv := (toSEv ⟨k, [], pos⟩).toList

/-- one callback per markup token (start tags stamped with the position of the text before them), one `data` per
    literal token -/
def tokEvs : PStr → List WTok → List SEv
  | _, [] => []
  | pre, t :: ts =>
    (match t.tok with
     | none => flushLit t.text
     | some k => sevOf k (posOf pre)) ++ tokEvs (pre ++ t.text) ts

theorem tokEvs_append : ∀ (a b : List WTok) (pre : PStr), tokEvs pre (a ++ b) = tokEvs pre a ++ tokEvs (pre ++ textOf a) b := by
  intro a
  induction a with
  | nil => intro b pre; simp [tokEvs, textOf]
  | cons t ts ih => intro b pre; simp only [List.cons_append, tokEvs, ih, textOf_cons, List.append_assoc]

/-- `q` gives every start tag of the sequence the position of the text before it -/
def PosAgree (q : Path → Nat × Nat) : PStr → List WTok → Prop
  | _, [] => True
  | pre, t :: ts => (isOpenTok t = true → q t.path = posOf pre) ∧ PosAgree q (pre ++ t.text) ts

theorem PosAgree_append (q : Path → Nat × Nat) : ∀ (a b : List WTok) (pre : PStr),
    PosAgree q pre (a ++ b) ↔ PosAgree q pre a ∧ PosAgree q (pre ++ textOf a) b := by
  intro a
  induction a with
  | nil => intro b pre; simp [PosAgree, textOf]
  | cons t ts ih => intro b pre; simp only [List.cons_append, PosAgree, ih, textOf_cons, List.append_assoc, and_assoc]

theorem tokEvs_flushLit (pre cur : PStr) : tokEvs pre (flushLitTok cur) = flushLit cur := by
  simp only [flushLitTok, flushLit]
  split <;> simp [tokEvs, litTok, flushLit, *]

theorem tokEvs_charToks (sp : Nat → CharSp) (s : PStr) (i : Nat) (cur pre : PStr) :
    tokEvs pre (charToks sp i cur s) = emitChars sp i cur s := by
  fun_induction charToks sp i cur s generalizing pre
  case case1 => simp [emitChars, tokEvs_flushLit]
  case case2 hsp ih => simp [emitChars, hsp, tokEvs_append, tokEvs_flushLit, ih]
  case case3 hsp h ih => simp [emitChars, hsp, h, ih]
  all_goals
    rename_i hsp ih
    simp [emitChars, hsp, tokEvs_append, tokEvs_flushLit, tokEvs, crefTok, erefTok, sevOf, toSEv, ih]

theorem sevOf_special (k : Kind) (up : Nat → Bool) (s : PStr) (pos : Nat × Nat) :
    sevOf (specialTok k up s) pos = [specialEv k up s] := by
  cases k <;> rfl

mutual
theorem tokEvs_wtoks (iv : BS.Builder.Name → Bool) (c : Choices) (q : Path → Nat × Nat) : ∀ (d : WDoc) (p : Path) (pre : PStr),
    PosAgree q pre (wtoks iv c p d) → tokEvs pre (wtoks iv c p d) = emit iv { c with pos := q } p d
  | .text s, p, pre, _ => by simp only [wtoks, emit]; exact tokEvs_charToks _ s 0 [] pre
  | .special k s, p, pre, _ => by simp [wtoks, emit, tokEvs, specialWTok, sevOf_special]
  | .elem n a ks, p, pre, h => by
    simp only [wtoks] at h
    simp only [wtoks, emit]
    by_cases hiv : iv n = true
    · simp only [hiv, if_true] at h ⊢
      cases hv : c.void p <;>
        (simp only [hv, PosAgree] at h
         have := h.1 rfl
         simp only [openTok] at this
         simp [tokEvs, openTok, closeTok, sevOf, toSEv, this])
    · simp only [hiv, Bool.false_eq_true, if_false, PosAgree] at h ⊢
      have hq := h.1 rfl
      simp only [openTok] at hq
      have hk := ((PosAgree_append q _ _ _).mp h.2).1
      have ih := tokEvs_wtoksL iv c q ks p 0 _ hk
      simp only [tokEvs, tokEvs_append, ih]
      simp [openTok, closeTok, sevOf, toSEv, hq]
theorem tokEvs_wtoksL (iv : BS.Builder.Name → Bool) (c : Choices) (q : Path → Nat × Nat) :
    ∀ (ds : List WDoc) (p : Path) (i : Nat) (pre : PStr),
    PosAgree q pre (wtoksL iv c p i ds) → tokEvs pre (wtoksL iv c p i ds) = emitL iv { c with pos := q } p i ds
  | [], _, _, _, _ => by simp [wtoksL, emitL, tokEvs]
  | d :: ds, p, i, pre, h => by
    simp only [wtoksL] at h ⊢
    obtain ⟨h1, h2⟩ := (PosAgree_append q _ _ _).mp h
    simp only [emitL, tokEvs_append, tokEvs_wtoks iv c q d (i :: p) pre h1, tokEvs_wtoksL iv c q ds p (i + 1) _ h2]
end

/-! ### what the tokenizer reports is `tokEvs` up to data chunking -/

theorem mergeData_append_congr : ∀ (xs x y : List SEv), mergeData x = mergeData y → mergeData (xs ++ x) = mergeData (xs ++ y)
  | [], _, _, h => h
  | e :: es, x, y, h => by simp only [List.cons_append, mergeData, mergeData_append_congr es x y h]

theorem mergeData_data_data (a b : PStr) (X : List SEv) :
    mergeData (.data a :: .data b :: X) = mergeData (.data (a ++ b) :: X) := by
  simp only [mergeData]
  cases mergeData X with
  | nil => rfl
  | cons e r => cases e <;> simp [List.append_assoc]

theorem mergeData_flushLit (a b : PStr) (X : List SEv) :
    mergeData (flushLit (a ++ b) ++ X) = mergeData (flushLit a ++ (flushLit b ++ X)) := by
  by_cases ha : a = []
  · subst ha; simp [flushLit]
  · by_cases hb : b = []
    · subst hb; simp [flushLit]
    · have h1 : a.isEmpty = false := by cases a <;> simp_all
      have h2 : b.isEmpty = false := by cases b <;> simp_all
      have h3 : (a ++ b).isEmpty = false := by cases a <;> simp_all
      simp only [flushLit, h1, h2, h3, Bool.false_eq_true, if_false, List.singleton_append]
      exact (mergeData_data_data a b X).symm

theorem toSEv_src (k : Tok) (s : PStr) (pos : Nat × Nat) : toSEv ⟨k, s, pos⟩ = toSEv ⟨k, [], pos⟩ := by
  cases k <;> rfl

theorem filterMap_dataEv (pre l : PStr) : (dataEv pre l).filterMap toSEv = flushLit l := by
  simp only [dataEv, flushLit]
  split <;> simp [toSEv]

theorem filterMap_cons_toList (e : Tokenizer.Ev) (es : List Tokenizer.Ev) :
    (e :: es).filterMap toSEv = (toSEv e).toList ++ es.filterMap toSEv := by
  simp only [List.filterMap_cons]
  cases toSEv e <;> rfl

theorem callbacks_runToks : ∀ (ts : List WTok) (pre l : PStr),
    mergeData ((runToks pre l ts).filterMap toSEv) = mergeData (flushLit l ++ tokEvs (pre ++ l) ts) := by
  intro ts
  induction ts with
  | nil => intro pre l; simp [runToks, tokEvs, filterMap_dataEv]
  | cons t ts ih =>
    intro pre l
    cases htok : t.tok with
    | none =>
      simp only [runToks, htok, tokEvs]
      rw [ih pre (l ++ t.text), mergeData_flushLit, List.append_assoc]
    | some k =>
      simp only [runToks, htok, tokEvs, List.filterMap_append, filterMap_cons_toList, filterMap_dataEv]
      rw [toSEv_src]
      show mergeData (flushLit l ++ (sevOf k (posOf (pre ++ l)) ++ _)) = _
      apply mergeData_append_congr
      apply mergeData_append_congr
      have := ih (pre ++ l ++ t.text) []
      simpa [flushLit] using this

end BS.WriterText
