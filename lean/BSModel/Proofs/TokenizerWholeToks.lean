import BSModel.Proofs.TokenizerWholeRun
import BSModel.Proofs.TokenizerTurn
import BSModel.Proofs.WriterRefs
/-! Every token of the writer is `Good`: the tokenizer consumes it whole and reports exactly its callback. -/
namespace BS.WriterText
open BS.Writer BS.Tokenizer BS.SourcePos

theorem nameOK_NameOK (n : PStr) (h : nameOK n = true) : NameOK n := by
  cases n with
  | nil => simp [nameOK] at h
  | cons c t =>
    simp only [nameOK, Bool.and_eq_true, List.all_eq_true] at h
    exact ⟨c, t, rfl, by simpa [isLowerB, isLower] using h.1, fun x hx => by simpa [isNameChB, isNameCh, isLowerB, isLower] using h.2 x hx⟩

/-- what the proofs need of the two parameters: `str.lower` leaves names of the writer's class alone, and
    `html.unescape` inverts the writer's escaping of attribute values -/
structure ParamsOK (P : Params) : Prop where
  lower : ∀ n, nameOK n = true → P.lower n = n
  unescape : ∀ v : PStr, v ≠ [] → P.unescape (escAttr v) = v   -- `valOf` skips the empty value

/-! ### `ParamsOK` is satisfiable -/

/-- `html.unescape` on what `escAttr` produces -/
def unescSimple : PStr → PStr
  | 38 :: 97 :: 109 :: 112 :: 59 :: t => 38 :: unescSimple t
  | 38 :: 113 :: 117 :: 111 :: 116 :: 59 :: t => 34 :: unescSimple t
  | c :: t => c :: unescSimple t
  | [] => []

theorem unescSimple_escAttr (v : PStr) : unescSimple (escAttr v) = v := by
  induction v with
  | nil => simp [escAttr, unescSimple]
  | cons ch t ih =>
    simp only [escAttr, List.flatMap_cons] at ih ⊢
    by_cases h1 : ch = 38
    · simpa [h1, unescSimple] using ih
    · by_cases h2 : ch = 34
      · simpa [h2, unescSimple] using ih
      · simpa [h1, h2, unescSimple] using ih

theorem asciiLower_nameOK (n : PStr) (h : nameOK n = true) : asciiLower n = n := by
  have hup : ∀ x, isNameChB x = true → asciiLowerC x = x := by
    intro x hx
    simp [isNameChB, isLowerB, isDigit] at hx
    simp [asciiLowerC, isUpper]; omega
  cases n with
  | nil => simp [nameOK] at h
  | cons c t =>
    simp only [nameOK, Bool.and_eq_true, List.all_eq_true] at h
    rw [asciiLower, List.map_congr_left (List.forall_mem_cons.mpr
      ⟨hup c (by simp [isNameChB, h.1]), fun x hx => hup x (h.2 x hx)⟩), List.map_id']

theorem paramsOK_simple : ParamsOK { unescape := unescSimple, lower := asciiLower } :=
  ⟨asciiLower_nameOK, fun v _ => unescSimple_escAttr v⟩

theorem valOf_escAttr (P : Params) (hP : ParamsOK P) (v : PStr) : valOf P (escAttr v) = v := by
  cases v with
  | nil => simp [valOf, escAttr]
  | cons c t =>
    have : (escAttr (c :: t)).isEmpty = false := by
      simp only [escAttr, List.flatMap_cons]
      split
      · simp
      · split <;> simp
    simp [valOf, this, hP.unescape (c :: t) (by simp)]

theorem escAttr_noquote (v : PStr) : ∀ x ∈ escAttr v, x ≠ 34 := by
  intro x hx
  obtain ⟨c, _, hc⟩ := List.mem_flatMap.mp hx
  split at hc
  · simp at hc; omega
  · split at hc
    · simp at hc; omega
    · rename_i h2
      simp at hc; subst hc
      simpa using h2

/-- the attributes as written: values escaped -/
def wAttrs (a : List (PStr × Option PStr)) : List (PStr × Option PStr) := a.map fun kv => (kv.1, kv.2.map escAttr)

theorem attrsText_eq (tl : PStr) (a : List (PStr × Option PStr)) : attrsText tl a = attrsThenGt tl (wAttrs a) := by
  induction a with
  | nil => rfl
  | cons kv more ih =>
    obtain ⟨k, v⟩ := kv
    cases v <;> simp [attrsText, attrsThenGt, wAttrs, attrBody, ih] <;> rfl

theorem openText_eq (n : PStr) (a : List (PStr × Option PStr)) (slash : Bool) :
    openText n a slash = writeTag n (wAttrs a) slash := by
  simp only [openText, writeTag, attrsText_eq, tagEnd]

theorem chooseAct_open (P : Params) (hP : ParamsOK P) (n : PStr) (a : List (PStr × Option PStr)) (slash : Bool)
    (hn : nameOK n = true) (ha : ∀ kv ∈ a, nameOK kv.1 = true) (rest : PStr) :
    chooseAct P false none (openText n a slash ++ rest) =
      .adv (startTok slash n a) (openText n a slash).length
        (if slash then none else if cdataContentElements.contains n then some n else none) true := by
  have hAttr : ∀ kv ∈ wAttrs a, AttrOK kv := List.forall_mem_map.mpr fun kv0 h0 =>
    ⟨nameOK_NameOK _ (ha kv0 h0), fun w hw x hx => by
      obtain ⟨v, _, rfl⟩ := Option.map_eq_some_iff.mp hw
      exact escAttr_noquote v x hx⟩
  have hLow : ∀ kv ∈ wAttrs a, P.lower kv.1 = kv.1 := List.forall_mem_map.mpr fun kv0 h0 => hP.lower _ (ha kv0 h0)
  have hmap : (wAttrs a).map (fun kv => (kv.1, kv.2.map (valOf P))) = a := by
    rw [wAttrs, List.map_map]
    conv => rhs; rw [← List.map_id a]
    exact List.map_congr_left fun ⟨k, v⟩ _ => by cases v <;> simp [valOf_escAttr P hP]
  have := chooseAct_writeTag P none n rest (wAttrs a) slash (nameOK_NameOK n hn) (hP.lower n hn) hAttr hLow
  rwa [← openText_eq, hmap] at this

theorem good_open (P : Params) (hP : ParamsOK P) (p : Path) (n : PStr) (a : List (PStr × Option PStr)) (slash : Bool)
    (hn : nameOK n = true) (hcd : cdataContentElements.contains n = false) (ha : ∀ kv ∈ a, nameOK kv.1 = true) :
    Good P (openTok p n a slash) := by
  refine ⟨Or.inl (by simp [openTok, openText]), fun rest => ?_⟩
  simp only [openTok, chooseAct_open P hP n a slash hn ha rest, hcd, startTok]
  cases slash <;> rfl

theorem chooseAct_close (P : Params) (hP : ParamsOK P) (n : PStr) (hn : nameOK n = true) (cd : Option PStr)
    (hmode : cd = none ∨ cd = some n) (rest : PStr) :
    chooseAct P false cd (closeText n ++ rest) = .adv (.et n) (closeText n).length none true :=
  chooseAct_writeEndTag P cd n rest (nameOK_NameOK n hn) (hP.lower n hn) hmode

theorem good_close (P : Params) (hP : ParamsOK P) (n : PStr) (hn : nameOK n = true) : Good P (closeTok n) :=
  ⟨Or.inl rfl, chooseAct_close P hP n hn none (Or.inl rfl)⟩

theorem good_cref (P : Params) (nm : PStr)
    (hcr : ∀ rest, charRef (38 :: 35 :: (nm ++ 59 :: rest)) = some (nm, 2 + nm.length + 1)) : Good P (crefTok nm) :=
  ⟨Or.inr rfl, fun rest => by simpa [crefTok, crefText] using chooseAct_charRef P nm rest (hcr rest)⟩

theorem good_eref (P : Params) (nm : PStr) (h : entNameOK nm = true) : Good P (erefTok nm) := by
  refine ⟨Or.inr rfl, fun rest => ?_⟩
  match nm, h with
  | c :: t, h =>
    simp only [entNameOK, Bool.and_eq_true, List.all_eq_true] at h
    simpa [erefTok, erefText] using chooseAct_entityRef P c t 59 rest h.1 h.2 (by decide)

theorem hexDig_hex (u : Bool) (k : Nat) (h : k < 16) : isHex (hexDig u k) = true := by
  revert u k; decide

theorem good_dec (P : Params) (z ch : Nat) : Good P (crefTok (decName z ch)) :=
  good_cref P _ fun rest =>
    charRef_dec _ rest (fun x hx => by simpa [isDigit] using decName_mem z ch x hx) (decName_ne_nil z ch)

theorem good_hex (P : Params) (ux ud : Bool) (z ch : Nat) : Good P (crefTok (hexName ux ud z ch)) :=
  good_cref P _ fun rest =>
    charRef_hex _ (zdigits 16 (hexDig ud) z (ch + 1) ch) rest (by cases ux <;> simp)
      (zdigits_mem 16 (hexDig ud) (fun x => isHex x = true) (by omega) (by decide) (hexDig_hex ud) z (ch + 1) ch)
      (zdigits_ne_nil 16 (hexDig ud) z ch ch)

theorem good_comment (P : Params) (up : Nat → Bool) (s : PStr)
    (h : (∀ x ∈ s, x ≠ 62) ∨ (∀ x ∈ s, x ≠ 45)) : Good P (specialWTok .comment up s) :=
  ⟨Or.inl rfl, fun rest => chooseAct_writeComment P none s rest (h.elim (commentBodyOK_of_noGt s) (commentBodyOK_of_noDash s))⟩

theorem good_pi (P : Params) (up : Nat → Bool) (s : PStr) (h : ∀ x ∈ s, x ≠ 62) : Good P (specialWTok .pi up s) :=
  ⟨Or.inl rfl, fun rest => chooseAct_writePi P none s rest h⟩

theorem kwDoctype_facts : ∀ b0 b1 b2 b3 b4 b5 b6 : Bool,
    asciiLower [cased b0 68, cased b1 79, cased b2 67, cased b3 84, cased b4 89, cased b5 80, cased b6 69] = kwdoctype := by
  decide +kernel

theorem good_doctype (P : Params) (up : Nat → Bool) (s : PStr) (h : ∀ x ∈ s, x ≠ 62) : Good P (specialWTok .doctype up s) := by
  refine ⟨Or.inl rfl, fun rest => ?_⟩
  have := chooseAct_writeDoctype P none _ (32 :: s) rest (kwDoctype_facts (up 0) (up 1) (up 2) (up 3) (up 4) (up 5) (up 6))
    (List.forall_mem_cons.mpr ⟨by decide, h⟩)
  simpa [writeDoctype, specialWTok, specialMarkup, specialTok, kwDoctype] using this

/-- second conjunct: the shape `scanName_stopped` gives; 91 = `[` -/
theorem kwCData_facts : ∀ b0 b1 b2 b3 b4 : Bool,
    isAlpha (cased b0 67) = true ∧
      sectStd.contains (asciiLower (cased b0 67 :: [cased b1 68, cased b2 65, cased b3 84, cased b4 65].take
        (spanLen isDeclNameCh [cased b1 68, cased b2 65, cased b3 84, cased b4 65]))) = true ∧
      ∀ x ∈ [cased b0 67, cased b1 68, cased b2 65, cased b3 84, cased b4 65, 91], x ≠ 62 := by
  decide +kernel

theorem good_cdata (P : Params) (up : Nat → Bool) (s : PStr) (h : ∀ x ∈ s, x ≠ 62) : Good P (specialWTok .cdata up s) := by
  refine ⟨Or.inl rfl, fun rest => ?_⟩
  obtain ⟨hc, hstd, h62⟩ := kwCData_facts (up 0) (up 1) (up 2) (up 3) (up 4)
  have hscan := scanName_stopped _ 91 [cased (up 1) 68, cased (up 2) 65, cased (up 3) 84, cased (up 4) 65]
    (s ++ ([93, 93, 62] ++ rest)) hc (by decide) (by decide)
  have hkw62 : ∀ x ∈ kwCData up ++ s, x ≠ 62 := fun x hx => (List.mem_append.mp hx).elim (h62 x) (h x)
  exact chooseAct_writeMarked P none (kwCData up ++ s) [93, 93, 62] rest _ _ mMarkedClose (by simpa [kwCData] using hscan)
    (Or.inl ⟨hstd, rfl⟩) (mMarkedClose_at_end rest)
    (fun k hk => mMarkedClose_none_inside _ rest (drop_written _ [] k hk).2 fun x hx => hkw62 x (List.mem_of_mem_drop hx))

theorem sectMs_not_std (n : PStr) (h : sectMs.contains n = true) : sectStd.contains n = false := by
  simp only [sectMs, List.contains_eq_mem, List.mem_cons, List.not_mem_nil, or_false, decide_eq_true_eq] at h
  rcases h with rfl | rfl | rfl <;> decide

theorem good_decl (P : Params) (up : Nat → Bool) (s : PStr) (h : ∀ x ∈ s, x ≠ 62) (hk : sectMs.contains (declName s) = true) :
    Good P (specialWTok .decl up s) := by
  refine ⟨Or.inl rfl, fun rest => ?_⟩
  cases s with
  | nil => simp [declName, sectMs] at hk
  | cons c t =>
    have hc : isAlpha c = true := by
      cases hca : isAlpha c with
      | true => rfl
      | false => simp [declName, hca, sectMs] at hk
    simp only [declName, hc, if_true] at hk
    have hclose : mMsMarkedClose ([93, 62] ++ rest) = some 2 := by
      simp [mMsMarkedClose, spanLen, show isWs 62 = false by decide]
    exact chooseAct_writeMarked P none (c :: t) [93, 62] rest _ _ mMsMarkedClose
      (scanName_stopped c 93 t (62 :: rest) hc (by decide) (by decide)) (Or.inr ⟨sectMs_not_std _ hk, hk, rfl⟩) hclose
      (fun k hk' => mMsMarkedClose_none_inside _ rest (drop_written _ [] k hk').2 fun x hx => h x (List.mem_of_mem_drop hx))

end BS.WriterText
