import BSModel.Proofs.EncodingOut
import BSModel.Proofs.SortKeys
/-! tree-level facts about the renderer: with `eventual_encoding = None` placeholders render as their
    original text everywhere in the tree; `xmlcharrefreplace` acts on the values only, the markup skeleton is untouched -/
namespace BS.EncodingOut
open BS BS.Gen.EncodingOut

/-- the value as if `set_up_substitutions` had never run -/
def plainV : AttrVal → AttrVal
  | .charsetMeta o => .plain o
  | .contentMeta o => .plain o
  | v => v

def plainA (a : PStr × AttrVal) : PStr × AttrVal := (a.1, plainV a.2)

mutual
def plainN : Node → Node
  | .text s => .text s
  | .tag n as ks => .tag n (as.map plainA) (plainL ks)
def plainL : List Node → List Node
  | [] => []
  | k :: ks => plainN k :: plainL ks
end

theorem plainL_isEmpty (ks : List Node) : (plainL ks).isEmpty = ks.isEmpty := by
  cases ks <;> simp [plainL]

theorem formatAttr_none_plain (a : PStr × AttrVal) : formatAttr none (plainA a) = formatAttr none a := by
  obtain ⟨k, v⟩ := a
  cases v <;> rfl

theorem sortAttrs_eq_sortK (l : List (PStr × AttrVal)) : sortAttrs l = BS.SortKeys.sortK (fun a b => !lexLt b a) l :=
  BS.SortKeys.sortK_unique (ins := insertAttr) (fun _ => rfl)
    (fun a b _ => by rw [insertAttr]; cases lexLt b.1 a.1 <;> rfl) rfl (fun _ _ => rfl) l

theorem sortAttrs_map (f : PStr × AttrVal → PStr × AttrVal) (hf : ∀ a, (f a).1 = a.1) (l : List (PStr × AttrVal)) :
    sortAttrs (l.map f) = (sortAttrs l).map f := by
  rw [sortAttrs_eq_sortK, sortAttrs_eq_sortK]; exact BS.SortKeys.sortK_map _ f hf l

theorem mem_sortAttrs (x : PStr × AttrVal) (l : List (PStr × AttrVal)) : x ∈ sortAttrs l ↔ x ∈ l := by
  rw [sortAttrs_eq_sortK]; exact (BS.SortKeys.sortK_perm _ l).mem_iff

theorem openTag_none_plain (n : PStr) (as : List (PStr × AttrVal)) (e : Bool) :
    openTag none n (as.map plainA) e = openTag none n as e := by
  unfold openTag
  rw [sortAttrs_map plainA (fun _ => rfl), List.flatMap_map]
  simp only [formatAttr_none_plain]

mutual
theorem decodeNode_none_plain (parent : PStr) (t : Node) : decodeNode none parent (plainN t) = decodeNode none parent t := by
  cases t with
  | text s => rfl
  | tag n as ks =>
    simp only [plainN, decodeNode, plainL_isEmpty, openTag_none_plain]
    rw [decodeKids_none_plain n ks]
theorem decodeKids_none_plain (parent : PStr) (l : List Node) : decodeKids none parent (plainL l) = decodeKids none parent l := by
  cases l with
  | nil => rfl
  | cons k ks =>
    simp only [plainL, decodeKids]
    rw [decodeNode_none_plain parent k, decodeKids_none_plain parent ks]
end

mutual
theorem prettyNode_none_plain (parent : PStr) (lv : Nat) (t : Node) :
    prettyNode none parent lv (plainN t) = prettyNode none parent lv t := by
  cases t with
  | text s => rfl
  | tag n as ks =>
    simp only [plainN, prettyNode, plainL_isEmpty, openTag_none_plain, decodeKids_none_plain]
    rw [prettyKids_none_plain n (lv + 1) ks]
theorem prettyKids_none_plain (parent : PStr) (lv : Nat) (l : List Node) :
    prettyKids none parent lv (plainL l) = prettyKids none parent lv l := by
  cases l with
  | nil => rfl
  | cons k ks =>
    simp only [plainL, prettyKids]
    rw [prettyNode_none_plain parent lv k, prettyKids_none_plain parent lv ks]
end

theorem decodeImpl_none_plain (indent : Option Nat) (t : Node) :
    decodeImpl indent none (plainN t) = decodeImpl indent none t := by
  cases indent with
  | none => exact decodeNode_none_plain [] t
  | some l => exact prettyNode_none_plain [] l t

theorem decodeContentsImpl_none_plain (indent : Option Nat) (t : Node) :
    decodeContentsImpl indent none (plainN t) = decodeContentsImpl indent none t := by
  cases t with
  | text s => rfl
  | tag n as ks =>
    cases indent with
    | none => exact decodeKids_none_plain n ks
    | some l => exact prettyKids_none_plain n l ks

/-! ### `xmlcharrefreplace` commutes with rendering (`decodeNode` / `decodeKids` only) -/

def asciiStr (s : PStr) : Bool := s.all (fun c => c < 128)

mutual
/-- every tag name and attribute name of the tree is ASCII -/
def asciiNames : Node → Bool
  | .text _ => true
  | .tag n as ks => asciiStr n && as.all (fun a => asciiStr a.1) && asciiNamesL ks
def asciiNamesL : List Node → Bool
  | [] => true
  | k :: ks => asciiNames k && asciiNamesL ks
end

/-- one attribute with the replacement applied to its value only -/
def formatAttrX (C : Codec) (ev : Option PStr) (a : PStr × AttrVal) : PStr :=
  match a.2 with
  | .novalue => a.1
  | v => a.1 ++ [61] ++ xmlcharrefreplace C (quotedAttributeValue (substituteXml (attrValue ev v)))

def openTagX (C : Codec) (ev : Option PStr) (name : PStr) (attrs : List (PStr × AttrVal)) (isEmpty : Bool) : PStr :=
  [60] ++ name ++ (sortAttrs attrs).flatMap (fun a => 32 :: formatAttrX C ev a)
    ++ (if isEmpty then voidElementClosePrefix else []) ++ [62]

mutual
/-- the rendering in which only text pieces and attribute values have gone through `xmlcharrefreplace` -/
def decodeNodeX (C : Codec) (ev : Option PStr) (parent : PStr) : Node → PStr
  | .text s => xmlcharrefreplace C (textPiece parent s)
  | .tag n as ks =>
    if isVoid n && ks.isEmpty then openTagX C ev n as true
    else openTagX C ev n as false ++ decodeKidsX C ev n ks ++ closeTag n
def decodeKidsX (C : Codec) (ev : Option PStr) (parent : PStr) : List Node → PStr
  | [] => []
  | k :: ks => decodeNodeX C ev parent k ++ decodeKidsX C ev parent ks
end

theorem asciiStr_lt (s : PStr) (h : asciiStr s = true) : ∀ c ∈ s, c < 128 := by
  intro c hc
  have := List.all_eq_true.mp h c hc
  simpa using this

theorem xcr_formatAttr (C : Codec) (hA : C.AsciiOK) (ev : Option PStr) (a : PStr × AttrVal) (ha : asciiStr a.1 = true) :
    xmlcharrefreplace C (formatAttr ev a) = formatAttrX C ev a := by
  obtain ⟨k, v⟩ := a
  have hk := xcr_ascii C hA k (asciiStr_lt k ha)
  cases v <;>
    simp only [formatAttr, formatAttrX, xcr_append, hk, xcr_ascii C hA [61] (by simp)]

theorem xcr_attrs (C : Codec) (hA : C.AsciiOK) (ev : Option PStr) : ∀ (l : List (PStr × AttrVal)),
    (∀ a ∈ l, asciiStr a.1 = true) →
    xmlcharrefreplace C (l.flatMap (fun a => 32 :: formatAttr ev a)) = l.flatMap (fun a => 32 :: formatAttrX C ev a) := by
  intro l
  induction l with
  | nil => intro _; rfl
  | cons a rest ih =>
    intro h
    rw [List.flatMap_cons, xcr_append, ih fun b hb => h b (List.mem_cons_of_mem _ hb)]
    show xmlcharrefreplace C ([32] ++ formatAttr ev a) ++ _ = _
    rw [xcr_append, xcr_ascii C hA [32] (by simp), xcr_formatAttr C hA ev a (h a List.mem_cons_self)]
    rfl

theorem xcr_openTag (C : Codec) (hA : C.AsciiOK) (ev : Option PStr) (n : PStr) (as : List (PStr × AttrVal)) (e : Bool)
    (hn : asciiStr n = true) (has : as.all (fun a => asciiStr a.1) = true) :
    xmlcharrefreplace C (openTag ev n as e) = openTagX C ev n as e := by
  unfold openTag openTagX
  simp only [xcr_append]
  rw [xcr_ascii C hA [60] (by simp), xcr_ascii C hA n (asciiStr_lt n hn), xcr_ascii C hA [62] (by simp),
    xcr_attrs C hA ev _ fun a ha => List.all_eq_true.mp has a ((mem_sortAttrs a as).mp ha)]
  cases e
  · simp [xmlcharrefreplace]
  · simp only [if_true]; rw [xcr_ascii C hA voidElementClosePrefix (by decide)]

theorem xcr_closeTag (C : Codec) (hA : C.AsciiOK) (n : PStr) (hn : asciiStr n = true) :
    xmlcharrefreplace C (closeTag n) = closeTag n := by
  unfold closeTag
  rw [xcr_append, xcr_append, xcr_ascii C hA [60, 47] (by simp), xcr_ascii C hA n (asciiStr_lt n hn),
    xcr_ascii C hA [62] (by simp)]

mutual
theorem xcr_decodeNode (C : Codec) (hA : C.AsciiOK) (ev : Option PStr) (parent : PStr) (t : Node) (h : asciiNames t = true) :
    xmlcharrefreplace C (decodeNode ev parent t) = decodeNodeX C ev parent t := by
  cases t with
  | text s => rfl
  | tag n as ks =>
    simp only [asciiNames, Bool.and_eq_true] at h
    obtain ⟨⟨hn, has⟩, hks⟩ := h
    simp only [decodeNode, decodeNodeX]
    split
    · exact xcr_openTag C hA ev n as true hn has
    · rw [xcr_append, xcr_append, xcr_openTag C hA ev n as false hn has, xcr_closeTag C hA n hn,
        xcr_decodeKids C hA ev n ks hks]
theorem xcr_decodeKids (C : Codec) (hA : C.AsciiOK) (ev : Option PStr) (parent : PStr) (l : List Node) (h : asciiNamesL l = true) :
    xmlcharrefreplace C (decodeKids ev parent l) = decodeKidsX C ev parent l := by
  cases l with
  | nil => rfl
  | cons k ks =>
    simp only [asciiNamesL, Bool.and_eq_true] at h
    simp only [decodeKids, decodeKidsX]
    rw [xcr_append, xcr_decodeNode C hA ev parent k h.1, xcr_decodeKids C hA ev parent ks h.2]
end

end BS.EncodingOut
