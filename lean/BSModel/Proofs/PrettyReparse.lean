import BSModel.Model.PrettyReparse
import BSModel.Proofs.PrettyRaw
import BSModel.Proofs.Render
/-! C14 ↔ C05: the pretty rendering of a forest (C14's specification on C05's pieces) is the plain rendering of `prettyTreeL`,
    for a formatter that substitutes with `substitute_xml`, a forest without hidden elements and a whitespace indent unit. -/
namespace BS.PrettyReparse
open BS.Render
open BS.Pretty (rep strip lstrip rstrip isSpace fullLine openLine closeLine prettyNode prettyL plain plainL
  rep_ws fullLine_ne)

/-- the parent's name does not switch substitution off -/
def PnOK (f : Fmt) (pn : Option PStr) : Prop := (match pn with | some n => f.cdataTags.contains n | none => false) = false

theorem dropWhile_flatMap (g : Nat → PStr) (h1 : ∀ c, isSpace c = true → g c = [c])
    (h2 : ∀ c, isSpace c = false → ∃ h t, g c = h :: t ∧ isSpace h = false) :
    ∀ s : PStr, (s.flatMap g).dropWhile isSpace = (s.dropWhile isSpace).flatMap g
  | [] => rfl
  | c :: cs => by
    cases hc : isSpace c with
    | true => simp [List.flatMap_cons, h1 c hc, hc, dropWhile_flatMap g h1 h2 cs]
    | false =>
      obtain ⟨h, t, e, hh⟩ := h2 c hc
      simp [List.flatMap_cons, e, hc, hh]

theorem esc_space (c : Nat) (h : isSpace c = true) : esc c = [c] := by
  have : c ≠ 38 ∧ c ≠ 60 ∧ c ≠ 62 := by refine ⟨?_, ?_, ?_⟩ <;> (intro e; subst e; revert h; decide)
  simp [esc, this]

theorem esc_cases (c : Nat) : esc c = [c] ∨ ∃ m, esc c = 38 :: (m ++ [59]) := by
  unfold esc
  split
  · exact .inr ⟨[97, 109, 112], rfl⟩
  · split
    · exact .inr ⟨[108, 116], rfl⟩
    · split
      · exact .inr ⟨[103, 116], rfl⟩
      · exact .inl rfl

theorem esc_head (c : Nat) (h : isSpace c = false) : ∃ a t, esc c = a :: t ∧ isSpace a = false := by
  rcases esc_cases c with e | ⟨m, e⟩
  · exact ⟨c, [], e, h⟩
  · exact ⟨38, _, e, by decide⟩

theorem esc_last (c : Nat) (h : isSpace c = false) : ∃ a t, (esc c).reverse = a :: t ∧ isSpace a = false := by
  rcases esc_cases c with e | ⟨m, e⟩
  · exact ⟨c, [], by simp [e], h⟩
  · exact ⟨59, m.reverse ++ [38], by simp [e], by decide⟩

theorem strip_substXml (s : PStr) : strip (substXml s) = substXml (strip s) := by
  have hl : ∀ s : PStr, lstrip (s.flatMap esc) = (lstrip s).flatMap esc :=
    dropWhile_flatMap esc esc_space esc_head
  have hr : ∀ s : PStr, rstrip (s.flatMap esc) = (rstrip s).flatMap esc := by
    intro s
    unfold rstrip
    rw [List.reverse_flatMap]
    rw [dropWhile_flatMap (List.reverse ∘ esc) (fun c hc => by simp [esc_space c hc]) (fun c hc => esc_last c hc)]
    rw [List.reverse_flatMap]
    congr 1
    funext c
    simp
  rw [substXml_eq_flatMap, substXml_eq_flatMap]
  unfold strip
  rw [hl, hr]

theorem substXml_ws : ∀ (x : PStr), (∀ c ∈ x, isSpace c = true) → substXml x = x
  | [], _ => rfl
  | c :: cs, h => by
    simp [substXml, esc_space c (h c (by simp)), substXml_ws cs (fun d hd => h d (by simp [hd]))]

theorem nl_ws : ∀ c ∈ ([10] : PStr), isSpace c = true := by decide

theorem substitute_min (f : Fmt) (hf : f.subst = some substXml) (pn : Option PStr) (hpn : PnOK f pn) (s : PStr) :
    substitute f pn s = substXml s :=
  substitute_on hf hpn s

/-- what the bridge needs of the function `Formatter.substitute` applies to a string under a given parent: it commutes with
    `strip`, leaves whitespace alone and makes nothing empty. True of `substitute_xml` and of the identity (text below a
    cdata-containing element — script, style — is not substituted). -/
structure SubstOK (g : PStr → PStr) : Prop where
  strip_comm : ∀ s, strip (g s) = g (strip s)
  ws_fix : ∀ x, (∀ c ∈ x, isSpace c = true) → g x = x
  ne : ∀ s, s ≠ [] → g s ≠ []

theorem substOK_xml : SubstOK substXml :=
  ⟨strip_substXml, substXml_ws, by
    intro s hs e
    cases s with
    | nil => exact hs rfl
    | cons a t =>
      have : esc a ≠ [] := by rcases esc_cases a with e | ⟨m, e⟩ <;> simp [e]
      simp [substXml, this] at e⟩

theorem substOK_id : SubstOK (fun s => s) := ⟨fun _ => rfl, fun _ _ => rfl, fun _ h => h⟩

theorem substitute_ok (f : Fmt) (hf : f.subst = some substXml) (pn : Option PStr) :
    ∃ g, SubstOK g ∧ ∀ s, substitute f pn s = g s := by
  cases pn with
  | none => exact ⟨substXml, substOK_xml, fun s => by simp [substitute, hf]⟩
  | some n =>
    by_cases h : f.cdataTags.contains n = true
    · exact ⟨fun s => s, substOK_id, fun s => by simp only [substitute, hf, h, if_true]⟩
    · exact ⟨substXml, substOK_xml, fun s => by simp only [substitute, hf, h, Bool.false_eq_true, if_false]⟩

theorem render_ws (ci : SCls → ClsInfo) (hci : ∀ c, ci c = assumedMarkup c) (f : Fmt) (hf : f.subst = some substXml)
    (pn : Option PStr) (x : PStr) (hx : ∀ c ∈ x, isSpace c = true) :
    renderSpec ci f pn (ws x) = x := by
  obtain ⟨g, hg, hs⟩ := substitute_ok f hf pn
  simp [ws, renderSpec, outputReady_text ci hci f pn .navigable rfl, hs, hg.ws_fix x hx]

theorem render_line (ci : SCls → ClsInfo) (hci : ∀ c, ci c = assumedMarkup c) (f : Fmt) (hf : f.subst = some substXml)
    (pn : Option PStr) (u : PStr) (hu : ∀ c ∈ u, isSpace c = true) (l : Int) (n : Node) :
    renderL ci f pn (line u l n) = rep u l ++ renderSpec ci f pn n ++ [10] := by
  simp [line, renderL, render_ws ci hci f hf pn _ (rep_ws u hu l), render_ws ci hci f hf pn _ nl_ws]

theorem renderL_append (ci : SCls → ClsInfo) (f : Fmt) (pn : Option PStr) : ∀ (a b : List Node),
    renderL ci f pn (a ++ b) = renderL ci f pn a ++ renderL ci f pn b
  | [], _ => rfl
  | x :: xs, b => by simp [renderL, renderL_append ci f pn xs b]

theorem formatTag_ne_nil (f : Fmt) (i : TagInfo) (h : i.hidden = false) (e o : Bool) : formatTag f i e o ≠ [] := by
  simp [formatTag, h]

theorem str_line (ci : SCls → ClsInfo) (hci : ∀ c, ci c = assumedMarkup c) (f : Fmt) (hf : f.subst = some substXml)
    (pn : Option PStr) (u : PStr) (hu : ∀ c ∈ u, isSpace c = true) (pwt : Option (List PStr)) (l : Int)
    (c : SCls) (s : PStr) :
    fullLine u l (strip (outputReady ci f pn c s)) = renderL ci f pn (prettyTree u pwt l (.str c s)) := by
  -- markup classes: `strip_outputReady`, its check evaluated per class
  have hmark : ∀ c' : SCls, (assumedMarkup c').preformatted = true →
      BS.Pretty.affixOk ([], (assumedMarkup c').pre, (assumedMarkup c').suf, true) = true → (assumedMarkup c').pre ≠ [] →
      fullLine u l (strip (outputReady ci f pn c' s)) =
        rep u l ++ ((assumedMarkup c').pre ++ s ++ rstrip (assumedMarkup c').suf) ++ [10] := by
    intro c' hpf hok hne
    have h : strip ((assumedMarkup c').pre ++ s ++ (assumedMarkup c').suf) = _ :=
      (BS.Pretty.strip_outputReady ([], (assumedMarkup c').pre, (assumedMarkup c').suf, true) hok hne s).1
    rw [outputReady_preformatted ci hci f pn c' hpf, h]
    exact fullLine_ne u l _ (fun e => hne (List.append_eq_nil_iff.mp (List.append_eq_nil_iff.mp e).1).1)
  have hline : ∀ c' : SCls, (assumedMarkup c').preformatted = true →
      BS.Pretty.affixOk ([], (assumedMarkup c').pre, (assumedMarkup c').suf, true) = true → (assumedMarkup c').pre ≠ [] →
      rstrip (assumedMarkup c').suf = (assumedMarkup c').suf →
      fullLine u l (strip (outputReady ci f pn c' s)) = renderL ci f pn (line u l (.str c' s)) := by
    intro c' hpf hok hne hsuf
    rw [hmark c' hpf hok hne, hsuf, render_line ci hci f hf pn u hu, renderSpec, outputReady_preformatted ci hci f pn c' hpf]
  have htext : ∀ (c' : SCls) (g : PStr → PStr), SubstOK g → (∀ x, outputReady ci f pn c' x = g x) →
      fullLine u l (strip (outputReady ci f pn c' s)) =
        renderL ci f pn (if strip s = [] then [] else line u l (.str c' (strip s))) := by
    intro c' g hg ho
    rw [ho, hg.strip_comm]
    by_cases hs : strip s = []
    · simp [hs, hg.ws_fix [] (by simp), fullLine, renderL]
    · rw [if_neg hs, render_line ci hci f hf pn u hu, fullLine_ne u l _ (hg.ne _ hs), renderSpec, ho]
  obtain ⟨g, hg, hsub⟩ := substitute_ok f hf pn
  cases c
  case doctype =>  -- SUFFIX `>\n`
    rw [hmark .doctype rfl (by decide) (by decide)]
    simp [prettyTree, renderL, render_ws ci hci f hf pn _ (rep_ws u hu l), renderSpec,
      outputReady_preformatted ci hci f pn .doctype rfl, assumedMarkup, show rstrip [62, 10] = [62] from by decide]
  case comment | cdata | pi | xmlpi | declaration => exact hline _ rfl (by decide) (by decide) (by decide)
  case preformatted =>  -- `output_ready` does not substitute
    exact htext _ _ substOK_id fun x => by simp [outputReady_preformatted ci hci f pn .preformatted rfl, assumedMarkup]
  case navigable | stylesheet | script | template | rubyText | rubyParen =>
    exact htext _ g hg fun x => by rw [outputReady_text ci hci f pn _ rfl, hsub]

theorem toP_void {ci : SCls → ClsInfo} {f : Fmt} {pwt : Option (List PStr)} {pn : Option PStr} {k : Nat} {i : TagInfo}
    {ks : List Node} (h : (ks.isEmpty && i.cbe) = true) :
    toP ci f pwt pn k (.tag i ks) = .void (formatTag f i true true) := by
  simp only [toP, h, if_true]

theorem toP_elem {ci : SCls → ClsInfo} {f : Fmt} {pwt : Option (List PStr)} {pn : Option PStr} {k : Nat} {i : TagInfo}
    {ks : List Node} (h : (ks.isEmpty && i.cbe) = false) :
    toP ci f pwt pn k (.tag i ks) =
      .elem k (formatTag f i false true) (formatTag f i false false) (isPre pwt i) (toPL ci f pwt (some i.name) (k + 1) ks) := by
  simp only [toP, h, Bool.false_eq_true, if_false]

mutual
theorem plain_toP (ci : SCls → ClsInfo) (f : Fmt) (pwt : Option (List PStr)) : ∀ (n : Node) (pn : Option PStr) (k : Nat),
    plain (toP ci f pwt pn k n) = renderSpec ci f pn n
  | .str c s, pn, k => by simp [toP, plain, renderSpec]
  | .tag i ks, pn, k => by
    cases hv : (ks.isEmpty && i.cbe)
    · simp only [toP_elem hv, plain, renderSpec, hv, Bool.false_eq_true, if_false, plainL_toPL ci f pwt ks (some i.name) (k + 1)]
    · simp only [toP_void hv, plain, renderSpec, hv, if_true]
theorem plainL_toPL (ci : SCls → ClsInfo) (f : Fmt) (pwt : Option (List PStr)) : ∀ (ns : List Node) (pn : Option PStr) (k : Nat),
    plainL (toPL ci f pwt pn k ns) = renderL ci f pn ns
  | [], _, _ => rfl
  | n :: ns, pn, k => by
    simp only [toPL, plainL, renderL, plain_toP ci f pwt n pn k, plainL_toPL ci f pwt ns pn (k + size n)]
end

theorem pretty_lit (u : PStr) : ∀ (t : BS.Pretty.Node) (l : Int), prettyNode u l true t = plain t :=
  BS.Pretty.pretty_lit u

mutual
theorem pretty_eq_render (ci : SCls → ClsInfo) (hci : ∀ c, ci c = assumedMarkup c) (f : Fmt) (hf : f.subst = some substXml)
    (u : PStr) (hu : ∀ c ∈ u, isSpace c = true) (pwt : Option (List PStr)) :
    ∀ (n : Node) (pn : Option PStr) (k : Nat) (l : Int), noHidden n = true →
      prettyNode u l false (toP ci f pwt pn k n) = renderL ci f pn (prettyTree u pwt l n)
  | .str c s, pn, k, l, _ => by
    simp only [toP, prettyNode, Bool.false_eq_true, if_false]
    exact str_line ci hci f hf pn u hu pwt l c s
  | .tag i ks, pn, k, l, h => by
    simp only [noHidden, Bool.and_eq_true, Bool.not_eq_true'] at h
    obtain ⟨hhid, hkw⟩ := h
    have hne := formatTag_ne_nil f i hhid
    by_cases hv : (ks.isEmpty && i.cbe) = true
    · simp only [toP, prettyTree, hv, if_true, prettyNode, Bool.false_eq_true, if_false]
      rw [fullLine_ne u l _ (hne true true), render_line ci hci f hf pn u hu]
      simp [renderSpec, hv]
    · have hv' : (ks.isEmpty && i.cbe) = false := by simpa using hv
      by_cases hp : isPre pwt i = true
      · simp only [toP, prettyTree, hv', hp, if_true, Bool.false_eq_true, if_false, prettyNode]
        rw [render_line ci hci f hf pn u hu]
        simp only [renderSpec, hv', Bool.false_eq_true, if_false, openLine, closeLine, hne false true, hne false false]
        rw [BS.Pretty.prettyL_lit, plainL_toPL]
        simp [List.append_assoc]
      · have hp' : isPre pwt i = false := by simpa using hp
        simp only [toP, prettyTree, hv', hp', Bool.false_eq_true, if_false, prettyNode]
        rw [render_line ci hci f hf pn u hu, fullLine_ne u l _ (hne false true), fullLine_ne u l _ (hne false false),
          prettyL_eq_renderL ci hci f hf u hu pwt ks (some i.name) (k + 1) (l + 1) hkw]
        simp only [renderSpec, List.isEmpty_cons, Bool.false_and, Bool.false_eq_true, if_false, renderL, renderL_append,
          render_ws ci hci f hf (some i.name) _ nl_ws, render_ws ci hci f hf (some i.name) _ (rep_ws u hu l),
          List.append_nil]
        simp [List.append_assoc]
theorem prettyL_eq_renderL (ci : SCls → ClsInfo) (hci : ∀ c, ci c = assumedMarkup c) (f : Fmt) (hf : f.subst = some substXml)
    (u : PStr) (hu : ∀ c ∈ u, isSpace c = true) (pwt : Option (List PStr)) :
    ∀ (ns : List Node) (pn : Option PStr) (k : Nat) (l : Int), noHiddenL ns = true →
      prettyL u l false (toPL ci f pwt pn k ns) = renderL ci f pn (prettyTreeL u pwt l ns)
  | [], _, _, _, _ => rfl
  | n :: ns, pn, k, l, h => by
    simp only [noHiddenL, Bool.and_eq_true] at h
    simp only [toPL, prettyL, prettyTreeL, renderL_append,
      pretty_eq_render ci hci f hf u hu pwt n pn k l h.1,
      prettyL_eq_renderL ci hci f hf u hu pwt ns pn (k + size n) l h.2]
end

mutual
theorem noHidden_of_writable (iv : PStr → Bool) (f : Fmt) : ∀ (n : Node), renderWritable iv f n = true → noHidden n = true
  | .str _ _, _ => rfl
  | .tag i ks, h => by
    simp only [renderWritable, Bool.and_eq_true, Bool.not_eq_true'] at h
    obtain ⟨⟨⟨hnotHidden, _hnotCdata⟩, _hattrs⟩, hk⟩ := h
    simp only [noHidden, hnotHidden, Bool.not_false, Bool.true_and]
    by_cases hiv : iv (fullName i) = true
    · simp only [hiv, if_true, Bool.and_eq_true, List.isEmpty_iff] at hk
      rw [hk.2]; rfl
    · simp only [hiv, Bool.false_eq_true, if_false, Bool.and_eq_true] at hk
      exact noHiddenL_of_writable iv f ks hk.2
theorem noHiddenL_of_writable (iv : PStr → Bool) (f : Fmt) : ∀ (ns : List Node), renderWritableL iv f ns = true → noHiddenL ns = true
  | [], _ => rfl
  | n :: ns, h => by
    simp only [renderWritableL, Bool.and_eq_true] at h
    simp only [noHiddenL, noHidden_of_writable iv f n h.1, noHiddenL_of_writable iv f ns h.2, Bool.and_self]
end

mutual
theorem ids_range (ci : SCls → ClsInfo) (f : Fmt) (pwt : Option (List PStr)) : ∀ (n : Node) (pn : Option PStr) (k : Nat),
    ∀ x ∈ BS.Pretty.ids (toP ci f pwt pn k n), k ≤ x ∧ x < k + size n
  | .str c s, pn, k => by simp [toP, BS.Pretty.ids]
  | .tag i ks, pn, k => by
    intro x hx
    cases hv : (ks.isEmpty && i.cbe)
    · simp only [toP_elem hv, BS.Pretty.ids, List.mem_cons] at hx
      simp only [size]
      rcases hx with rfl | hx
      · omega
      · have := idsL_range ci f pwt ks (some i.name) (k + 1) x hx
        omega
    · simp [toP_void hv, BS.Pretty.ids] at hx
theorem idsL_range (ci : SCls → ClsInfo) (f : Fmt) (pwt : Option (List PStr)) : ∀ (ns : List Node) (pn : Option PStr) (k : Nat),
    ∀ x ∈ BS.Pretty.idsL (toPL ci f pwt pn k ns), k ≤ x ∧ x < k + sizeL ns
  | [], _, _ => by simp [toPL, BS.Pretty.idsL]
  | n :: ns, pn, k => by
    intro x hx
    simp only [toPL, BS.Pretty.idsL, List.mem_append] at hx
    simp only [sizeL]
    rcases hx with hx | hx
    · have := ids_range ci f pwt n pn k x hx
      omega
    · have := idsL_range ci f pwt ns pn (k + size n) x hx
      omega
end

mutual
theorem distinct_toP (ci : SCls → ClsInfo) (f : Fmt) (pwt : Option (List PStr)) : ∀ (n : Node) (pn : Option PStr) (k : Nat),
    BS.Pretty.distinct (toP ci f pwt pn k n) = true
  | .str c s, pn, k => by simp [toP, BS.Pretty.distinct]
  | .tag i ks, pn, k => by
    cases hv : (ks.isEmpty && i.cbe)
    · simp only [toP_elem hv, BS.Pretty.distinct, Bool.and_eq_true, Bool.not_eq_true',
        distinctL_toPL ci f pwt ks (some i.name) (k + 1), and_true, List.contains_eq_mem, decide_eq_false_iff_not]
      intro hm
      have := idsL_range ci f pwt ks (some i.name) (k + 1) k hm
      omega
    · rw [toP_void hv]; rfl
theorem distinctL_toPL (ci : SCls → ClsInfo) (f : Fmt) (pwt : Option (List PStr)) : ∀ (ns : List Node) (pn : Option PStr) (k : Nat),
    BS.Pretty.distinctL (toPL ci f pwt pn k ns) = true
  | [], _, _ => rfl
  | n :: ns, pn, k => by
    simp [toPL, BS.Pretty.distinctL, distinct_toP ci f pwt n pn k, distinctL_toPL ci f pwt ns pn (k + size n)]
end

end BS.PrettyReparse
