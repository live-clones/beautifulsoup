import BSModel.Model.Copy
/-! C12: an in-place mutation leaves every tree unchanged that does not contain the mutated object -/
namespace BS.Copy

theorem editVal_frame (e : Edit) (v : AVal) (h : ∀ lid c items, v = .list lid c items → e.target ≠ lid) :
    editVal e v = v := by
  cases v with
  | list lid c items =>
    have := h lid c items rfl
    cases e with
    | listAppend l item => exact if_neg this
    | listSet l new => exact if_neg this
    | _ => rfl
  | _ => rfl

theorem editAttrs_frame (e : Edit) (l : Attrs) (h : e.target ∉ attrIds l) : editAttrs e l = l := by
  induction l with
  | nil => rfl
  | cons kv r ih =>
    obtain ⟨k, m, v⟩ := kv
    have hr : e.target ∉ attrIds r := fun hm => h (by cases v <;> simp [attrIds, hm])
    have hv : editVal e v = v := editVal_frame e v fun lid c items hv hl => h (by subst hv; simp [attrIds, hl])
    have := ih hr
    simp only [editAttrs] at this
    simp only [editAttrs, List.map_cons, hv, this]

theorem editData_frame (e : Edit) (i : Nat) (d : TagData) (hi : e.target ≠ i) (h : e.target ∉ attrIds d.attrs) :
    editData e i d = d := by
  simp only [editData, editAttrs_frame e d.attrs h]
  -- only `setAttr`, `delAttr`, `setName` touch the data, each guarded by `target = i`
  cases e <;> simp_all [Edit.target]

theorem id_mem_ids (k : Node) : k.id ∈ ids k := by
  cases k <;> simp [Node.id, ids]

theorem id_mem_idsL {k : Node} : ∀ {ks : List Node}, k ∈ ks → k.id ∈ idsL ks
  | x :: xs, hk => by
    simp only [idsL, List.mem_append]
    rcases List.mem_cons.mp hk with rfl | hk
    · exact Or.inl (id_mem_ids k)
    · exact Or.inr (id_mem_idsL hk)

theorem editKids_frame (e : Edit) (i : Nat) (ks : List Node) (hi : e.target ≠ i) (h : e.target ∉ idsL ks) :
    editKids e i ks = ks := by
  have hk : ∀ k ∈ ks, k.id ≠ e.target := fun k hk heq => h (heq ▸ id_mem_idsL hk)
  cases e with
  | insertKid t pos n | clear t => simp_all [editKids, Edit.target]
  | remove x =>
    simp only [editKids, Edit.target] at *
    apply List.filter_eq_self.mpr
    intro k hkm
    simpa using hk k hkm
  | replace x n =>
    simp only [editKids, Edit.target] at *
    conv => rhs; rw [← List.map_id ks]
    apply List.map_congr_left
    intro k hkm
    simp [hk k hkm]
  | _ => simp [editKids]

mutual
theorem applyEdit_frame : ∀ (t : Node) (e : Edit), e.target ∉ ids t → applyEdit e t = t
  | .str i c v, e, _ => by simp [applyEdit]
  | .tag i d ks, e, h => by
    simp only [ids, List.mem_cons, List.mem_append, not_or] at h
    obtain ⟨hi, hattrs, hkids⟩ := h
    simp only [applyEdit]
    rw [applyEditL_frame ks e hkids, editData_frame e i d hi hattrs, editKids_frame e i ks hi hkids]
theorem applyEditL_frame : ∀ (ks : List Node) (e : Edit), e.target ∉ idsL ks → applyEditL e ks = ks
  | [], e, _ => by simp [applyEditL]
  | k :: ks, e, h => by
    simp only [idsL, List.mem_append, not_or] at h
    simp only [applyEditL]
    rw [applyEdit_frame k e h.1, applyEditL_frame ks e h.2]
end

end BS.Copy
