import BSModel.Proofs.ParseLink
import BSModel.Proofs.HeapLink
/-! # Parse-time linkage: one `parseAppend` at the end of the document keeps the heap consistent -/
namespace BS.ParseLink
open BS.Heap

/-- linking a fresh leaf `x` as the last child of a node `cur` that ends at the end of document `0`:
    the element before `x` is the last element of the document, nothing follows `x`
    (`Linked h h' p x pred lastx succ prevSib nextSib newKids` with `lastx = x`, `succ = nextSib = none`) -/
theorem link_at_end {h : Heap} {w : Wit} {cur x : Nat} (hwf : WF h w)
    (hx : h.parent x = none) (hxk : h.kids x = []) (hkx : h.kind x ≠ .soup) (hxn : x < h.next)
    (hct : (h.kind cur).isTag = true) (hcn : cur < h.next) (hx0 : x ≠ 0)
    (hc0 : w.tree cur = 0) (hce : w.pos cur + w.size cur = w.size 0) :
    ∃ h' pred, linkChild h cur (h.kids cur).length x = .ok h' ∧ WF h' (pasteWit w x cur (w.size 0)) ∧
      w.tree pred = 0 ∧ w.pos pred + 1 = w.size 0 ∧
      Linked h h' cur x pred x none (h.kids cur).getLast? none (h.kids cur ++ [x]) := by
  have hpx : w.tree cur ≠ x := by rw [hc0]; exact fun e => hx0 e.symm
  obtain ⟨h', hok, hwf', _⟩ := linkChild_spec h w cur (h.kids cur).length x hwf hx hkx hct hpx (Nat.le_refl _) hxn hcn
  -- `g`: the stage of `linkChild` on which `nextAfter` runs; `G`: where `pred` and `succ` stand in the witness
  obtain ⟨h'', g, hok2, g1, g2, L⟩ := linkChild_linked h cur (h.kids cur).length x (Nat.le_refl _)
  have G := geo_of h w cur (h.kids cur).length x g hwf hx hkx hpx (Nat.le_refl _) g1 g2
  have e : h'' = h' := by rw [hok] at hok2; cases hok2; rfl
  subst e
  have hP : boundary w.size (h.kids cur) (w.pos cur + 1) (h.kids cur).length = w.size 0 := by
    rw [(boundary_spec w.pos w.size (h.kids cur) _ _ _ (hwf.tiles cur) (Nat.le_refl _)).2.1 rfl, hce]
  rw [hP] at hwf' G
  simp only [Nat.le_refl, if_true] at L G
  generalize nextAfter g h.cap cur = succ at L G
  have hs : succ = none := by
    cases hsc : succ with
    | none => rfl
    | some b =>
      -- a successor would stand past the end of tree 0
      have hb1 := (G.succ_iff b).mp hsc
      have hb := hwf.bound b
      have := hwf.size_pos b
      rw [hb1.1, hc0] at hb
      omega
  subst hs
  rw [lastDown_leaf h h.cap x hxk, prevSibOf_end, List.getElem?_eq_none (Nat.le_refl _),
    List.insertIdx_length_self] at L
  refine ⟨h'', predOf h cur (h.kids cur).length, hok, hwf', ?_, G.pred_p, L⟩
  rw [G.pred_t, hc0]

/-- `_most_recent_element` is the last element of the document: `setup` + `append` is `linkChild` -/
theorem parseAppend_some_eq {h h' : Heap} {cur x m : Nat}
    (L : Linked h h' cur x m x none (h.kids cur).getLast? none (h.kids cur ++ [x])) (hxk : x ∉ h.kids cur) :
    parseAppend h cur (some m) x = h' := by
  obtain ⟨r1, r2, r3, r4, r5, r6, r7, r8, r9, r10⟩ := parseAppend_reads h cur (some m) x
  have hl : (h.kids cur).getLast? ≠ some x := fun e => hxk (List.mem_of_getLast? e)
  apply heap_ext
  · intro j; rw [r1, L.parent]
  · intro j; rw [r2, L.ps]; simp
  · intro j; rw [r3, L.ns]; by_cases hj : j = x <;> simp [hj, hl]
  · intro j; rw [r4, L.pe]; simp
  · intro j; rw [r5, L.ne]; by_cases hj : j = x <;> simp [hj, eq_comm]
  · intro j; rw [r6, L.kids]
  · rw [r7, L.kind]
  · rw [r8, L.val]
  · rw [r9, L.next]
  · rw [r10, L.cap]

/-- the very first element: `linkChild` under the root followed by cutting the root out of the chain -/
theorem parseAppend_none_eq {h h' : Heap} {x : Nat}
    (L : Linked h h' 0 x 0 x none (h.kids 0).getLast? none (h.kids 0 ++ [x])) (hxk : x ∉ h.kids 0)
    (hx0 : x ≠ 0) (hne : h.ne 0 = none) :
    parseAppend h 0 none x = setPe (setNe h' 0 none) x none := by
  obtain ⟨r1, r2, r3, r4, r5, r6, r7, r8, r9, r10⟩ := parseAppend_reads h 0 none x
  have hl : (h.kids 0).getLast? ≠ some x := fun e => hxk (List.mem_of_getLast? e)
  apply heap_ext
  · intro j; rw [r1]; simp [L.parent]
  · intro j; rw [r2]; simp [L.ps]
  · intro j; rw [r3]; simp only [setPe_ns, setNe_ns, L.ns]; by_cases hj : j = x <;> simp [hj, hl]
  · intro j; rw [r4]; simp only [setPe_pe, setNe_pe, L.pe]; by_cases hj : j = x <;> simp [hj]
  · intro j; rw [r5]; simp only [setPe_ne, setNe_ne, L.ne]
    by_cases hj : j = x
    · simp [hj, hx0]
    · by_cases h0 : j = 0 <;> simp [hj, h0, hne]
  · intro j; rw [r6]; simp [L.kids]
  · rw [r7]; simp [L.kind]
  · rw [r8]; simp [L.val]
  · rw [r9]; simp [L.next]
  · rw [r10]; simp [L.cap]

/-- witness after the parser appended the fresh node `x` to `cur`, at the end of document `0`; the
    BeautifulSoup object keeps standing outside the element chain (`pasteWit` clears `unl p` when `P = 1`: `_insert` links
    the root to its first element, the parser does not) -/
def appWit (w : Wit) (x cur : Nat) : Wit :=
  { pasteWit w x cur (w.size 0) with unl := w.unl }

/-- **one parser append keeps the heap consistent**: `cur` is an open element (it ends at the end of the
    document), `mre` is the last element of the document (or nothing has been created yet) -/
theorem parseAppend_wf {h : Heap} {w : Wit} {cur x : Nat} {mre : Option Nat} (hwf : WF h w)
    (hu : w.unl 0 = true)
    (hx : h.parent x = none) (hxk : h.kids x = []) (hkx : h.kind x ≠ .soup) (hxn : x < h.next)
    (hct : (h.kind cur).isTag = true) (hcn : cur < h.next)
    (hc0 : w.tree cur = 0) (hce : w.pos cur + w.size cur = w.size 0)
    (hms : ∀ m, mre = some m → w.tree m = 0 ∧ w.pos m + 1 = w.size 0 ∧ 1 ≤ w.pos m)
    (hmn : mre = none → cur = 0 ∧ w.size 0 = 1) :
    WF (parseAppend h cur mre x) (appWit w x cur) := by
  obtain ⟨hk0, hp0⟩ := hwf.unl_soup 0 hu
  obtain ⟨ht0, hpos0⟩ := hwf.root_tree 0 hp0
  have hx0 : x ≠ 0 := by intro e; subst e; exact hkx hk0
  have hxnk : x ∉ h.kids cur := by
    intro hm; have := hwf.kid_parent cur x hm; rw [hx] at this; cases this
  obtain ⟨h', pred, hok, hwf', hpt, hpp, L⟩ := link_at_end hwf hx hxk hkx hxn hct hcn hx0 hc0 hce
  cases hm : mre with
  | some m =>
    obtain ⟨m1, m2, m3⟩ := hms m hm
    have : pred = m := hwf.inj pred m (by rw [hpt, m1]) (by omega)
    subst this
    rw [parseAppend_some_eq L hxnk]
    have hw : appWit w x cur = pasteWit w x cur (w.size 0) := by
      simp only [appWit, pasteWit, Wit.mk.injEq, true_and]
      funext n
      have : w.size 0 ≠ 1 := by omega
      simp only [this, decide_false, Bool.false_and, Bool.not_false, Bool.and_true]
    rw [hw]; exact hwf'
  | none =>
    obtain ⟨hc, hs1⟩ := hmn hm
    subst hc
    have : pred = 0 := hwf.inj pred 0 (by rw [hpt, ht0]) (by omega)
    subst this
    have hne : h.ne 0 = none := by
      cases hn : h.ne 0 with
      | none => rfl
      | some b => have := (hwf.chain_ne 0 b).mp hn; rw [hu] at this; cases this.1
    rw [parseAppend_none_eq L hxnk hx0 hne]
    obtain ⟨hxt, hxp⟩ := hwf.root_tree x hx
    have hw : appWit w x 0 = unlWit (pasteWit w x 0 (w.size 0)) 0 := by
      simp only [appWit, pasteWit, unlWit, Wit.mk.injEq, true_and]
      funext n
      by_cases hn : n = 0
      · subst hn; simp [hu]
      · simp [hn]
    rw [hw]
    apply unlink_root hwf' 0 x
    · rw [L.kind]; exact hk0
    · rw [L.parent]; simp [Ne.symm hx0, hp0]
    · rw [L.next]; omega
    · simp [pasteWit, hxt, ht0]
    · simp [pasteWit, hxt, hxp, hs1]

end BS.ParseLink
