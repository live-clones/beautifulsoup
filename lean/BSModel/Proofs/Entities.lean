import BSModel.Model.Reader
import BSModel.Proofs.Assoc
/-! C09, entity substitution against the readers: induction along the scan `reSub`; the decidable table obligations
    `TblOK` / `XmlOK`; the round trip of a table-driven substitution, proved once for any reader that copies plain code
    points and decodes `&name;` (`Reads`, `roundtrip_tbl`). -/
namespace BS.Entities
open BS.Reader

theorem spanLen_append_stop (p : Nat → Bool) (a : PStr) (b : Nat) (r : PStr)
    (ha : ∀ x ∈ a, p x = true) (hb : p b = false) : spanLen p (a ++ b :: r) = a.length := by
  rw [spanLen, List.takeWhile_append_of_pos ha, List.takeWhile_cons_of_neg (by simp [hb]), List.append_nil]

theorem spanLen_of_all (p : Nat → Bool) (a : PStr) (ha : ∀ x ∈ a, p x = true) : spanLen p a = a.length := by
  have := List.takeWhile_append_of_pos (l₂ := []) ha
  rw [List.append_nil, List.takeWhile_nil, List.append_nil] at this
  rw [spanLen, this]

theorem drop_spanLen (p : Nat → Bool) (l : PStr) : l.drop (spanLen p l) = l.dropWhile p := by
  unfold spanLen
  conv => lhs; arg 2; rw [← List.takeWhile_append_dropWhile (p := p) (l := l)]
  rw [List.drop_left]

theorem take_spanLen (p : Nat → Bool) (l : PStr) : l.take (spanLen p l) = l.takeWhile p := by
  unfold spanLen
  conv => lhs; arg 2; rw [← List.takeWhile_append_dropWhile (p := p) (l := l)]
  rw [List.take_left]

theorem mem_takeWhile_sat (p : Nat → Bool) (l : PStr) : ∀ x ∈ l.takeWhile p, p x = true :=
  List.all_eq_true.mp List.all_takeWhile

theorem take_le_spanLen_sat (p : Nat → Bool) (l : PStr) (n : Nat) (hn : n ≤ spanLen p l) :
    ∀ x ∈ l.take n, p x = true := by
  intro x hx
  have h1 : l.take n = (l.take (spanLen p l)).take n := by
    rw [List.take_take]; congr 1; omega
  rw [h1, take_spanLen] at hx
  exact mem_takeWhile_sat p l x (List.mem_of_mem_take hx)

/-- the scanners' skip counter is `List.drop` -/
theorem skip_drop {f : Nat → PStr → PStr} (hnil : ∀ k, f k [] = []) (hcons : ∀ k c cs, f (k + 1) (c :: cs) = f k cs) :
    ∀ k l, f k l = f 0 (l.drop k)
  | 0, _ => rfl
  | _ + 1, [] => by rw [hnil, List.drop_nil, hnil]
  | k + 1, c :: cs => by rw [hcons, List.drop_succ_cons, skip_drop hnil hcons k cs]

theorem reSub_skip (ps : List Particle) (rep : PStr → PStr) : ∀ k l, reSub ps rep k l = reSub ps rep 0 (l.drop k) :=
  skip_drop (fun k => by cases k <;> rfl) fun _ _ _ => rfl

theorem matchesAt_split {p : Particle} {l : PStr} (h : p.matchesAt l = true) :
    p.key ≠ [] ∧ l = p.key ++ l.drop p.key.length := by
  unfold Particle.matchesAt at h
  simp only [Bool.and_eq_true, Bool.not_eq_true', List.isEmpty_eq_false_iff] at h
  obtain ⟨⟨h1, h2⟩, _⟩ := h
  refine ⟨h1, ?_⟩
  have := List.isPrefixOf_iff_prefix.mp h2
  obtain ⟨t, ht⟩ := this
  subst ht
  simp

theorem matchesAt_prefix {p : Particle} {l : PStr} (h : p.matchesAt l = true) : p.key <+: l :=
  ⟨_, (matchesAt_split h).2.symm⟩

theorem firstMatch_some {ps : List Particle} {l : PStr} {p : Particle} (h : firstMatch ps l = some p) :
    p ∈ ps ∧ p.matchesAt l = true := by
  unfold firstMatch at h
  exact ⟨List.mem_of_find?_eq_some h, by simpa using List.find?_some h⟩

theorem firstMatch_none {ps : List Particle} {l : PStr} (h : firstMatch ps l = none) :
    ∀ p ∈ ps, p.matchesAt l = false := by
  unfold firstMatch at h
  intro p hp
  have := List.find?_eq_none.mp h p hp
  simpa using this

theorem reSub_hit (ps : List Particle) (rep : PStr → PStr) (p : Particle) (rest : PStr)
    (hk : p.key ≠ []) (h : firstMatch ps (p.key ++ rest) = some p) :
    reSub ps rep 0 (p.key ++ rest) = rep p.key ++ reSub ps rep 0 rest := by
  cases hkey : p.key with
  | nil => exact absurd hkey hk
  | cons c cs =>
    rw [hkey] at h
    simp only [List.cons_append] at h
    simp only [List.cons_append, reSub, h]
    rw [reSub_skip]
    simp [hkey]

theorem reSub_miss (ps : List Particle) (rep : PStr → PStr) (c : Nat) (cs : PStr)
    (h : firstMatch ps (c :: cs) = none) :
    reSub ps rep 0 (c :: cs) = c :: reSub ps rep 0 cs := by
  simp only [reSub, h]

/-- a hit resumes after `p.key`, a miss copies one code point -/
theorem reSub_induction (ps : List Particle) {motive : PStr → Prop}
    (nil : motive [])
    (hit : ∀ p rest, p ∈ ps → p.key ≠ [] → firstMatch ps (p.key ++ rest) = some p → motive rest →
      motive (p.key ++ rest))
    (miss : ∀ c cs, firstMatch ps (c :: cs) = none → motive cs → motive (c :: cs)) :
    ∀ l, motive l
  | [] => nil
  | c :: cs =>
    match hm : firstMatch ps (c :: cs) with
    | none => miss c cs hm (reSub_induction ps nil hit miss cs)
    | some p => by
      obtain ⟨hp, hmat⟩ := firstMatch_some hm
      obtain ⟨hk, hsplit⟩ := matchesAt_split hmat
      have hlen : ((c :: cs).drop p.key.length).length < (c :: cs).length := by
        have : p.key.length ≠ 0 := by simpa using hk
        simp only [List.length_drop, List.length_cons]; omega
      have := hit p _ hp hk (hsplit ▸ hm) (reSub_induction ps nil hit miss ((c :: cs).drop p.key.length))
      rwa [← hsplit] at this
termination_by l => l.length
decreasing_by
  · simp
  · exact hlen


/-- `[A-Za-z][A-Za-z0-9]*` -/
def isName (n : PStr) : Bool :=
  match n with
  | [] => false
  | a :: t => isAlpha a && t.all isAlnum

theorem isName_alnum {n : PStr} (h : isName n = true) : ∀ x ∈ n, isAlnum x = true := by
  cases n with
  | nil => simp [isName] at h
  | cons a t =>
    simp only [isName, Bool.and_eq_true, List.all_eq_true] at h
    intro x hx
    simp only [List.mem_cons] at hx
    rcases hx with rfl | hx
    · simp [isAlnum, h.1]
    · exact h.2 x hx

theorem isName_head_alpha {q : PStr} (h : isName q = true) : ∃ a t, q = a :: t ∧ isAlpha a = true := by
  cases q with
  | nil => simp [isName] at h
  | cons a t => simp only [isName, Bool.and_eq_true] at h; exact ⟨a, t, rfl, h.1⟩

theorem isAlnum_bounds {x : Nat} (h : isAlnum x = true) : 48 ≤ x ∧ x ≤ 122 ∧ x ≠ 59 ∧ x ≠ 60 ∧ x ≠ 62 := by
  simp only [isAlnum, isAlpha, isDigit, Bool.or_eq_true, Bool.and_eq_true, decide_eq_true_eq] at h
  omega

theorem isAlnum_nameChar {x : Nat} (h : isAlnum x = true) : isNameChar x = true := by
  simp [isNameChar, h]

theorem isAlnum_refChar {x : Nat} (h : isAlnum x = true) : isRefChar x = true := by
  have := isAlnum_bounds h
  simp only [isRefChar, Bool.not_eq_true', Bool.or_eq_false_iff, decide_eq_false_iff_not]
  omega

theorem isAlpha_ne_35 {a : Nat} (ha : isAlpha a = true) : a ≠ 35 := by
  simp only [isAlpha, Bool.or_eq_true, Bool.and_eq_true, decide_eq_true_eq] at ha; omega

theorem readText_skip (T : Tbl) (late : Bool) : ∀ k l, readText T late k l = readText T late 0 (l.drop k) :=
  skip_drop (fun k => by cases k <;> rfl) fun _ _ _ => rfl

theorem readText_run (T : Tbl) (late : Bool) (a : Nat) (t Y : PStr) (ha : isAlpha a = true)
    (hall : ∀ x ∈ a :: t, isNameChar x = true) (hY : ∀ y Y', Y = y :: Y' → isNameChar y = false) :
    readText T late 0 (38 :: ((a :: t) ++ Y)) =
      entityRef T (a :: t) ++ readText T late 0 (match (generalizing := false) Y with | 59 :: Y' => Y' | _ => Y) := by
  have hspan : spanLen isNameChar ((a :: t) ++ Y) = (a :: t).length := by
    cases Y with
    | nil => rw [List.append_nil]; exact spanLen_of_all _ _ hall
    | cons y Y' => exact spanLen_append_stop _ _ y Y' hall (hY y Y' rfl)
  -- the name stays folded except where the scanner looks at its first code point
  generalize hname : a :: t = name at hspan ⊢
  have hcs : name ++ Y = a :: (t ++ Y) := by rw [← hname]; rfl
  rw [hcs]
  simp only [readText, ne_eq, not_true_eq_false, ↓reduceIte, isAlpha_ne_35 ha, ha]
  rw [← hcs, hspan, List.drop_left, List.take_left, readText_skip, ← List.drop_drop, List.drop_left]
  -- `Y` begins with `;` or not, in scanner and statement; mixed cases contradict
  split <;> split <;> simp_all

theorem readText_ref (T : Tbl) (late : Bool) (name rest : PStr) (h : isName name = true) :
    readText T late 0 (ref name ++ rest) = entityRef T name ++ readText T late 0 rest := by
  obtain ⟨a, t, rfl, ha⟩ := isName_head_alpha h
  have := readText_run T late a t (59 :: rest) ha (fun x hx => isAlnum_nameChar (isName_alnum h x hx))
    (fun y Y' e => by cases e; decide)
  simpa [ref] using this


theorem readText_unknown_ref (T : Tbl) (late : Bool) (a : Nat) (t Y : PStr) (ha : isAlpha a = true)
    (hall : ∀ x ∈ a :: t, isNameChar x = true)
    (hY : ∀ y Y', Y = y :: Y' → isNameChar y = false ∧ y ≠ 59) (hunk : T.toChar.get (a :: t) = none) :
    readText T late 0 (38 :: ((a :: t) ++ Y)) = 38 :: ((a :: t) ++ readText T late 0 Y) := by
  have := readText_run T late a t Y ha hall (fun y Y' e => (hY y Y' e).1)
  simp only [entityRef, hunk] at this
  rw [this]
  split
  · exact absurd rfl (hY 59 _ rfl).2
  · rfl

theorem readText_bare_amp (T : Tbl) (late : Bool) (y : Nat) (Y : PStr) (h1 : isAlpha y = false) (h2 : y ≠ 35) :
    readText T late 0 (38 :: y :: Y) = 38 :: readText T late 0 (y :: Y) := by
  simp [readText, h1, h2]


/-- the regex key `p.key` has a name, the name is `[A-Za-z][A-Za-z0-9]*` of at most 31 code points, bs4's reader table
    maps the name back to exactly the key, and so does `html.entities.html5` for `name;`. -/
def entryOK (T : Tbl) (p : Particle) : Bool :=
  match T.toName.get p.key with
  | none => false
  | some n => isName n && decide (n.length ≤ 31) && T.toChar.get n == some p.key && T.html5.get (n ++ [59]) == some p.key

/-- some alternative always matches at a `c`: either `c` alone without look-ahead, or `c(?![N])` together with a
    two-code-point alternative `c d` for every `d ∈ N`. -/
def coversChar (ps : List Particle) (c : Nat) : Bool :=
  ps.any fun p => p.key == [c] &&
    p.notNext.all fun d => ps.any fun q => q.key == [c, d] && q.notNext == []

theorem matchesAt_single (c : Nat) (N : List Nat) (cs : PStr) :
    (⟨[c], N⟩ : Particle).matchesAt (c :: cs) = (match cs with | [] => true | d :: _ => !N.contains d) := by
  cases cs <;> simp [Particle.matchesAt, List.isPrefixOf]

theorem matchesAt_pair (c d : Nat) (cs : PStr) :
    (⟨[c, d], []⟩ : Particle).matchesAt (c :: d :: cs) = true := by
  cases cs <;> simp [Particle.matchesAt, List.isPrefixOf]

theorem coversChar_spec {ps : List Particle} {c : Nat} (h : coversChar ps c = true) (cs : PStr) :
    firstMatch ps (c :: cs) ≠ none := by
  simp only [coversChar, List.any_eq_true, Bool.and_eq_true, beq_iff_eq, List.all_eq_true] at h
  obtain ⟨⟨_, N⟩, hp, rfl, hN⟩ := h
  intro hnone
  have hno := firstMatch_none hnone
  have hpm := hno _ hp
  rw [matchesAt_single] at hpm
  cases cs with
  | nil => exact Bool.noConfusion hpm
  | cons d ds =>
    simp only [Bool.not_eq_false', List.contains_iff_mem] at hpm
    obtain ⟨⟨_, _⟩, hq, rfl, rfl⟩ := hN d hpm
    have := hno _ hq
    rw [matchesAt_pair] at this
    exact Bool.noConfusion this


/-- the callback `rep` answers every alternative of `ps` with `&name;` for a well-formed name that both readers map
    back to exactly the matched text. 31: the longest live name; `html.unescape` takes up to 32. -/
def RepOK (T : Tbl) (rep : PStr → PStr) (ps : List Particle) : Prop :=
  ∀ p ∈ ps, ∃ n, rep p.key = ref n ∧ isName n = true ∧ n.length ≤ 31 ∧ T.toChar.get n = some p.key ∧
    T.html5.get (n ++ [59]) = some p.key

theorem repOK_html {T : Tbl} {ps : List Particle} (hE : ∀ p ∈ ps, entryOK T p = true) : RepOK T (htmlRep T) ps := by
  intro p hp
  have h := hE p hp
  unfold entryOK at h
  cases hn : T.toName.get p.key with
  | none => simp [hn] at h
  | some n =>
    simp only [hn, Bool.and_eq_true, decide_eq_true_eq, beq_iff_eq] at h
    obtain ⟨⟨⟨hname, hlen⟩, hchar⟩, hsemi⟩ := h
    exact ⟨n, by simp [htmlRep, hn], hname, hlen, hchar, hsemi⟩

theorem entityRef_of_entry {T : Tbl} {n k : PStr} (h : T.toChar.get n = some k) : entityRef T n = k := by
  simp [entityRef, h]

theorem not_mem_ref {n : PStr} (h : isName n = true) (x : Nat) (hx : x = 60 ∨ x = 62) : x ∉ ref n := by
  intro hm
  have : x = 38 ∨ x ∈ n ∨ x = 59 := by simpa [ref] using hm
  rcases this with h1 | h1 | h1
  · omega
  · have := isAlnum_bounds (isName_alnum h x h1); omega
  · omega

theorem no_raw {T : Tbl} {ps : List Particle} {rep : PStr → PStr} (hR : RepOK T rep ps) {c : Nat}
    (hc : c = 60 ∨ c = 62) (hcov : coversChar ps c = true) : ∀ l, c ∉ reSub ps rep 0 l := by
  refine reSub_induction ps (by simp [reSub]) ?_ ?_
  · intro p rest hp hk hfm ih
    obtain ⟨n, hn, hname, -⟩ := hR p hp
    rw [reSub_hit ps _ p rest hk hfm, hn, List.mem_append, not_or]
    exact ⟨not_mem_ref hname c hc, ih⟩
  · intro d cs hfm ih
    rw [reSub_miss ps _ d cs hfm, List.mem_cons, not_or]
    exact ⟨fun e => coversChar_spec (e ▸ hcov) cs hfm, ih⟩

theorem no_raw_brackets (T : Tbl) (ps : List Particle) (rep : PStr → PStr)
    (hR : RepOK T rep ps) (h60 : coversChar ps 60 = true) (h62 : coversChar ps 62 = true) :
    ∀ l, 60 ∉ reSub ps rep 0 l ∧ 62 ∉ reSub ps rep 0 l :=
  fun l => ⟨no_raw hR (Or.inl rfl) h60 l, no_raw hR (Or.inr rfl) h62 l⟩


theorem amp_starts_ref {T : Tbl} {ps : List Particle} {rep : PStr → PStr} (hR : RepOK T rep ps)
    (h38 : coversChar ps 38 = true) : ∀ l pre post, reSub ps rep 0 l = pre ++ 38 :: post →
      ∃ n rest, post = n ++ 59 :: rest ∧ isName n = true ∧ (T.toChar.get n).isSome = true := by
  refine reSub_induction ps ?_ ?_ ?_
  · intro pre post h; simp [reSub] at h
  · intro p rest hp hk hfm ih pre post h
    obtain ⟨n, hn, hname, -, hback, -⟩ := hR p hp
    rw [reSub_hit ps _ p rest hk hfm, hn] at h
    cases pre with
    | nil =>
      simp only [ref, List.nil_append, List.cons_append, List.cons.injEq, true_and] at h
      exact ⟨n, _, by rw [← h, List.append_assoc]; rfl, hname, by simp [hback]⟩
    | cons x pre' =>
      have h' : n ++ 59 :: reSub ps rep 0 rest = pre' ++ 38 :: post := by
        simp only [ref, List.cons_append, List.cons.injEq, List.append_assoc, List.nil_append] at h
        exact h.2
      rcases List.append_eq_append_iff.mp h' with ⟨a, ha1, ha2⟩ | ⟨c', hc1, hc2⟩
      · -- the `&` lies behind `n;`
        cases a with
        | nil => simp at ha2
        | cons y a' =>
          simp only [List.cons_append, List.cons.injEq] at ha2
          exact ih a' post ha2.2
      · -- the `&` lies inside the name
        cases c' with
        | nil => simp at hc2
        | cons y c'' =>
          simp only [List.cons_append, List.cons.injEq] at hc2
          have hmem : (38 : Nat) ∈ n := by rw [hc1, ← hc2.1]; simp
          have := isAlnum_bounds (isName_alnum hname 38 hmem)
          omega
  · intro c cs hfm ih pre post h
    rw [reSub_miss ps _ c cs hfm] at h
    cases pre with
    | nil => exact absurd hfm (coversChar_spec ((List.cons.inj h).1 ▸ h38) cs)
    | cons x pre' => exact ih pre' post (List.cons.inj h).2

theorem unescape_skip (T : Tbl) : ∀ k l, unescape T k l = unescape T 0 (l.drop k) :=
  skip_drop (fun k => by cases k <;> rfl) fun _ _ _ => rfl

theorem unescape_plain (T : Tbl) (c : Nat) (cs : PStr) (h : c ≠ 38) :
    unescape T 0 (c :: cs) = c :: unescape T 0 cs := by
  simp [unescape, h]

theorem unescape_ref (T : Tbl) (name rest v : PStr) (h : isName name = true) (hlen : name.length ≤ 32)
    (hv : T.html5.get (name ++ [59]) = some v) :
    unescape T 0 (ref name ++ rest) = v ++ unescape T 0 rest := by
  obtain ⟨a, t, hname, ha⟩ := isName_head_alpha h
  have hcs : name ++ 59 :: rest = a :: (t ++ 59 :: rest) := by rw [hname]; rfl
  have hspan : spanLen isRefChar (name ++ 59 :: rest) = name.length :=
    spanLen_append_stop isRefChar name 59 rest (fun x hx => isAlnum_refChar (isName_alnum h x hx)) (by decide)
  have hne : name.length ≠ 0 := by rw [hname]; simp
  rw [show ref name ++ rest = 38 :: (name ++ 59 :: rest) by simp [ref], hcs]
  simp only [unescape, ne_eq, not_true_eq_false, ↓reduceIte, isAlpha_ne_35 ha]
  rw [← hcs, hspan, Nat.min_eq_left hlen, if_neg hne, List.drop_left]
  simp only
  rw [List.take_length_add_append, unescape_skip, List.drop_length_add_append]
  simp [namedRef, hv]

theorem replaceDq_ref (n rest : PStr) (h : isName n = true) :
    replaceDq (ref n ++ rest) = ref n ++ replaceDq rest := by
  have hal := isName_alnum h
  have key : ∀ (t : PStr), (∀ x ∈ t, isAlnum x = true) → ∀ r, replaceDq (t ++ 59 :: r) = t ++ 59 :: replaceDq r := by
    intro t
    induction t with
    | nil => intro _ r; simp [replaceDq]
    | cons x xs ih =>
      intro hx r
      have hx34 : x ≠ 34 := by have := isAlnum_bounds (hx x (by simp)); omega
      simp only [List.cons_append, replaceDq, hx34, ↓reduceIte]
      rw [ih (fun y hy => hx y (by simp [hy]))]
  have : ref n ++ rest = 38 :: (n ++ 59 :: rest) := by simp [ref]
  rw [this]
  simp only [replaceDq]
  rw [key n hal rest]
  simp [ref]

theorem not_mem_replaceDq (v : PStr) : 34 ∉ replaceDq v := by
  induction v with
  | nil => simp [replaceDq]
  | cons c cs ih =>
    simp only [replaceDq]
    split
    · simp [quotEnt, ih]
    · simp only [List.mem_cons, not_or]; exact ⟨by omega, ih⟩

/-- the quote character `quoted_attribute_value` chooses -/
def quoteChar (v : PStr) : Nat := if v.contains 34 && !v.contains 39 then 39 else 34

/-- what stands between the quotes -/
def quoteBody (v : PStr) : PStr := if v.contains 34 && v.contains 39 then replaceDq v else v

theorem quoteAttr_eq (v : PStr) : quoteAttr v = quoteChar v :: quoteBody v ++ [quoteChar v] := by
  unfold quoteAttr quoteChar quoteBody
  cases h1 : v.contains 34 <;> cases h2 : v.contains 39 <;> simp

theorem quoteChar_cases (v : PStr) : quoteChar v = 34 ∨ quoteChar v = 39 := by
  unfold quoteChar; split <;> simp

theorem quoteChar_not_mem_body (v : PStr) : quoteChar v ∉ quoteBody v := by
  unfold quoteChar quoteBody
  cases h1 : v.contains 34 <;> cases h2 : v.contains 39 <;> simp_all [not_mem_replaceDq]

theorem readAttr_quoted (T : Tbl) (c : Nat) (body : PStr) (hc : c = 34 ∨ c = 39) (hb : c ∉ body) :
    readAttr T (c :: body ++ [c]) = some (unescape T 0 body) := by
  have hspan : spanLen (· != c) (body ++ c :: []) = body.length :=
    spanLen_append_stop (· != c) body c [] (fun x hx => by
      have : x ≠ c := fun h => hb (h ▸ hx)
      simp [this]) (by simp)
  have hcb : (c = 34 || c = 39) = true := by rcases hc with h | h <;> simp [h]
  simp only [readAttr, List.cons_append, hcb, ↓reduceIte, hspan, List.drop_left, List.take_left]

theorem readAttr_quoteAttr (T : Tbl) (v : PStr) :
    readAttr T (quoteAttr v) = some (unescape T 0 (quoteBody v)) := by
  rw [quoteAttr_eq]
  exact readAttr_quoted T _ _ (quoteChar_cases v) (quoteChar_not_mem_body v)

theorem readAttr_quote_of {T : Tbl} {w s : PStr} (h1 : unescape T 0 w = s) (h2 : unescape T 0 (replaceDq w) = s) :
    readAttr T (quoteAttr w) = some s := by
  rw [readAttr_quoteAttr]
  unfold quoteBody
  split <;> simp [h1, h2]


/-- a scanner that copies every code point but `&` copies an `&`-free prefix -/
theorem copy_noamp {F : PStr → PStr} (hcons : ∀ c cs, c ≠ 38 → F (c :: cs) = c :: F cs) (a r : PStr) (h : 38 ∉ a) :
    F (a ++ r) = a ++ F r := by
  induction a with
  | nil => rfl
  | cons x xs ih =>
    simp only [List.mem_cons, not_or] at h
    simp only [List.cons_append]
    rw [hcons x _ (fun e => h.1 e.symm), ih h.2]

/-- What the readers (`readText`, `readTextEnd`, `html.unescape`, the latter also behind `"` ↦ `&quot;`) have in common:
    code points other than `&` are copied, `&name;` for a name of the tables is decoded. `ref` asks for what any of
    them needs (`toChar` for the text readers; `html5` and the length for `html.unescape`). -/
structure Reads (T : Tbl) (R : PStr → PStr) : Prop where
  nil : R [] = []
  plain : ∀ c cs, c ≠ 38 → R (c :: cs) = c :: R cs
  ref : ∀ n k rest, isName n = true → n.length ≤ 31 → T.toChar.get n = some k → T.html5.get (n ++ [59]) = some k →
    R (ref n ++ rest) = k ++ R rest

theorem Reads.noamp {T : Tbl} {R : PStr → PStr} (hRd : Reads T R) (a : PStr) (h : 38 ∉ a) : R a = a := by
  have := copy_noamp hRd.plain a [] h
  rwa [List.append_nil, hRd.nil, List.append_nil] at this

theorem reads_text (T : Tbl) (late : Bool) : Reads T (readText T late 0) where
  nil := by simp [readText]
  plain := fun c cs h => by simp [readText, h]
  ref := fun n k rest hn _ hk _ => by rw [readText_ref T late n rest hn, entityRef_of_entry hk]

theorem reads_unescape (T : Tbl) : Reads T (unescape T 0) where
  nil := by simp [unescape]
  plain := unescape_plain T
  ref := fun n k rest hn hlen _ hk => unescape_ref T n rest k hn (by omega) hk

theorem reads_unescape_dq {T : Tbl} (hq : T.html5.get [113, 117, 111, 116, 59] = some [34]) :
    Reads T (fun s => unescape T 0 (replaceDq s)) where
  nil := by simp [unescape, replaceDq]
  plain := fun c cs hc => by
    simp only [replaceDq]
    split
    · rename_i h34
      rw [show quotEnt = ref [113, 117, 111, 116] from rfl, unescape_ref T _ _ [34] (by decide) (by decide) hq, h34]; rfl
    · exact unescape_plain T c _ hc
  ref := fun n k rest hn hlen _ hk => by
    simp only [replaceDq_ref n rest hn]
    exact unescape_ref T n _ k hn (by omega) hk

theorem good_of_append {good : PStr → Prop} (hsuf : ∀ c cs, good (c :: cs) → good cs) :
    ∀ a r, good (a ++ r) → good r
  | [], _, h => h
  | x :: xs, r, h => good_of_append hsuf xs r (hsuf x _ h)

/-- `good`: suffix-closed inputs in which every `&` is caught by an alternative (`h38`) -/
theorem roundtrip_tbl {T : Tbl} {R : PStr → PStr} {ps : List Particle} {rep : PStr → PStr} (hRd : Reads T R)
    (hR : RepOK T rep ps) (good : PStr → Prop) (hsuf : ∀ c cs, good (c :: cs) → good cs)
    (h38 : ∀ cs, good (38 :: cs) → firstMatch ps (38 :: cs) ≠ none) : ∀ l, good l → R (reSub ps rep 0 l) = l := by
  refine reSub_induction ps ?_ ?_ ?_
  · exact fun _ => hRd.nil
  · intro p rest hp hk hfm ih hg
    obtain ⟨n, hn, hname, hlen, hback, hback5⟩ := hR p hp
    rw [reSub_hit ps _ p rest hk hfm, hn, hRd.ref n _ _ hname hlen hback hback5,
      ih (good_of_append hsuf _ _ hg)]
  · intro c cs hfm ih hg
    have hc : c ≠ 38 := fun h => h38 cs (h ▸ hg) (h ▸ hfm)
    rw [reSub_miss ps _ c cs hfm, hRd.plain c _ hc, ih (hsuf c cs hg)]

theorem roundtrip_covered {T : Tbl} {R : PStr → PStr} {ps : List Particle} {rep : PStr → PStr} (hRd : Reads T R)
    (hR : RepOK T rep ps) (h38 : coversChar ps 38 = true) (l : PStr) : R (reSub ps rep 0 l) = l :=
  roundtrip_tbl hRd hR (fun _ => True) (fun _ _ _ => trivial) (fun cs _ => coversChar_spec h38 cs) l trivial

theorem roundtrip_noamp {T : Tbl} {R : PStr → PStr} {ps : List Particle} {rep : PStr → PStr} (hRd : Reads T R)
    (hR : RepOK T rep ps) (l : PStr) (h : 38 ∉ l) : R (reSub ps rep 0 l) = l :=
  roundtrip_tbl hRd hR (38 ∉ ·) (fun c _ h hm => h (List.mem_cons_of_mem c hm)) (fun _ h => absurd (by simp) h) l h

theorem html_text_roundtrip_noamp (T : Tbl) (late : Bool) (ps : List Particle) (rep : PStr → PStr)
    (hR : RepOK T rep ps) : ∀ l, 38 ∉ l → readText T late 0 (reSub ps rep 0 l) = l :=
  roundtrip_noamp (reads_text T late) hR

theorem html_attr_roundtrip_noamp (T : Tbl) (ps : List Particle) (rep : PStr → PStr)
    (hR : RepOK T rep ps) (hq : T.html5.get [113, 117, 111, 116, 59] = some [34]) :
    ∀ l, 38 ∉ l → unescape T 0 (reSub ps rep 0 l) = l ∧ unescape T 0 (replaceDq (reSub ps rep 0 l)) = l :=
  fun l h => ⟨roundtrip_noamp (reads_unescape T) hR l h, roundtrip_noamp (reads_unescape_dq hq) hR l h⟩

theorem attr_roundtrip_covered {T : Tbl} {ps : List Particle} {rep : PStr → PStr} (hR : RepOK T rep ps)
    (h38 : coversChar ps 38 = true) (hq : T.html5.get [113, 117, 111, 116, 59] = some [34]) (l : PStr) :
    readAttr T (quoteAttr (reSub ps rep 0 l)) = some l :=
  readAttr_quote_of (roundtrip_covered (reads_unescape T) hR h38 l) (roundtrip_covered (reads_unescape_dq hq) hR h38 l)


/-- at most one alternative matches at any position -/
def Excl (ps : List Particle) : Prop :=
  ∀ p ∈ ps, ∀ q ∈ ps, ∀ l, p.matchesAt l = true → q.matchesAt l = true → p = q

/-- first code point of the key -/
def fstCp (p : Particle) : Nat := p.key.headD 0

/-- first code points are non-decreasing along the list (the translator emits the canonical, sorted order) -/
def sortedFst : Nat → List Particle → Bool
  | _, [] => true
  | lo, p :: rest => decide (lo ≤ fstCp p) && sortedFst (fstCp p) rest

/-- `q.key` extends `p.key` and the next code point is in `p`'s look-ahead class: `p` cannot match where `q` does -/
def blocks (p q : Particle) : Bool :=
  p.key.isPrefixOf q.key &&
    (match q.key.drop p.key.length with
     | d :: _ => p.notNext.contains d
     | [] => false)

/-- never both match: one blocks the other, or neither key is a prefix of the other -/
def okPair (p q : Particle) : Bool :=
  blocks p q || blocks q p || (!p.key.isPrefixOf q.key && !q.key.isPrefixOf p.key)

/-- every alternative is compatible with the later ones that start with the same code point (under `sortedFst`: the
    run behind it) -/
def groupOk : List Particle → Bool
  | [] => true
  | p :: rest => (rest.takeWhile fun q => fstCp q == fstCp p).all (okPair p) && groupOk rest

theorem blocks_sound {p q : Particle} {l : PStr} (hb : blocks p q = true) (hq : q.matchesAt l = true) :
    p.matchesAt l = false := by
  unfold blocks at hb
  simp only [Bool.and_eq_true] at hb
  obtain ⟨hpre, hd⟩ := hb
  obtain ⟨t, ht⟩ := List.isPrefixOf_iff_prefix.mp hpre
  obtain ⟨r, hr⟩ := matchesAt_prefix hq
  rw [← ht, List.drop_left] at hd
  cases t with
  | nil => simp at hd
  | cons d t' =>
    simp only at hd
    have hl : l = p.key ++ d :: (t' ++ r) := by rw [← hr, ← ht]; simp
    unfold Particle.matchesAt
    rw [hl, List.drop_left]
    have hd' : d ∈ p.notNext := by simpa using hd
    simp [hd']

theorem okPair_sound {p q : Particle} {l : PStr} (h : okPair p q = true)
    (hp : p.matchesAt l = true) (hq : q.matchesAt l = true) : False := by
  unfold okPair at h
  simp only [Bool.or_eq_true, Bool.and_eq_true, Bool.not_eq_true'] at h
  rcases h with (h | h) | h
  · have := blocks_sound h hq; simp [hp] at this
  · have := blocks_sound h hp; simp [hq] at this
  · rcases List.prefix_or_prefix_of_prefix (matchesAt_prefix hp) (matchesAt_prefix hq) with h' | h'
    · simp [List.isPrefixOf_iff_prefix.mpr h'] at h
    · simp [List.isPrefixOf_iff_prefix.mpr h'] at h

theorem fstCp_of_matches {p : Particle} {l : PStr} (h : p.matchesAt l = true) : fstCp p = l.headD 0 := by
  obtain ⟨hk, hl⟩ := matchesAt_split h
  unfold fstCp
  cases hkey : p.key with
  | nil => exact absurd hkey hk
  | cons c cs => rw [hl, hkey]; simp

theorem firstMatch_none_of_head {ps : List Particle} {c : Nat} (h : ∀ p ∈ ps, p.key.headD 0 ≠ c) (cs : PStr) :
    firstMatch ps (c :: cs) = none := by
  cases hm : firstMatch ps (c :: cs) with
  | none => rfl
  | some p =>
    obtain ⟨hp, hmat⟩ := firstMatch_some hm
    have := fstCp_of_matches hmat
    simp only [fstCp, List.headD_cons] at this
    exact absurd this (h p hp)

theorem reSub_copy {ps : List Particle} (rep : PStr → PStr) (a Z : PStr)
    (h : ∀ x ∈ a, ∀ p ∈ ps, p.key.headD 0 ≠ x) : reSub ps rep 0 (a ++ Z) = a ++ reSub ps rep 0 Z := by
  induction a with
  | nil => rfl
  | cons x xs ih =>
    simp only [List.cons_append]
    rw [reSub_miss _ _ _ _ (firstMatch_none_of_head (h x (by simp)) _), ih (fun y hy => h y (by simp [hy]))]

theorem sortedFst_ge {lo : Nat} {l : List Particle} (h : sortedFst lo l = true) : ∀ q ∈ l, lo ≤ fstCp q := by
  induction l generalizing lo with
  | nil => simp
  | cons p rest ih =>
    simp only [sortedFst, Bool.and_eq_true, decide_eq_true_eq] at h
    intro q hq
    simp only [List.mem_cons] at hq
    rcases hq with rfl | hq
    · exact h.1
    · exact Nat.le_trans h.1 (ih h.2 q hq)

theorem mem_takeWhile_of_sorted {a : Nat} {rest : List Particle} (hs : sortedFst a rest = true)
    {q : Particle} (hq : q ∈ rest) (hf : fstCp q = a) :
    q ∈ rest.takeWhile fun x => fstCp x == a := by
  induction rest with
  | nil => simp at hq
  | cons r rs ih =>
    simp only [sortedFst, Bool.and_eq_true, decide_eq_true_eq] at hs
    simp only [List.mem_cons] at hq
    rcases hq with rfl | hq
    · simp [List.takeWhile, hf]
    · have h1 := sortedFst_ge hs.2 q hq
      have hr : fstCp r = a := by omega
      simp only [List.takeWhile, hr, beq_self_eq_true, List.mem_cons]
      right
      exact ih (hr ▸ hs.2) hq

theorem excl_of_checks {lo : Nat} {ps : List Particle} (hs : sortedFst lo ps = true) (hg : groupOk ps = true) :
    Excl ps := by
  induction ps generalizing lo with
  | nil => intro p hp; simp at hp
  | cons p0 rest ih =>
    simp only [sortedFst, Bool.and_eq_true, decide_eq_true_eq] at hs
    simp only [groupOk, Bool.and_eq_true, List.all_eq_true] at hg
    have hrest : Excl rest := ih hs.2 hg.2
    have cross : ∀ q ∈ rest, ∀ l, p0.matchesAt l = true → q.matchesAt l = true → False := by
      intro q hq l h0 h1
      have hf : fstCp q = fstCp p0 := by rw [fstCp_of_matches h0, fstCp_of_matches h1]
      exact okPair_sound (hg.1 q (mem_takeWhile_of_sorted hs.2 hq hf)) h0 h1
    intro p hp q hq l hpm hqm
    simp only [List.mem_cons] at hp hq
    rcases hp with rfl | hp <;> rcases hq with rfl | hq
    · rfl
    · exact (cross q hq l hpm hqm).elim
    · exact (cross p hp l hqm hpm).elim
    · exact hrest p hp q hq l hpm hqm

theorem firstMatch_of_same_members {ps ps' : List Particle} (hx : Excl ps) (hm : ∀ p, p ∈ ps' ↔ p ∈ ps) (l : PStr) :
    firstMatch ps' l = firstMatch ps l :=
  find?_of_same_members _ hm fun p hp q hq => hx p hp q hq l

/-- `reSub` with the choice of the alternative at a position left open -/
def reSubBy (fm : PStr → Option Particle) (rep : PStr → PStr) : Nat → PStr → PStr
  | _, [] => []
  | skip + 1, _ :: cs => reSubBy fm rep skip cs
  | 0, c :: cs =>
    match fm (c :: cs) with
    | some p => rep p.key ++ reSubBy fm rep (p.key.length - 1) cs
    | none => c :: reSubBy fm rep 0 cs

theorem reSub_eq_by {ps : List Particle} {fm : PStr → Option Particle} (h : ∀ l, firstMatch ps l = fm l)
    (rep : PStr → PStr) (k : Nat) (l : PStr) : reSub ps rep k l = reSubBy fm rep k l := by
  induction l generalizing k with
  | nil => cases k <;> rfl
  | cons c cs ih =>
    cases k with
    | succ k => exact ih k
    | zero =>
      simp only [reSub, reSubBy, h]
      cases fm (c :: cs) <;> simp only [ih]

theorem reSub_congr {ps ps' : List Particle} (h : ∀ l, firstMatch ps' l = firstMatch ps l) (rep : PStr → PStr)
    (k : Nat) (l : PStr) : reSub ps' rep k l = reSub ps rep k l := by
  rw [reSub_eq_by h, reSub_eq_by (fun _ => rfl)]

/-! `firstMatch` tries every alternative at every position. For evaluation on the live table (1,481 alternatives, sorted by
    first code point) the scan stops at the first alternative that starts above the code point at hand. -/


def firstMatchSorted : List Particle → PStr → Option Particle
  | [], _ => none
  | p :: ps, l =>
    if p.matchesAt l then some p
    else if Nat.blt (l.headD 0) (fstCp p) then none
    else firstMatchSorted ps l

theorem firstMatchSorted_eq {lo : Nat} {ps : List Particle} (hs : sortedFst lo ps = true) (l : PStr) :
    firstMatch ps l = firstMatchSorted ps l := by
  induction ps generalizing lo with
  | nil => rfl
  | cons p rest ih =>
    simp only [sortedFst, Bool.and_eq_true, decide_eq_true_eq] at hs
    simp only [firstMatch, List.find?, firstMatchSorted]
    cases p.matchesAt l with
    | true => rfl
    | false =>
      simp only [Bool.false_eq_true, ↓reduceIte, Nat.blt_eq]
      split
      · rw [List.find?_eq_none]
        intro q hq hqm
        have h1 := sortedFst_ge hs.2 q hq
        have h2 := fstCp_of_matches (by simpa using hqm)
        omega
      · exact ih hs.2

theorem reSub_sorted {lo : Nat} {ps : List Particle} (hs : sortedFst lo ps = true) (rep : PStr → PStr) (k : Nat)
    (l : PStr) : reSub ps rep k l = reSubBy (firstMatchSorted ps) rep k l :=
  reSub_eq_by (firstMatchSorted_eq hs) rep k l


/-- checks on one alternation: entries well-formed, canonical order, alternatives mutually exclusive, `<` and `>`
    always caught -/
def partsOK (T : Tbl) (ps : List Particle) : Bool :=
  ps.all (entryOK T) && sortedFst 0 ps && groupOk ps && coversChar ps 60 && coversChar ps 62

/-- Well-formedness of the entity tables: everything the round-trip theorems need, decidable. -/
def TblOK (T : Tbl) : Bool :=
  partsOK T T.particlesAmp && coversChar T.particlesAmp 38 && partsOK T T.particles &&
    T.html5.get [113, 117, 111, 116, 59] == some [34]

/-- `CHARACTER_TO_XML_ENTITY` names `&`, `<`, `>` and both readers map the names back. -/
def XmlOK (X : List (Nat × PStr)) (T : Tbl) : Bool :=
  [38, 60, 62].all fun c =>
    match X.lookup c with
    | none => false
    | some n => isName n && decide (n.length ≤ 31) && T.toChar.get n == some [c] && T.html5.get (n ++ [59]) == some [c]


theorem partsOK_spec {T : Tbl} {ps : List Particle} (h : partsOK T ps = true) :
    RepOK T (htmlRep T) ps ∧ Excl ps ∧ coversChar ps 60 = true ∧ coversChar ps 62 = true := by
  simp only [partsOK, Bool.and_eq_true, List.all_eq_true] at h
  obtain ⟨⟨⟨⟨hentry, hsorted⟩, hgroup⟩, h60⟩, h62⟩ := h
  exact ⟨repOK_html hentry, excl_of_checks hsorted hgroup, h60, h62⟩

theorem partsOK_sorted {T : Tbl} {ps : List Particle} (h : partsOK T ps = true) : sortedFst 0 ps = true := by
  simp only [partsOK, Bool.and_eq_true] at h
  obtain ⟨⟨⟨⟨-, hsorted⟩, -⟩, -⟩, -⟩ := h
  exact hsorted

theorem tblOK_parts {T : Tbl} (h : TblOK T = true) :
    partsOK T T.particlesAmp = true ∧ coversChar T.particlesAmp 38 = true ∧ partsOK T T.particles = true ∧
      T.html5.get [113, 117, 111, 116, 59] = some [34] := by
  simp only [TblOK, Bool.and_eq_true, beq_iff_eq] at h
  obtain ⟨⟨⟨hamp, h38⟩, hplain⟩, hquot⟩ := h
  exact ⟨hamp, h38, hplain, hquot⟩

theorem tblOK_amp {T : Tbl} (h : TblOK T = true) :
    RepOK T (htmlRep T) T.particlesAmp ∧ Excl T.particlesAmp ∧ coversChar T.particlesAmp 60 = true ∧
      coversChar T.particlesAmp 62 = true ∧ coversChar T.particlesAmp 38 = true := by
  obtain ⟨hamp, h38, -, -⟩ := tblOK_parts h
  obtain ⟨hrep, hexcl, h60, h62⟩ := partsOK_spec hamp
  exact ⟨hrep, hexcl, h60, h62, h38⟩

theorem tblOK_plain {T : Tbl} (h : TblOK T = true) :
    RepOK T (htmlRep T) T.particles ∧ Excl T.particles ∧ coversChar T.particles 60 = true ∧
      coversChar T.particles 62 = true :=
  let ⟨_, _, hplain, _⟩ := tblOK_parts h
  partsOK_spec hplain

theorem tblOK_quot {T : Tbl} (h : TblOK T = true) : T.html5.get [113, 117, 111, 116, 59] = some [34] :=
  let ⟨_, _, _, hquot⟩ := tblOK_parts h
  hquot

theorem repOK_xml {X : List (Nat × PStr)} {T : Tbl} (h : XmlOK X T = true) : RepOK T (xmlRep X) xmlParticles := by
  simp only [XmlOK, List.all_eq_true] at h
  intro p hp
  obtain ⟨c, hc, rfl⟩ : ∃ c ∈ [38, 60, 62], p = ⟨[c], []⟩ := by
    simp only [xmlParticles, List.mem_cons, List.mem_nil_iff, or_false] at hp
    rcases hp with rfl | rfl | rfl <;> simp
  have := h c hc
  cases hl : X.lookup c with
  | none => simp [hl] at this
  | some n =>
    simp only [hl, Bool.and_eq_true, decide_eq_true_eq, beq_iff_eq] at this
    obtain ⟨⟨⟨hname, hlen⟩, hchar⟩, hsemi⟩ := this
    exact ⟨n, by simp [xmlRep, hl], hname, hlen, hchar, hsemi⟩

theorem xml_covers : coversChar xmlParticles 38 = true ∧ coversChar xmlParticles 60 = true ∧
    coversChar xmlParticles 62 = true := by decide

theorem xmlKeyError_none {X : List (Nat × PStr)} {T : Tbl} (h : XmlOK X T = true) (s : PStr) :
    xmlKeyError X s = none := by
  unfold XmlOK at h
  simp only [List.all_eq_true] at h
  unfold xmlKeyError
  rw [List.find?_eq_none]
  intro c _
  simp only [Bool.and_eq_true, Bool.or_eq_true, decide_eq_true_eq, Option.isNone_iff_eq_none, not_and]
  intro hc hn
  have := h c (by simp; omega)
  simp [hn] at this


theorem substHtml_sorted {T : Tbl} (h : TblOK T = true) (s : PStr) :
    substHtml T s = reSubBy (firstMatchSorted T.particlesAmp) (htmlRep T) 0 s :=
  let ⟨hamp, _⟩ := tblOK_parts h
  reSub_sorted (partsOK_sorted hamp) _ _ _

theorem tablePass_sorted {T : Tbl} (h : TblOK T = true) (l : PStr) :
    reSub T.particles (htmlRep T) 0 l = reSubBy (firstMatchSorted T.particles) (htmlRep T) 0 l :=
  let ⟨_, _, hplain, _⟩ := tblOK_parts h
  reSub_sorted (partsOK_sorted hplain) _ _ _


theorem escapeEntities_noamp (T : Tbl) (k : Nat) (l : PStr) (h : 38 ∉ l) : escapeEntities T k l = l := by
  induction l generalizing k with
  | nil => cases k <;> simp [escapeEntities]
  | cons c cs ih =>
    simp only [List.mem_cons, not_or] at h
    have hc : c ≠ 38 := fun e => h.1 e.symm
    cases k with
    | zero => simp [escapeEntities, hc, ih 0 h.2]
    | succ k => simp [escapeEntities, ih k h.2]

end BS.Entities
