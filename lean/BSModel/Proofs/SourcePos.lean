import BSModel.Model.SourcePos
import BSModel.Proofs.PStr
/-! The adapter passes `getpos()` through; `updatepos` chunk by chunk is `lineCol` of the text consumed so far. -/
namespace BS.SourcePos
open BS.Adapter

/-- the positions `(line, col)` of the start-tag callbacks (`<x>` and `<x/>` alike) of a callback stream, in order -/
def startPositions : List SEv → List (Nat × Nat)
  | [] => []
  | .starttag _ _ l c :: es => (l, c) :: startPositions es
  | .startendtag _ _ l c :: es => (l, c) :: startPositions es
  | _ :: es => startPositions es

theorem astep_infos (cfg : ACfg) (st : ASt) (e : SEv) :
    (astep cfg st e).2.2.map (·.pos) = (startPositions [e]).map (fun p => if cfg.storeLines then some p else none) := by
  cases e with
  | starttag | endtag | unknownDecl => simp only [astep]; split <;> rfl
  | _ => rfl

theorem startPositions_cons (e : SEv) (es : List SEv) :
    startPositions (e :: es) = startPositions [e] ++ startPositions es := by
  cases e <;> simp [startPositions]

/-- `C18.pos_pass_through` from any adapter state -/
theorem pos_pass_through_aux (cfg : ACfg) : ∀ (sevs : List SEv) (st : ASt),
    ((arun (astep cfg) st sevs).2.map (·.pos)) =
      (startPositions sevs).map (fun p => if cfg.storeLines then some p else none) := by
  intro sevs
  induction sevs with
  | nil => intro st; simp [arun, startPositions]
  | cons e es ih =>
    intro st
    rw [startPositions_cons, List.map_append, ← astep_infos cfg st e, ← ih (astep cfg st e).1]
    simp only [arun, List.map_append]

theorem takeWhile_reverse_append (a b : PStr) (hb : b.count 10 = 0) :
    ((a ++ b).reverse.takeWhile (· ≠ 10)).length = (a.reverse.takeWhile (· ≠ 10)).length + b.length := by
  have hall : ∀ x ∈ b.reverse, (decide (x ≠ 10)) = true := fun x hx =>
    decide_eq_true fun h => List.count_eq_zero.mp hb (h ▸ List.mem_reverse.mp hx)
  rw [List.reverse_append, List.takeWhile_append_of_pos hall]
  simp; omega

theorem takeWhile_reverse_append_nl (a b : PStr) (hb : b.count 10 ≠ 0) :
    ((a ++ b).reverse.takeWhile (· ≠ 10)) = (b.reverse.takeWhile (· ≠ 10)) := by
  have hmem : 10 ∈ b.reverse := List.mem_reverse.mpr (List.count_pos_iff.mp (by omega))
  rw [List.reverse_append]
  -- the scan stops inside b.reverse
  generalize b.reverse = rb at hmem
  induction rb with
  | nil => cases hmem
  | cons x xs ih =>
    by_cases hx : x = 10
    · subst hx; simp [List.takeWhile]
    · have : 10 ∈ xs := by
        rcases List.mem_cons.mp hmem with h | h
        · exact absurd h.symm hx
        · exact h
      have hd : decide (x ≠ 10) = true := by simpa using hx
      simp only [List.cons_append, List.takeWhile_cons, hd, if_true]
      rw [ih this]

theorem lineCol_prefix (a b : PStr) : lineCol (a ++ b) a.length = lineCol a a.length := by
  simp [lineCol]

theorem updatepos_step (a b : PStr) :
    updatepos (lineCol a a.length) b = lineCol (a ++ b) (a ++ b).length := by
  simp only [lineCol, List.take_length, updatepos]
  by_cases hb : b.count 10 = 0
  · simp only [hb, if_true, List.count_append, takeWhile_reverse_append a b hb]
    simp
  · simp only [hb, if_false, List.count_append, takeWhile_reverse_append_nl a b hb]
    congr 1; omega

end BS.SourcePos
