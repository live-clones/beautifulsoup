import BSModel.Proofs.Entities
/-! `substitute_html5` = an ampersand pass (`AmpPass`), then the table pass: `roundtrip_pass`. Two instances: the shipped
    first pass (`escapeEntities` = `escSpec`; `substHtml5Old`) and the repaired one (`escapeAmpersands`, Html5Fix). -/
namespace BS.Entities
open BS.Reader

/-- the first pass as a plain left-to-right map: `&` ↦ `&amp;` exactly where an entity body follows -/
def escSpec (T : Tbl) : PStr → PStr
  | [] => []
  | c :: cs => if c = 38 ∧ (entityLen T true cs).isSome then amp ++ escSpec T cs else c :: escSpec T cs

theorem amp_eq_ref : amp = ref [97, 109, 112] := rfl

/-- `F` copies every code point but `&`; an `&` becomes `&amp;` where `dec` says so of what follows, and stays otherwise -/
structure AmpPass (dec : PStr → Bool) (F : PStr → PStr) : Prop where
  nil : F [] = []
  cons : ∀ x xs, x ≠ 38 → F (x :: xs) = x :: F xs
  esc : ∀ xs, dec xs = true → F (38 :: xs) = amp ++ F xs
  bare : ∀ xs, dec xs = false → F (38 :: xs) = 38 :: F xs

theorem AmpPass.at_amp {dec : PStr → Bool} {F : PStr → PStr} (hF : AmpPass dec F) (xs : PStr) :
    ∃ Y, F (38 :: xs) = 38 :: Y := by
  cases h : dec xs
  · exact ⟨_, hF.bare xs h⟩
  · exact ⟨_, hF.esc xs h⟩

theorem ampPass_escSpec (T : Tbl) : AmpPass (fun cs => (entityLen T true cs).isSome) (escSpec T) where
  nil := rfl
  cons := by intro x xs hx; simp [escSpec, hx]
  esc := by intro xs h; simp only [escSpec, h, and_self, ↓reduceIte]
  bare := by intro xs h; simp only [escSpec, h, Bool.false_eq_true, and_false, ↓reduceIte]

theorem ampPass_escapeAmpersands (T : Tbl) : AmpPass (ampNeedsEscape T) (escapeAmpersands T) where
  nil := rfl
  cons := by intro x xs hx; simp [escapeAmpersands, hx]
  esc := by intro xs h; simp only [escapeAmpersands, h, decide_true, Bool.and_self, ↓reduceIte]
  bare := by intro xs h; simp only [escapeAmpersands, h, Bool.and_false, Bool.false_eq_true, ↓reduceIte]

/-- second part: the code point the look-ahead of `matchesAt` inspects -/
theorem ampPass_prefix {dec : PStr → Bool} {F : PStr → PStr} (hF : AmpPass dec F) :
    ∀ (k l : PStr), 38 ∉ k → (k.isPrefixOf (F l) = k.isPrefixOf l) ∧
      (k.isPrefixOf l = true → ((F l).drop k.length).head? = (l.drop k.length).head?) := by
  intro k
  induction k with
  | nil =>
    intro l _
    refine ⟨by simp, fun _ => ?_⟩
    cases l with
    | nil => simp [hF.nil]
    | cons x xs =>
      by_cases hx : x = 38
      · subst hx; obtain ⟨Y, hY⟩ := hF.at_amp xs; simp [hY]
      · simp [hF.cons x xs hx]
  | cons a k' ih =>
    intro l hk
    simp only [List.mem_cons, not_or] at hk
    cases l with
    | nil => simp [hF.nil, List.isPrefixOf]
    | cons x xs =>
      by_cases hx : x = 38
      · subst hx
        obtain ⟨Y, hY⟩ := hF.at_amp xs
        have : (a == 38) = false := by simp; exact fun e => hk.1 e.symm
        simp [hY, List.isPrefixOf, this]
      · rw [hF.cons x xs hx]
        obtain ⟨h1, h2⟩ := ih xs hk.2
        simp only [List.isPrefixOf, h1, List.length_cons, List.drop_succ_cons, Bool.and_eq_true, beq_iff_eq]
        exact ⟨trivial, fun h => h2 h.2⟩

theorem ampPass_matchesAt {dec : PStr → Bool} {F : PStr → PStr} (hF : AmpPass dec F) (p : Particle)
    (h38 : 38 ∉ p.key) (l : PStr) : p.matchesAt (F l) = p.matchesAt l := by
  obtain ⟨h1, h2⟩ := ampPass_prefix hF p.key l h38
  unfold Particle.matchesAt
  rw [h1]
  cases hp : p.key.isPrefixOf l with
  | false => simp
  | true =>
    have h2' := h2 hp
    generalize (F l).drop p.key.length = A at h2'
    generalize l.drop p.key.length = B at h2'
    cases A <;> cases B <;> simp_all

/-- no alternative contains `&` or starts with one of the code points of `&amp;`: the two passes do not interfere -/
def AmpFree (ps : List Particle) : Prop := ∀ p ∈ ps, 38 ∉ p.key ∧ p.key.headD 0 ∉ amp

theorem ampFree_none {ps : List Particle} (hk : AmpFree ps) {c : Nat} (hc : c ∈ amp) (cs : PStr) :
    firstMatch ps (c :: cs) = none :=
  firstMatch_none_of_head (fun p hp e => (hk p hp).2 (e ▸ hc)) cs

theorem ampPass_firstMatch {dec : PStr → Bool} {F : PStr → PStr} (hF : AmpPass dec F) {ps : List Particle}
    (hk : AmpFree ps) (l : PStr) : firstMatch ps (F l) = firstMatch ps l := by
  unfold firstMatch
  exact find?_congr_mem ps _ _ fun p hp => ampPass_matchesAt hF p (hk p hp).1 l

/-! the writer: `reSub ps rep 0 ∘ F` (`0` = nothing left to skip) -/
section writer
variable {dec : PStr → Bool} {F : PStr → PStr} {ps : List Particle}

theorem write_hit (hF : AmpPass dec F) (hk : AmpFree ps) (rep : PStr → PStr) {p : Particle} {rest : PStr}
    (hkne : p.key ≠ []) (hfm : firstMatch ps (p.key ++ rest) = some p) :
    reSub ps rep 0 (F (p.key ++ rest)) = rep p.key ++ reSub ps rep 0 (F rest) := by
  have h38 := (hk p (firstMatch_some hfm).1).1
  have := ampPass_firstMatch hF hk (p.key ++ rest)
  rw [copy_noamp hF.cons _ _ h38] at this ⊢
  exact reSub_hit ps rep p _ hkne (this.trans hfm)

theorem write_plain (hF : AmpPass dec F) (hk : AmpFree ps) (rep : PStr → PStr) {c : Nat} {cs : PStr} (hc : c ≠ 38)
    (hfm : firstMatch ps (c :: cs) = none) : reSub ps rep 0 (F (c :: cs)) = c :: reSub ps rep 0 (F cs) := by
  have := ampPass_firstMatch hF hk (c :: cs)
  rw [hF.cons c cs hc] at this ⊢
  exact reSub_miss ps rep c _ (this.trans hfm)

theorem write_esc (hF : AmpPass dec F) (hk : AmpFree ps) (rep : PStr → PStr) {cs : PStr} (h : dec cs = true) :
    reSub ps rep 0 (F (38 :: cs)) = amp ++ reSub ps rep 0 (F cs) := by
  rw [hF.esc cs h, reSub_copy rep amp _ (fun x hx p hp e => (hk p hp).2 (e ▸ hx))]

theorem write_bare (hF : AmpPass dec F) (hk : AmpFree ps) (rep : PStr → PStr) {cs : PStr} (h : dec cs = false) :
    reSub ps rep 0 (F (38 :: cs)) = 38 :: reSub ps rep 0 (F cs) := by
  rw [hF.bare cs h, reSub_miss _ _ _ _ (ampFree_none hk (by simp [amp]) _)]

/-- second case: an `&` of the input, or a table hit (`&name;`) -/
theorem write_step {T : Tbl} (hF : AmpPass dec F) {rep : PStr → PStr} (hR : RepOK T rep ps) (hk : AmpFree ps)
    (d : Nat) (ds : PStr) :
    reSub ps rep 0 (F (d :: ds)) = d :: reSub ps rep 0 (F ds) ∨ ∃ Y, reSub ps rep 0 (F (d :: ds)) = 38 :: Y := by
  by_cases hd : d = 38
  · subst hd
    obtain ⟨Y, hY⟩ := hF.at_amp ds
    rw [hY, reSub_miss _ _ _ _ (ampFree_none hk (by simp [amp]) _)]
    exact .inr ⟨_, rfl⟩
  · rw [hF.cons d ds hd]
    cases hm : firstMatch ps (d :: F ds) with
    | none => exact .inl (reSub_miss _ _ _ _ hm)
    | some p =>
      obtain ⟨n, hn, _⟩ := hR p (firstMatch_some hm).1
      simp only [reSub, hm, hn, ref, List.cons_append]
      exact .inr ⟨_, rfl⟩

/-- an `&`-free prefix of the written text stood in the input -/
theorem write_copied_prefix {T : Tbl} (hF : AmpPass dec F) {rep : PStr → PStr} (hR : RepOK T rep ps)
    (hk : AmpFree ps) : ∀ (q cs : PStr), 38 ∉ q → q <+: reSub ps rep 0 (F cs) → q <+: cs := by
  intro q
  induction q with
  | nil => intro cs _ _; exact List.nil_prefix
  | cons x q' ih =>
    intro cs hq hp
    simp only [List.mem_cons, not_or] at hq
    cases cs with
    | nil => simp [hF.nil, reSub] at hp
    | cons d ds =>
      rcases write_step hF hR hk d ds with h | ⟨Y, h⟩
      · rw [h] at hp
        obtain ⟨h1, h2⟩ := List.cons_prefix_cons.mp hp
        rw [h1]
        exact List.cons_prefix_cons.mpr ⟨rfl, ih ds hq.2 h2⟩
      · rw [h] at hp
        exact absurd (List.cons_prefix_cons.mp hp).1.symm hq.1

end writer

/-- a reader that takes `&` for text before a non-letter non-`#` does so before what is written for `cs` -/
theorem bare_head {T : Tbl} {R : PStr → PStr} (hnil : R [38] = 38 :: R [])
    (hba : ∀ y Y, isAlpha y = false → y ≠ 35 → R (38 :: y :: Y) = 38 :: R (y :: Y))
    {dec : PStr → Bool} {F : PStr → PStr} (hF : AmpPass dec F)
    {ps : List Particle} {rep : PStr → PStr} (hR : RepOK T rep ps) (hk : AmpFree ps) (cs : PStr)
    (h : ∀ d ds, cs = d :: ds → isAlpha d = false ∧ d ≠ 35) :
    R (38 :: reSub ps rep 0 (F cs)) = 38 :: R (reSub ps rep 0 (F cs)) := by
  cases cs with
  | nil => rw [hF.nil]; exact hnil
  | cons d ds =>
    obtain ⟨ha, h35⟩ := h d ds rfl
    rcases write_step hF hR hk d ds with hY | ⟨Y, hY⟩ <;> rw [hY]
    · exact hba d _ ha h35
    · exact hba 38 Y (by decide) (by decide)

/-- `good`: the inputs claimed, suffix-closed (`hsuf`); `hbare`: the reader takes an `&` the pass left bare for text -/
theorem roundtrip_pass {T : Tbl} {R : PStr → PStr} {dec : PStr → Bool} {F : PStr → PStr} {ps : List Particle}
    {rep : PStr → PStr} (hRd : Reads T R) (hF : AmpPass dec F) (hR : RepOK T rep ps) (hk : AmpFree ps)
    (hamp : ∀ rest, R (amp ++ rest) = 38 :: R rest) (good : PStr → Prop) (hsuf : ∀ c cs, good (c :: cs) → good cs)
    (hbare : ∀ cs, dec cs = false → good (38 :: cs) →
      R (38 :: reSub ps rep 0 (F cs)) = 38 :: R (reSub ps rep 0 (F cs))) :
    ∀ s, good s → R (reSub ps rep 0 (F s)) = s := by
  refine reSub_induction ps ?_ ?_ ?_
  · intro _; rw [hF.nil]; exact hRd.nil
  · intro p rest hp hkne hfm ih hg
    obtain ⟨n, hn, hname, hlen, hback, hback5⟩ := hR p hp
    rw [write_hit hF hk rep hkne hfm, hn, hRd.ref n _ _ hname hlen hback hback5, ih (good_of_append hsuf _ _ hg)]
  · intro c cs hfm ih hg
    by_cases hc : c = 38
    · subst hc
      cases hd : dec cs with
      | true => rw [write_esc hF hk rep hd, hamp, ih (hsuf _ _ hg)]
      | false => rw [write_bare hF hk rep hd, hbare cs hd hg, ih (hsuf _ _ hg)]
    · rw [write_plain hF hk rep hc hfm, hRd.plain c _ hc, ih (hsuf _ _ hg)]

theorem runSemi_no_amp {pre : Nat} {p : Nat → Bool} {l : PStr} {m : Nat} (h : runSemi pre p l = some m) (hp : p 38 = false) :
    ∃ k, m = k + pre ∧ 38 ∉ l.take k := by
  unfold runSemi at h
  split at h
  · cases h
  · split at h
    · rename_i rest hd
      cases h
      refine ⟨spanLen p l + 1, by omega, fun hm => ?_⟩
      rw [List.take_add_one, List.mem_append, take_spanLen, ← List.head?_drop, hd] at hm
      rcases hm with hm | hm
      · rw [mem_takeWhile_sat p l 38 hm] at hp; cases hp
      · simp at hm
    · cases h

theorem entityLen_no_amp {T : Tbl} (hw : inRanges T.word 38 = false) (hd : inRanges T.digit 38 = false)
    {ci : Bool} {l : PStr} {n : Nat} (h : entityLen T ci l = some n) : 38 ∉ l.take n := by
  unfold entityLen at h
  split at h
  · rename_i r
    split at h
    · -- `#` decimal
      rename_i m hm
      cases h
      obtain ⟨k, rfl, hk⟩ := runSemi_no_amp hm hd
      simpa using hk
    · split at h
      · rename_i x r' _
        split at h
        · -- `#x` hex
          rename_i hx
          obtain ⟨k, rfl, hk⟩ := runSemi_no_amp h (by decide)
          have hx38 : 38 ≠ x := by
            simp only [Bool.or_eq_true, decide_eq_true_eq, Bool.and_eq_true] at hx
            omega
          simpa [hx38] using hk
        · cases h
      · cases h
  · -- `\w` run
    obtain ⟨k, rfl, hk⟩ := runSemi_no_amp h hw
    exact hk

theorem escapeEntities_eq {T : Tbl} (hw : inRanges T.word 38 = false) (hd : inRanges T.digit 38 = false) (k : Nat)
    (l : PStr) : escapeEntities T k l = l.take k ++ escSpec T (l.drop k) := by
  fun_induction escapeEntities T k l with
  | case1 => simp [escSpec]
  | case2 k c cs ih => simp [ih]  -- skipping
  | case3 cs n he ih =>  -- `&` before an entity body: the body is `&`-free, `escSpec` copies it
    have := copy_noamp (ampPass_escSpec T).cons (cs.take n) (cs.drop n) (entityLen_no_amp hw hd he)
    rw [List.take_append_drop] at this
    simp [escSpec, he, ih, this]
  | case4 cs he ih => simp [escSpec, he, ih]  -- `&` before none
  | case5 c cs hc ih => simp [escSpec, hc, ih]  -- another code point

theorem escapeEntities_eq_spec {T : Tbl} (hw : inRanges T.word 38 = false) (hd : inRanges T.digit 38 = false)
    (s : PStr) : escapeEntities T 0 s = escSpec T s :=
  escapeEntities_eq hw hd 0 s

/-- what the html5 round trip needs beyond `TblOK`: `&` is neither `\w` nor `\d`; no alternative contains `&` or starts
    with one of the code points of `&amp;`; the reader knows `amp`. -/
def Html5OK (T : Tbl) : Bool :=
  !inRanges T.word 38 && !inRanges T.digit 38 &&
    T.particles.all (fun p => !p.key.contains 38 && !amp.contains (p.key.headD 0)) &&
    T.toChar.get [97, 109, 112] == some [38]

/-- every ampersand is either escaped by the first pass (`(#\d+|#x[0-9a-fA-F]+|\w+);` follows) or followed by something
    that cannot start a reference for any parser: not an ASCII letter, not `#` -/
def noBareRefStart (T : Tbl) : PStr → Bool
  | [] => true
  | c :: cs =>
    (c != 38 || (entityLen T true cs).isSome ||
      (match cs with
       | [] => true
       | d :: _ => !isAlpha d && d != 35)) && noBareRefStart T cs

theorem html5OK_spec {T : Tbl} (h : Html5OK T = true) :
    inRanges T.word 38 = false ∧ inRanges T.digit 38 = false ∧ AmpFree T.particles ∧
      T.toChar.get [97, 109, 112] = some [38] := by
  unfold Html5OK at h
  simp only [Bool.and_eq_true, Bool.not_eq_true', List.all_eq_true, beq_iff_eq] at h
  obtain ⟨⟨⟨h1, h2⟩, h3⟩, h4⟩ := h
  refine ⟨h1, h2, fun p hp => ?_, h4⟩
  have := h3 p hp
  simp only [List.contains_eq_mem, decide_eq_false_iff_not] at this
  exact this

theorem html5Old_text_roundtrip (T : Tbl) (late : Bool) (hR : RepOK T (htmlRep T) T.particles)
    (h5 : Html5OK T = true) :
    ∀ s, noBareRefStart T s = true → readText T late 0 (substHtml5Old T s) = s := by
  obtain ⟨hw, hd, hk, hamp⟩ := html5OK_spec h5
  intro s
  unfold substHtml5Old
  rw [escapeEntities_eq_spec hw hd]
  refine roundtrip_pass (reads_text T late) (ampPass_escSpec T) hR hk
    (fun rest => by rw [amp_eq_ref, readText_ref T late _ _ (by decide), entityRef_of_entry hamp]; rfl)
    (noBareRefStart T · = true) (fun c cs h => ?_) (fun cs hdec hg => ?_) s
  · simp only [noBareRefStart, Bool.and_eq_true] at h
    exact h.2
  · refine bare_head (by simp [readText]) (readText_bare_amp T late) (ampPass_escSpec T) hR hk cs fun d ds hcs => ?_
    subst hcs
    rw [noBareRefStart, Bool.and_eq_true] at hg
    simpa [hdec] using hg.1

end BS.Entities
