import BSModel.Model.EncodingRx
import BSModel.Proofs.EncodingDecl
/-! The regex engine on the two generated patterns (bytes flavour) equals the hand-written matchers
    `xmlMatch` / `htmlSearch` of `Model/EncodingIn.lean` on every input. Core Lean only. -/
namespace BS.EncodingIn.Rx
open BS BS.EncodingIn

/-! ## the patterns, written by hand in a shape convenient for proofs, and equal to the generated ones

`K3`, `K2`, `Kenc` / `Kterm`, `Kv`, `Kcs` further down are the matchers of the suffixes `xmlTail3 ⊂ xmlTail2 ⊂ xmlEnc` /
`htmlTerm ⊂ htmlVal ⊂ htmlCs`, ended by `final`; the lemmas go from the end of a pattern to its front. Two quote classes:
the XML pattern writes `['"]`, the meta pattern `["']`, and `gen_*_eq` are syntactic. -/

def lits (l : List Nat) : List Atom := l.map fun c => Atom.one (.lit c)

def quoteCls : Cls := .oneOf [39, 34] false false
def quoteCls' : Cls := .oneOf [34, 39] false false
def termCls : Cls := .oneOf [32, 47, 59, 39, 34, 62] false false

def xmlTail3 : List Atom := lits [63, 62]
def xmlTail2 : List Atom := .gclose :: .one quoteCls :: .rep .any false true true :: xmlTail3
def xmlEnc : List Atom := lits litEncodingEq ++ (.one quoteCls :: .gopen :: .rep .any false true false :: xmlTail2)
def xmlAtomsH : List Atom := .rep .space false true true :: (lits [60, 63] ++ (.rep .any false true true :: xmlEnc))

def htmlTerm : List Atom := [.gclose, .one termCls]
def htmlVal : List Atom := .rep quoteCls' false false true :: .gopen :: .rep (.notLit 62) false true false :: htmlTerm
def htmlCs : List Atom := lits litCharset ++ (.rep .space false true true :: .one (.lit 61) :: .rep .space false true true :: htmlVal)
def htmlMetaTail : List Atom := lits litMeta ++ (.rep (.notLit 62) true true true :: htmlCs)
def htmlAtomsH : List Atom := .one (.lit 60) :: .rep .space false true true :: htmlMetaTail

theorem gen_xml_eq : Gen.c07XmlAnchored = true ∧ Gen.c07XmlAtoms = xmlAtomsH := by decide +kernel
theorem gen_html_eq : Gen.c07HtmlAnchored = false ∧ Gen.c07HtmlAtoms = htmlAtomsH := by decide +kernel

/-! ## character classes of the bytes flavour -/

theorem lowerC_eq_of_nonletter (x c : Nat) (hc : c < 65 ∨ (90 < c ∧ c < 97) ∨ 122 < c) : (lowerC x == c) = (x == c) := by
  unfold lowerC
  by_cases h : 65 ≤ x ∧ x ≤ 90
  · simp only [h, and_self, if_true]
    have h1 : (x + 32 == c) = false := by simp; omega
    have h2 : (x == c) = false := by simp; omega
    rw [h1, h2]
  · simp only [h, if_false]

theorem test_space (x : Nat) : Cls.test bytesFlavor .space x = isSpace x := rfl
theorem test_any (x : Nat) : Cls.test bytesFlavor .any x = (x != 10) := rfl

/-- a literal that is a lower-case letter or not a letter at all -/
theorem test_lit (c x : Nat) (hc : lowerC c = c) : Cls.test bytesFlavor (.lit c) x = (lowerC x == c) := by
  simp [Cls.test, bytesFlavor, hc]

theorem test_lit_nonletter (c x : Nat) (hc : c < 65 ∨ (90 < c ∧ c < 97) ∨ 122 < c) :
    Cls.test bytesFlavor (.lit c) x = (x == c) := by
  have h1 : lowerC c = c := by unfold lowerC; split <;> omega
  rw [test_lit c x h1]
  exact lowerC_eq_of_nonletter x c hc

theorem test_notGt (x : Nat) : Cls.test bytesFlavor (.notLit 62) x = (x != 62) := by
  have := test_lit_nonletter 62 x (by omega)
  simp only [Cls.test] at this ⊢
  rw [this]; rfl

/-- a set of characters none of which is a letter: plain membership -/
theorem test_oneOf (cs : List Nat) (hcs : ∀ c ∈ cs, c < 65 ∨ (90 < c ∧ c < 97) ∨ 122 < c) (x : Nat) :
    Cls.test bytesFlavor (.oneOf cs false false) x = cs.any (x == ·) := by
  have : cs.any (bytesFlavor.ci · x) = cs.any (x == ·) := by
    induction cs with
    | nil => rfl
    | cons c cs ih =>
      rw [List.any_cons, List.any_cons, ih (fun d hd => hcs d (List.mem_cons_of_mem _ hd))]
      congr 1
      exact test_lit_nonletter c x (hcs c List.mem_cons_self)
  simp [Cls.test, this]

theorem test_quote (x : Nat) : Cls.test bytesFlavor quoteCls x = isQuote x := by
  rw [quoteCls, test_oneOf _ (by decide)]; simp [isQuote]

theorem test_quote' (x : Nat) : Cls.test bytesFlavor quoteCls' x = isQuote x := by
  rw [quoteCls', test_oneOf _ (by decide)]; simp [isQuote, Bool.or_comm]

theorem test_term (x : Nat) : Cls.test bytesFlavor termCls x = isTerm x := by
  rw [termCls, test_oneOf _ (by decide)]; simp [isTerm, Bool.or_assoc]

/-! ## generic facts about the engine -/

theorem push_none (res : List Nat) (x : Nat) : St.push ⟨none, res⟩ x = ⟨none, res⟩ := rfl

theorem mSeq_append (F : Flavor) (a b : List Atom) (k : K) : mSeq F (a ++ b) k = mSeq F a (mSeq F b k) := by
  induction a with
  | nil => rfl
  | cons x xs ih => simp only [List.cons_append, mSeq, ih]

/-- a greedy star whose continuation can never start with a character of the star's class is
    deterministic: it takes the whole run -/
theorem starG_det (p : Nat → Bool) (k : K) (hk : ∀ x t st, p x = true → k (x :: t) st = none)
    (inp : List Nat) (res : List Nat) :
    starG p k inp ⟨none, res⟩ = k (inp.dropWhile p) ⟨none, res⟩ := by
  induction inp with
  | nil => rfl
  | cons x t ih =>
    simp only [starG, List.dropWhile_cons]
    by_cases hp : p x = true
    · simp only [hp, if_true, push_none, ih]
      cases h : k (t.dropWhile p) ⟨none, res⟩ with
      | some r => rfl
      | none => exact hk x t _ hp
    · simp only [hp, Bool.false_eq_true, if_false]

theorem starG_space_lit (c : Nat) (hc : lowerC c = c) (hcs : isSpace c = false) (k : K) (inp res : List Nat) :
    starG (Cls.test bytesFlavor .space) (one (Cls.test bytesFlavor (.lit c)) k) inp ⟨none, res⟩ =
      one (Cls.test bytesFlavor (.lit c)) k (inp.dropWhile isSpace) ⟨none, res⟩ := by
  refine starG_det _ _ (fun x t st hx => ?_) inp res
  have hx' : isSpace x = true := hx
  have hl : lowerC x = x := by
    simp only [isSpace, Bool.or_eq_true, beq_iff_eq, Bool.and_eq_true, decide_eq_true_eq] at hx'
    unfold lowerC; split <;> omega
  have : (x == c) = false := beq_false_of_ne fun h => by rw [h, hcs] at hx'; cases hx'
  simp [one, test_lit c x hc, hl, this]

/-- a run of literals (lower-case or non-letters) in front: `startsCI`, then the rest -/
theorem mSeq_lits (l : List Nat) (hl : ∀ c ∈ l, lowerC c = c) (rest : List Atom) (k : K) (inp res) :
    mSeq bytesFlavor (lits l ++ rest) k inp ⟨none, res⟩ =
      if startsCI l inp then mSeq bytesFlavor rest k (inp.drop l.length) ⟨none, res⟩ else none := by
  induction l generalizing inp with
  | nil => simp [lits, startsCI]
  | cons c cs ih =>
    have hc := hl c List.mem_cons_self
    have ih' := ih (fun x hx => hl x (List.mem_cons_of_mem _ hx))
    cases inp with
    | nil => simp [lits, mSeq, mAtom, one, startsCI]
    | cons x t =>
      simp only [lits, List.map_cons, List.cons_append, mSeq, mAtom, one, test_lit c x hc, startsCI, push_none,
        List.length_cons, List.drop_succ_cons]
      by_cases hx : (lowerC x == c) = true
      · simp only [hx, if_true, Bool.true_and]
        exact ih' t
      · simp only [hx, Bool.false_eq_true, if_false, Bool.false_and]

/-! ## the XML declaration pattern -/

/-- the part of the subject `.` can run over -/
def line (l : List Nat) : List Nat := l.takeWhile (· != 10)

theorem line_cons_nl (t : List Nat) : line (10 :: t) = [] := by simp [line]
theorem line_cons (x : Nat) (t : List Nat) (h : x ≠ 10) : line (x :: t) = x :: line t := by
  simp [line, h]

theorem containsQmGt_cons (x : Nat) (l : List Nat) :
    containsQmGt (x :: l) = ((x == 63 && l.head? == some 62) || containsQmGt l) := rfl

theorem head_line (t : List Nat) : ((line t).head? == some 62) = (t.head? == some 62) := by
  cases t with
  | nil => rfl
  | cons y r =>
    by_cases h : y = 10
    · subst h; simp [line]
    · simp [line_cons y r h]

def K3 : K := mSeq bytesFlavor xmlTail3 final

theorem startsCI_qmGt (x : Nat) (t : List Nat) : startsCI [63, 62] (x :: t) = (x == 63 && t.head? == some 62) := by
  cases t with
  | nil => simp [startsCI]
  | cons y r => simp [startsCI, lowerC_eq_of_nonletter x 63 (by omega), lowerC_eq_of_nonletter y 62 (by omega)]

theorem K3_eq (inp : List Nat) (res : List Nat) :
    K3 inp ⟨none, res⟩ = if startsCI [63, 62] inp then some res else none := by
  rw [K3, xmlTail3, ← List.append_nil (lits [63, 62]), mSeq_lits [63, 62] (by decide)]
  rfl

/-- greedy `.*` then `?>`: succeeds iff `?>` occurs later on the line -/
theorem starG_any_K3 (inp : List Nat) (res : List Nat) :
    starG (Cls.test bytesFlavor .any) K3 inp ⟨none, res⟩ = if containsQmGt (line inp) then some res else none := by
  induction inp with
  | nil => simp [starG, K3_eq, line, containsQmGt, startsCI]
  | cons x t ih =>
    simp only [starG, test_any, push_none, ih, K3_eq, startsCI_qmGt]
    by_cases hx : x = 10
    · subst hx
      simp [line_cons_nl, containsQmGt]
    · have hx' : (x != 10) = true := by simpa using hx
      simp only [hx', if_true, line_cons x t hx, containsQmGt_cons, head_line]
      by_cases hc : containsQmGt (line t) = true <;> simp [hc]

def K2 : K := mSeq bytesFlavor xmlTail2 final

theorem K2_eq (inp : List Nat) (acc res0 : List Nat) :
    K2 inp ⟨some acc, res0⟩ = match inp with
      | x :: t => if isQuote x && containsQmGt (line t) then some acc.reverse else none
      | [] => none := by
  unfold K2 xmlTail2
  simp only [mSeq, mAtom]
  cases inp with
  | nil => rfl
  | cons x t =>
    simp only [one, test_quote, Option.getD_some]
    by_cases hq : isQuote x = true
    · simp only [hq, if_true, Bool.true_and]
      exact starG_any_K3 t acc.reverse
    · simp [hq]

/-- lazy `(.*?)` then closing quote, `.*`, `?>` -/
theorem starL_any_K2 (inp : List Nat) (acc res0 : List Nat) :
    starL (Cls.test bytesFlavor .any) K2 inp ⟨some acc, res0⟩ = lazyQuote (line inp) acc := by
  induction inp generalizing acc with
  | nil => simp [starL, K2_eq, line, lazyQuote]
  | cons x t ih =>
    simp only [starL, K2_eq, test_any]
    by_cases hx : x = 10
    · subst hx
      have : isQuote 10 = false := by decide
      simp [line_cons_nl, lazyQuote, this]
    · have hx' : (x != 10) = true := by simpa using hx
      rw [line_cons x t hx, lazyQuote]
      by_cases hq : (isQuote x && containsQmGt (line t)) = true
      · simp [hq]
      · simp only [hq, Bool.false_eq_true, if_false, hx', if_true]
        exact ih (x :: acc)

/-- `startsCI` of a newline-free literal looks only at the line -/
theorem startsCI_line_drop (l : List Nat) (hl : ∀ a ∈ l, a ≠ 10) (inp : List Nat) :
    startsCI l (line inp) = startsCI l inp ∧
      (startsCI l inp = true → (line inp).drop l.length = line (inp.drop l.length)) := by
  induction l generalizing inp with
  | nil => exact ⟨by simp [startsCI], fun _ => rfl⟩
  | cons a as ih =>
    cases inp with
    | nil => exact ⟨rfl, fun h => by simp [startsCI] at h⟩
    | cons x t =>
      by_cases hx : x = 10
      · subst hx
        have : (lowerC 10 == a) = false := by
          rw [show lowerC 10 = 10 from rfl]; simpa using (hl a List.mem_cons_self).symm
        exact ⟨by simp [line_cons_nl, startsCI, this], fun h => by simp [startsCI, this] at h⟩
      · obtain ⟨h1, h2⟩ := ih (fun b hb => hl b (List.mem_cons_of_mem _ hb)) t
        rw [line_cons x t hx]
        refine ⟨by simp only [startsCI, h1], fun h => ?_⟩
        simp only [startsCI, Bool.and_eq_true] at h
        simpa using h2 h.2

def Kenc : K := mSeq bytesFlavor xmlEnc final

theorem Kenc_eq (inp : List Nat) (res : List Nat) : Kenc inp ⟨none, res⟩ = encHere (line inp) := by
  unfold Kenc xmlEnc encHere
  obtain ⟨h1, h2⟩ := startsCI_line_drop litEncodingEq (by decide) inp
  rw [mSeq_lits litEncodingEq (by decide), h1]
  by_cases hs : startsCI litEncodingEq inp = true
  · simp only [hs, if_true]
    have hd := h2 hs
    have h9 : litEncodingEq.length = 9 := rfl
    rw [h9] at hd ⊢
    rw [hd]
    simp only [mSeq, mAtom]
    cases inp.drop 9 with
    | nil => rfl
    | cons q r =>
      simp only [one, test_quote]
      by_cases hq10 : q = 10
      · subst hq10
        have : isQuote 10 = false := by decide
        simp [line_cons_nl, this]
      · rw [line_cons q r hq10]
        by_cases hq : isQuote q = true
        · simp only [hq, if_true]
          exact starL_any_K2 r [] res
        · simp [hq]
  · simp [hs]

/-- greedy `.*` before `encoding=`: the last position on the line -/
theorem starG_any_Kenc (inp : List Nat) (res : List Nat) :
    starG (Cls.test bytesFlavor .any) Kenc inp ⟨none, res⟩ = lastEncoding (line inp) := by
  induction inp with
  | nil => simp [starG, Kenc_eq, line, lastEncoding, encHere, startsCI, litEncodingEq]
  | cons x t ih =>
    simp only [starG, test_any, push_none, ih, Kenc_eq]
    by_cases hx : x = 10
    · subst hx
      simp [line_cons_nl, lastEncoding, encHere, startsCI, litEncodingEq]
    · have hx' : (x != 10) = true := by simpa using hx
      simp only [hx', if_true, line_cons x t hx, lastEncoding]
      cases lastEncoding (line t) <;> rfl

theorem startsCI_ltQm (l : List Nat) (h : startsCI [60, 63] l = true) : ∃ rest, l = 60 :: 63 :: rest := by
  rcases l with _ | ⟨a, _ | ⟨b, rest⟩⟩
  · cases h
  · simp [startsCI] at h
  · simp only [startsCI, lowerC_eq_of_nonletter a 60 (by omega), lowerC_eq_of_nonletter b 63 (by omega), Bool.and_true,
      Bool.and_eq_true, beq_iff_eq] at h
    exact ⟨rest, by rw [h.1, h.2]⟩

theorem matchHere_xml (s : List Nat) :
    matchHere bytesFlavor xmlAtomsH s =
      match s.dropWhile isSpace with
      | 60 :: 63 :: rest => lastEncoding (rest.takeWhile (· != 10))
      | _ => none := by
  unfold matchHere xmlAtomsH
  simp only [mSeq, mAtom]
  refine (starG_space_lit 60 rfl rfl _ s []).trans ?_
  show mSeq bytesFlavor (lits [60, 63] ++ (.rep .any false true true :: xmlEnc)) final (s.dropWhile isSpace) ⟨none, []⟩ = _
  rw [mSeq_lits [60, 63] (by decide)]
  generalize s.dropWhile isSpace = l
  symm
  split
  · exact (starG_any_Kenc _ []).symm  -- arm `60 :: 63 :: rest`
  · rename_i hne
    refine (if_neg fun hs => ?_).symm
    obtain ⟨rest, rfl⟩ := startsCI_ltQm l hs
    exact hne rest rfl

/-! ## the `<meta … charset=…>` pattern -/

def Kterm : K := mSeq bytesFlavor htmlTerm final

theorem Kterm_eq (inp acc res0 : List Nat) :
    Kterm inp ⟨some acc, res0⟩ = match inp with
      | x :: _ => if isTerm x then some acc.reverse else none
      | [] => none := by
  unfold Kterm htmlTerm
  simp only [mSeq, mAtom]
  cases inp with
  | nil => rfl
  | cons x t => simp only [one, test_term, Option.getD_some, final, St.push, Option.map_none]

/-- lazy `([^>]*?)` then a closing-class character -/
theorem starL_Kterm (inp acc res0 : List Nat) :
    starL (Cls.test bytesFlavor (.notLit 62)) Kterm inp ⟨some acc, res0⟩ = splitTerm inp acc := by
  induction inp generalizing acc with
  | nil => simp [starL, Kterm_eq, splitTerm]
  | cons x t ih =>
    simp only [starL, Kterm_eq, splitTerm, test_notGt]
    by_cases ht : isTerm x = true
    · simp [ht]
    · have hx : (x != 62) = true := bne_iff_ne.mpr fun h => ht (h ▸ rfl)
      simp only [ht, Bool.false_eq_true, if_false, hx, if_true]
      exact ih (x :: acc)

theorem splitTerm_none_iff (l acc : List Nat) : splitTerm l acc = none ↔ ∀ c ∈ l, isTerm c = false := by
  induction l generalizing acc with
  | nil => simp [splitTerm]
  | cons x t ih =>
    simp only [splitTerm]
    by_cases ht : isTerm x = true
    · simp [ht]
    · have ht' : isTerm x = false := by simpa using ht
      simp only [ht', Bool.false_eq_true, if_false, ih, List.mem_cons, forall_eq_or_imp, true_and]

def Kv : K := mSeq bytesFlavor htmlVal final

/-- the value part at a position where no white space is skipped any more -/
def valHere : List Nat → Option (List Nat)
  | [] => none
  | q :: r =>
    if isQuote q then
      match splitTerm r [] with
      | some g => some g
      | none => some []
    else splitTerm (q :: r) []

theorem Kv_eq (inp res : List Nat) : Kv inp ⟨none, res⟩ = valHere inp := by
  unfold Kv htmlVal
  simp only [mSeq, mAtom]
  have hK : ∀ l, starL (Cls.test bytesFlavor (Cls.notLit 62)) (mSeq bytesFlavor htmlTerm final) l ⟨some [], res⟩
      = splitTerm l [] := fun l => starL_Kterm l [] res
  cases inp with
  | nil => simp only [optG, valHere, hK]; rfl
  | cons q r =>
    simp only [optG, test_quote', valHere, push_none]
    by_cases hq : isQuote q = true
    · simp only [hq, if_true, hK]
      cases hs : splitTerm r [] with
      | some g => rfl
      | none => simp [splitTerm, isQuote_isTerm q hq]
    · simp only [hq, Bool.false_eq_true, if_false, hK]

theorem valHere_none_iff (l : List Nat) : valHere l = none ↔ ∀ c ∈ l, isTerm c = false := by
  cases l with
  | nil => simp [valHere]
  | cons q r =>
    by_cases hq : isQuote q = true
    · simp only [valHere, hq, if_true, List.mem_cons, forall_eq_or_imp, isQuote_isTerm q hq]
      cases splitTerm r [] <;> simp
    · simp only [valHere, hq, Bool.false_eq_true, if_false, splitTerm_none_iff]

theorem htmlValue_eq (t : List Nat) :
    htmlValue t = match valHere (t.dropWhile isSpace) with
      | some g => some g
      | none => if (t.takeWhile isSpace).contains 32 then some [] else none := by
  unfold htmlValue
  cases hd : t.dropWhile isSpace with
  | nil => simp [valHere]
  | cons q r =>
    simp only [valHere]
    by_cases hq : isQuote q = true
    · simp only [hq, if_true]
      cases splitTerm r [] <;> rfl
    · simp only [hq, Bool.false_eq_true, if_false]
      cases splitTerm (q :: r) [] <;> rfl

theorem isTerm_space (x : Nat) (hs : isSpace x = true) : isTerm x = (x == 32) := by
  by_cases h : x = 32
  · subst h; rfl
  · have h' : (x == 32) = false := by simpa using h
    rw [h']
    simp only [isSpace, Bool.or_eq_true, beq_iff_eq, Bool.and_eq_true, decide_eq_true_eq] at hs
    rcases hs with hs | hs
    · exact absurd hs h
    · simp only [isTerm, Bool.or_eq_false_iff, beq_eq_false_iff_ne, ne_eq]
      omega

/-- greedy `\s*` in front of the value, with the engine's backtracking into the white space -/
theorem starG_space_Kv (t res : List Nat) :
    starG (Cls.test bytesFlavor .space) Kv t ⟨none, res⟩ = htmlValue t := by
  show starG isSpace Kv t ⟨none, res⟩ = htmlValue t
  induction t with
  | nil => simp [starG, Kv_eq, htmlValue_eq, valHere]
  | cons x t ih =>
    simp only [starG, push_none, ih, Kv_eq]
    rw [htmlValue_eq (x :: t)]
    by_cases hs : isSpace x = true
    · rw [htmlValue_eq t]
      simp only [hs, if_true, List.dropWhile_cons, List.takeWhile_cons, List.contains_cons]
      cases hv : valHere (t.dropWhile isSpace) with
      | some g => rfl
      | none =>
        by_cases hc : (t.takeWhile isSpace).contains 32 = true
        · rw [hc]; simp only [if_true, Bool.or_true]
        · -- the engine gives `x` back: the value starts at the white space character `x`
          have hc' : (t.takeWhile isSpace).contains 32 = false := by simpa using hc
          simp only [hc', Bool.false_eq_true, if_false, Bool.or_false]
          by_cases h32 : x = 32
          · subst h32; rfl
          · rw [if_neg (by simpa using Ne.symm h32), valHere_none_iff]
            intro c hm
            rcases List.mem_cons.mp hm with rfl | hm
            · rw [isTerm_space c hs]; simpa using h32
            · rw [← List.takeWhile_append_dropWhile (p := isSpace) (l := t)] at hm
              rcases List.mem_append.mp hm with hm | hm
              · rw [isTerm_space c (List.all_eq_true.mp List.all_takeWhile c hm)]
                exact beq_false_of_ne fun h => hc (by simpa [h] using hm)
              · exact (valHere_none_iff _).mp hv c hm
    · simp only [hs, Bool.false_eq_true, if_false, List.dropWhile_cons, List.takeWhile_cons, List.contains_nil]
      cases valHere (x :: t) <;> rfl

def Kcs : K := mSeq bytesFlavor htmlCs final

theorem Kcs_eq (inp res : List Nat) : Kcs inp ⟨none, res⟩ = charsetHere inp := by
  unfold Kcs htmlCs charsetHere
  rw [mSeq_lits litCharset (by decide)]
  by_cases hs : startsCI litCharset inp = true
  · simp only [hs, if_true]
    have h7 : litCharset.length = 7 := rfl
    rw [h7]
    simp only [mSeq, mAtom]
    rw [starG_space_lit 61 rfl rfl]
    cases hd : (inp.drop 7).dropWhile isSpace with
    | nil => rfl
    | cons a r =>
      simp only [one, test_lit_nonletter 61 a (by omega), push_none]
      by_cases ha : a = 61
      · subst ha
        simp only [beq_self_eq_true, if_true]
        exact starG_space_Kv r res
      · have : (a == 61) = false := by simpa using ha
        simp only [this, Bool.false_eq_true, if_false]
        split
        · rename_i heq; simp only [List.cons.injEq] at heq; exact absurd heq.1 ha
        · rfl
  · simp [hs]

/-- greedy `[^>]*` (the tail of `[^>]+`) before `charset` -/
theorem starG_notGt_Kcs (u res : List Nat) :
    starG (Cls.test bytesFlavor (.notLit 62)) Kcs u ⟨none, res⟩ = lastCharset u := by
  induction u with
  | nil => simp [starG, Kcs_eq, lastCharset, charsetHere, startsCI, litCharset]
  | cons c t ih =>
    simp only [starG, test_notGt, push_none, ih, Kcs_eq, lastCharset]
    by_cases hc : c = 62
    · subst hc; simp
    · have h1 : (c != 62) = true := by simpa using hc
      have h2 : (c == 62) = false := by simpa using hc
      simp only [h1, if_true, h2, Bool.false_eq_true, if_false]
      cases lastCharset t <;> rfl

theorem matchHere_html (s : List Nat) :
    matchHere bytesFlavor htmlAtomsH s = match s with
      | c :: t => if c == 60 then metaAt t else none
      | [] => none := by
  unfold matchHere htmlAtomsH
  simp only [mSeq, mAtom]
  cases s with
  | nil => rfl
  | cons c t =>
    simp only [one, test_lit_nonletter 60 c (by omega), push_none]
    by_cases hc : (c == 60) = true
    · simp only [hc, if_true]
      refine (starG_space_lit 109 rfl rfl _ t []).trans ?_
      show mSeq bytesFlavor htmlMetaTail final (t.dropWhile isSpace) ⟨none, []⟩ = metaAt t
      unfold metaAt htmlMetaTail
      rw [mSeq_lits litMeta (by decide)]
      by_cases hs : startsCI litMeta (t.dropWhile isSpace) = true
      · simp only [hs, if_true]
        have h4 : litMeta.length = 4 := rfl
        rw [h4]
        simp only [mSeq, mAtom]
        cases (t.dropWhile isSpace).drop 4 with
        | nil => rfl
        | cons x u =>
          simp only [one, test_notGt, push_none]
          by_cases hx : x = 62
          · subst hx; simp
          · have h1 : (x != 62) = true := by simpa using hx
            have h2 : (x == 62) = false := by simpa using hx
            simp only [h1, if_true, h2, Bool.false_eq_true, if_false]
            exact starG_notGt_Kcs u []
      · simp [hs]
    · simp [hc]

theorem searchFrom_html (s : List Nat) : searchFrom bytesFlavor htmlAtomsH s = htmlSearch s := by
  induction s with
  | nil => simp [searchFrom, matchHere_html, htmlSearch]
  | cons c t ih =>
    simp only [searchFrom, matchHere_html, htmlSearch, ih]
    by_cases hc : (c == 60) = true
    · simp only [hc, if_true]
      cases metaAt t <;> rfl
    · simp [hc]

/-! ## find_declared_encoding -/

theorem search_xml (markup : List Nat) (endpos : Nat) :
    search bytesFlavor xmlPattern markup endpos =
      match (markup.take endpos).dropWhile isSpace with
      | 60 :: 63 :: rest => lastEncoding (rest.takeWhile (· != 10))
      | _ => none := by
  unfold search xmlPattern
  simp only [gen_xml_eq.1, gen_xml_eq.2, if_true]
  exact matchHere_xml _

theorem search_html (markup : List Nat) (endpos : Nat) :
    search bytesFlavor htmlPattern markup endpos = htmlSearch (markup.take endpos) := by
  unfold search htmlPattern
  simp only [gen_html_eq.1, gen_html_eq.2, Bool.false_eq_true, if_false]
  exact searchFrom_html _

theorem findDeclaredRx_eq (markup : List Nat) (isHtml : Bool) :
    findDeclaredRx false markup isHtml false = findDeclared markup isHtml := by
  unfold findDeclaredRx findDeclared xmlMatch
  simp only [Bool.false_eq_true, if_false, search_xml, search_html]
  rfl

/-! ## both flavours: nothing is declared in a text without `<` -/

theorem ci_langle_str (x : Nat) : strFlavor.ci 60 x = (x == 60) := by
  have : Gen.c07CiTable.lookup 60 = none := by decide +kernel
  simp [strFlavor, this]

theorem starG_none_of_k_none (p : Nat → Bool) (k : K) (inp : List Nat)
    (hk : ∀ t st, (∀ x ∈ t, x ∈ inp) → k t st = none) (st : St) : starG p k inp st = none := by
  induction inp generalizing st with
  | nil => exact hk [] st (fun _ h => h)
  | cons x t ih =>
    simp only [starG]
    have h1 : ∀ st', starG p k t st' = none := fun st' =>
      ih (fun t' st'' ht' => hk t' st'' (fun y hy => List.mem_cons_of_mem _ (ht' y hy))) st'
    have h2 : k (x :: t) st = none := hk (x :: t) st (fun _ h => h)
    split
    · rw [h1, h2]
    · exact h2

/-- in both flavours only `<` itself matches the literal `<` -/
theorem findDeclaredRx_none_of_no_lt (isStr : Bool) (markup : List Nat) (isHtml entire : Bool)
    (h : ∀ x ∈ markup, x ≠ 60) : findDeclaredRx isStr markup isHtml entire = none := by
  have hci : ∀ x, (if isStr then strFlavor else bytesFlavor).ci 60 x = (x == 60) := by
    intro x; cases isStr
    · exact test_lit_nonletter 60 x (by omega)
    · exact ci_langle_str x
  unfold findDeclaredRx
  dsimp only
  generalize (if isStr then strFlavor else bytesFlavor) = F at hci ⊢
  have hone : ∀ (k : K) (t : List Nat) (st : St), (∀ x ∈ t, x ≠ 60) → one (Cls.test F (.lit 60)) k t st = none := by
    intro k t st ht
    cases t with
    | nil => rfl
    | cons x r =>
      have : (x == 60) = false := by simpa using ht x List.mem_cons_self
      simp [one, Cls.test, hci, this]
  have hxml : ∀ n, search F xmlPattern markup n = none := by
    intro n
    unfold search xmlPattern
    simp only [gen_xml_eq.1, gen_xml_eq.2, if_true]
    unfold matchHere xmlAtomsH
    simp only [mSeq, mAtom, lits, List.map_cons, List.cons_append]
    apply starG_none_of_k_none
    intro t st ht
    exact hone _ t st (fun x hx => h x (List.mem_of_mem_take (ht x hx)))
  have hhtml : ∀ n, search F htmlPattern markup n = none := by
    intro n
    unfold search htmlPattern
    simp only [gen_html_eq.1, gen_html_eq.2, Bool.false_eq_true, if_false]
    have hw : ∀ x ∈ markup.take n, x ≠ 60 := fun x hx => h x (List.mem_of_mem_take hx)
    generalize markup.take n = w at hw
    have hm : ∀ w, (∀ x ∈ w, x ≠ 60) → matchHere F htmlAtomsH w = none := fun w hw => by
      simp only [matchHere, htmlAtomsH, mSeq, mAtom]
      exact hone _ w _ hw
    induction w with
    | nil => exact hm [] hw
    | cons x t ih =>
      simp only [searchFrom, hm _ hw]
      exact ih (fun y hy => hw y (List.mem_cons_of_mem _ hy))
  simp only [hxml, hhtml]
  cases isHtml <;> rfl

end BS.EncodingIn.Rx
