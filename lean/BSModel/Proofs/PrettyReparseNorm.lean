import BSModel.Proofs.PrettyReparse
import BSModel.Proofs.RenderWrittenNorm
/-! C14 ↔ C05: the normal form (C04's `normalise`: the tree a parse builds) of the written document of
    `prettyTreeL ds` equals that of `ds` once whitespace in character data is erased (`eraseWsL`). -/
namespace BS.PrettyReparse
open BS.Render BS.Builder BS.Writer
open BS.Pretty (rep strip isSpace dropWs dropWs_append dropWs_all dropWs_strip dropWs_rep dropWs_nl dropWs_nil_of_strip)

/-- what the statement needs of the builder configuration: `ASCII_SPACES` are whitespace (`str.isspace`), and no string
    container gives character data the class of a comment / CDATA / PI / declaration / doctype -/
structure CfgWs (cfg : Cfg) : Prop where
  spaces : ∀ c ∈ cfg.asciiSpaces, isSpace c = true
  containers : ∀ n c, cfg.container n = some c → isSpecialCls c = false

theorem eraseWsL_append (cfg : Cfg) : ∀ (a b : List Doc), eraseWsL cfg (a ++ b) = eraseWsL cfg a ++ eraseWsL cfg b
  | [], _ => rfl
  | x :: xs, b => by simp [eraseWsL, eraseWsL_append cfg xs b]

theorem textCls_ok {cfg : Cfg} (hc : CfgWs cfg) (ctx : List Name) : isSpecialCls (textCls cfg ctx) = false := by
  unfold Writer.textCls
  cases ctx.find? (fun n => (cfg.container n).isSome) with
  | none => simp only [Option.bind_none, Option.getD_none]; decide
  | some n =>
    simp only [Option.bind_some]
    cases h : cfg.container n with
    | none => simp only [Option.getD_none]; decide
    | some c => exact hc.containers n c h

theorem dropWs_wsRule {cfg : Cfg} (hc : CfgWs cfg) (ctx : List Name) (s : PStr) : dropWs (wsRule cfg ctx s) = dropWs s := by
  unfold Writer.wsRule
  split
  · rename_i h
    simp only [Bool.and_eq_true, List.all_eq_true] at h
    have hs : dropWs s = [] := dropWs_all (fun c hcs => hc.spaces c (by simpa using h.2 c hcs))
    rw [hs]
    split <;> decide
  · rfl

/-- the non-whitespace characters of a pending run -/
def pd (p : Option PStr) : PStr := dropWs (p.getD [])

theorem erase_flush {cfg : Cfg} (hc : CfgWs cfg) (ctx : List Name) (p : Option PStr) :
    eraseWsL cfg (flushP cfg ctx p) = if pd p = [] then [] else [Doc.text (textCls cfg ctx) (pd p)] := by
  cases p with
  | none => simp [flushP, eraseWsL, pd, dropWs]
  | some s =>
    simp only [flushP, eraseWsL, eraseWs, textCls_ok hc ctx, Bool.false_eq_true, if_false, dropWs_wsRule hc, List.append_nil,
      pd, Option.getD_some]
    split <;> simp_all

/-- two written forests build the same tree modulo whitespace in character data, whatever equivalent runs are pending -/
def Sim (cfg : Cfg) (ctx : List Name) (A B : List WDoc) : Prop :=
  ∀ p p', pd p = pd p' →
    eraseWsL cfg (normL cfg ctx p A).1 = eraseWsL cfg (normL cfg ctx p' B).1 ∧ pd (normL cfg ctx p A).2 = pd (normL cfg ctx p' B).2

theorem Sim.nil (cfg : Cfg) (ctx : List Name) : Sim cfg ctx [] [] := by
  intro p p' h
  simp [normL, h]

theorem Sim.append {cfg : Cfg} {ctx : List Name} {A B A' B' : List WDoc} (h1 : Sim cfg ctx A B) (h2 : Sim cfg ctx A' B') :
    Sim cfg ctx (A ++ A') (B ++ B') := by
  intro p p' h
  rw [normL_append, normL_append]
  obtain ⟨e1, q1⟩ := h1 p p' h
  obtain ⟨e2, q2⟩ := h2 _ _ q1
  simp only [eraseWsL_append, e1, e2, q2, and_self]

theorem norm_text (cfg : Cfg) (ctx : List Name) (p : Option PStr) (a : PStr) :
    (normL cfg ctx p [.text a]).1 = [] ∧ pd (normL cfg ctx p [.text a]).2 = pd p ++ dropWs a := by
  simp only [normL, norm1, List.append_nil, true_and]
  cases a with
  | nil => simp [pd, dropWs]
  | cons x xs => simp [pd, dropWs_append]

theorem sim_text (cfg : Cfg) (ctx : List Name) (a b : PStr) (h : dropWs a = dropWs b) : Sim cfg ctx [.text a] [.text b] := by
  intro p p' hp
  obtain ⟨e1, q1⟩ := norm_text cfg ctx p a
  obtain ⟨e2, q2⟩ := norm_text cfg ctx p' b
  rw [e1, e2, q1, q2, hp, h]
  simp

theorem sim_ws_r (cfg : Cfg) (ctx : List Name) (x : PStr) (h : dropWs x = []) : Sim cfg ctx [] [.text x] := by
  intro p p' hp
  obtain ⟨e2, q2⟩ := norm_text cfg ctx p' x
  rw [e2, q2, h]
  simp [normL, hp]

theorem sim_ws_l (cfg : Cfg) (ctx : List Name) (x : PStr) (h : dropWs x = []) : Sim cfg ctx [.text x] [] := by
  intro p p' hp
  obtain ⟨e2, q2⟩ := norm_text cfg ctx p x
  rw [e2, q2, h]
  simp [normL, hp]

theorem sim_one {cfg : Cfg} (hc : CfgWs cfg) (ctx : List Name) : ∀ d : WDoc, Sim cfg ctx [d] [d]
  | .text s => sim_text cfg ctx s s rfl
  | .special _ _ | .elem _ _ _ => fun p p' hp => by  -- only the flush differs: `erase_flush`
    simp only [normL, norm1, List.append_nil, eraseWsL_append, erase_flush hc, hp, and_self]

theorem sim_elem_in {cfg : Cfg} (hc : CfgWs cfg) (ctx : List Name) (n : Name) (a : List (PStr × Option PStr))
    (ks ks' : List WDoc) (hn : cfg.preserve n = false) (h : Sim cfg (n :: ctx) ks ks') :
    Sim cfg ctx [.elem n a ks] [.elem n a ks'] := by
  intro p p' hp
  obtain ⟨e, q⟩ := h none none rfl
  simp only [normL, norm1, List.append_nil, eraseWsL_append, erase_flush hc, hp, eraseWsL, eraseWs, hn, Bool.false_eq_true,
    if_false, e, q, and_self]

theorem Sim.refl {cfg : Cfg} (hc : CfgWs cfg) (ctx : List Name) : ∀ (A : List WDoc), Sim cfg ctx A A
  | [] => Sim.nil cfg ctx
  | d :: A => (sim_one hc ctx d).append (Sim.refl hc ctx A)

/-- `b` is `a` with strings from `P` added between siblings and text changed in whitespace only (dropped if blank), also
    below laid-out elements. `∀ x, toWDocStr c x = [.text x]`: a text class. `Padded.sim` reads the first two of `tag`'s
    conditions, `Padded.parts` the two on `cbe` (not `<x/>`). -/
inductive Padded (P : PStr → Prop) (pwt : Option (List PStr)) : List Node → List Node → Prop
  | nil : Padded P pwt [] []
  | ins {a b : List Node} (x : PStr) : P x → Padded P pwt a b → Padded P pwt a (ws x :: b)
  | keep {a b : List Node} (n : Node) : Padded P pwt a b → Padded P pwt (n :: a) (n :: b)
  | text {a b : List Node} (c : SCls) (s s' : PStr) : (∀ x, toWDocStr c x = [.text x]) → dropWs s = dropWs s' →
      Padded P pwt a b → Padded P pwt (.str c s :: a) (.str c s' :: b)
  | drop {a b : List Node} (c : SCls) (s : PStr) : (∀ x, toWDocStr c x = [.text x]) → dropWs s = [] →
      Padded P pwt a b → Padded P pwt (.str c s :: a) b
  | tag {a b ks ks' : List Node} (i : TagInfo) : (ks.isEmpty && i.cbe) = false → isPre pwt i = false →
      (ks'.isEmpty && i.cbe) = false → Padded P pwt ks ks' → Padded P pwt a b → Padded P pwt (.tag i ks :: a) (.tag i ks' :: b)

theorem Padded.append {P : PStr → Prop} {pwt : Option (List PStr)} {a b c d : List Node} (h1 : Padded P pwt a b) (h2 : Padded P pwt c d) :
    Padded P pwt (a ++ c) (b ++ d) := by
  induction h1 with
  | nil => exact h2
  | ins x hx _ ih => exact .ins x hx ih
  | keep n _ ih => exact .keep n ih
  | text c s s' hc hs _ ih => exact .text c s s' hc hs ih
  | drop c s hc hs _ ih => exact .drop c s hc hs ih
  | tag i h1 h2 h3 hk _ _ ih => exact .tag i h1 h2 h3 hk ih

theorem Padded.snoc {P : PStr → Prop} {pwt : Option (List PStr)} {a b : List Node} (h : Padded P pwt a b) (x : PStr) (hx : P x) :
    Padded P pwt a (b ++ [ws x]) := by
  simpa using h.append (.ins x hx .nil)

theorem Padded.line {P : PStr → Prop} {pwt : Option (List PStr)} {n n' : Node} {u : PStr} (hn : P [10]) (hr : ∀ l, P (rep u l))
    (l : Int) (h : Padded P pwt [n] [n']) : Padded P pwt [n] (line u l n') :=
  .ins _ (hr l) (h.snoc [10] hn)

/-- a re-parse does not see the padding -/
theorem Padded.sim {cfg : Cfg} (hc : CfgWs cfg) (f : Fmt) {pwt : Option (List PStr)} {a b : List Node}
    (h : Padded (dropWs · = []) pwt a b) :
    ∀ (ctx : List Name), preAgreeL cfg pwt a = true → Sim cfg ctx (toWDocL f a) (toWDocL f b) := by
  induction h with
  | nil => exact fun ctx _ => Sim.nil cfg ctx
  | ins x hx _ ih => exact fun ctx ha => (sim_ws_r cfg ctx x hx).append (ih ctx ha)
  | keep n _ ih =>
    intro ctx ha
    simp only [preAgreeL, Bool.and_eq_true] at ha
    exact (Sim.refl hc ctx _).append (ih ctx ha.2)
  | text c s s' hc' hs _ ih =>
    intro ctx ha
    simp only [toWDocL, toWDoc, hc']
    exact (sim_text cfg ctx s s' hs).append (ih ctx (by simpa [preAgreeL, preAgree] using ha))
  | drop c s hc' hs _ ih =>
    intro ctx ha
    simp only [toWDocL, toWDoc, hc']
    exact (sim_ws_l cfg ctx s hs).append (ih ctx (by simpa [preAgreeL, preAgree] using ha))
  | tag i hnotEmpty hlaid _ _ _ ihkids ih =>
    intro ctx ha
    simp only [preAgreeL, preAgree, hnotEmpty, hlaid, Bool.false_or, Bool.and_eq_true, Bool.not_eq_true'] at ha
    obtain ⟨⟨hnotPreserved, hkids⟩, hrest⟩ := ha
    exact (sim_elem_in hc ctx _ _ _ _ hnotPreserved (ihkids _ hkids)).append (ih ctx hrest)

mutual
theorem padded_prettyTree {P : PStr → Prop} {u : PStr} (hn : P [10]) (hr : ∀ l, P (rep u l)) (pwt : Option (List PStr)) :
    ∀ (n : Node) (l : Int), Padded P pwt [n] (prettyTree u pwt l n)
  | .str c s, l => by
    have htext : ∀ c' : SCls, (∀ x, toWDocStr c' x = [.text x]) →
        Padded P pwt [.str c' s] (if strip s = [] then [] else line u l (.str c' (strip s))) := by
      intro c' hc'
      split
      · exact .drop c' s hc' (dropWs_nil_of_strip ‹_›) .nil
      · exact .line hn hr l (.text c' s _ hc' (dropWs_strip s).symm .nil)
    cases c
    case doctype => exact .ins _ (hr l) (.keep _ .nil)
    case comment | cdata | pi | xmlpi | declaration => exact .line hn hr l (.keep _ .nil)
    case navigable | stylesheet | script | template | rubyText | rubyParen | preformatted => exact htext _ fun _ => rfl
  | .tag i ks, l => by
    cases hv : (ks.isEmpty && i.cbe) with
    | true =>  -- empty-element tag
      simp only [prettyTree, hv, if_true]
      exact .line hn hr l (.keep _ .nil)
    | false =>
      cases hp : isPre pwt i with
      | true =>  -- whitespace-preserving
        simp only [prettyTree, hv, hp, Bool.false_eq_true, if_true, if_false]
        exact .line hn hr l (.keep _ .nil)
      | false =>  -- laid out
        simp only [prettyTree, hv, hp, Bool.false_eq_true, if_false]
        exact .line hn hr l (.tag i hv hp rfl
          (.ins _ hn ((padded_prettyTreeL hn hr pwt ks (l + 1)).snoc _ (hr l))) .nil)
theorem padded_prettyTreeL {P : PStr → Prop} {u : PStr} (hn : P [10]) (hr : ∀ l, P (rep u l)) (pwt : Option (List PStr)) :
    ∀ (ns : List Node) (l : Int), Padded P pwt ns (prettyTreeL u pwt l ns)
  | [], _ => .nil
  | n :: ns, l => (padded_prettyTree hn hr pwt n l).append (padded_prettyTreeL hn hr pwt ns l)
end

theorem sim_treeL {cfg : Cfg} (hc : CfgWs cfg) (f : Fmt) (u : PStr) (hu : ∀ c ∈ u, isSpace c = true) (pwt : Option (List PStr)) :
    ∀ (ns : List Node) (ctx : List Name) (l : Int), preAgreeL cfg pwt ns = true →
      Sim cfg ctx (toWDocL f ns) (toWDocL f (prettyTreeL u pwt l ns)) :=
  fun ns ctx l h => (padded_prettyTreeL dropWs_nl (dropWs_rep u · hu) pwt ns l).sim hc f ctx h

theorem sim_tree {cfg : Cfg} (hc : CfgWs cfg) (f : Fmt) (u : PStr) (hu : ∀ c ∈ u, isSpace c = true) (pwt : Option (List PStr)) :
    ∀ (n : Node) (ctx : List Name) (l : Int), preAgree cfg pwt n = true →
      Sim cfg ctx (toWDoc f n) (toWDocL f (prettyTree u pwt l n)) :=
  fun n ctx l h => by simpa [toWDocL] using (padded_prettyTree dropWs_nl (dropWs_rep u · hu) pwt n l).sim hc f ctx (by simpa [preAgreeL] using h)

theorem erase_normalise_pretty {cfg : Cfg} (hc : CfgWs cfg) (f : Fmt) (u : PStr) (hu : ∀ c ∈ u, isSpace c = true)
    (pwt : Option (List PStr)) (l : Int) (ds : List Node) (h : preAgreeL cfg pwt ds = true) :
    eraseWsL cfg (normalise cfg (toWDocL f (prettyTreeL u pwt l ds))) = eraseWsL cfg (normalise cfg (toWDocL f ds)) := by
  obtain ⟨e, q⟩ := sim_treeL hc f u hu pwt ds [cfg.rootName] l h none none rfl
  simp only [normalise, eraseWsL_append, erase_flush hc, e, q]

end BS.PrettyReparse
