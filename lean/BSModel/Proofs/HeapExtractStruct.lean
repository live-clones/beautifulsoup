import BSModel.Proofs.HeapExtractComp
import BSModel.Proofs.HeapExtractGeom
/-! Pillar 1, part 3: the clauses of `WF h' (cutWit w x)` for `Cut h h' p x L` -/
namespace BS.Heap

section
variable {h h' : Heap} {w : Wit} {x p L : Nat}

theorem cut_size_le (x n : Nat) : (cutWit w x).size n ≤ w.size n := by
  show (if _ then _ else _) ≤ _
  split
  · exact Nat.sub_le _ _
  · exact Nat.le_refl _

section
variable (hwf : WF h w) (hp : h.parent x = some p)
include hwf hp

theorem Cut.kids_erase (C : Cut h h' p x L) (n : Nat) : h'.kids n = (h.kids n).erase x := by
  rw [C.kids]
  split
  · next e => rw [e]
  · next e => exact (List.erase_of_not_mem fun hm => e (some_parent_eq (hwf.kid_parent n x hm) hp)).symm

theorem Cut.mem_kids (C : Cut h h' p x L) (n k : Nat) : k ∈ h'.kids n ↔ k ∈ h.kids n ∧ k ≠ x := by
  rw [C.kids_erase hwf hp, (tiles_nodup _ _ _ _ _ (hwf.tiles n)).mem_erase_iff]
  exact And.comm

theorem cut_size_pos (n : Nat) : 1 ≤ (cutWit w x).size n := by
  -- `n` starts before it ends
  have := ((cut_splice hwf hp).pos_lt_end_iff (a := n) (b := n) rfl).mpr (by have := hwf.size_pos n; omega)
  omega

/-- a node and its children (`x` apart) have their endpoints moved by one map -/
theorem cut_tiles (n : Nat) :
    Tiles (cutWit w x).pos (cutWit w x).size ((h.kids n).erase x)
      ((cutWit w x).pos n + 1) ((cutWit w x).pos n + (cutWit w x).size n) := by
  have hsx := hwf.size_pos x
  have hT := hwf.tiles n
  have hxn : ¬ w.inSub x n → ∀ k ∈ h.kids n, k ≠ x → ¬ w.inSub x k :=
    fun hn k hk hkx => mt (kid_inSub_iff hwf x n k hk hkx).mp hn
  by_cases ht : w.tree n = w.tree x
  · by_cases hi : w.inSub x n
    · obtain ⟨_, _, pn, sn⟩ := cut_in hwf x n hi
      have hx : x ∉ h.kids n := fun hm => by have := wf_parent_pos hwf (hwf.kid_parent n x hm); have := hi.2.1; omega
      rw [List.erase_of_not_mem hx]
      refine tiles_map (· - w.pos x) hT (fun k hk => ?_) (by omega) (by omega)
      have := cut_in hwf x k ((kid_inSub_iff hwf x n k hk (fun e => hx (e ▸ hk))).mpr hi)
      have := hwf.size_pos k
      exact ⟨by omega, by omega, by omega⟩
    · -- outside it: the collapse map; `x` itself (if `n = p`) collapses to a point
      obtain ⟨sn, _, _, pn, qn⟩ := cut_out hwf x n ht hi
      refine tiles_map_erase (cutPt (w.pos x) (w.size x)) x cutPt_collapse hT (fun k hk hkx => ?_)
        (by rw [cutPt_succ sn, pn]) qn
      obtain ⟨_, _, _, pk, qk⟩ := cut_out hwf x k ((hwf.kid_tree n k hk).trans ht) (hxn hi k hk hkx)
      exact ⟨pk, qk, cut_size_pos hwf hp k⟩
  · have hx : x ∉ h.kids n := fun hm => ht (hwf.kid_tree n x hm).symm
    obtain ⟨_, pn, sn⟩ := cut_other x n ht
    rw [List.erase_of_not_mem hx, pn, sn]
    exact tiles_congr _ _ _ _ _ _ _ hT fun k hk =>
      (cut_other x k fun e => ht ((hwf.kid_tree n k hk).symm.trans e)).2

/-- over the parent field as `Cut.parent` gives it (so the next) -/
theorem cut_root_tree (r : Nat) (hr : (if r = x then none else h.parent r) = none) :
    (cutWit w x).tree r = r ∧ (cutWit w x).pos r = 0 := by
  have hxf := wf_parent_pos hwf hp
  by_cases hrx : r = x
  · subst hrx
    have := cut_in hwf r r ⟨rfl, Nat.le_refl _, by have := hwf.size_pos r; omega⟩
    omega
  · rw [if_neg hrx] at hr
    obtain ⟨r1, r2⟩ := hwf.root_tree r hr
    by_cases ht : w.tree r = w.tree x
    · obtain ⟨_, _, tr, pr, _⟩ := cut_out hwf x r ht (fun hi => by have := hi.2.1; omega)
      rw [tr, pr, ← ht, r2]; exact ⟨r1, if_pos (Nat.zero_le _)⟩
    · have := cut_other x r ht; omega

omit hp in
theorem cut_tree_root (n : Nat) :
    (if (cutWit w x).tree n = x then none else h.parent ((cutWit w x).tree n)) = none := by
  by_cases hi : w.inSub x n
  · have e : (cutWit w x).tree n = x := if_pos hi
    rw [if_pos e]
  · have e : (cutWit w x).tree n = w.tree n := if_neg hi
    rw [e]; split
    · rfl
    · exact hwf.tree_root n

theorem cut_bound (n : Nat) :
    (cutWit w x).pos n + (cutWit w x).size n ≤ (cutWit w x).size ((cutWit w x).tree n) := by
  obtain ⟨t, p0⟩ := cut_root_tree hwf hp _ (cut_tree_root hwf n)
  -- the new root (`x` or the old one) bounded `n` before the cut
  have hold : w.pos n + w.size n ≤ w.pos ((cutWit w x).tree n) + w.size ((cutWit w x).tree n) := by
    by_cases hi : w.inSub x n
    · rw [show (cutWit w x).tree n = x from if_pos hi]
      exact (cut_in hwf x n hi).1
    · rw [show (cutWit w x).tree n = w.tree n from if_neg hi]
      have := hwf.bound n
      omega
  have := ((cut_splice hwf hp).end_le_iff t).mpr (Or.inl hold)
  omega

theorem cut_inj (a b : Nat)
    (ht : (cutWit w x).tree a = (cutWit w x).tree b) (hpos : (cutWit w x).pos a = (cutWit w x).pos b) :
    a = b := by
  have h1 := (cut_splice hwf hp).pos_lt_iff ht
  have h2 := (cut_splice hwf hp).pos_lt_iff ht.symm
  exact hwf.inj a b ((cut_tree_eq_iff hwf hp a b).mp ht).1 (by omega)

theorem cut_laminar (a b : Nat)
    (ht : (cutWit w x).tree a = (cutWit w x).tree b) (h1 : (cutWit w x).pos a ≤ (cutWit w x).pos b)
    (h2 : (cutWit w x).pos b < (cutWit w x).pos a + (cutWit w x).size a) :
    (cutWit w x).pos b + (cutWit w x).size b ≤ (cutWit w x).pos a + (cutWit w x).size a := by
  have sp := cut_splice hwf hp
  have h1' := sp.pos_lt_iff ht.symm
  exact (sp.end_le_iff ht).mpr (Or.inl
    (hwf.laminar a b ((cut_tree_eq_iff hwf hp a b).mp ht).1 (by omega) ((sp.pos_lt_end_iff ht).mp h2)))

theorem cut_adj_iff (a b : Nat) :
    ((cutWit w x).tree a = (cutWit w x).tree b ∧ (cutWit w x).pos b = (cutWit w x).pos a + 1) ↔
    (w.tree a = w.tree b ∧ w.pos b = w.pos a + 1 ∧
      ¬ (w.tree b = w.tree x ∧ (w.pos b = w.pos x ∨ w.pos b = w.pos x + w.size x))) ∨
    (w.tree a = w.tree x ∧ w.tree b = w.tree x ∧ w.pos a + 1 = w.pos x ∧ w.pos b = w.pos x + w.size x) := by
  have hsx := hwf.size_pos x
  constructor
  · rintro ⟨ht, hs⟩
    obtain ⟨hab, hio⟩ := (cut_tree_eq_iff hwf hp a b).mp ht
    rcases ((cut_splice hwf hp).succ_iff ht).mp hs with e | ⟨t, e1, e2⟩
    · -- a step into the segment or out of it joins a node inside with one outside
      refine Or.inl ⟨hab, e, fun ⟨tb, hx⟩ => ?_⟩
      rcases hx with hx | hx
      · have := (hio.mpr ⟨tb, by omega, by omega⟩).2.1; omega
      · have := (hio.mp ⟨hab.trans tb, by omega, by omega⟩).2.2; omega
    · exact Or.inr ⟨t, hab ▸ t, e1, e2⟩
  · rintro (⟨hab, e, hn⟩ | ⟨ta, tb, e1, e2⟩)
    · have hio : w.inSub x a ↔ w.inSub x b := by unfold Wit.inSub; omega
      have ht := (cut_tree_eq_iff hwf hp a b).mpr ⟨hab, hio⟩
      exact ⟨ht, ((cut_splice hwf hp).succ_iff ht).mpr (Or.inl e)⟩
    · have ht := (cut_tree_eq_iff hwf hp a b).mpr ⟨ta.trans tb.symm,
        iff_of_false (fun c => by have := c.2.1; omega) (fun c => by have := c.2.2; omega)⟩
      exact ⟨ht, ((cut_splice hwf hp).succ_iff ht).mpr (Or.inr ⟨ta, e1, e2⟩)⟩

/-- the successor relation of the cut witness: the old one with `x … L` taken out -/
theorem cut_elems (C : Cut h h' p x L) (hLt : w.tree L = w.tree x) (hLp : w.pos L + 1 = w.pos x + w.size x) :
    Links h'.ne h'.pe fun a b => w.unl a = false ∧ (cutWit w x).tree a = (cutWit w x).tree b ∧
      (cutWit w x).pos b = (cutWit w x).pos a + 1 := by
  have hsx := hwf.size_pos x
  have huL : w.unl L = false := wf_unl_pos hwf (by have := wf_parent_pos hwf hp; omega)
  refine ((hwf.elems.cut x L (fun ⟨_, _, c⟩ => by omega) fun a ⟨_, _, c⟩ ⟨_, _, d⟩ => by omega).congr
    fun a b => ?_).reads C.ne C.pe
  rw [cut_adj_iff hwf hp]
  constructor
  · rintro ⟨hu, ⟨hab, e, hn⟩ | ⟨ta, tb, e1, e2⟩⟩
    · refine Or.inl ⟨⟨hu, hab, e⟩, ?_, ?_⟩ <;> rintro rfl
      · exact hn ⟨by omega, Or.inr (by omega)⟩
      · exact hn ⟨rfl, Or.inl rfl⟩
    · exact Or.inr ⟨⟨hu, ta, e1.symm⟩, huL, by omega, by omega⟩
  · rintro (⟨⟨hu, hab, e⟩, hL, hx⟩ | ⟨⟨hu, ta, e1⟩, -, tb, e2⟩)
    · exact ⟨hu, Or.inl ⟨hab, e, fun ⟨tb, hc⟩ => hc.elim (fun c => hx (hwf.inj b x tb c))
        fun c => hL (hwf.inj a L (by omega) (by omega))⟩⟩
    · exact ⟨hu, Or.inr ⟨ta, by omega, by omega, by omega⟩⟩

/-- two children of `q` around a gap that starts at `pos x`: then `q` is `x`'s parent -/
theorem gap_parent (q a b : Nat)
    (ha : a ∈ h.kids q) (hb : b ∈ h.kids q) (hta : w.tree a = w.tree x)
    (h1 : w.pos a + w.size a = w.pos x) (h2 : w.pos x < w.pos b) : q = p := by
  have hbf := wf_parent_pos hwf (hwf.kid_parent q b hb)
  have haf := wf_parent_pos hwf (hwf.kid_parent q a ha)
  have hsb := hwf.size_pos b
  obtain ⟨c, hc, hcp⟩ := (tiles_next _ _ _ _ _ (hwf.tiles q) a ha).resolve_left (by omega)
  have hcf := wf_parent_pos hwf (hwf.kid_parent q c hc)
  have : c = x := hwf.inj c x (by omega) (by omega)
  subst this
  exact some_parent_eq (hwf.kid_parent q c hc) hp

theorem sib_meet_iff {q a b : Nat}
    (ha : h.parent a = some q) (hb : h.parent b = some q) (hax : a ≠ x) (hbx : b ≠ x) :
    (cutWit w x).pos b = (cutWit w x).pos a + (cutWit w x).size a ↔
      w.pos b = w.pos a + w.size a ∨
      (q = p ∧ w.pos a + w.size a = w.pos x ∧ w.pos b = w.pos x + w.size x) := by
  have ham := hwf.parent_kid a q ha
  have hbm := hwf.parent_kid b q hb
  have hsx := hwf.size_pos x
  rw [(cut_splice hwf hp).meet_iff ((cut_kid_tree hwf hp q a ham hax).trans (cut_kid_tree hwf hp q b hbm hbx).symm)]
  refine or_congr_right ⟨fun ⟨t, e1, e2⟩ => ⟨gap_parent hwf hp q a b ham hbm t e1 (by omega), e1, e2⟩, ?_⟩
  rintro ⟨rfl, e⟩
  exact ⟨(hwf.kid_tree q a ham).trans (wf_parent_pos hwf hp).1.symm, e⟩

theorem cut_sibs (C : Cut h h' p x L) :
    Links h'.ns h'.ps fun a b => (∃ q, h'.parent a = some q ∧ h'.parent b = some q) ∧
      (cutWit w x).pos b = (cutWit w x).pos a + (cutWit w x).size a := by
  have hsx := hwf.size_pos x
  refine ((hwf.sibs.cut x x (fun ⟨_, c⟩ => by omega)
    fun a ⟨_, c⟩ ⟨_, d⟩ => by have := hwf.size_pos a; omega).congr fun a b => ?_).reads C.ns C.ps
  rw [C.parent, C.parent]
  by_cases hax : a = x
  · -- `x` has no parent after the cut, and `size x ≥ 1`
    rw [if_pos hax]; subst hax
    exact ⟨fun ⟨⟨_, c, _⟩, _⟩ => (nomatch c), fun c => c.elim (fun c => absurd rfl c.2.1) fun ⟨⟨_, c⟩, _⟩ => by omega⟩
  by_cases hbx : b = x
  · rw [if_pos hbx]; subst hbx
    exact ⟨fun ⟨⟨_, _, c⟩, _⟩ => (nomatch c), fun c => c.elim (fun c => absurd rfl c.2.2) fun ⟨_, _, c⟩ => by omega⟩
  rw [if_neg hax, if_neg hbx]
  constructor
  · rintro ⟨⟨q, q1, q2⟩, hm⟩
    rcases (sib_meet_iff hwf hp q1 q2 hax hbx).mp hm with e | ⟨hq, e1, e2⟩
    · exact Or.inl ⟨⟨⟨q, q1, q2⟩, e⟩, hax, hbx⟩
    · subst hq; exact Or.inr ⟨⟨⟨_, q1, hp⟩, e1.symm⟩, ⟨_, hp, q2⟩, e2⟩
  · rintro (⟨⟨⟨q, q1, q2⟩, e⟩, -, -⟩ | ⟨⟨⟨q, q1, qx⟩, e1⟩, ⟨q', qx', q2⟩, e2⟩)
    · exact ⟨⟨q, q1, q2⟩, (sib_meet_iff hwf hp q1 q2 hax hbx).mpr (Or.inl e)⟩
    · cases some_parent_eq qx hp
      cases some_parent_eq qx' hp
      exact ⟨⟨_, q1, q2⟩, (sib_meet_iff hwf hp q1 q2 hax hbx).mpr (Or.inr ⟨rfl, e1.symm, e2⟩)⟩

end
end

end BS.Heap
