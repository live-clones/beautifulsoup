import BSModel.Proofs.Html5Fix
/-! The reader for text that is the LAST THING OF THE DOCUMENT (`Reader.readTextEnd`: no tag after the text, html.parser's
    end-of-input behaviour): it is a reader in the sense of `Reads`, which gives the round trips of `substitute_xml` and
    `substitute_html` (`roundtrip_covered`); for the repaired `substitute_html5` it is a reader of element text in the sense
    of `fix_text_roundtrip_of`. -/
namespace BS.Entities
open BS.Reader

theorem readTextEnd_skip (T : Tbl) (late : Bool) : ∀ k l, readTextEnd T late k l = readTextEnd T late 0 (l.drop k) :=
  skip_drop (fun k => by cases k <;> rfl) fun _ _ _ => rfl

theorem readTextEnd_plain (T : Tbl) (late : Bool) (c : Nat) (cs : PStr) (h : c ≠ 38) :
    readTextEnd T late 0 (c :: cs) = c :: readTextEnd T late 0 cs := by
  simp [readTextEnd, h]

theorem readTextEnd_bare_amp (T : Tbl) (late : Bool) (y : Nat) (Y : PStr) (h1 : isAlpha y = false) (h2 : y ≠ 35) :
    readTextEnd T late 0 (38 :: y :: Y) = 38 :: readTextEnd T late 0 (y :: Y) := by
  simp [readTextEnd, h1, h2]

/-- a name run followed by some code point `y`: the reference token ends there (and takes `y` along when it is `;`).
    `readText_run` for the second reader; a run reaching the end: `readTextEnd_unknown_end`. -/
theorem readTextEnd_run (T : Tbl) (late : Bool) (a : Nat) (t : PStr) (y : Nat) (Y : PStr) (ha : isAlpha a = true)
    (hall : ∀ x ∈ a :: t, isNameChar x = true) (hy : isNameChar y = false) :
    readTextEnd T late 0 (38 :: (a :: t) ++ y :: Y) =
      entityRef T (a :: t) ++ readTextEnd T late 0 (if y = 59 then Y else y :: Y) := by
  have hspan := spanLen_append_stop isNameChar (a :: t) y Y hall hy
  generalize hname : a :: t = name at hspan ⊢
  have hcs : name ++ y :: Y = a :: (t ++ y :: Y) := by rw [← hname]; rfl
  rw [List.cons_append, hcs]
  simp only [readTextEnd, ne_eq, not_true_eq_false, ↓reduceIte, isAlpha_ne_35 ha, ha]
  rw [← hcs, hspan, List.drop_left, List.take_left]
  by_cases hy59 : y = 59
  · subst hy59
    simp only [↓reduceIte]
    rw [readTextEnd_skip T late (name.length + 1), ← List.drop_drop, List.drop_left]
    rfl
  · simp only [hy59, ↓reduceIte, Nat.add_zero]
    rw [readTextEnd_skip T late name.length, List.drop_left]

theorem readTextEnd_ref (T : Tbl) (late : Bool) (name rest : PStr) (h : isName name = true) :
    readTextEnd T late 0 (ref name ++ rest) = entityRef T name ++ readTextEnd T late 0 rest := by
  obtain ⟨a, t, rfl, ha⟩ := isName_head_alpha h
  have := readTextEnd_run T late a t 59 rest ha (fun x hx => isAlnum_nameChar (isName_alnum h x hx)) (by decide)
  simpa [ref] using this

theorem reads_textEnd (T : Tbl) (late : Bool) : Reads T (readTextEnd T late 0) where
  nil := by simp [readTextEnd]
  plain := readTextEnd_plain T late
  ref := fun n k rest hn _ hk _ => by rw [readTextEnd_ref T late n rest hn, entityRef_of_entry hk]

theorem readTextEnd_unknown_ref (T : Tbl) (late : Bool) (a : Nat) (t : PStr) (y : Nat) (Y : PStr)
    (ha : isAlpha a = true) (hall : ∀ x ∈ a :: t, isNameChar x = true) (hy : isNameChar y = false) (hy59 : y ≠ 59)
    (hunk : T.toChar.get (a :: t) = none) :
    readTextEnd T late 0 (38 :: (a :: t) ++ y :: Y) = 38 :: (a :: t) ++ readTextEnd T late 0 (y :: Y) := by
  rw [readTextEnd_run T late a t y Y ha hall hy]
  simp [entityRef, hunk, hy59]

/-- a name run that reaches the end of the document and is not one of the dangerous shapes: read as it stands -/
theorem readTextEnd_unknown_end (T : Tbl) (late : Bool) (a : Nat) (t : PStr) (ha : isAlpha a = true)
    (hall : ∀ x ∈ a :: t, isNameChar x = true)
    (heof : eofDanger T (a :: t) = false) :
    readTextEnd T late 0 (38 :: a :: t) = 38 :: a :: t := by
  have ha35 := isAlpha_ne_35 ha
  have hspan : spanLen isNameChar (a :: t) = (a :: t).length := spanLen_of_all _ _ hall
  have hdrop : List.drop (a :: t).length (a :: t) = [] := List.drop_length
  have h38 : 38 ∉ a :: t := amp_not_mem (by decide) hall
  simp only [eofDanger, ha, hspan, hdrop, List.isEmpty_nil, Bool.and_self, Bool.true_and] at heof
  simp only [readTextEnd, ne_eq, not_true_eq_false, ↓reduceIte, ha35, ha, hspan, hdrop]
  cases hq : lastDashDot (a :: t) with
  | none =>
    rw [hq] at heof
    simp only at heof ⊢
    simp [heof]
  | some q =>
    rw [hq] at heof
    simp only [Option.isSome_eq_false_iff, Option.isNone_iff_eq_none] at heof
    simp only [entityRef, heof]
    rw [readTextEnd_skip, (reads_textEnd T late).noamp _ (fun hm => h38 (List.mem_of_mem_drop hm))]
    simp

theorem fix_text_roundtrip_end_gen (T : Tbl) (late : Bool) (ps : List Particle) (rep : PStr → PStr)
    (hR : RepOK T rep ps) (hk : KeysOK ps) (hamp : T.toChar.get [97, 109, 112] = some [38]) :
    ∀ s, readTextEnd T late 0 (reSub ps rep 0 (escapeAmpersands T s)) = s :=
  fix_text_roundtrip_of (reads_textEnd T late) (by simp [readTextEnd]) (readTextEnd_bare_amp T late)
    (fun a t Y ha hall hunk hY hend => by
      cases Y with
      | nil =>
        rw [List.append_nil, readTextEnd_unknown_end T late a t ha hall (hend rfl),
          (reads_textEnd T late).nil, List.append_nil]
      | cons y Y' =>
        simpa using readTextEnd_unknown_ref T late a t y Y' ha hall (hY y Y' rfl).1 (hY y Y' rfl).2 hunk)
    (fun rest => by rw [amp_eq_ref, readTextEnd_ref T late _ _ (by decide), entityRef_of_entry hamp]; rfl) hR hk

end BS.Entities
