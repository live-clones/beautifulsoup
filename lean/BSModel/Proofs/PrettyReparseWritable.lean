import BSModel.Proofs.PrettyReparseNorm
import BSModel.Proofs.WriterMinimal
/-! C14 ↔ C05: `RenderWritable` is inherited through `Padded`, hence by the pretty tree. `Writable` under `minimalChoices` is
    restated path-independently (`mwritableL`): text is always writable under the minimal spelling, the rest does not
    look at the choices. -/
namespace BS.PrettyReparse
open BS.Render BS.Builder BS.Writer BS.WriterText BS.WriterMin

mutual
/-- `writable` under the minimal spelling: no choices left (`iv`: void names) -/
def mwritable (iv : Name → Bool) : WDoc → Bool
  | .elem n a ks =>
    nameOK n && !BS.Tokenizer.cdataContentElements.contains n && a.all (fun kv => nameOK kv.1) && (iv n || mwritableL iv ks)
  | .text _ => true
  | .special k s => specialWritable k s
def mwritableL (iv : Name → Bool) : List WDoc → Bool
  | [] => true
  | d :: ds => mwritable iv d && mwritableL iv ds
end

/-- `sp`: spelling per character index; `i`: offset of `s` -/
theorem charsWritable_min (sp : Nat → CharSp) : ∀ (s : PStr) (i : Nat),
    (∀ j ch, s[j]? = some ch → sp (i + j) = spell ch) → charsWritable sp i s = true
  | [], _, _ => rfl
  | ch :: rest, i, h => by
    have h0 : sp i = spell ch := by simpa using h 0 ch (by simp)
    have hr : ∀ j c2, rest[j]? = some c2 → sp (i + 1 + j) = spell c2 := by
      intro j c2 hj
      have := h (j + 1) c2 (by simpa using hj)
      rw [← this]; congr 1; omega
    simp only [charsWritable, h0, charsWritable_min sp rest (i + 1) hr, Bool.and_true]
    by_cases h38 : ch = 38
    · subst h38; decide
    · by_cases h60 : ch = 60
      · subst h60; decide
      · by_cases h62 : ch = 62
        · subst h62; decide
        · have e1 : spell ch = .lit false := by simp [spell, h38, h60, h62]
          simp [e1, charWritable, h38, h60]

mutual
theorem writable_agree (iv : Name → Bool) (c : Choices) : ∀ (d : WDoc) (p : Path), Agree c p d →
    writable iv c p d = mwritable iv d
  | .text s, p, h => by
    simp only [writable, mwritable]
    exact charsWritable_min (c.char p) s 0 (by intro j ch hj; simpa using h j ch hj)
  | .special _ _, _, _ => rfl
  | .elem _ _ ks, p, h => by simp only [writable, mwritable, writableL_agree iv c ks p 0 h.2]
theorem writableL_agree (iv : Name → Bool) (c : Choices) : ∀ (ds : List WDoc) (p : Path) (i : Nat), AgreeL c p i ds →
    writableL iv c p i ds = mwritableL iv ds
  | [], _, _, _ => rfl
  | d :: ds, p, i, h => by
    simp only [writableL, mwritableL, writable_agree iv c d (i :: p) h.1, writableL_agree iv c ds p (i + 1) h.2]
end

theorem writable_minimal_iff (iv : Name → Bool) (W : List WDoc) :
    Writable iv (minimalChoices W) W ↔ mwritableL iv W = true := by
  unfold Writable
  rw [writableL_agree iv (minimalChoices W) W [] 0 (agreeL_min W W [] 0 (located_root W))]

theorem mwritableL_append (iv : Name → Bool) : ∀ (a b : List WDoc),
    mwritableL iv (a ++ b) = (mwritableL iv a && mwritableL iv b)
  | [], _ => by simp [mwritableL]
  | x :: xs, b => by simp [mwritableL, mwritableL_append iv xs b, Bool.and_assoc]

theorem representableL_append (rn : Name) (iv : Name → Bool) : ∀ (a b : List WDoc),
    Writer.representableL rn iv (a ++ b) = (Writer.representableL rn iv a && Writer.representableL rn iv b)
  | [], _ => by simp [Writer.representableL]
  | x :: xs, b => by simp [Writer.representableL, representableL_append rn iv xs b, Bool.and_assoc]

/-- the three parts of `RenderWritable`, free of paths -/
def PartsOK (iv : PStr → Bool) (rn : Name) (f : Fmt) (ns : List Node) : Prop :=
  renderWritableL iv f ns = true ∧ mwritableL iv (toWDocL f ns) = true ∧ Writer.representableL rn iv (toWDocL f ns) = true

theorem PartsOK.cons {iv : PStr → Bool} {rn : Name} {f : Fmt} {n : Node} {ns : List Node} :
    PartsOK iv rn f (n :: ns) ↔ PartsOK iv rn f [n] ∧ PartsOK iv rn f ns := by
  simp only [PartsOK, renderWritableL, toWDocL, mwritableL_append, representableL_append, Bool.and_eq_true, List.append_nil,
    Bool.and_true]
  -- r/m/p: renderWritable / mwritable / representable, of `n` and of `ns`
  exact ⟨fun ⟨⟨rn', rns⟩, ⟨mn, mns⟩, pn, pns⟩ => ⟨⟨rn', mn, pn⟩, rns, mns, pns⟩,
    fun ⟨⟨rn', mn, pn⟩, rns, mns, pns⟩ => ⟨⟨rn', rns⟩, ⟨mn, mns⟩, pn, pns⟩⟩

theorem PartsOK.text {iv : PStr → Bool} {rn : Name} {f : Fmt} {c : SCls} (hc : ∀ x, toWDocStr c x = [.text x]) {s : PStr}
    (s' : PStr) (h : PartsOK iv rn f [.str c s]) : PartsOK iv rn f [.str c s'] :=
  ⟨h.1, by simp [toWDocL, toWDoc, hc, mwritableL, mwritable], by simp [toWDocL, toWDoc, hc, Writer.representableL, Writer.representable]⟩

/-- padding keeps the three parts of `RenderWritable` -/
theorem Padded.parts (iv : PStr → Bool) (rn : Name) (f : Fmt) {P : PStr → Prop} {pwt : Option (List PStr)}
    {a b : List Node} (h : Padded P pwt a b) :
    PartsOK iv rn f a → PartsOK iv rn f b := by
  induction h with
  | nil => exact id
  | ins x _ _ ih => exact fun h => PartsOK.cons.mpr ⟨⟨rfl, rfl, rfl⟩, ih h⟩
  | keep n _ ih => exact fun h => PartsOK.cons.mpr ⟨(PartsOK.cons.mp h).1, ih (PartsOK.cons.mp h).2⟩
  | text c s s' hc _ _ ih => exact fun h => PartsOK.cons.mpr ⟨(PartsOK.cons.mp h).1.text hc s', ih (PartsOK.cons.mp h).2⟩
  | drop c s _ _ _ ih => exact fun h => ih (PartsOK.cons.mp h).2
  | @tag a b ks ks' i hnotEmpty _ hnotEmpty' _ _ ihkids ih =>
    intro h
    obtain ⟨⟨h1, h2, h3⟩, ht⟩ := PartsOK.cons.mp h
    refine PartsOK.cons.mpr ⟨?_, ih ht⟩
    simp only [renderWritableL, renderWritable, Bool.and_true, Bool.and_eq_true, Bool.not_eq_true'] at h1
    obtain ⟨hhead, hk⟩ := h1
    -- a void name would force `ks = []` and `cbe`, against `hnotEmpty`
    have hiv : iv (fullName i) = false := by
      cases hiv : iv (fullName i) with
      | false => rfl
      | true =>
        simp only [hiv, if_true, Bool.and_eq_true] at hk
        rw [hk.1, hk.2] at hnotEmpty
        exact absurd hnotEmpty (by simp)
    simp only [hiv, Bool.false_eq_true, if_false, Bool.and_eq_true] at hk
    simp only [toWDocL, toWDoc, List.append_nil, mwritableL, mwritable, hiv, Bool.false_or, Bool.and_true, Bool.and_eq_true] at h2
    simp only [toWDocL, toWDoc, List.append_nil, Writer.representableL, Writer.representable, hiv, Bool.not_false, Bool.true_or,
      Bool.and_true, Bool.and_eq_true] at h3
    obtain ⟨k1, k2, k3⟩ := ihkids ⟨hk.2, h2.2, h3.2⟩
    refine ⟨?_, ?_, ?_⟩
    · simp only [renderWritableL, renderWritable, hhead, hiv, hnotEmpty', k1, Bool.not_false, Bool.false_eq_true, if_false, Bool.and_self]
    · simp only [toWDocL, toWDoc, List.append_nil, mwritableL, mwritable, hiv, Bool.false_or, Bool.and_true, k2, Bool.and_eq_true]
      exact h2.1
    · simp only [toWDocL, toWDoc, List.append_nil, Writer.representableL, Writer.representable, hiv, Bool.not_false, Bool.true_or,
        Bool.and_true, k3]
      exact h3.1

theorem parts_treeL (iv : PStr → Bool) (rn : Name) (f : Fmt) (u : PStr) (pwt : Option (List PStr)) :
    ∀ (ns : List Node) (l : Int), renderWritableL iv f ns = true → mwritableL iv (toWDocL f ns) = true →
      Writer.representableL rn iv (toWDocL f ns) = true →
      renderWritableL iv f (prettyTreeL u pwt l ns) = true ∧
      mwritableL iv (toWDocL f (prettyTreeL u pwt l ns)) = true ∧
      Writer.representableL rn iv (toWDocL f (prettyTreeL u pwt l ns)) = true :=
  fun ns l h1 h2 h3 => (padded_prettyTreeL (P := fun _ => True) (u := u) trivial (fun _ => trivial) pwt ns l).parts iv rn f ⟨h1, h2, h3⟩

theorem parts_tree (iv : PStr → Bool) (rn : Name) (f : Fmt) (u : PStr) (pwt : Option (List PStr)) :
    ∀ (n : Node) (l : Int), renderWritable iv f n = true → mwritableL iv (toWDoc f n) = true →
      Writer.representableL rn iv (toWDoc f n) = true →
      renderWritableL iv f (prettyTree u pwt l n) = true ∧
      mwritableL iv (toWDocL f (prettyTree u pwt l n)) = true ∧
      Writer.representableL rn iv (toWDocL f (prettyTree u pwt l n)) = true :=
  fun n l h1 h2 h3 => (padded_prettyTree (P := fun _ => True) (u := u) trivial (fun _ => trivial) pwt n l).parts iv rn f
    ⟨by simpa [renderWritableL] using h1, by simpa [toWDocL] using h2, by simpa [toWDocL] using h3⟩

end BS.PrettyReparse
