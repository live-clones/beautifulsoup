import BSModel.Proofs.CopyEq
/-! C12: when `==` implies equal hashes -/
namespace BS.Copy

theorem erase_of_val_decor (v w : AVal) (h1 : v.val = w.val) (h2 : v.decor = w.decor) : v.erase = w.erase := by
  cases v <;> cases w <;> simp_all [AVal.val, AVal.decor, AVal.erase]
  -- left: two bools, which `val` reads as 0 and 1
  rename_i a b
  cases a <;> cases b <;> simp_all

/-- the attribute part: same values for `==`, same kinds and classes ⇒ the same attribute map in the shape -/
theorem attrs_of_canon_decor (a b : Attrs) (h1 : attrMap a = attrMap b)
    (h2 : (fun k => (a.lookup k).map fun e : AEntry => (e.1, e.2.decor)) = fun k => (b.lookup k).map fun e : AEntry => (e.1, e.2.decor)) :
    (fun k => (eraseAttrs a).lookup k) = fun k => (eraseAttrs b).lookup k := by
  funext k
  have e1 := congrFun h1 k
  have e2 := congrFun h2 k
  simp only [attrMap] at e1
  rw [eraseAttrs_lookup, eraseAttrs_lookup]
  cases ha : a.lookup k with
  | none =>
    cases hb : b.lookup k with
    | none => rfl
    | some y => simp [ha, hb] at e1
  | some x =>
    cases hb : b.lookup k with
    | none => simp [ha, hb] at e1
    | some y =>
      simp only [ha, hb, Option.map_some, Option.some.injEq, Prod.mk.injEq] at e1 e2 ⊢
      exact ⟨e2.1, erase_of_val_decor _ _ e1 e2.2⟩

mutual
theorem rshape_of_canon_decor : ∀ (a b : Node) (inh inh' : Option Bool), canon a = canon b → decor inh a = decor inh' b →
    rshapeOf (shape inh a) = rshapeOf (shape inh' b)
  | .str i c v, .str j d w, _, _, h1, h2 => by
    simp only [canon, Canon.str.injEq] at h1
    simp only [decor, Decor.str.injEq] at h2
    simp [shape, rshapeOf, h1, h2]
  | .str _ _ _, .tag _ _ _, _, _, h1, _ => by simp [canon] at h1
  | .tag _ _ _, .str _ _ _, _, _, h1, _ => by simp [canon] at h1
  | .tag i a ks, .tag j b ls, inh, inh', h1, h2 => by
    simp only [canon, Canon.tag.injEq] at h1
    simp only [decor, Decor.tag.injEq] at h2
    obtain ⟨hn, hm, hk⟩ := h1
    obtain ⟨hd, hf, hkd⟩ := h2
    have hx : isXml inh a = isXml inh' b := by
      have := congrArg SData.xml hd
      simpa [shapeData] using this
    simp only [shape, rshapeOf, RShape.tag.injEq]
    refine ⟨?_, ?_, ?_⟩
    · -- the name from `hn`, `xml` from `hx`, every other field from `hd`
      simp only [shapeData, SData.mk.injEq] at hd ⊢
      simp_all
    · simp only [shapeData]
      exact attrs_of_canon_decor a.attrs b.attrs hm hf
    · exact rshapeL_of_canon_decor ks ls _ _ hk hkd
theorem rshapeL_of_canon_decor : ∀ (ks ls : List Node) (inh inh' : Option Bool), canonL ks = canonL ls →
    decorL inh ks = decorL inh' ls → rshapeOfL (shapeL inh ks) = rshapeOfL (shapeL inh' ls)
  | [], [], _, _, _, _ => by simp [shapeL, rshapeOfL]
  | [], _ :: _, _, _, h, _ => by simp [canonL] at h
  | _ :: _, [], _, _, h, _ => by simp [canonL] at h
  | k :: ks, l :: ls, inh, inh', h1, h2 => by
    simp only [canonL, List.cons.injEq] at h1
    simp only [decorL, List.cons.injEq] at h2
    simp only [shapeL, rshapeOfL, List.cons.injEq]
    exact ⟨rshape_of_canon_decor k l _ _ h1.1 h2.1, rshapeL_of_canon_decor ks ls _ _ h1.2 h2.2⟩
end

end BS.Copy
