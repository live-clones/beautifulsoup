import BSModel.Proofs.ParseLinkFacts
import BSModel.Proofs.BuilderRefine
/-! # Parse-time linkage: the actions derived from C03's machine close every element at the end -/
namespace BS.ParseLink
open BS.Heap BS.Builder

theorem prun_append (pst : PSt) (a b : List Act) : prun pst (a ++ b) = prun (prun pst a) b := by
  simp [prun, List.foldl_append]

theorem pstep_newStr_stack (pst : PSt) : (pstep pst .newStr).stack = pst.stack := by
  cases hs : pst.stack with
  | nil => rw [pstep_nil hs, hs]
  | cons c r => rw [pstep_newStr hs]; exact hs

theorem pstep_newTag_len (pst : PSt) (h : pst.stack ≠ []) :
    (pstep pst .newTag).stack.length = pst.stack.length + 1 := by
  cases hs : pst.stack with
  | nil => exact absurd hs h
  | cons c r => rw [pstep_newTag hs]; simp [hs]

theorem prun_flush_stack (pst : PSt) (c : Bool) :
    (prun pst (if c then [Act.newStr] else [])).stack = pst.stack := by
  cases c
  · rfl
  · exact pstep_newStr_stack pst

theorem prun_pops : ∀ (k : Nat) (pst : PSt), k + 1 ≤ pst.stack.length →
    (prun pst (List.replicate k Act.pop)).stack.length = pst.stack.length - k := by
  intro k
  induction k with
  | zero => intro pst _; rfl
  | succ k ih =>
    intro pst hk
    match hs : pst.stack with
    | [] => rw [hs] at hk; simp at hk
    | [a] => rw [hs] at hk; simp at hk
    | a :: b :: r =>
      show (prun (pstep pst .pop) (List.replicate k Act.pop)).stack.length = _
      rw [pstep_pop hs, ih _ (by rw [hs] at hk; simp at hk ⊢; omega)]
      simp only [List.length_cons]; omega


theorem endData_len (cfg : Cfg) (st : St) (cls : Option Cls) :
    (endData cfg st cls).stack.length = st.stack.length := by
  unfold endData
  split
  · rfl
  · cases st.stack <;> rfl

theorem popToTag_len_le {cfg : Cfg} {st : St} (h : Inv cfg st) (name : Name) (pfx : Option Name) :
    (popToTag cfg st name pfx).stack.length ≤ st.stack.length := by
  rw [popToTag_stack h]
  split
  · exact Nat.le_refl _
  · rw [sCloseN_length]; exact Nat.sub_le ..

theorem prun_flush_pops (pst : PSt) (c : Bool) (k : Nat) (hk : k + 1 ≤ pst.stack.length) :
    (prun (prun pst (if c then [Act.newStr] else [])) (List.replicate k Act.pop)).stack.length = pst.stack.length - k := by
  rw [prun_pops _ _ (by rw [prun_flush_stack]; exact hk), prun_flush_stack]

/-- the actions of one event move the parser's stack as the event moves C03's stack -/
theorem actsOf_len {cfg : Cfg} {st : St} (h : Inv cfg st) (pst : PSt) (hl : pst.stack.length = st.stack.length)
    (e : Ev) : (prun pst (actsOf cfg st e)).stack.length = (step cfg st e).stack.length := by
  cases e with
  | start n p =>
    have hne : pst.stack ≠ [] := List.length_pos_iff.mp (hl ▸ h.stack_pos)
    simp only [actsOf, prun_append]
    show (pstep (prun pst _) .newTag).stack.length = (endData cfg st none).stack.length + 1
    rw [pstep_newTag_len _ (by rw [prun_flush_stack]; exact hne), prun_flush_stack, hl, endData_len]
  | stop n p =>
    simp only [actsOf, prun_append]
    have hpos := ((h.endData none).popToTag n p).stack_pos
    have hle := popToTag_len_le (h.endData none) n p
    have he := endData_len cfg st none
    rw [prun_flush_pops _ _ _ (by rw [hl]; omega), hl]
    show _ = (popToTag cfg (endData cfg st none) n p).stack.length
    omega
  | data s => exact hl
  | endData c =>
    simp only [actsOf]
    rw [prun_flush_stack, hl]
    exact (endData_len cfg st c).symm

theorem actions_len (cfg : Cfg) : ∀ (evs : List Ev) (st : St) (pst : PSt), Inv cfg st →
    pst.stack.length = st.stack.length → (prun pst (actions cfg st evs)).stack.length = 1 := by
  intro evs
  induction evs with
  | nil =>
    intro st pst h hl
    have hpos := h.stack_pos
    -- the flush test as `actsOf` spells it
    have hc : (if st.buf.isEmpty = true then [] else [Act.newStr]) = if !st.buf.isEmpty then [Act.newStr] else [] := by
      cases st.buf.isEmpty <;> rfl
    simp only [actions, prun_append, hc]
    rw [prun_flush_pops _ _ _ (by rw [hl]; omega), hl]
    omega
  | cons e es ih =>
    intro st pst h hl
    simp only [actions, prun_append]
    exact ih (step cfg st e) _ (h.step e) (actsOf_len h pst hl e)

/-- **everything is closed at the end**: after the actions of a complete event list only the BeautifulSoup
    object is left on the parser's tag stack -/
theorem actions_closed (cfg : Cfg) (hc : CfgOK cfg) (evs : List Ev) :
    (prun PSt.init (actions cfg (St.init cfg) evs)).stack = [0] := by
  have hl := actions_len cfg evs (St.init cfg) PSt.init (Inv.init hc) rfl
  have hr := (parse_inv (actions cfg (St.init cfg) evs)).elim fun _ I => I.root
  match hs : (prun PSt.init (actions cfg (St.init cfg) evs)).stack with
  | [] => rw [hs] at hl; simp at hl
  | [a] => rw [hs] at hr; simp at hr; rw [hr]
  | a :: b :: r => rw [hs] at hl; simp at hl

end BS.ParseLink
