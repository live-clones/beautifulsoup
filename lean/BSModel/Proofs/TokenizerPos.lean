import BSModel.Proofs.TokenizerTerm
/-! Tokenizer: positions, coverage, faithful data and start tags on `<`, for one loop turn, the loop, `goahead` and `run`. -/
namespace BS.Tokenizer
open BS.SourcePos

/-- a start-tag callback's chunk begins with `<` -/
def EvOK (e : Ev) : Prop := (isStart e.tok = true → e.src.head? = some 60)

/-- what every stretch of the run satisfies: consumed text + rest = the text it started on; callbacks well positioned;
    the position afterwards is that of its end; data callbacks faithful; `EvOK` -/
structure Spec (pre : PStr) (s : PStr) (evs : List Ev) (st' : St) : Prop where
  cover : srcs evs ++ st'.s = s
  wp : WP pre evs
  pos : st'.pos = posOf (pre ++ srcs evs)
  data : DataOK evs
  start : ∀ e ∈ evs, EvOK e

/-- `pre` = the text before the turn, `evs0` = `applyAct`'s `pre` -/
theorem applyAct_spec (pre : PStr) (evs0 : List Ev) (s1 : PStr) (pos1 : Nat × Nat) (cd : Option PStr) (a : Act) {E : Prop}
    (hwp : WP pre evs0) (hpos : pos1 = posOf (pre ++ srcs evs0)) (hd : DataOK evs0) (hev : ∀ e ∈ evs0, EvOK e)
    (ha : ActGood E s1 a) :
    Spec pre (srcs evs0 ++ s1) (applyAct evs0 s1 pos1 cd a).1 (applyAct evs0 s1 pos1 cd a).2.1 := by
  cases a with
  | adv tok len cd' cont =>
    obtain ⟨hlen, hdata, hstart⟩ := ha
    simp only [applyAct]
    exact {
      cover := by simp [srcs_append, List.append_assoc]
      wp := by rw [WP_append]; exact ⟨hwp, by simp [WP, hpos]⟩
      pos := by simp only [srcs_append, srcs_cons, srcs_nil, List.append_nil, hpos, updatepos_posOf, List.append_assoc]
      data := by rw [DataOK_append]; exact ⟨hd, DataOK_singleton _ hdata⟩
      start := List.forall_mem_append.mpr ⟨hev, List.forall_mem_singleton.mpr fun hst => by
        rw [List.head?_take, if_neg (by omega)]; exact hstart hst⟩ }
  | _ => exact ⟨rfl, hwp, hpos, hd, hev⟩

theorem step_spec (P : Params) (end_ : Bool) (st : St) (pre : PStr) (hpos : st.pos = posOf pre) :
    Spec pre st.s (step P end_ st).1 (step P end_ st).2.1 := by
  obtain ⟨j, a, ha, _, heq⟩ := step_shape P end_ st
  -- as an equation: the split on `0 < j` rewrites it everywhere
  have hpre : ∀ (preEv : List Ev), preEv = (if 0 < j then [⟨.data (st.s.take j), st.s.take j, st.pos⟩] else []) →
      srcs preEv = st.s.take j ∧ WP pre preEv ∧ DataOK preEv ∧ ∀ e ∈ preEv, EvOK e := by
    intro preEv he
    by_cases hj : 0 < j
    · simp only [hj, if_true] at he
      subst he
      exact ⟨by simp, by simp [WP, hpos], DataOK_singleton _ fun _ hd => (Tok.data.inj hd).symm,
        List.forall_mem_singleton.mpr nofun⟩
    · simp only [hj, if_false] at he
      subst he
      have : j = 0 := by omega
      subst this
      exact ⟨by simp, by simp [WP], nofun, nofun⟩
  obtain ⟨hsrc, hwp, hdat, hev⟩ := hpre _ rfl
  have := applyAct_spec pre _ (st.s.drop j) (updatepos st.pos (st.s.take j)) st.cd a hwp
    (by rw [hsrc, hpos, updatepos_posOf]) hdat hev ha
  rw [hsrc, List.take_append_drop] at this
  rw [heq]
  exact this

theorem Spec.trans {pre s : PStr} {evs1 evs2 : List Ev} {st1 st2 : St}
    (h1 : Spec pre s evs1 st1) (h2 : Spec (pre ++ srcs evs1) st1.s evs2 st2) : Spec pre s (evs1 ++ evs2) st2 where
  cover := by rw [srcs_append, List.append_assoc, h2.cover, h1.cover]
  wp := by rw [WP_append]; exact ⟨h1.wp, h2.wp⟩
  pos := by rw [h2.pos, srcs_append, List.append_assoc]
  data := by rw [DataOK_append]; exact ⟨h1.data, h2.data⟩
  start := List.forall_mem_append.mpr ⟨h1.start, h2.start⟩

theorem Spec.refl (pre : PStr) (st : St) (hpos : st.pos = posOf pre) : Spec pre st.s [] st :=
  ⟨by simp, by simp [WP], by simpa using hpos, nofun, nofun⟩

theorem flush_spec (end_ : Bool) (st : St) (pre : PStr) (hpos : st.pos = posOf pre) :
    Spec pre st.s (flush end_ st).1 (flush end_ st).2 := by
  unfold flush
  split
  · exact ⟨by simp, by simp [WP, hpos], by simp [hpos, updatepos_posOf],
      DataOK_singleton _ fun _ hd => (Tok.data.inj hd).symm, List.forall_mem_singleton.mpr nofun⟩
  · exact Spec.refl pre st hpos

/-- `∀ pre`: a relation between states (`run_rel`) has no place for the text consumed so far -/
theorem Spec.trans' (a b c : St) (e1 e2 : List Ev) (h1 : ∀ pre, a.pos = posOf pre → Spec pre a.s e1 b)
    (h2 : ∀ pre, b.pos = posOf pre → Spec pre b.s e2 c) (pre : PStr) (hp : a.pos = posOf pre) : Spec pre a.s (e1 ++ e2) c :=
  (h1 pre hp).trans (h2 _ (h1 pre hp).pos)

theorem goahead_spec (P : Params) (end_ : Bool) (st : St) (pre : PStr) (hpos : st.pos = posOf pre) :
    Spec pre st.s (goahead P end_ st).evs (goahead P end_ st).st :=
  goahead_rel P (fun a evs b _ => ∀ pre, a.pos = posOf pre → Spec pre a.s evs b) (fun st pre => Spec.refl pre st)
    (fun a b c e1 e2 _ => Spec.trans' a b c e1 e2) end_ (fun st pre => step_spec P end_ st pre) (fun st pre => flush_spec end_ st pre)
    st pre hpos

theorem run_spec (P : Params) (text : PStr) : Spec [] text (run P text).evs (run P text).st :=
  run_rel P (fun a evs b _ => ∀ pre, a.pos = posOf pre → Spec pre a.s evs b) (fun st pre => Spec.refl pre st)
    (fun a b c e1 e2 _ => Spec.trans' a b c e1 e2) (fun end_ st pre => step_spec P end_ st pre)
    (fun end_ st pre => flush_spec end_ st pre) text []
    (by simp [init, lineCol])

theorem run_evOK (P : Params) (text : PStr) : ∀ e ∈ (run P text).evs, EvOK e := (run_spec P text).start

end BS.Tokenizer
