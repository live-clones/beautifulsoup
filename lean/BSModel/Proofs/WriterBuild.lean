import BSModel.Proofs.WriterAdapter
import BSModel.Proofs.WriterRefs
import BSModel.Proofs.WriterViews
import BSModel.Proofs.BuilderBal
/-! C04 (`emit_build`), the builder half: the events the adapter sends for a written document differ from the
    events of the intended forest (C03's `eventsL`) only in how text is cut into chunks; C03's machine does not see
    that difference (`SameText`), so `run_forest` applies, and the normal form `absorb` of the intended forest is `normalise` -/
namespace BS.Writer
open BS.Builder BS.Adapter

mutual
/-- C03's `Doc` has no attributes; an empty text is no node -/
def toDocs : WDoc → List Doc
  | .elem n _ ks => [Doc.elem n none (toDocsL ks)]
  | .text s => if s.isEmpty then [] else [Doc.text 0 s]
  | .special k s => [Doc.text (specialText k s).1 (specialText k s).2]
def toDocsL : List WDoc → List Doc
  | [] => []
  | d :: ds => toDocs d ++ toDocsL ds
end

theorem eventsL_append : ∀ (a b : List Doc), eventsL (a ++ b) = eventsL a ++ eventsL b := by
  intro a
  induction a with
  | nil => intro b; simp [eventsL]
  | cons d ds ih => intro b; simp [eventsL, ih, List.append_assoc]

theorem noRootL_append (cfg : Cfg) : ∀ (a b : List Doc), noRootL cfg (a ++ b) = (noRootL cfg a && noRootL cfg b) := by
  intro a
  induction a with
  | nil => intro b; simp [noRootL]
  | cons d ds ih => intro b; simp [noRootL, ih, Bool.and_assoc]

theorem specialCls_ne_zero (k : Kind) (s : PStr) : (specialText k s).1 ≠ 0 := fun h => by
  have := specialCls_special k s
  simp [h, isSpecialCls] at this

mutual
theorem noRoot_toDocs (cfg : Cfg) (iv : Name → Bool) : ∀ (d : WDoc), representable cfg.rootName iv d = true →
    noRootL cfg (toDocs d) = true
  | .text s, _ => by
    simp only [toDocs]; split <;> simp [noRootL, noRoot]
  | .special k s, _ => by simp [toDocs, noRootL, noRoot]
  | .elem n a ks, h => by
    simp only [representable, Bool.and_eq_true] at h
    simp only [toDocs, noRootL, noRoot, h.1.1, noRootL_toDocsL cfg iv ks h.2, Bool.and_self]
theorem noRootL_toDocsL (cfg : Cfg) (iv : Name → Bool) : ∀ (ds : List WDoc), representableL cfg.rootName iv ds = true →
    noRootL cfg (toDocsL ds) = true
  | [], _ => by simp [toDocsL, noRootL]
  | d :: ds, h => by
    simp only [representableL, Bool.and_eq_true] at h
    simp only [toDocsL, noRootL_append, noRoot_toDocs cfg iv d h.1, noRootL_toDocsL cfg iv ds h.2, Bool.and_self]
end

/-! ### text: the data events of a text, however spelt and cut, carry exactly its characters -/

theorem flushLit_flat (cfg : ACfg) (cur : PStr) : ((flushLit cur).map (dataOf cfg)).flatten = cur := by
  unfold flushLit
  cases cur with
  | nil => rfl
  | cons x xs => simp [dataOf]

theorem emitChars_flat (cfg : ACfg) (sp : Nat → CharSp) (s : PStr) (i : Nat) (cur : PStr)
    (hok : charsOK cfg sp i s = true) : ((emitChars sp i cur s).map (dataOf cfg)).flatten = cur ++ s := by
  -- end; literal cut / appended; dec; hex; named
  fun_induction emitChars sp i cur s
  case case1 => simp [flushLit_flat]
  all_goals
    rename_i hsp ih
    simp only [charsOK, hsp, charOK, Bool.and_eq_true, decide_eq_true_eq, beq_iff_eq] at hok
  case case2 => simp [flushLit_flat, ih hok.2]
  case case3 => simp [ih hok.2]
  case case4 => simp [flushLit_flat, ih hok.2, dataOf, dec_denotes cfg _ _ hok.1.1 hok.1.2]
  case case5 => simp [flushLit_flat, ih hok.2, dataOf, hex_denotes cfg _ _ _ _ hok.1]
  case case6 => simp [flushLit_flat, ih hok.2, dataOf, handleEntityref, hok.1]

theorem emitChars_ne (sp : Nat → CharSp) (s : PStr) (i : Nat) (cur : PStr) (h : cur ++ s ≠ []) :
    emitChars sp i cur s ≠ [] := by
  fun_induction emitChars sp i cur s
  case case1 => simpa [flushLit] using h
  case case2 ih => simp [ih (by simp)]
  case case3 ih => exact ih (by simp)
  all_goals simp  -- a reference is an event

theorem sRun_data (cfg : Cfg) : ∀ (xs : List PStr) (s : SSt), sRun cfg s (xs.map Ev.data) = ⟨s.stack, s.buf ++ xs⟩ := by
  intro xs
  induction xs with
  | nil => intro s; simp [sRun_nil]
  | cons x xs ih => intro s; simp [sRun_cons, sStep, ih]

/-- the data events of a non-empty text leave the machine as the single event `data s` does, up to chunking -/
theorem same_text (bcfg : Cfg) (cfg : ACfg) (sp : Nat → CharSp) (s : PStr) (hs : s ≠ []) (hok : charsOK cfg sp 0 s = true)
    (s1 s2 : SSt) (h : SameText s1 s2) :
    SameText (sRun bcfg s1 ((emitChars sp 0 [] s).map (fun e => Ev.data (dataOf cfg e)))) (sRun bcfg s2 [Ev.data s]) := by
  have hmap : (emitChars sp 0 [] s).map (fun e => Ev.data (dataOf cfg e)) = ((emitChars sp 0 [] s).map (dataOf cfg)).map Ev.data := by
    simp [List.map_map, Function.comp_def]
  have hflat := emitChars_flat cfg sp s 0 [] hok
  have hne := emitChars_ne sp s 0 [] (by simpa using hs)
  rw [hmap, sRun_data]
  obtain ⟨hstack, hflat', _hempty⟩ := h
  refine ⟨hstack, ?_, ?_⟩
  · simp [sRun_cons, sRun_nil, sStep, List.flatten_append, hflat, hflat']
  · simp [sRun_cons, sRun_nil, sStep, hne]

/-! ### the machine cannot tell the adapter's events from the events of the intended forest -/

mutual
theorem same_bev (bcfg : Cfg) (cfg : ACfg) (c : Choices) : ∀ (d : WDoc) (p : Path),
    representable bcfg.rootName cfg.isVoid d = true → wellSpelt cfg c.char p d = true →
    ∀ (s1 s2 : SSt), SameText s1 s2 →
      SameText (sRun bcfg s1 (bev cfg c p d)) (sRun bcfg s2 (eventsL (toDocs d)))
  | .text s, p, _, hw, s1, s2, h => by
    simp only [wellSpelt] at hw
    by_cases hs : s = []
    · subst hs
      simpa [bev, toDocs, emitChars, flushLit, eventsL, sRun_nil] using h
    · have hs' : s.isEmpty = false := by cases s <;> simp_all
      simp only [bev, toDocs, hs', Bool.false_eq_true, if_false, eventsL, events, if_true, List.append_nil]
      exact same_text bcfg cfg (c.char p) s hs hw s1 s2 h
  | .special k s, p, _, _, s1, s2, h => by
    have hne := specialCls_ne_zero k s
    simp only [bev, toDocs, eventsL, events, hne, if_false, List.append_nil, special]
    exact sRun_sameText _ h
  | .elem n a ks, p, hr, hw, s1, s2, h => by
    obtain ⟨hvoid, hr⟩ := representable_elem hr
    simp only [wellSpelt] at hw
    by_cases hv : cfg.isVoid n = true
    · cases hvoid hv
      simp only [bev, hv, if_true, toDocs, toDocsL, eventsL, events, List.nil_append, List.append_nil]
      exact sRun_sameText _ h
    · have hv' : cfg.isVoid n = false := by simpa using hv
      simp only [bev, hv', Bool.false_eq_true, if_false, toDocs, eventsL, events, List.append_nil, sRun_cons, sRun_append]
      have h1 := sStep_sameText (cfg := bcfg) h (.start n none)
      have h2 := same_bevL bcfg cfg c ks p 0 hr hw _ _ h1
      exact sRun_sameText [] (sStep_sameText h2 _)
theorem same_bevL (bcfg : Cfg) (cfg : ACfg) (c : Choices) : ∀ (ds : List WDoc) (p : Path) (i : Nat),
    representableL bcfg.rootName cfg.isVoid ds = true → wellSpeltL cfg c.char p i ds = true →
    ∀ (s1 s2 : SSt), SameText s1 s2 →
      SameText (sRun bcfg s1 (bevL cfg c p i ds)) (sRun bcfg s2 (eventsL (toDocsL ds)))
  | [], _, _, _, _, s1, s2, h => by simpa [bevL, toDocsL, eventsL, sRun_nil] using h
  | d :: ds, p, i, hr, hw, s1, s2, h => by
    simp only [representableL, Bool.and_eq_true] at hr
    simp only [wellSpeltL, Bool.and_eq_true] at hw
    simp only [bevL, toDocsL, eventsL_append, sRun_append]
    exact same_bevL bcfg cfg c ds p (i + 1) hr.2 hw.2 _ _ (same_bev bcfg cfg c d (i :: p) hr.1 hw.1 s1 s2 h)
end

/-! ### `normalise` is C03's normal form `absorb` of the intended forest -/

/-- the pending text as `normalise` sees it (`some []` for empty chunks) -/
def pendOf (b : List PStr) : Option PStr :=
  match b with
  | [] => none
  | _ :: _ => some b.flatten

theorem flushP_pendOf (cfg : Cfg) (ctx : List Name) (b : List PStr) : flushP cfg ctx (pendOf b) = txtN cfg ctx b none := by
  cases b with
  | nil => rfl
  | cons x xs => simp [pendOf, flushP, txtN, textCls, classN, wsRule, wsVal]

theorem txtN_special (cfg : Cfg) (ctx : List Name) (s : PStr) (c : Cls) (hc : c ≠ 0) :
    txtN cfg ctx [s] (some c) = [Doc.text c (wsRule cfg ctx s)] := by
  simp [txtN, classN, hc, wsRule, wsVal]

theorem absorb_nil (cfg : Cfg) (ctx : List Name) (b : List PStr) : absorb cfg ctx b [] = ([], b) := by
  simp [absorb]

theorem absorb_cons (cfg : Cfg) (ctx : List Name) (b : List PStr) (d : Doc) (ds : List Doc) :
    absorb cfg ctx b (d :: ds) =
      ((absorb1 cfg ctx b d).1 ++ (absorb cfg ctx (absorb1 cfg ctx b d).2 ds).1, (absorb cfg ctx (absorb1 cfg ctx b d).2 ds).2) := by
  simp [absorb]

theorem absorb_append (cfg : Cfg) (ctx : List Name) : ∀ (xs ys : List Doc) (b : List PStr),
    absorb cfg ctx b (xs ++ ys) =
      ((absorb cfg ctx b xs).1 ++ (absorb cfg ctx (absorb cfg ctx b xs).2 ys).1, (absorb cfg ctx (absorb cfg ctx b xs).2 ys).2) := by
  intro xs
  induction xs with
  | nil => intro ys b; simp [absorb_nil]
  | cons d ds ih => intro ys b; simp only [List.cons_append, absorb_cons, ih, List.append_assoc]

mutual
theorem norm1_absorb (cfg : Cfg) : ∀ (d : WDoc) (ctx : List Name) (b : List PStr),
    norm1 cfg ctx (pendOf b) d = ((absorb cfg ctx b (toDocs d)).1, pendOf (absorb cfg ctx b (toDocs d)).2)
  | .text s, ctx, b => by
    cases s with
    | nil => simp [norm1, toDocs, absorb_nil]
    | cons x xs =>
      simp only [norm1, toDocs, List.isEmpty_cons, Bool.false_eq_true, if_false, absorb_cons, absorb_nil, absorb1, if_true]
      cases b with
      | nil => simp [pendOf]
      | cons y ys => simp [pendOf]
  | .special k s, ctx, b => by
    have hne := specialCls_ne_zero k s
    simp only [norm1, toDocs, absorb_cons, absorb_nil, absorb1, hne, if_false, flushP_pendOf, txtN_special cfg ctx _ _ hne]
    simp [pendOf]
  | .elem n a ks, ctx, b => by
    have ih := normL_absorb cfg ks (n :: ctx) []
    rw [show pendOf ([] : List PStr) = none from rfl] at ih
    simp only [norm1, toDocs, absorb_cons, absorb_nil, absorb1, flushP_pendOf, ih]
    simp [pendOf]
theorem normL_absorb (cfg : Cfg) : ∀ (ds : List WDoc) (ctx : List Name) (b : List PStr),
    normL cfg ctx (pendOf b) ds = ((absorb cfg ctx b (toDocsL ds)).1, pendOf (absorb cfg ctx b (toDocsL ds)).2)
  | [], ctx, b => by simp [normL, toDocsL, absorb_nil]
  | d :: ds, ctx, b => by
    simp only [normL, toDocsL, absorb_append, norm1_absorb cfg d ctx b, normL_absorb cfg ds ctx _]
end

theorem normalise_absorb (cfg : Cfg) (ds : List WDoc) :
    normalise cfg ds =
      (absorb cfg [cfg.rootName] [] (toDocsL ds)).1 ++ txtN cfg [cfg.rootName] (absorb cfg [cfg.rootName] [] (toDocsL ds)).2 none := by
  have h := normL_absorb cfg ds [cfg.rootName] []
  rw [show pendOf ([] : List PStr) = none from rfl] at h
  simp only [normalise, h, flushP_pendOf]

/-- **builder half of `emit_build`** (on the documented fold) -/
theorem buildSpec_bev_normalise (bcfg : Cfg) (cfg : ACfg) (c : Choices) (ds : List WDoc)
    (hr : representableL bcfg.rootName cfg.isVoid ds = true) (hw : wellSpeltL cfg c.char [] 0 ds = true) :
    buildSpec bcfg (bevL cfg c [] 0 ds) = normalise bcfg ds := by
  have h := same_bevL bcfg cfg c ds [] 0 hr hw _ _ (SameText.refl ⟨[⟨bcfg.rootName, none, []⟩], []⟩)
  rw [normalise_absorb]
  simp only [buildSpec, sFlush_sameText h, run_forest bcfg _ (noRootL_toDocsL bcfg cfg.isVoid ds hr), sFlush_eq, List.map_cons, List.map_nil,
    List.nil_append]
  rfl

end BS.Writer
