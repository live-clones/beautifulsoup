import BSModel.Proofs.TokenizerBasics
/-! Tokenizer: one specification per `parse_*` function (`PRGood`) and per loop turn (`ActGood`, `step_shape`); the loop as a
    relation without fuel (`Runs`); lifting a relation from a turn to `goahead` and `run` (`Runs.rel`, `goahead_rel`, `run_rel`). -/
namespace BS.Tokenizer
open BS.SourcePos

/-- with `forall_some`: an `if` cascade returning an `Option`, walked by a term of its shape -/
theorem forall_ite {α : Type} {c : Prop} [Decidable c] {a b : Option α} {Q : α → Prop}
    (ha : c → ∀ x, a = some x → Q x) (hb : ¬ c → ∀ x, b = some x → Q x) : ∀ x, (if c then a else b) = some x → Q x := by
  intro x h
  split at h
  · exact ha ‹_› x h
  · exact hb ‹_› x h

theorem forall_some {α : Type} {a : α} {Q : α → Prop} (ha : Q a) : ∀ x, some a = some x → Q x := by
  rintro _ ⟨⟩; exact ha

theorem attrFind_pos (prev : Nat) (t : PStr) (n : PStr) (v : Option PStr) (l : Nat)
    (h : attrFind prev t = some (n, v, l)) : 0 < l ∧ t ≠ [] := by
  cases t with
  | nil => simp [attrFind] at h
  | cons c t' =>
    refine ⟨?_, List.cons_ne_nil c t'⟩
    simp only [attrFind] at h
    -- every `some` branch returns `1 + …`
    repeat' split at h
    all_goals first
      | (cases h; omega)
      | cases h

theorem locAttrs_fuel (f prev : Nat) (t : PStr) (h : t.length < f) : locAttrs f prev t ≠ none := by
  fun_induction locAttrs f prev t with
  | case1 => omega
  | case2 => simp
  | case3 f prev t n v l heq ih =>
    obtain ⟨hl, hne⟩ := attrFind_pos prev t n v l heq
    have : 0 < t.length := List.length_pos_iff.mpr hne
    simpa using ih (by simp only [List.length_drop]; omega)

theorem checkWholeStartTag_some (s : PStr) : checkWholeStartTag s ≠ none := by
  simp only [checkWholeStartTag, locateStartTagEnd]
  split
  · rename_i heq
    split at heq
    · rename_i hloc
      exact absurd hloc (locAttrs_fuel _ _ _ (by simp only [List.length_drop]; omega))
    · cases heq
  · simp

theorem checkWholeStartTag_pos (s : PStr) : ∀ e, checkWholeStartTag s = some (some e) → 0 < e := by
  unfold checkWholeStartTag
  split
  · nofun
  · simp only [Option.some.injEq]
    split
    · nofun
    · exact forall_ite (fun _ => forall_some (by omega)) fun _ =>                                -- `>`
        forall_ite (fun _ => forall_ite (fun _ => forall_some (by omega)) fun _ => nofun) fun _ =>    -- `/`
        forall_ite (fun _ => nofun) fun _ =>                                                     -- letter, `=`
        forall_ite (fun h => forall_some h) fun _ => forall_some (by omega)                      -- else

/-- `k` indexes the whole `s`; `locAttrs` walks the suffix -/
theorem attrLoop_fuel (P : Params) (s : PStr) (endpos f k : Nat) (acc : List (PStr × Option PStr))
    (h : s.length < f + k) (hf : 0 < f) : attrLoop P s endpos f k acc ≠ none := by
  fun_induction attrLoop P s endpos f k acc with
  | case1 => omega
  | case2 => simp
  | case3 f k acc _ n v l heq ih =>
    obtain ⟨hl, hne⟩ := attrFind_pos _ _ n v l heq
    have : 0 < (s.drop k).length := List.length_pos_iff.mpr hne
    simp only [List.length_drop] at this
    exact ih (by omega) (by omega)
  | case4 => simp

/-- a `parse_*` result on the suffix `s`: not `stuck`, the returned index strictly ahead, a data callback reporting
    exactly the consumed text; `E` holds if it is `.err` (for every `E`: the function never raises) -/
def PRGood (E : Prop) (s : PStr) : PR → Prop
  | .ok tok len _ => 0 < len ∧ ∀ d, tok = .data d → d = s.take len
  | .incomplete => True
  | .err => E
  | .stuck => False

theorem PRGood.of_err {E E' : Prop} {s : PStr} {r : PR} (h : PRGood E s r) (he : r = .err → E') : PRGood E' s r := by
  cases r with
  | err => exact he rfl
  | _ => exact h

theorem parseBogusComment_good (E : Prop) (cd : Option PStr) (s : PStr) : PRGood E s (parseBogusComment cd s) := by
  unfold parseBogusComment
  split
  · trivial
  · exact ⟨by omega, nofun⟩

theorem parsePi_good (E : Prop) (cd : Option PStr) (s : PStr) : PRGood E s (parsePi cd s) := by
  unfold parsePi
  split
  · trivial
  · exact ⟨by omega, nofun⟩

theorem parseComment_good (E : Prop) (cd : Option PStr) (s : PStr) : PRGood E s (parseComment cd s) := by
  unfold parseComment
  split
  · trivial
  · exact ⟨by omega, nofun⟩

theorem parseMarkedSection_good (cd : Option PStr) (s : PStr) : PRGood True s (parseMarkedSection cd s) := by
  unfold parseMarkedSection
  repeat' split
  all_goals first
    | trivial
    | exact ⟨by omega, nofun⟩

theorem parseHtmlDeclaration_good (cd : Option PStr) (s : PStr) :
    PRGood (sw [60, 33, 91] s = true ∧ parseMarkedSection cd s = .err) s (parseHtmlDeclaration cd s) := by
  unfold parseHtmlDeclaration
  split
  · exact parseComment_good _ cd s
  · split
    · rename_i hs
      exact (parseMarkedSection_good cd s).of_err fun h => ⟨hs, h⟩
    · split
      · split
        · trivial
        · exact ⟨by omega, nofun⟩
      · exact parseBogusComment_good _ cd s

theorem parseStartTag_good (E : Prop) (P : Params) (cd : Option PStr) (s : PStr)
    (hs : ((s.drop 1).head?.map isAlpha).getD false = true) : PRGood E s (parseStartTag P cd s) := by
  unfold parseStartTag
  split
  · rename_i heq; exact absurd heq (checkWholeStartTag_some s)
  · trivial
  · rename_i endpos heq
    have hpos := checkWholeStartTag_pos s endpos heq
    split
    · -- `assert match`: `tagfind_tolerant` matches after `<[a-zA-Z]`
      rename_i htf
      cases hd : s.drop 1 with
      | nil => simp [hd] at hs
      | cons c t =>
        simp only [hd, List.head?_cons, Option.map_some, Option.getD_some] at hs
        simp [hd, tagFind, hs] at htf
    · split
      · rename_i heq2
        exact absurd heq2 (attrLoop_fuel P s endpos _ _ _ (by omega) (by omega))
      · dsimp only
        split
        · exact ⟨hpos, nofun⟩
        · split
          · exact ⟨hpos, nofun⟩
          · exact ⟨hpos, fun _ h => (Tok.data.inj h).symm⟩

theorem wsSlashLen_no_gt (u : PStr) : ∀ x ∈ u.take (wsSlashLen u), x ≠ 62 := by
  fun_induction wsSlashLen u with
  | case1 => simp
  | case2 c t hc ih =>
    rw [List.take_succ_cons]
    exact List.forall_mem_cons.mpr ⟨fun h => absurd (h ▸ hc) (by decide), ih⟩
  | case3 c t _ hc ih =>
    rw [List.take_succ_cons]
    exact List.forall_mem_cons.mpr ⟨fun h => absurd (h ▸ hc) (by simp), ih⟩
  | case4 => simp

theorem tagFind_no_gt (t : PStr) (name : PStr) (nl : Nat) (h : tagFind t = some (name, nl)) :
    ∀ x ∈ t.take nl, x ≠ 62 := by
  cases t with
  | nil => cases h
  | cons c t' =>
    simp only [tagFind] at h
    split at h
    · rename_i hc
      obtain ⟨_, rfl⟩ := Prod.mk.inj (Option.some.inj h)
      rw [Nat.add_assoc, Nat.add_comm 1, List.take_succ_cons, List.take_add]
      exact List.forall_mem_cons.mpr ⟨fun e => absurd (e ▸ hc) (by decide), List.forall_mem_append.mpr
        ⟨fun x hx e => absurd (e ▸ spanLen_all isTagNameCh t' x hx) (by decide), wsSlashLen_no_gt _⟩⟩
    · cases h

theorem sw_lt_slash (s : PStr) (h : sw [60, 47] s = true) : ∃ t, s = 60 :: 47 :: t :=
  ⟨s.drop 2, by simpa [(beq_iff_eq.mp h : s.take 2 = [60, 47])] using (List.take_append_drop 2 s).symm⟩

theorem parseEndTag_good (E : Prop) (P : Params) (cd : Option PStr) (s : PStr) (hs : sw [60, 47] s = true) :
    PRGood E s (parseEndTag P cd s) := by
  obtain ⟨t, rfl⟩ := sw_lt_slash s hs
  unfold parseEndTag
  split
  · trivial
  · rename_i g hg
    split
    · split
      · exact ⟨by omega, fun _ h => (Tok.data.inj h).symm⟩
      · split
        · split
          · exact ⟨by omega, nofun⟩
          · exact parseBogusComment_good E cd _
        · rename_i name nl htf
          split
          · rename_i hnone
            -- unreachable: the `>` exists behind the name
            exfalso
            have h62 : 62 ∈ t := by simpa using (findCh_mem 62 (47 :: t)).mp ⟨g, by simpa using hg⟩
            obtain ⟨g', hg'⟩ := findCh_drop 62 t nl ((findCh_mem 62 t).mpr h62) (tagFind_no_gt t name nl (by simpa using htf))
            rw [show List.drop (2 + nl) (60 :: 47 :: t) = t.drop nl by rw [Nat.add_comm]; simp, hg'] at hnone
            cases hnone
          · exact ⟨by omega, nofun⟩
    · dsimp only
      repeat' split
      · exact ⟨by omega, fun _ h => (Tok.data.inj h).symm⟩   -- CDATA, other name: data
      · exact ⟨by omega, nofun⟩                             -- CDATA, own name
      · exact ⟨by omega, nofun⟩                             -- normal mode

theorem take_one_of_head (s : PStr) (c : Nat) (h : s.head? = some c) : s.take 1 = [c] := by
  rw [List.take_one, h]
  rfl

theorem parseLt_good (P : Params) (cd : Option PStr) (s : PStr) (hs : s.head? = some 60) :
    ∀ pr, parseLt P cd s = some pr → PRGood (sw [60, 33, 91] s = true ∧ parseMarkedSection cd s = .err) s pr := by
  unfold parseLt
  exact forall_ite (fun ha => forall_some (parseStartTag_good _ P cd s ha)) fun _ =>       -- `<[a-zA-Z]`
    forall_ite (fun he => forall_some (parseEndTag_good _ P cd s he)) fun _ =>                -- `</`
    forall_ite (fun _ => forall_some (parseComment_good _ cd s)) fun _ =>                     -- `<!--`
    forall_ite (fun _ => forall_some (parsePi_good _ cd s)) fun _ =>                          -- `<?`
    forall_ite (fun _ => forall_some (parseHtmlDeclaration_good cd s)) fun _ =>               -- `<!`
    forall_ite (fun _ => forall_some                                                          -- lone `<`
      ⟨by omega, fun _ h => (take_one_of_head s 60 hs).symm ▸ (Tok.data.inj h).symm⟩) fun _ => nofun

/-- `PRGood` for a turn's action; a start-tag callback is made on a `<` -/
def ActGood (E : Prop) (s : PStr) : Act → Prop
  | .adv tok len _ _ => 0 < len ∧ (∀ d, tok = .data d → d = s.take len) ∧ (isStart tok = true → s.head? = some 60)
  | .brk => True
  | .err => E
  | .stuck => False

theorem forcedEnd_pos (s : PStr) : 0 < forcedEnd s := by
  unfold forcedEnd
  split
  · omega
  · split <;> omega

theorem actLt_good (P : Params) (end_ : Bool) (cd : Option PStr) (s : PStr) (hs : s.head? = some 60) :
    ActGood (sw [60, 33, 91] s = true ∧ parseMarkedSection cd s = .err) s (actLt P end_ cd s) := by
  have hg := parseLt_good P cd s hs
  unfold actLt
  cases hr : parseLt P cd s with
  | none => trivial
  | some pr =>
    have hpr := hg pr hr
    cases pr with
    | incomplete =>
      simp only
      split
      · trivial
      · exact ⟨forcedEnd_pos s, fun _ h => (Tok.data.inj h).symm, nofun⟩
    | ok tok len cd' =>
      obtain ⟨hlen, hdata⟩ := hpr
      exact ⟨hlen, hdata, fun _ => hs⟩
    | _ => exact hpr

theorem charRef_len (s : PStr) (name : PStr) (e : Nat) (h : charRef s = some (name, e)) : 2 ≤ e := by
  simp only [charRef] at h
  -- every `some` branch returns `2 + …`
  repeat' split at h
  all_goals first
    | (cases h; omega)
    | cases h

theorem entityRef_len (s : PStr) (name : PStr) (e : Nat) (h : entityRef s = some (name, e)) : 2 ≤ e := by
  simp only [entityRef] at h
  repeat' split at h
  all_goals first
    | (cases h; omega)
    | cases h

theorem actCharRef_good (E : Prop) (cd : Option PStr) (s : PStr) : ActGood E s (actCharRef cd s) := by
  unfold actCharRef
  split
  · rename_i name e heq
    have := charRef_len s name e heq
    exact ⟨by split <;> omega, nofun, nofun⟩
  · split
    · exact ⟨by omega, fun _ h => (Tok.data.inj h).symm, nofun⟩
    · trivial

theorem actEntityRef_good (E : Prop) (end_ : Bool) (cd : Option PStr) (s : PStr) (hs : s.head? = some 38) :
    ActGood E s (actEntityRef end_ cd s) := by
  unfold actEntityRef
  split
  · rename_i name e heq
    have := entityRef_len s name e heq
    exact ⟨by split <;> omega, nofun, nofun⟩
  · repeat' split
    · exact ⟨by omega, nofun, nofun⟩   -- `&` swallowed at `close()`
    · trivial                          -- incomplete reference
    · exact ⟨by omega, fun _ h => (take_one_of_head s 38 hs).symm ▸ (Tok.data.inj h).symm, nofun⟩   -- bare `&`
    · trivial                          -- lone `&`

theorem chooseAct_good (P : Params) (end_ : Bool) (cd : Option PStr) (s : PStr)
    (hs : s.head? = some 60 ∨ s.head? = some 38) :
    ActGood (sw [60, 33, 91] s = true ∧ parseMarkedSection cd s = .err) s (chooseAct P end_ cd s) := by
  unfold chooseAct
  split
  · rename_i h; exact actLt_good P end_ cd s (by simpa using h)
  · split
    · exact actCharRef_good _ cd s
    · split
      · rename_i h; exact actEntityRef_good _ end_ cd s (by simpa using h)
      · rename_i h1 _ h3
        rcases hs with hs | hs
        · simp [hs] at h1
        · simp [hs] at h3

theorem ActGood.imp {E E' : Prop} {s : PStr} {a : Act} (h : ActGood E s a) (he : E → E') : ActGood E' s a := by
  cases a with
  | err => exact he h
  | _ => exact h

/-- parser.py:153-243 as: data up to an offset `j`, then an action `a` on the suffix at `j` (a `<` or `&`, or the end);
    which `j` is said in the error clause only (as an equation on `l ++ rest`: `step_plain`, TokenizerRound) -/
theorem step_shape (P : Params) (end_ : Bool) (st : St) :
    ∃ j a, ActGood (st.cd = none ∧ j = spanLen isPlain st.s ∧ sw [60, 33, 91] (st.s.drop j) = true ∧
        parseMarkedSection none (st.s.drop j) = .err) (st.s.drop j) a ∧
      (st.s.drop j = [] → a = .brk) ∧
      step P end_ st = applyAct (if 0 < j then [⟨.data (st.s.take j), st.s.take j, st.pos⟩] else []) (st.s.drop j)
        (updatepos st.pos (st.s.take j)) st.cd a := by
  unfold step
  simp only
  split
  · exact ⟨0, .brk, trivial, fun _ => rfl, by simp [applyAct, updatepos]⟩
  · rename_i j hj
    split
    · exact ⟨j, .brk, trivial, fun _ => rfl, rfl⟩
    · rename_i hne
      refine ⟨j, _, ?_, fun h => absurd (by simp [h]) hne, rfl⟩
      -- `interesting.search` stops at a `<` or `&`
      cases hcd : st.cd with
      | none =>
        simp only [hcd, Option.some.injEq] at hj
        subst hj
        refine (chooseAct_good P end_ none _ ?_).imp fun h => ⟨rfl, rfl, h⟩
        cases hd : (st.s.drop (spanLen isPlain st.s)).head? with
        | none =>
          have : st.s.drop (spanLen isPlain st.s) = [] := by simpa using hd
          simp [this] at hne
        | some c =>
          have := spanLen_stop isPlain st.s c hd
          simp only [isPlain, Bool.not_eq_eq_eq_not, Bool.not_false, Bool.or_eq_true, beq_iff_eq] at this
          rcases this with rfl | rfl
          · right; rfl
          · left; rfl
      | some e =>
        -- CDATA mode stops at `</`: `parse_endtag` never raises
        simp only [hcd, Option.map_eq_some_iff] at hj
        obtain ⟨⟨j', l⟩, hsr, hj'⟩ := hj
        simp only at hj'
        subst hj'
        have hm := search_some _ _ _ _ hsr
        have hsw : sw [60, 47] (st.s.drop j') = true := by
          simp only [mCdataClose] at hm
          split at hm
          · assumption
          · cases hm
        obtain ⟨t, ht⟩ := sw_lt_slash _ hsw
        rw [ht]
        exact (chooseAct_good P end_ (some e) _ (.inl rfl)).imp fun h => by simp [sw] at h

theorem step_progress (P : Params) (end_ : Bool) (st : St) :
    (step P end_ st).2.2 ≠ some .stuck ∧ ((step P end_ st).2.2 = none → (step P end_ st).2.1.s.length < st.s.length) := by
  obtain ⟨j, a, ha, hemp, heq⟩ := step_shape P end_ st
  rw [heq]
  cases a with
  | adv tok len cd' cont =>
    refine ⟨by simp only [applyAct]; split <;> simp, fun _ => ?_⟩
    have : 0 < (st.s.drop j).length := List.length_pos_iff.mpr fun h => nomatch hemp h
    have hlen : 0 < len := ha.1
    simp only [applyAct, List.length_drop] at *
    omega
  | brk => simp [applyAct]
  | err => simp [applyAct]
  | stuck => exact ha.elim

/-- the `while i < n` loop of `goahead` (parser.py:138-243) without fuel: buffer empty (`done`), a turn ends the loop (`stop`),
    a turn and then a run (`more`) -/
inductive Runs (P : Params) (end_ : Bool) : St → List Ev → St → Flag → Prop
  | done (st : St) (hs : st.s = []) : Runs P end_ st [] st .ok
  | stop (st : St) (evs : List Ev) (st' : St) (fl : Flag) (hne : st.s ≠ []) (h : step P end_ st = (evs, st', some fl)) :
      Runs P end_ st evs st' fl
  | more (st : St) (evs : List Ev) (st' : St) (evs2 : List Ev) (st'' : St) (fl : Flag) (hne : st.s ≠ [])
      (h : step P end_ st = (evs, st', none)) (hr : Runs P end_ st' evs2 st'' fl) : Runs P end_ st (evs ++ evs2) st'' fl

/-- the fuel suffices by `step_progress` -/
theorem loop_runs (P : Params) (end_ : Bool) (f : Nat) (st : St) (h : st.s.length < f) :
    Runs P end_ st (loop P end_ f st).evs (loop P end_ f st).st (loop P end_ f st).flag := by
  fun_induction loop P end_ f st with
  | case1 st => omega
  | case2 f st hs => exact .done st hs
  | case3 f st c t hs evs st' fl heq => exact .stop st evs st' fl (by simp [hs]) heq
  | case4 f st c t hs evs st' heq r ih =>
    have hp := step_progress P end_ st
    rw [heq] at hp
    exact .more _ _ _ _ _ _ (by simp [hs]) heq (ih (by have : st'.s.length < st.s.length := hp.2 rfl; omega))

theorem Runs.loop_eq {P : Params} {end_ : Bool} {st st' : St} {evs : List Ev} {fl : Flag} (h : Runs P end_ st evs st' fl) :
    ∀ f, st.s.length < f → loop P end_ f st = ⟨evs, st', fl⟩ := by
  induction h with
  | done st hs =>
    intro f hf
    obtain ⟨f, rfl⟩ : ∃ f', f = f' + 1 := ⟨f - 1, by omega⟩
    simp [loop, hs]
  | stop st evs st' fl hne h =>
    intro f hf
    obtain ⟨f, rfl⟩ : ∃ f', f = f' + 1 := ⟨f - 1, by omega⟩
    unfold loop
    split
    · contradiction
    · simp only [h]
  | more st evs st' evs2 st'' fl hne h hr ih =>
    intro f hf
    obtain ⟨f, rfl⟩ : ∃ f', f = f' + 1 := ⟨f - 1, by omega⟩
    have hp := step_progress P end_ st
    rw [h] at hp
    unfold loop
    split
    · contradiction
    · simp only [h, ih f (by have : st'.s.length < st.s.length := hp.2 rfl; omega)]

theorem step_flag_ne_stuck (P : Params) (end_ : Bool) (st : St) : (step P end_ st).2.2.getD .ok ≠ .stuck := by
  intro h
  exact (step_progress P end_ st).1 ((Option.getD_eq_iff.mp h).resolve_right (by simp))

/-! lifting: a turn after which the loop goes on counts as `.ok` -/
section
variable (P : Params) (R : St → List Ev → St → Flag → Prop) (hrefl : ∀ st, R st [] st .ok)
  (htrans : ∀ a b c e1 e2 fl, R a e1 b .ok → R b e2 c fl → R a (e1 ++ e2) c fl)
include hrefl htrans

theorem Runs.rel {end_ : Bool} (hstep : ∀ st, R st (step P end_ st).1 (step P end_ st).2.1 ((step P end_ st).2.2.getD .ok))
    {st st' : St} {evs : List Ev} {fl : Flag} (h : Runs P end_ st evs st' fl) : R st evs st' fl := by
  induction h with
  | done st hs => exact hrefl st
  | stop st evs st' fl hne h => simpa [h] using hstep st
  | more st evs st' evs2 st'' fl hne h hr ih => exact htrans _ _ _ _ _ _ (by simpa [h] using hstep st) ih

theorem goahead_rel (end_ : Bool) (hstep : ∀ st, R st (step P end_ st).1 (step P end_ st).2.1 ((step P end_ st).2.2.getD .ok))
    (hflush : ∀ st, R st (flush end_ st).1 (flush end_ st).2 .ok) (st : St) :
    R st (goahead P end_ st).evs (goahead P end_ st).st (goahead P end_ st).flag := by
  have hl := (loop_runs P end_ (st.s.length + 1) st (by omega)).rel P R hrefl htrans hstep
  unfold goahead
  simp only
  split
  · rename_i hf
    rw [hf] at hl
    exact htrans _ _ _ _ _ _ hl (hflush _)
  · exact hl

theorem run_rel (hstep : ∀ end_ st, R st (step P end_ st).1 (step P end_ st).2.1 ((step P end_ st).2.2.getD .ok))
    (hflush : ∀ end_ st, R st (flush end_ st).1 (flush end_ st).2 .ok) (text : PStr) :
    R (init text) (run P text).evs (run P text).st (run P text).flag := by
  have h1 := goahead_rel P R hrefl htrans false (hstep false) (hflush false) (init text)
  unfold run
  simp only
  split
  · rename_i hf
    rw [hf] at h1
    exact htrans _ _ _ _ _ _ h1 (goahead_rel P R hrefl htrans true (hstep true) (hflush true) _)
  · exact h1

end

theorem goahead_not_stuck (P : Params) (end_ : Bool) (st : St) : (goahead P end_ st).flag ≠ .stuck :=
  goahead_rel P (fun _ _ _ fl => fl ≠ .stuck) (fun _ => nofun) (fun _ _ _ _ _ _ _ h => h) end_ (step_flag_ne_stuck P end_)
    (fun _ => nofun) st

theorem run_not_stuck (P : Params) (text : PStr) : (run P text).flag ≠ .stuck :=
  run_rel P (fun _ _ _ fl => fl ≠ .stuck) (fun _ => nofun) (fun _ _ _ _ _ _ _ h => h) (step_flag_ne_stuck P) (fun _ _ => nofun) text

end BS.Tokenizer
