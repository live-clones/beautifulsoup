import BSModel.Proofs.HeapContig
/-! C02: the documented effect of the calls other than `extract` and `_insert`, derived from these two (`extract_effect2`,
    `insertCore_good2`; `replaceWith_one_spec` from `extract_good`, `insertCore_spec`). The step lemmas return
    `Succ h h'`, which composes. -/
namespace BS.Heap

/-- the guard `if self in args` of `insert_before` / `insert_after` -/
theorem any_isSelf_single {x y : Nat} (hyx : y ≠ x) : [Arg.node y].any (isSelf x) = false := by
  simp [isSelf, hyx]

/-- effect of `for element in cs: element.extract()` when all of `cs` are (distinct) children of `t` -/
theorem extractAll_children (cs : List Nat) (h h' : Heap) (t : Nat) (hg : Good h) (hnd : cs.Nodup)
    (hpar : ∀ c ∈ cs, h.parent c = some t) (he : extractAll h cs = .ok h') :
    Good h' ∧ h'.kids t = (h.kids t).filter (fun k => !cs.contains k) ∧ (∀ n, n ≠ t → h'.kids n = h.kids n) ∧
    (∀ n, h'.parent n = if n ∈ cs then none else h.parent n) ∧ h'.next = h.next ∧ h'.kind = h.kind := by
  fun_induction extractAll h cs with
  | case1 => cases he; exact ⟨hg, (filter_not_mem_nil _).symm, fun _ _ => rfl, fun n => by simp, rfl, rfl⟩
  | case2 => cases he
  | case3 h c cs h1 hc ih =>
    obtain ⟨hg1, hk1, hp1, hkind1, _, hnext1⟩ := extract_good hg hc
    have hct := hpar c (by simp)
    have hnd' := List.nodup_cons.mp hnd
    obtain ⟨hg', hkt, hko, hpa, hn', hk'⟩ := ih hg1 hnd'.2 (fun d hd => by
      rw [hp1 d, if_neg (fun (hdc : d = c) => hnd'.1 (hdc ▸ hd))]; exact hpar d (by simp [hd])) he
    refine ⟨hg', ?_, ?_, ?_, hn'.trans hnext1, hk'.trans hkind1⟩
    · rw [hkt, hk1 t, if_pos hct, filter_erase_cons (good_kids_nodup hg t)]
    · intro n hn
      rw [hko n hn, hk1 n, if_neg (by rw [hct]; exact fun e => hn (Option.some.inj e).symm)]
    · intro n
      rw [hpa n, hp1 n]
      by_cases hnc : n = c
      · simp [hnc]
      · by_cases hncs : n ∈ cs <;> simp [hnc, hncs]

theorem clear_effect {h h' : Heap} {t : Nat} (hg : Good h) (hc : clear h t = .ok h') :
    Good h' ∧ h'.kids t = [] ∧ (∀ n, n ≠ t → h'.kids n = h.kids n) ∧
    (∀ n, h'.parent n = if n ∈ h.kids t then none else h.parent n) := by
  obtain ⟨hg', hkt, hko, hpa, _⟩ := extractAll_children (h.kids t) h h' t hg (good_kids_nodup hg t)
    (fun _ => (good_mem_kids_iff hg).mp) hc
  exact ⟨hg', by rw [hkt, filter_not_mem_self], hko, hpa⟩

/-- inserting one non-BeautifulSoup element is one `_insert` -/
theorem insert_single_node {h h' : Heap} {p i c : Nat} {ins : List Nat} (hc : h.kind c ≠ .soup)
    (hi : insert h p i [.node c] = .ok (h', ins)) : insertCore h p i c = .ok h' ∧ ins = [c] := by
  rw [insert_node hc] at hi
  split at hi
  · cases hi
  · split at hi <;> cases hi
    exact ⟨by assumption, rfl⟩

/-- `insert` of one new child -/
theorem insert_node_at {h h' : Heap} {p i y : Nat} {ins : List Nat} (hg : Good2 h) (hp : (h.kind p).isTag = true)
    (hy : h.kind y ≠ .soup) (hyp : y ∉ h.kids p) (hi : i ≤ (h.kids p).length)
    (hc : insert h p i [.node y] = .ok (h', ins)) :
    Succ h h' ∧ ins = [y] ∧ h'.kids p = (h.kids p).insertIdx i y ∧
    (∀ n, n ≠ p → h'.kids n = (h.kids n).erase y) ∧
    (∀ n, h'.parent n = if n = y then some p else h.parent n) := by
  obtain ⟨hcore, hins⟩ := insert_single_node hy hc
  obtain ⟨e, hsp, hso, hpa⟩ := insertCore_good2 hg hp hy hcore
  rw [slotOf_not_mem hyp, Nat.min_eq_left hi, List.erase_of_not_mem hyp] at hsp
  exact ⟨e, hins, hsp, hso, hpa⟩

/-- the same after `y.extract()`, read from the heap before it -/
theorem extract_insert_at {h h1 h2 : Heap} {p i y : Nat} {ins : List Nat} (hg : Good2 h) (hp : (h.kind p).isTag = true)
    (hy : h.kind y ≠ .soup) (he : extract h y = .ok h1) (hi : i ≤ ((h.kids p).erase y).length)
    (hc : insert h1 p i [.node y] = .ok (h2, ins)) :
    Succ h h2 ∧ ins = [y] ∧ h2.kids p = ((h.kids p).erase y).insertIdx i y ∧
    (∀ n, n ≠ p → h2.kids n = (h.kids n).erase y) ∧ h2.parent y = some p := by
  obtain ⟨e1, hk1, hp1, _⟩ := extract_effect2 hg he
  have hroot : h1.parent y = none := by rw [hp1 y, if_pos rfl]
  obtain ⟨e2, hins, hkp, hko, hpa⟩ := insert_node_at e1.1 (e1.2.isTag hp) (e1.2.notSoup hy)
    (good_root_not_kid e1.1.1 hroot p) (by rw [hk1 p]; exact hi) hc
  refine ⟨Succ.trans e1 e2, hins, by rw [hkp, hk1 p], fun n hn => ?_, by rw [hpa y, if_pos rfl]⟩
  rw [hko n hn, List.erase_of_not_mem (good_root_not_kid e1.1.1 hroot n), hk1 n]

/-- **replace_with(y)** for one element `y` that is not a sibling of `x`, everything it does: `y` takes `x`'s slot and
    leaves wherever it was; the parents of `x` and `y` change, no other; classes, texts, the counter do not -/
theorem replaceWith_one_spec {h h' : Heap} {x y p : Nat} (hg : Good h) (hp : h.parent x = some p)
    (hy : h.kind y ≠ .soup) (hxy : y ≠ x) (hyp : y ∉ h.kids p) (hr : replaceWith h x [.node y] = .ok h') :
    Good h' ∧ h'.kind = h.kind ∧ h'.val = h.val ∧ h'.next = h.next ∧
    h'.kids p = (h.kids p).map (fun k => if k = x then y else k) ∧
    (∀ n, n ≠ p → h'.kids n = ((h.kids n).erase x).erase y) ∧
    (∀ j, h'.parent j = if j = y then some p else if j = x then none else h.parent j) := by
  obtain ⟨w, hwf⟩ := hg
  have hmem := hwf.parent_kid x p hp
  unfold replaceWith at hr
  simp only [hp] at hr
  rw [if_neg (by simpa using hxy)] at hr
  split at hr   -- `if self.parent in args`
  · cases hr
  split at hr   -- `self.parent.index(self)`
  · cases hr
  rename_i i hidx
  split at hr   -- `self.extract()`
  · cases hr
  rename_i h1 he
  split at hr   -- `old_parent.insert(my_index, y)`
  · cases hr
  rename_i h2 ins hins
  cases hr
  obtain ⟨⟨w1, hwf1⟩, hkif, hp1, hkind1, hval1, hnext1⟩ := extract_good ⟨w, hwf⟩ he
  have hk1 : ∀ n, h1.kids n = (h.kids n).erase x := fun n => (hkif n).trans (wf_kids_erase hwf x n)
  have hy1 : h1.kind y ≠ .soup := by rw [hkind1]; exact hy
  have hyp1 : y ∉ h1.kids p := by rw [hk1 p]; exact fun hm => hyp (List.mem_of_mem_erase hm)
  obtain ⟨hg2, hk2, hv2, hn2, hkp, hko, hpa⟩ :=
    insertCore_spec hwf1 (by rw [hkind1]; exact good_parent_isTag ⟨w, hwf⟩ hp) hy1 (insert_single_node hy1 hins).1
  unfold indexOf at hidx
  obtain ⟨hil, hget, _⟩ := List.idxOf?_eq_some_iff.mp hidx
  have hlen := List.length_erase_of_mem hmem
  refine ⟨hg2, hk2.trans hkind1, hv2.trans hval1, hn2.trans hnext1, ?_, fun n hn => by rw [hko n hn, hk1 n],
    fun j => by rw [hpa j, hp1 j]⟩
  -- erase the element at index `i`, insert `y` there = replace it
  rw [hkp, slotOf_not_mem hyp1, List.erase_of_not_mem hyp1, hk1 p, Nat.min_eq_left (by omega),
    List.erase_eq_eraseIdx, hidx]
  have := eraseIdx_insertIdx_replace y (h.kids p) i hil (kids_nodup hwf p)
  rw [hget] at this
  exact this

theorem replaceWith_one_effect {h h' : Heap} {x y p : Nat} (hg : Good2 h) (hp : h.parent x = some p)
    (hy : h.kind y ≠ .soup) (hxy : y ≠ x) (hyp : y ∉ h.kids p)
    (hr : replaceWith h x [.node y] = .ok h') :
    Good2 h' ∧ h'.kids p = (h.kids p).map (fun k => if k = x then y else k) ∧
    (∀ n, n ≠ p → h'.kids n = ((h.kids n).erase x).erase y) ∧ h'.parent x = none ∧ h'.parent y = some p := by
  obtain ⟨hg', hk, _, hn, hkp, hko, hpa⟩ := replaceWith_one_spec hg.1 hp hy hxy hyp hr
  exact ⟨(Succ.of_kind_eq hg hg' hk hn).1, hkp, hko, by rw [hpa x, if_neg (Ne.symm hxy), if_pos rfl],
    by rw [hpa y, if_pos rfl]⟩

/-- the loop of `unwrap`: `rcs` = the children of the detached `x` reversed; `done` = those already inserted -/
theorem unwrapLoop_effect (x p : Nat) (hxp : x ≠ p) (rcs : List Nat) (h h' : Heap) (pre done post : List Nat)
    (hg : Good2 h) (hp : (h.kind p).isTag = true) (hk : h.kids p = pre ++ done ++ post) (hx : h.kids x = rcs.reverse)
    (hu : unwrapLoop h p pre.length rcs = .ok h') :
    Good2 h' ∧ h'.kids p = pre ++ (rcs.reverse ++ done) ++ post ∧ h'.kids x = [] ∧
    (∀ n, n ≠ p → n ≠ x → h'.kids n = h.kids n) ∧
    (∀ n, h'.parent n = if n ∈ rcs then some p else h.parent n) := by
  fun_induction unwrapLoop h p pre.length rcs generalizing done with
  | case1 => cases hu; exact ⟨hg, by simpa using hk, by simpa using hx, fun _ _ _ => rfl, fun n => by simp⟩
  | case2 => cases hu
  | case3 h c rcs h1 ins hins ih =>
    have hcpar : h.parent c = some x := (good_mem_kids_iff hg.1).mp (by rw [hx]; simp)
    have hother : ∀ n, n ≠ x → c ∉ h.kids n := fun n => good_not_mem_kids hg.1 hcpar
    obtain ⟨e1, _, hkp, hso, hpa⟩ := insert_node_at hg hp (good_attached_not_soup hg.1 hcpar) (hother p hxp.symm)
      (by rw [hk]; simp) hins
    have hkp1 : h1.kids p = pre ++ (c :: done) ++ post := by
      rw [hkp, hk, List.append_assoc, insertIdx_append_length]; simp
    have hkx1 : h1.kids x = rcs.reverse := by
      have hnd := good_kids_nodup hg.1 x
      rw [hx, List.reverse_cons] at hnd
      rw [hso x hxp, hx, List.reverse_cons, List.erase_append_right _ (not_mem_of_nodup_middle hnd)]; simp
    obtain ⟨hg', hkp', hkx', hko', hpa'⟩ := ih (c :: done) e1.1 (e1.2.isTag hp) hkp1 hkx1 hu
    refine ⟨hg', by rw [hkp']; simp, hkx', ?_, ?_⟩
    · intro n hnp hnx
      rw [hko' n hnp hnx, hso n hnp, List.erase_of_not_mem (hother n hnx)]
    · intro n
      rw [hpa' n, hpa n]
      by_cases hnr : n ∈ rcs
      · simp [hnr]
      · by_cases hnc : n = c <;> simp [hnr, hnc]

theorem unwrap_effect {h h' : Heap} {x p : Nat} {pre post : List Nat} (hg : Good2 h) (hp : h.parent x = some p)
    (hk : h.kids p = pre ++ x :: post) (hu : unwrap h x = .ok h') :
    Good2 h' ∧ h'.kids p = pre ++ h.kids x ++ post ∧ h'.kids x = [] ∧ h'.parent x = none ∧
    (∀ n, n ≠ p → n ≠ x → h'.kids n = h.kids n) ∧ (∀ c ∈ h.kids x, h'.parent c = some p) := by
  have hnd := good_kids_nodup hg.1 p
  have hxp : x ≠ p := fun hc => good_not_self_kid hg.1 p ((good_mem_kids_iff hg.1).mpr (hc ▸ hp))
  have hxx : x ∉ h.kids x := good_not_self_kid hg.1 x
  unfold unwrap at hu
  simp only [hp, indexOf, idxOf?_of_split hnd hk] at hu
  split at hu
  · cases hu
  rename_i h1 he
  obtain ⟨e1, hk1, hp1, _⟩ := extract_effect2 hg he
  have hkp1 : h1.kids p = pre ++ [] ++ post := by
    rw [hk1 p, hk, List.erase_append_right _ (not_mem_of_nodup_middle (hk ▸ hnd))]
    simp
  have hkx1 : h1.kids x = h.kids x := by rw [hk1 x, List.erase_of_not_mem hxx]
  obtain ⟨hg', hkp', hkx', hko', hpa'⟩ := unwrapLoop_effect x p hxp (h1.kids x).reverse h1 h' pre [] post e1.1
    (e1.2.isTag (good_parent_isTag hg.1 hp)) hkp1 (by simp) hu
  refine ⟨hg', by rw [hkp', hkx1]; simp, hkx', ?_, ?_, ?_⟩
  · rw [hpa' x, if_neg (by rw [hkx1]; simpa using hxx), hp1 x, if_pos rfl]
  · intro n hnp hnx
    rw [hko' n hnp hnx, hk1 n]
    exact List.erase_of_not_mem (good_not_mem_kids hg.1 hp hnp)
  · intro c hc
    rw [hpa' c, if_pos (by rw [hkx1]; simpa using hc)]

/-- **insert_before(y)** (one element): `y` is removed from wherever it was and ends up immediately before `x`;
    the other children of `x`'s parent keep their order; no other children list changes except for losing `y` -/
theorem insertBefore_one_effect {h h' : Heap} {x y p : Nat} {pre post : List Nat} (hg : Good2 h)
    (hp : h.parent x = some p) (hy : h.kind y ≠ .soup) (hxy : y ≠ x) (hxs : h.kind x ≠ .soup)
    (hk : (h.kids p).erase y = pre ++ x :: post)
    (hr : insertBefore h x [.node y] = .ok h') :
    Good2 h' ∧ h'.kids p = pre ++ y :: x :: post ∧ (∀ n, n ≠ p → h'.kids n = (h.kids n).erase y) ∧
    h'.parent y = some p := by
  unfold insertBefore at hr
  have hself := any_isSelf_single hxy
  simp only [hxs, if_false, hp, hself, Bool.false_eq_true, insertBeforeLoop, extractArg] at hr
  split at hr
  · cases hr
  rename_i h1 he
  obtain ⟨e1, hk1, _⟩ := extract_effect2 hg he
  have hidx : indexOf h1 p x = some pre.length :=
    idxOf?_of_split (good_kids_nodup e1.1.1 p) (by rw [hk1 p]; exact hk)
  simp only [hidx] at hr
  split at hr
  · cases hr
  rename_i h2 ins hins
  cases hr
  obtain ⟨e, _, hkp, hko, hpa⟩ := extract_insert_at hg (good_parent_isTag hg.1 hp) hy he (by rw [hk]; simp) hins
  exact ⟨e.1, by rw [hkp, hk, insertIdx_append_length], hko, hpa⟩

/-- **insert_after(y)** (one element): `y` ends up immediately after `x` -/
theorem insertAfter_one_effect {h h' : Heap} {x y p : Nat} {pre post : List Nat} (hg : Good2 h)
    (hp : h.parent x = some p) (hy : h.kind y ≠ .soup) (hxy : y ≠ x) (hxs : h.kind x ≠ .soup)
    (hk : (h.kids p).erase y = pre ++ x :: post)
    (hr : insertAfter h x [.node y] = .ok h') :
    Good2 h' ∧ h'.kids p = pre ++ x :: y :: post ∧ (∀ n, n ≠ p → h'.kids n = (h.kids n).erase y) ∧
    h'.parent y = some p := by
  unfold insertAfter at hr
  have hself := any_isSelf_single hxy
  have hself1 : isSelf x (Arg.node y) = false := by simp [isSelf, hxy]
  simp only [hxs, if_false, hp, hself, Bool.false_eq_true, insertAfterLoop, extractArg, hself1] at hr
  split at hr
  · cases hr
  rename_i h1 he
  obtain ⟨e1, hk1, _⟩ := extract_effect2 hg he
  have hidx : indexOf h1 p x = some pre.length :=
    idxOf?_of_split (good_kids_nodup e1.1.1 p) (by rw [hk1 p]; exact hk)
  simp only [hidx] at hr
  split at hr
  · cases hr
  rename_i h2 ins hins
  cases hr
  obtain ⟨e, _, hkp, hko, hpa⟩ := extract_insert_at hg (good_parent_isTag hg.1 hp) hy he (by rw [hk]; simp) hins
  refine ⟨e.1, ?_, hko, hpa⟩
  have := insertIdx_append_length (pre ++ [x]) post y
  simp only [List.length_append, List.length_singleton, List.append_assoc, List.singleton_append] at this
  rw [hkp, hk, this]

theorem append_insertCore {h h' : Heap} {p y : Nat} (hy : h.kind y ≠ .soup) (ha : append h p (.node y) = .ok h') :
    insertCore h p (h.kids p).length y = .ok h' := by
  unfold append at ha
  split at ha
  · cases ha
  rename_i h1 ins hins
  split at ha
  · cases ha
  cases ha
  exact (insert_single_node hy hins).1

theorem append_one_effect {h h' : Heap} {p y : Nat} (hg : Good2 h) (hp : (h.kind p).isTag = true)
    (hy : h.kind y ≠ .soup) (ha : append h p (.node y) = .ok h') :
    Good2 h' ∧ h'.kids p = (h.kids p).erase y ++ [y] ∧ (∀ n, n ≠ p → h'.kids n = (h.kids n).erase y) ∧
    h'.parent y = some p := by
  obtain ⟨e, hsp, hso, hpa⟩ := insertCore_good2 hg hp hy (append_insertCore hy ha)
  refine ⟨e.1, ?_, hso, by rw [hpa y, if_pos rfl]⟩
  rw [hsp, slotOf_length, List.insertIdx_length_self]

theorem wrap_effect {h h' : Heap} {x w p : Nat} (hg : Good2 h) (hp : h.parent x = some p)
    (hw : (h.kind w).isTag = true) (hws : h.kind w ≠ .soup) (hxw : w ≠ x) (hwp : w ∉ h.kids p)
    (hr : wrap h x w = .ok h') :
    Good2 h' ∧ h'.kids p = (h.kids p).map (fun k => if k = x then w else k) ∧
    h'.kids w = h.kids w ++ [x] ∧ h'.parent x = some w ∧ h'.parent w = some p ∧
    (∀ n, n ≠ p → n ≠ w → h'.kids n = (h.kids n).erase w) := by
  have hxs := good_attached_not_soup hg.1 hp
  unfold wrap at hr
  split at hr
  · cases hr
  rename_i h1 hrw
  obtain ⟨hg1, hkp1, hko1, hpx1, hpw1⟩ := replaceWith_one_effect hg hp hws hxw hwp hrw
  have hks1 := (replaceWith_good2 hg hrw).2
  have hwne : w ≠ p := fun he => good_not_self_kid hg1.1 w ((good_mem_kids_iff hg1.1).mpr (he ▸ hpw1))
  -- `x` is a child of `p` only (before), of nothing (in between)
  have hxn : ∀ n, n ≠ p → x ∉ h.kids n := fun n => good_not_mem_kids hg.1 hp
  have hxnp1 : x ∉ h1.kids p := good_root_not_kid hg1.1 hpx1 p
  have hkw1 : h1.kids w = h.kids w := by
    rw [hko1 w hwne, List.erase_of_not_mem (hxn w hwne), List.erase_of_not_mem (good_not_self_kid hg.1 w)]
  obtain ⟨hg2, hkw2, hko2, hpx2⟩ := append_one_effect hg1 (hks1.isTag hw) (hks1.notSoup hxs) hr
  have hkp2 : h'.kids p = (h.kids p).map (fun k => if k = x then w else k) := by
    rw [hko2 p (Ne.symm hwne), List.erase_of_not_mem hxnp1, hkp1]
  refine ⟨hg2, hkp2, by rw [hkw2, hkw1, List.erase_of_not_mem (hxn w hwne)], hpx2, ?_, ?_⟩
  · exact (good_mem_kids_iff hg2.1).mp
      (by rw [hkp2]; exact List.mem_map.mpr ⟨x, (good_mem_kids_iff hg.1).mpr hp, by simp⟩)
  · intro n hnp hnw
    rw [hko2 n hnw, hko1 n hnp, List.erase_of_not_mem (hxn n hnp),
      List.erase_of_not_mem (fun hm => hxn n hnp (List.mem_of_mem_erase hm))]

/-- **`tag.string = v`**: the tag's former children are detached, and the tag's only child is a NEW object; no other children
    list changes -/
theorem setString_effect {h h' : Heap} {t : Nat} {k : Kind} {v : PStr} (hg : Good2 h) (ht : (h.kind t).isTag = true)
    (hk : k = .str ∨ k = .pre) (hs : setString h t k v = .ok h') :
    Good2 h' ∧ h'.kids t = [h.next] ∧ h'.parent h.next = some t ∧ (∀ n, n ≠ t → h'.kids n = h.kids n) ∧
    (∀ n, n ≠ h.next → h'.parent n = if n ∈ h.kids t then none else h.parent n) := by
  have hks : k ≠ .soup := by rcases hk with rfl | rfl <;> decide
  unfold setString at hs
  split at hs
  · cases hs
  rename_i h1 hc
  obtain ⟨hg1, hkt1, hko1, hpa1, hn1, _⟩ := extractAll_children (h.kids t) h h1 t hg.1 (good_kids_nodup hg.1 t)
    (fun _ => (good_mem_kids_iff hg.1).mp) hc
  have e1 := clear_good2 hg hc
  have e2 := alloc_good2 e1.1 k v hk
  obtain ⟨_, hap, hak, _, hakn, _⟩ := alloc_fields h1 k v
  -- the `let (h2, n) := alloc …` of `setString`
  have hs : append (alloc h1 k v).1 t (.node h1.next) = .ok h' := hs
  have ht2 := e2.2.isTag (e1.2.isTag ht)
  have hy2 : (alloc h1 k v).1.kind h1.next ≠ .soup := by rw [hakn]; exact hks
  obtain ⟨e3, hsp, hso, hpa⟩ := insertCore_good2 e2.1 ht2 hy2 (append_insertCore hy2 hs)
  -- the new object is nobody's child yet, and `t` is childless
  have hfresh : ∀ n, h1.next ∉ h1.kids n := fun _ hm => Nat.lt_irrefl _ (good_kid_lt_next hg1 hm)
  have hkt1' : h1.kids t = [] := by rw [hkt1, filter_not_mem_self]
  rw [hak] at hsp hso
  refine ⟨e3.1, ?_, by rw [← hn1, hpa, if_pos rfl], ?_, ?_⟩
  · rw [hsp, hkt1', ← hn1]; rfl
  · intro n hn
    rw [hso n hn, List.erase_of_not_mem (hfresh n), hko1 n hn]
  · intro n hn
    rw [hpa n, if_neg (by rw [hn1]; exact hn), hap, hpa1 n]

/-- **extend(xs)** (distinct elements): each is removed from wherever it was; together they end up at the end of the tag's
    children, in the given order; every other children list only loses them -/
theorem appendAll_effect : ∀ (xs : List Nat) (h h' : Heap) (p : Nat), Good2 h → (h.kind p).isTag = true → xs.Nodup →
    (∀ x ∈ xs, h.kind x ≠ .soup) → appendAll h p (xs.map Arg.node) = .ok h' →
    Good2 h' ∧ h'.kids p = (h.kids p).filter (fun k => !xs.contains k) ++ xs ∧
    (∀ n, n ≠ p → h'.kids n = (h.kids n).filter (fun k => !xs.contains k)) ∧ (∀ x ∈ xs, h'.parent x = some p) := by
  intro xs
  induction xs with
  | nil =>
    intro h h' p hg _ _ _ ha
    cases ha
    exact ⟨hg, by rw [filter_not_mem_nil, List.append_nil], fun n _ => (filter_not_mem_nil _).symm,
      fun x hx => by cases hx⟩
  | cons x xs ih =>
    intro h h' p hg hp hnd hk ha
    simp only [List.map_cons, appendAll] at ha
    split at ha
    · cases ha
    rename_i h1 hap
    obtain ⟨hg1, hkp1, hko1, _⟩ := append_one_effect hg hp (hk x (by simp)) hap
    have hks1 := (append_good2 hg hp hap).2
    have hnd' := List.nodup_cons.mp hnd
    obtain ⟨hg', hkp', hko', hpa'⟩ := ih h1 h' p hg1 (hks1.isTag hp) hnd'.2
      (fun y hy => hks1.notSoup (hk y (by simp [hy]))) ha
    have hfinal : h'.kids p = (h.kids p).filter (fun k => !(x :: xs).contains k) ++ x :: xs := by
      rw [hkp', hkp1, List.filter_append, filter_erase_cons (good_kids_nodup hg.1 p)]
      simp [hnd'.1]
    refine ⟨hg', hfinal, fun n hn => ?_, fun y hy => ?_⟩
    · rw [hko' n hn, hko1 n hn, filter_erase_cons (good_kids_nodup hg.1 n)]
    · exact (good_mem_kids_iff hg'.1).mp (by rw [hfinal]; exact List.mem_append_right _ hy)

theorem insertBeforeLoop_cons (h : Heap) (p x : Nat) (a : Arg) (as : List Arg) :
    insertBeforeLoop h p x (a :: as) =
      (match insertBeforeLoop h p x [a] with
       | .error e => .error e
       | .ok h2 => insertBeforeLoop h2 p x as) := by
  simp only [insertBeforeLoop]
  cases extractArg h a with
  | error e => rfl
  | ok h1 =>
    simp only
    cases indexOf h1 p x with
    | none => rfl
    | some i =>
      simp only
      cases insert h1 p i [a] with
      | error e => rfl
      | ok r => rfl

/-- **insert_before(y₁, …, yₙ)** (distinct elements, none of them the target): all are removed from wherever they were and end up,
    in the given order, immediately before `x`; the other children of `x`'s parent keep their order; every other children list
    only loses them -/
theorem insertBefore_many_effect : ∀ (ys : List Nat) (h h' : Heap) (x p : Nat) (pre post : List Nat), Good2 h →
    h.parent x = some p → ys.Nodup → x ∉ ys → (∀ y ∈ ys, h.kind y ≠ .soup) → h.kind x ≠ .soup →
    (h.kids p).filter (fun k => !ys.contains k) = pre ++ x :: post →
    insertBeforeLoop h p x (ys.map Arg.node) = .ok h' →
    Good2 h' ∧ h'.kids p = pre ++ ys ++ x :: post ∧
    (∀ n, n ≠ p → h'.kids n = (h.kids n).filter (fun k => !ys.contains k)) ∧ (∀ y ∈ ys, h'.parent y = some p) := by
  intro ys
  induction ys with
  | nil =>
    intro h h' x p pre post hg _ _ _ _ _ hk hr
    cases hr
    rw [filter_not_mem_nil] at hk
    exact ⟨hg, by simp [hk], fun n _ => (filter_not_mem_nil _).symm, fun y hy => by cases hy⟩
  | cons y ys ih =>
    intro h h' x p pre post hg hp hnd hx hk hxs hsplit hr
    have hnd' := List.nodup_cons.mp hnd
    have hyx : y ≠ x := fun e => hx (by simp [e])
    have hxys : x ∉ ys := fun hm => hx (by simp [hm])
    rw [List.map_cons, insertBeforeLoop_cons] at hr
    split at hr
    · cases hr
    rename_i h2 hone
    -- the first round is the one-argument call
    have hcall : insertBefore h x [.node y] = .ok h2 := by
      unfold insertBefore
      have := any_isSelf_single hyx
      simp only [hxs, if_false, hp, this, Bool.false_eq_true]
      exact hone
    obtain ⟨pre1, post1, hsp1⟩ :=
      List.append_of_mem ((List.mem_erase_of_ne (Ne.symm hyx)).mpr ((good_mem_kids_iff hg.1).mpr hp))
    obtain ⟨hg2, hkp2, hko2, _⟩ := insertBefore_one_effect hg hp (hk y (by simp)) hyx hxs hsp1 hcall
    have hks2 := (insertBefore_good2 hg hcall).2
    obtain ⟨hpre, hpost⟩ := filter_split (good_kids_nodup hg.1 p) hsp1 hxys hsplit
    obtain ⟨hg', hkp', hko', _⟩ := ih h2 h' x p (pre ++ [y]) post hg2 ((good_mem_kids_iff hg2.1).mp (by rw [hkp2]; simp))
      hnd'.2 hxys (fun z hz => hks2.notSoup (hk z (by simp [hz]))) (hks2.notSoup hxs)
      (by rw [hkp2, hpre, hpost, List.filter_append, List.filter_cons, List.filter_cons]; simp [hnd'.1, hxys]) hr
    refine ⟨hg', by rw [hkp']; simp, fun n hn => ?_, fun z hz => (good_mem_kids_iff hg'.1).mp ?_⟩
    · rw [hko' n hn, hko2 n hn, filter_erase_cons (good_kids_nodup hg.1 n)]
    · rw [hkp']; rcases List.mem_cons.mp hz with rfl | hz' <;> simp [*]

/-- one iteration of `insert_after`'s loop on an element argument = the one-argument call; the next anchor is that element -/
theorem insertAfterLoop_cons_node {h h' : Heap} {p a y : Nat} {as : List Arg} (hg : Good h) (hy : h.kind y ≠ .soup) (hya : y ≠ a)
    (hr : insertAfterLoop h p a (.node y :: as) = .ok h') :
    ∃ h2, insertAfterLoop h p a [.node y] = .ok h2 ∧ insertAfterLoop h2 p y as = .ok h' := by
  have hself1 : isSelf a (Arg.node y) = false := by simp [isSelf, hya]
  simp only [insertAfterLoop, extractArg, hself1, Bool.false_eq_true, if_false] at hr ⊢
  split at hr
  · cases hr
  rename_i h1 he
  split at hr
  · cases hr
  rename_i i hidx
  split at hr
  · cases hr
  rename_i h2 ins hins
  obtain ⟨_, _, _, hkind1, _⟩ := extract_good hg he
  have hk1 : h1.kind y ≠ .soup := by rw [hkind1]; exact hy
  rw [(insert_single_node hk1 hins).2] at hr hins
  exact ⟨h2, rfl, by simpa using hr⟩

/-- **insert_after(y₁, …, yₙ)** (distinct elements, none of them the target): all are removed from wherever they were and end up,
    in the given order, immediately after `x` -/
theorem insertAfter_many_effect : ∀ (ys : List Nat) (h h' : Heap) (a p : Nat) (pre post : List Nat), Good2 h →
    h.parent a = some p → ys.Nodup → a ∉ ys → (∀ y ∈ ys, h.kind y ≠ .soup) → h.kind a ≠ .soup →
    (h.kids p).filter (fun k => !ys.contains k) = pre ++ a :: post →
    insertAfterLoop h p a (ys.map Arg.node) = .ok h' →
    Good2 h' ∧ h'.kids p = pre ++ a :: ys ++ post ∧
    (∀ n, n ≠ p → h'.kids n = (h.kids n).filter (fun k => !ys.contains k)) ∧ (∀ y ∈ ys, h'.parent y = some p) := by
  intro ys
  induction ys with
  | nil =>
    intro h h' a p pre post hg _ _ _ _ _ hk hr
    cases hr
    rw [filter_not_mem_nil] at hk
    exact ⟨hg, by simp [hk], fun n _ => (filter_not_mem_nil _).symm, fun y hy => by cases hy⟩
  | cons y ys ih =>
    intro h h' a p pre post hg hp hnd hx hk hxs hsplit hr
    have hnd' := List.nodup_cons.mp hnd
    have hya : y ≠ a := fun e => hx (by simp [e])
    have hays : a ∉ ys := fun hm => hx (by simp [hm])
    have hyk := hk y (by simp)
    rw [List.map_cons] at hr
    obtain ⟨h2, hone, hrest⟩ := insertAfterLoop_cons_node hg.1 hyk hya hr
    have hcall : insertAfter h a [.node y] = .ok h2 := by
      unfold insertAfter
      have := any_isSelf_single hya
      simp only [hxs, if_false, hp, this, Bool.false_eq_true]
      exact hone
    obtain ⟨pre1, post1, hsp1⟩ :=
      List.append_of_mem ((List.mem_erase_of_ne (Ne.symm hya)).mpr ((good_mem_kids_iff hg.1).mpr hp))
    obtain ⟨hg2, hkp2, hko2, hpy2⟩ := insertAfter_one_effect hg hp hyk hya hxs hsp1 hcall
    have hks2 := (insertAfter_good2 hg hcall).2
    obtain ⟨hpre, hpost⟩ := filter_split (good_kids_nodup hg.1 p) hsp1 hays hsplit
    -- the next round starts from `y`, which now stands right after `a`
    obtain ⟨hg', hkp', hko', _⟩ := ih h2 h' y p (pre ++ [a]) post hg2 hpy2 hnd'.2 hnd'.1
      (fun z hz => hks2.notSoup (hk z (by simp [hz]))) (hks2.notSoup hyk)
      (by rw [hkp2, hpre, hpost, List.filter_append, List.filter_cons, List.filter_cons]; simp [hnd'.1, hays]) hrest
    refine ⟨hg', by rw [hkp']; simp, fun n hn => ?_, fun z hz => (good_mem_kids_iff hg'.1).mp ?_⟩
    · rw [hko' n hn, hko2 n hn, filter_erase_cons (good_kids_nodup hg.1 n)]
    · rw [hkp']; rcases List.mem_cons.mp hz with rfl | hz' <;> simp [*]

/-- `Tag.insert` over element arguments is the element loop -/
theorem insertArgs_nodes {p : Nat} : ∀ (xs : List Nat) (h : Heap) (pos : Nat), Good2 h → (h.kind p).isTag = true →
    (∀ x ∈ xs, h.kind x ≠ .soup) →
    insertArgs h p pos (xs.map Arg.node) =
      (match insertElems h p pos xs with
       | .error e => .error e
       | .ok (h', pos') => .ok (h', pos', xs)) := by
  intro xs
  induction xs with
  | nil => intro h pos _ _ _; simp [insertArgs, insertElems]
  | cons x xs ih =>
    intro h pos hg hp hk
    have hxk := hk x (by simp)
    simp only [List.map_cons, insertArgs, insertArg1, hxk, if_false, insertElems]
    cases hcore : insertCore h p pos x with
    | error e => rfl
    | ok h1 =>
      simp only
      cases hidx : indexOf h1 p x with
      | none => rfl
      | some i =>
        simp only
        have e1 := (insertCore_good2 hg hp hxk hcore).1
        rw [ih h1 (i + 1) e1.1 (e1.2.isTag hp) (fun z hz => e1.2.notSoup (hk z (by simp [hz])))]
        cases insertElems h1 p (i + 1) xs with
        | error e => rfl
        | ok r => simp

/-- **replace_with(y₁, …, yₙ)** (distinct elements, none of them `x` or `x`'s parent): `x` comes back detached, and the `yᵢ` — each
    removed from wherever it was — stand contiguously, in the given order, where `x` stood; the other children keep their order -/
theorem replaceWith_many_effect {h h' : Heap} {x p : Nat} {ys pre post : List Nat} (hg : Good2 h) (hp : h.parent x = some p)
    (hnd : ys.Nodup) (hxy : x ∉ ys) (hpy : p ∉ ys) (hk : ∀ y ∈ ys, h.kind y ≠ .soup)
    (hsplit : h.kids p = pre ++ x :: post) (hr : replaceWith h x (ys.map Arg.node) = .ok h') :
    h'.kids p = pre.filter (fun k => !ys.contains k) ++ ys ++ post.filter (fun k => !ys.contains k) ∧ h'.parent x = none := by
  unfold replaceWith at hr
  have hne1 : ¬ (ys.map Arg.node = [Arg.node x]) := by
    intro he
    match ys, he with
    | [y], he => simp at he; exact hxy (by simp [he])
  have hself : (ys.map Arg.node).any (isSelf p) = false := by
    rw [List.any_eq_false]
    intro a ha
    obtain ⟨y, hy, rfl⟩ := List.mem_map.mp ha
    simp only [isSelf, decide_eq_true_eq]
    exact fun e => hpy (e ▸ hy)
  have hnd0 : (pre ++ x :: post).Nodup := hsplit ▸ good_kids_nodup hg.1 p
  simp only [hp, hne1, if_false, hself, Bool.false_eq_true, indexOf, idxOf?_of_split (good_kids_nodup hg.1 p) hsplit] at hr
  split at hr
  · cases hr
  rename_i h1 he
  obtain ⟨e1, hk1, hp1, _⟩ := extract_effect2 hg he
  have hkp1 : h1.kids p = pre ++ post := by
    rw [hk1 p, hsplit, List.erase_append_right _ (not_mem_of_nodup_middle hnd0)]
    simp
  have hptag1 := e1.2.isTag (good_parent_isTag hg.1 hp)
  have hkys1 : ∀ y ∈ ys, h1.kind y ≠ .soup := fun y hy => e1.2.notSoup (hk y hy)
  unfold insert at hr
  rw [insertArgs_nodes ys h1 pre.length e1.1 hptag1 hkys1] at hr
  cases hel : insertElems h1 p pre.length ys with
  | error e => simp only [hel] at hr; cases hr
  | ok r =>
    obtain ⟨h2, pos2⟩ := r
    simp only [hel] at hr
    cases hr
    obtain ⟨hkids, _, hparent, _⟩ := insertElems_contiguous ys h1 pre.length h' pos2 pre [] post
      e1.1 hptag1 hnd hkys1 (fun _ _ hm => by cases hm) (by simp [hkp1]) (by simp) hel
    refine ⟨by simpa using hkids, ?_⟩
    -- `x` stays detached: it is not among the inserted elements
    rw [hparent x hxy, hp1 x, if_pos rfl]

theorem insert_soup_effect {h h' : Heap} {p s position : Nat} {ins : List Nat} (hg : Good2 h) (hp : (h.kind p).isTag = true)
    (hs : h.kind s = .soup) (hsp : s ≠ p) (hpos : position ≤ (h.kids p).length)
    (hi : insert h p position [.node s] = .ok (h', ins)) :
    ins = h.kids s ∧
    h'.kids p = ((h.kids p).take position).filter (fun k => !(h.kids s).contains k) ++ h.kids s ++
                ((h.kids p).drop position).filter (fun k => !(h.kids s).contains k) ∧
    h'.kids s = [] := by
  unfold insert at hi
  simp only [insertArgs, insertArg1, hs, if_true, hsp, if_false] at hi
  cases hel : insertElems h p position (h.kids s) with
  | error e => simp only [hel] at hi; cases hi
  | ok r =>
    obtain ⟨h2, pos2⟩ := r
    simp only [hel] at hi
    cases hi
    have hnd := good_kids_nodup hg.1 s
    have hk : ∀ x ∈ h.kids s, h.kind x ≠ .soup := fun x hx => good_attached_not_soup hg.1 ((good_mem_kids_iff hg.1).mp hx)
    obtain ⟨hkids, _, _, hothers⟩ := insertElems_contiguous (h.kids s) h position h' pos2
      ((h.kids p).take position) [] ((h.kids p).drop position) hg hp hnd hk (fun _ _ hm => by cases hm) (by simp)
      (by simp [Nat.min_eq_left hpos]) hel
    exact ⟨by simp, by simpa using hkids, by rw [hothers s hsp, filter_not_mem_self]⟩

end BS.Heap
