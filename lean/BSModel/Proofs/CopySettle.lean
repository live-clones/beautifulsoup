import BSModel.Proofs.Copy
import BSModel.Proofs.CopyEq
/-! C12: the copy of ANY tree has the shape of the tree with its dicts re-processed; `==` and the dict
    invariant are functions of the shape -/
namespace BS.Copy

mutual
/-- `Settled` for every dict of a tree -/
def SettledN : Node → Prop
  | .str _ _ _ => True
  | .tag _ d ks => Settled d.dictCls d.attrs ∧ SettledL ks
def SettledL : List Node → Prop
  | [] => True
  | k :: ks => SettledN k ∧ SettledL ks
end

theorem eraseAttrs_copyAttrs (cls n : Nat) (l : Attrs) :
    eraseAttrs (copyAttrs cls n l).1 = eraseAttrs (settleAttrs cls l) := by
  fun_induction copyAttrs cls n l with
  | case1 n => rfl
  | case2 n k m lid c items r q ih =>
    simp only [eraseAttrs] at ih
    simp only [settleAttrs, coerce_list, pushEntry, eraseAttrs, List.map_cons, q, ih]
    simp [AVal.erase]
  | case3 n k m v r hv ih =>
    rw [settleAttrs]
    -- the same entry, if any, in front of both
    cases coerce cls k m v with
    | none => exact ih
    | some v' =>
      simp only [eraseAttrs] at ih
      simp [pushEntry, eraseAttrs, ih]

theorem settleAttrs_of_settled (cls : Nat) (l : Attrs) (h : Settled cls l) : settleAttrs cls l = l := by
  fun_induction settleAttrs cls l with
  | case1 => rfl
  | case2 k m v r ih =>
    have h1 : coerce cls k m v = some v := h _ (List.mem_cons_self ..)
    rw [h1, pushEntry, ih fun x hx => h x (List.mem_cons_of_mem _ hx)]

mutual
theorem settle_of_settled : ∀ t : Node, SettledN t → settle t = t
  | .str _ _ _, _ => rfl
  | .tag i d ks, h => by
    simp only [SettledN] at h
    simp only [settle, settleAttrs_of_settled _ _ h.1, settleL_of_settled ks h.2]
theorem settleL_of_settled : ∀ ks : List Node, SettledL ks → settleL ks = ks
  | [], _ => rfl
  | k :: ks, h => by
    simp only [SettledL] at h
    simp only [settleL, settle_of_settled k h.1, settleL_of_settled ks h.2]
end

theorem settle_keys_sublist (cls : Nat) (l : Attrs) : ((settleAttrs cls l).map Prod.fst).Sublist (l.map Prod.fst) := by
  fun_induction settleAttrs cls l with
  | case1 => exact .slnil
  | case2 k m v r ih =>
    cases coerce cls k m v with
    | none => exact List.Sublist.cons _ ih
    | some v' => exact List.Sublist.cons_cons k ih

mutual
theorem dictOK_settle : ∀ t : Node, DictOK t → DictOK (settle t)
  | .str _ _ _, _ => by simp [settle, DictOK]
  | .tag i d ks, h => by
    simp only [DictOK] at h
    simp only [settle, DictOK]
    exact ⟨List.Nodup.sublist (settle_keys_sublist _ _) h.1, dictOKL_settle ks h.2⟩
theorem dictOKL_settle : ∀ ks : List Node, DictOKL ks → DictOKL (settleL ks)
  | [], _ => by simp [settleL, DictOKL]
  | k :: ks, h => by
    simp only [DictOKL] at h
    simp only [settleL, DictOKL]
    exact ⟨dictOK_settle k h.1, dictOKL_settle ks h.2⟩
end

theorem isXml_settle (inh : Option Bool) (d : TagData) (a : Attrs) : isXml inh { d with attrs := a } = isXml inh d := rfl

theorem isXml_copySelf (n : Nat) (d : TagData) (inh inh' : Option Bool) (h : inh = none → inh' = none) :
    isXml inh' (copySelf n d (isXml inh d)).2.1 = isXml inh d := by
  simp only [isXml, copySelf]
  cases hk : d.st.knownXml with
  | some b => simp
  | none =>
    cases inh with
    | none => simp [h rfl]
    | some b => simp

mutual
/-- `inh`: `_is_xml` of the original's parent; `inh'`: of where the copy is looked at. With `known_xml = None` and `inh = none`
    the copy stores `none` and falls back to `inh'`: hence the hypothesis (below the root the copy's own parent decides). -/
theorem shape_copySpec_general : ∀ (t : Node) (inh inh' : Option Bool) (n : Nat), (inh = none → inh' = none) →
    shape inh' (copySpec inh n t).1 = shape inh (settle t)
  | .str i c v, inh, inh', n, _ => by simp [copySpec, shape, settle]
  | .tag i d ks, inh, inh', n, h => by
    simp only [copySpec, shape, settle]
    rw [isXml_copySelf n d inh inh' h, isXml_settle inh d (settleAttrs d.dictCls d.attrs)]
    rw [shapeL_copySpecL_general ks (isXml inh d) _]
    congr 1
    simp [shapeData, copySelf, eraseAttrs_copyAttrs]
theorem shapeL_copySpecL_general : ∀ (ks : List Node) (inh : Option Bool) (n : Nat),
    shapeL inh (copySpecL inh n ks).1 = shapeL inh (settleL ks)
  | [], inh, n => by simp [copySpecL, shapeL, settleL]
  | k :: ks, inh, n => by
    simp only [copySpecL, shapeL, settleL]
    rw [shape_copySpec_general k inh inh n (fun h => h), shapeL_copySpecL_general ks inh _]
end

theorem shape_copySpec (t : Node) (inh inh' : Option Bool) (n : Nat) (hs : SettledN t) (h : inh = none → inh' = none) :
    shape inh' (copySpec inh n t).1 = shape inh t := by
  rw [shape_copySpec_general t inh inh' n h, settle_of_settled t hs]

theorem shapeL_copySpecL (ks : List Node) (inh : Option Bool) (n : Nat) (hs : SettledL ks) :
    shapeL inh (copySpecL inh n ks).1 = shapeL inh ks := by
  rw [shapeL_copySpecL_general, settleL_of_settled ks hs]

/-- `AVal.val` after `erase` -/
def SVal.toE : SVal → EVal
  | .str _ s => .str s
  | .list _ xs => .list xs
  | .int n => .num n
  | .bool b => .num (if b then 1 else 0)
  | .none => .none

theorem val_eq_toE (v : AVal) : v.val = v.erase.toE := by cases v <;> rfl

theorem attrMap_eq_erase (l : Attrs) : attrMap l = fun k => ((eraseAttrs l).lookup k).map fun e => e.2.toE := by
  funext k
  simp only [attrMap, eraseAttrs_lookup, Option.map_map, Function.comp_def, val_eq_toE]

theorem keys_eraseAttrs (l : Attrs) : (eraseAttrs l).map Prod.fst = l.map Prod.fst := by
  simp [eraseAttrs, List.map_map, Function.comp_def]

mutual
/-- `canon t = canonS (shape i t)`: same shape, same `canon` (with `DictOKS`: same `DictOK`) -/
def canonS : Shape → Canon
  | .str _ v => .str v
  | .tag d ks => .tag d.name (fun k => (d.attrs.lookup k).map fun e => e.2.toE) (canonSL ks)
def canonSL : List Shape → List Canon
  | [] => []
  | k :: ks => canonS k :: canonSL ks
end

mutual
theorem canon_eq_canonS : ∀ (t : Node) (i : Option Bool), canon t = canonS (shape i t)
  | .str _ _ _, _ => rfl
  | .tag _ d ks, i => by
    simp only [canon, shape, canonS, shapeData, attrMap_eq_erase, canonL_eq_canonSL ks (isXml i d)]
theorem canonL_eq_canonSL : ∀ (ks : List Node) (i : Option Bool), canonL ks = canonSL (shapeL i ks)
  | [], _ => rfl
  | k :: ks, i => by simp only [canonL, shapeL, canonSL, canon_eq_canonS k i, canonL_eq_canonSL ks i]
end

theorem canon_of_shape (a b : Node) (i j : Option Bool) (h : shape i a = shape j b) : canon a = canon b := by
  rw [canon_eq_canonS a i, canon_eq_canonS b j, h]

theorem canonL_of_shape : ∀ (ks ls : List Node) (i j : Option Bool), shapeL i ks = shapeL j ls → canonL ks = canonL ls :=
  fun ks ls i j h => by rw [canonL_eq_canonSL ks i, canonL_eq_canonSL ls j, h]

mutual
def DictOKS : Shape → Prop
  | .str _ _ => True
  | .tag d ks => (d.attrs.map Prod.fst).Nodup ∧ DictOKSL ks
def DictOKSL : List Shape → Prop
  | [] => True
  | k :: ks => DictOKS k ∧ DictOKSL ks
end

mutual
theorem dictOK_eq_shape : ∀ (t : Node) (i : Option Bool), DictOK t = DictOKS (shape i t)
  | .str _ _ _, _ => rfl
  | .tag _ d ks, i => by
    simp only [DictOK, shape, DictOKS, shapeData, keys_eraseAttrs, dictOKL_eq_shape ks (isXml i d)]
theorem dictOKL_eq_shape : ∀ (ks : List Node) (i : Option Bool), DictOKL ks = DictOKSL (shapeL i ks)
  | [], _ => rfl
  | k :: ks, i => by simp only [DictOKL, shapeL, DictOKSL, dictOK_eq_shape k i, dictOKL_eq_shape ks i]
end

theorem dictOK_of_shape (a b : Node) (i j : Option Bool) (h : shape i a = shape j b) (hd : DictOK a) : DictOK b := by
  rwa [dictOK_eq_shape a i, h, ← dictOK_eq_shape b j] at hd

theorem dictOKL_of_shape : ∀ (ks ls : List Node) (i j : Option Bool), shapeL i ks = shapeL j ls → DictOKL ks → DictOKL ls :=
  fun ks ls i j h hd => by rwa [dictOKL_eq_shape ks i, h, ← dictOKL_eq_shape ls j] at hd

theorem eq_of_shape (a b : Node) (i j : Option Bool) (ha : DictOK a) (h : shape i a = shape j b) :
    eqImpl a b = true ∧ eqImpl b a = true :=
  have hb := dictOK_of_shape a b i j h ha
  have hc := canon_of_shape a b i j h
  ⟨(eqImpl_iff a b ha hb).mpr hc, (eqImpl_iff b a hb ha).mpr hc.symm⟩

end BS.Copy
