import BSModel.Proofs.TokenizerWholeEmit
/-! The positions read off the text (`derivedPos`) are the positions the tokenizer reports: no two start tags of a
document belong to the same path, so the lookup by path finds each tag's own offset; then `callbacks_of_loops`. -/
namespace BS.WriterText
open BS.Writer BS.Tokenizer BS.SourcePos BS.Adapter

/-- two tokens are not start tags of the same path -/
def Apart (x y : WTok) : Prop := isOpenTok x = true → isOpenTok y = true → x.path ≠ y.path

/-- no two start tags of the sequence belong to the same path -/
def Distinct (ts : List WTok) : Prop := List.Pairwise Apart ts

theorem offsetOf_first (t : WTok) (b : List WTok) (ho : isOpenTok t = true) : ∀ (a : List WTok) (o : Nat),
    (∀ t' ∈ a, isOpenTok t' = true → t'.path ≠ t.path) →
    offsetOf t.path o (a ++ t :: b) = some (o + (textOf a).length)
  | [], o, _ => by simp [offsetOf, ho, textOf]
  | x :: a', o, ha => by
    have hx : (isOpenTok x && x.path == t.path) = false := by
      cases hxo : isOpenTok x with
      | false => rfl
      | true => simpa using ha x (by simp) hxo
    simp only [List.cons_append, offsetOf, hx, Bool.false_eq_true, if_false]
    rw [offsetOf_first t b ho a' _ (fun t' ht' => ha t' (by simp [ht']))]
    simp only [textOf_cons, List.length_append]
    congr 1; omega

theorem posAgree_of_distinct (ts : List WTok) (hd : Distinct ts) : ∀ (b a : List WTok), ts = a ++ b →
    PosAgree (fun p => match offsetOf p 0 ts with | some o => lineCol (textOf ts) o | none => (0, 0)) (textOf a) b := by
  intro b
  induction b with
  | nil => intro a _; trivial
  | cons t b' ih =>
    intro a hts
    refine ⟨fun ho => ?_, ?_⟩
    · have hd' : Distinct (a ++ t :: b') := hts ▸ hd
      have hoff := offsetOf_first t b' ho a 0 fun t' ht' ho' =>
        (List.pairwise_append.mp hd').2.2 t' ht' t (by simp) ho' ho
      rw [← hts] at hoff
      simp only [hoff, Nat.zero_add]
      rw [hts, textOf_append]
      exact lineCol_prefix _ _
    · have := ih (a ++ [t]) (by simp [hts])
      simpa [textOf_append, textOf_cons, textOf_nil] using this

theorem flushLitTok_noOpen (cur : PStr) : ∀ t ∈ flushLitTok cur, isOpenTok t = false := by
  unfold flushLitTok
  split
  · nofun
  · exact List.forall_mem_singleton.mpr rfl

theorem charToks_noOpen (sp : Nat → CharSp) (s : PStr) (i : Nat) (cur : PStr) : ∀ t ∈ charToks sp i cur s, isOpenTok t = false := by
  have hf := flushLitTok_noOpen
  fun_induction charToks sp i cur s with
  | case1 => exact hf _
  | case2 => exact List.forall_mem_append.mpr ⟨hf _, by assumption⟩
  | case3 => assumption
  | case4 | case5 | case6 => exact List.forall_mem_append.mpr ⟨hf _, List.forall_mem_cons.mpr ⟨rfl, by assumption⟩⟩

theorem specialWTok_noOpen (k : Kind) (up : Nat → Bool) (s : PStr) : isOpenTok (specialWTok k up s) = false := by
  cases k <;> rfl

theorem distinct_of_noOpen (ts : List WTok) (h : ∀ t ∈ ts, isOpenTok t = false) : Distinct ts :=
  List.pairwise_of_forall_mem_list fun x hx _ _ ho => by rw [h x hx] at ho; cases ho

/- `k`: the child indices below `p`; `j`, the child's own index, tells the start tags of different children apart -/
mutual
theorem open_wtoks (iv : BS.Builder.Name → Bool) (c : Choices) : ∀ (d : WDoc) (p : Path), ∀ t ∈ wtoks iv c p d,
    isOpenTok t = true → ∃ k n a sl, t = openTok (k ++ p) n a sl
  | .text s, p, t, ht, ho => by
    simp only [wtoks] at ht
    rw [charToks_noOpen _ s 0 [] t ht] at ho; cases ho
  | .special k s, p, t, ht, ho => by
    simp only [wtoks, List.mem_singleton] at ht
    subst ht
    rw [specialWTok_noOpen] at ho; cases ho
  | .elem n a ks, p, t, ht, ho => by
    have hopen : ∀ sl, ∃ k n' a' sl', openTok p n a sl = openTok (k ++ p) n' a' sl' := fun sl => ⟨[], n, a, sl, rfl⟩
    simp only [wtoks] at ht
    split at ht
    · split at ht   -- void: `.plain`, `.slash`, `.pair`
      · simp only [List.mem_singleton] at ht; subst ht; exact hopen false
      · simp only [List.mem_singleton] at ht; subst ht; exact hopen true
      · simp only [List.mem_cons, List.not_mem_nil, or_false] at ht
        rcases ht with rfl | rfl
        · exact hopen false
        · cases ho
    · simp only [List.mem_cons, List.mem_append, List.not_mem_nil, or_false] at ht
      rcases ht with rfl | h | rfl   -- own start tag, a child's token, own end tag
      · exact hopen false
      · obtain ⟨k, j, n', a', sl, hk, _⟩ := open_wtoksL iv c ks p 0 t h ho
        exact ⟨k ++ [j], n', a', sl, by simp [hk]⟩
      · cases ho
theorem open_wtoksL (iv : BS.Builder.Name → Bool) (c : Choices) : ∀ (ds : List WDoc) (p : Path) (i : Nat),
    ∀ t ∈ wtoksL iv c p i ds, isOpenTok t = true → ∃ k j n a sl, t = openTok (k ++ j :: p) n a sl ∧ i ≤ j
  | [], _, _, t, ht, _ => by simp [wtoksL] at ht
  | d :: ds, p, i, t, ht, ho => by
    simp only [wtoksL, List.mem_append] at ht
    rcases ht with h | h
    · obtain ⟨k, n, a, sl, hk⟩ := open_wtoks iv c d (i :: p) t h ho
      exact ⟨k, i, n, a, sl, hk, Nat.le_refl i⟩
    · obtain ⟨k, j, n, a, sl, hk, hj⟩ := open_wtoksL iv c ds p (i + 1) t h ho
      exact ⟨k, j, n, a, sl, hk, by omega⟩
end

mutual
theorem distinct_wtoks (iv : BS.Builder.Name → Bool) (c : Choices) : ∀ (d : WDoc) (p : Path), Distinct (wtoks iv c p d)
  | .text s, p => by simp only [wtoks]; exact distinct_of_noOpen _ (charToks_noOpen _ s 0 [])
  | .special k s, p => by
    simp only [wtoks]
    exact distinct_of_noOpen _ (List.forall_mem_singleton.mpr (specialWTok_noOpen k _ s))
  | .elem n a ks, p => by
    have hclose : ∀ x : WTok, Apart x (closeTok n) := by intro x _ ho; cases ho
    simp only [wtoks]
    split
    · cases c.void p <;> simp [Distinct, hclose]
    · refine List.pairwise_cons.mpr ⟨?_, List.pairwise_append.mpr ⟨distinct_wtoksL iv c ks p 0, List.pairwise_singleton _ _,
        fun x _ y hy => List.mem_singleton.mp hy ▸ hclose x⟩⟩
      intro y hy
      rcases List.mem_append.mp hy with h | h
      · -- a start tag among the children has a longer path
        intro _ hoy hp
        obtain ⟨k, j, n', a', sl, rfl, _⟩ := open_wtoksL iv c ks p 0 y h hoy
        have := congrArg List.length hp
        simp [openTok] at this
        omega
      · exact List.mem_singleton.mp h ▸ hclose _
theorem distinct_wtoksL (iv : BS.Builder.Name → Bool) (c : Choices) : ∀ (ds : List WDoc) (p : Path) (i : Nat),
    Distinct (wtoksL iv c p i ds)
  | [], _, _ => List.Pairwise.nil
  | d :: ds, p, i => by
    simp only [wtoksL]
    refine List.pairwise_append.mpr ⟨distinct_wtoks iv c d (i :: p), distinct_wtoksL iv c ds p (i + 1), ?_⟩
    -- start tags of different children differ in the child's index
    intro x hx y hy hox hoy hp
    obtain ⟨k, n, a, sl, rfl⟩ := open_wtoks iv c d (i :: p) x hx hox
    obtain ⟨k', j, n', a', sl', rfl, hj⟩ := open_wtoksL iv c ds p (i + 1) y hy hoy
    have := (List.cons.inj (List.append_inj_right' hp rfl)).1
    omega
end

/-- **the positions read off the text agree with the text**: `derivedPos` gives every start tag the line/column of the
    text written before it -/
theorem derivedPos_agrees (iv : BS.Builder.Name → Bool) (c : Choices) (ds : List WDoc) :
    PosAgree (derivedPos iv c ds) [] (wtoksL iv c [] 0 ds) :=
  posAgree_of_distinct (wtoksL iv c [] 0 ds) (distinct_wtoksL iv c ds [] 0) (wtoksL iv c [] 0 ds) [] rfl

theorem callbacks_of_loops (P : Params) (iv : BS.Builder.Name → Bool) (c : Choices) (ds : List WDoc)
    (h : Loops P (wtoksL iv c [] 0 ds)) :
    mergeData (callbacks (run P (writeText iv c ds))) = mergeData (emitDoc iv (withDerivedPos iv c ds) ds) ∧
      (run P (writeText iv c ds)).flag = .ok ∧ (run P (writeText iv c ds)).st.s = [] := by
  obtain ⟨h1, h2, h3⟩ := run_of_loops P _ h
  refine ⟨?_, h2, h3⟩
  have hm := callbacks_runToks (wtoksL iv c [] 0 ds) [] []
  have he := tokEvs_wtoksL iv c (derivedPos iv c ds) ds [] 0 [] (derivedPos_agrees iv c ds)
  simp only [callbacks, writeText, h1]
  rw [hm]
  simp only [List.append_nil, flushLit, List.isEmpty_nil, if_true, List.nil_append, he]
  rfl

theorem offsetOf_some (p : Path) (ts : List WTok) (o o' : Nat) (h : offsetOf p o ts = some o') :
    ∃ a t b, ts = a ++ t :: b ∧ isOpenTok t = true ∧ o' = o + (textOf a).length := by
  fun_induction offsetOf p o ts with
  | case1 => cases h
  | case2 o x ts hc => exact ⟨[], x, ts, rfl, (Bool.and_eq_true _ _ ▸ hc).1, by simp [textOf, ← Option.some.inj h]⟩
  | case3 o x ts hc ih =>
    obtain ⟨a, t, b, hts, ho, ho'⟩ := ih h
    exact ⟨x :: a, t, b, by simp [hts], ho, by simp only [textOf_cons, List.length_append]; omega⟩

theorem open_head_wtoks (iv : BS.Builder.Name → Bool) (c : Choices) : ∀ (d : WDoc) (p : Path), ∀ t ∈ wtoks iv c p d,
    isOpenTok t = true → t.text.head? = some 60 := by
  intro d p t ht ho
  obtain ⟨k, n, a, sl, rfl⟩ := open_wtoks iv c d p t ht ho
  rfl

theorem derivedPos_at_open (iv : BS.Builder.Name → Bool) (c : Choices) (ds : List WDoc) (p : Path) (o : Nat)
    (h : offsetOf p 0 (wtoksL iv c [] 0 ds) = some o) :
    (writeText iv c ds)[o]? = some 60 ∧ derivedPos iv c ds p = lineCol (writeText iv c ds) o := by
  refine ⟨?_, by simp [derivedPos, h]⟩
  obtain ⟨a, t, b, hts, ho, ho'⟩ := offsetOf_some p _ 0 o h
  obtain ⟨k, j, n, a', sl, rfl, _⟩ := open_wtoksL iv c ds [] 0 t (by rw [hts]; simp) ho
  simp only [writeText, hts, textOf_append, textOf_cons]
  rw [ho', Nat.zero_add, List.getElem?_append_right (Nat.le_refl _), Nat.sub_self]
  rfl

end BS.WriterText
