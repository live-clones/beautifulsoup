import BSModel.Proofs.TokenizerPos
/-! Tokenizer: what is left at the end of `close()`; spans; the offsets of the start tags. -/
namespace BS.Tokenizer
open BS.SourcePos BS.Adapter

/-! ### the end of `close()`: nothing is left unless CDATA mode is still on -/

theorem flush_true_rest (st : St) : (flush true st).2.s = [] ∨ (flush true st).2.cd ≠ none := by
  unfold flush
  split
  · left; rfl
  · rename_i hc
    simp only [Bool.true_and, Bool.and_eq_true, Bool.not_eq_true', List.isEmpty_eq_false_iff,
      Option.isNone_iff_eq_none, not_and] at hc
    by_cases hs : st.s = []
    · left; exact hs
    · right; exact hc hs

theorem goahead_true_rest (P : Params) (st : St) (h : (goahead P true st).flag = .ok) :
    (goahead P true st).st.s = [] ∨ (goahead P true st).st.cd ≠ none := by
  unfold goahead at h ⊢
  simp only at h ⊢
  split
  · exact flush_true_rest _
  · rename_i hne
    split at h
    · rename_i heq; exact absurd heq (by simpa using hne)
    · exact absurd h (by simpa using hne)

theorem run_rest (P : Params) (text : PStr) (h : (run P text).flag = .ok) :
    (run P text).st.s = [] ∨ (run P text).st.cd ≠ none := by
  unfold run at h ⊢
  cases hf : (goahead P false (init text)).flag with
  | ok => simp only [hf] at h ⊢; exact goahead_true_rest P _ h
  | err => simp only [hf] at h; cases h
  | stuck => simp only [hf] at h; cases h

theorem spans_mem (evs : List Ev) : ∀ (o : Nat) (e : Ev) (lo hi : Nat), (e, lo, hi) ∈ spans o evs →
    ∃ a b, evs = a ++ e :: b ∧ lo = o + (srcs a).length ∧ hi = lo + e.src.length := by
  induction evs with
  | nil => intro o e lo hi h; simp [spans] at h
  | cons x xs ih =>
    intro o e lo hi h
    simp only [spans, List.mem_cons, Prod.mk.injEq] at h
    rcases h with ⟨h1, h2, h3⟩ | h
    · subst h1 h2 h3
      exact ⟨[], xs, by simp, by simp, rfl⟩
    · obtain ⟨a, b, hab, hlo, hhi⟩ := ih _ e lo hi h
      refine ⟨x :: a, b, by simp [hab], ?_, hhi⟩
      simp only [srcs_cons, List.length_append]; omega

theorem spans_run (P : Params) (text : PStr) (e : Ev) (lo hi : Nat) (h : (e, lo, hi) ∈ spans 0 (run P text).evs) :
    ∃ pre post, text = pre ++ (e.src ++ post) ∧ pre.length = lo ∧ hi = lo + e.src.length ∧ e.pos = posOf pre ∧
      e ∈ (run P text).evs := by
  obtain ⟨a, b, hab, hlo, hhi⟩ := spans_mem _ 0 e lo hi h
  have hs := run_spec P text
  have hw := hs.wp
  have hc := hs.cover
  rw [hab] at hw hc
  rw [WP_append] at hw
  obtain ⟨_, hpos, _⟩ := hw
  simp only [srcs_append, srcs_cons, List.append_assoc] at hc
  exact ⟨srcs a, srcs b ++ (run P text).st.s, hc.symm, by omega, hhi, by simpa using hpos, by rw [hab]; simp⟩

/-- offsets of the chunks of the start-tag events, in order (`o` = offset of the first event) -/
def startOffsets : Nat → List Ev → List Nat
  | _, [] => []
  | o, e :: es => (if isStart e.tok then [o] else []) ++ startOffsets (o + e.src.length) es

theorem startOffsets_mem (evs : List Ev) : ∀ (o lo : Nat), lo ∈ startOffsets o evs →
    ∃ e hi, (e, lo, hi) ∈ spans o evs ∧ isStart e.tok = true := by
  induction evs with
  | nil => intro o lo h; simp [startOffsets] at h
  | cons x xs ih =>
    intro o lo h
    simp only [startOffsets, List.mem_append] at h
    rcases h with h | h
    · split at h
      · rename_i hx
        simp only [List.mem_singleton] at h; subst h
        exact ⟨x, lo + x.src.length, by simp [spans], hx⟩
      · simp at h
    · obtain ⟨e, hi, he, hs⟩ := ih _ lo h
      exact ⟨e, hi, by simp [spans, he], hs⟩

theorem startPositions_toSEv (e : Ev) (l : List SEv) :
    startPositions ((e :: []).filterMap toSEv ++ l) = (if isStart e.tok then [e.pos] else []) ++ startPositions l := by
  obtain ⟨tok, src, pos⟩ := e
  cases tok <;> rfl

theorem startPositions_of_WP (text : PStr) : ∀ (evs : List Ev) (pre rest : PStr), WP pre evs →
    pre ++ srcs evs ++ rest = text →
    startPositions (evs.filterMap toSEv) = (startOffsets pre.length evs).map (lineCol text) := by
  intro evs
  induction evs with
  | nil => intro pre rest _ _; rfl
  | cons e es ih =>
    intro pre rest hw hc
    obtain ⟨hp, hw'⟩ := hw
    have ih' := ih (pre ++ e.src) rest hw' (by simpa [List.append_assoc] using hc)
    have hpos : e.pos = lineCol text pre.length := by
      rw [hp, ← hc, List.append_assoc, lineCol_prefix]
    rw [show e :: es = [e] ++ es from rfl, List.filterMap_append, startPositions_toSEv, ih', List.length_append]
    simp only [List.singleton_append, startOffsets, List.map_append]
    split <;> simp [hpos]

end BS.Tokenizer
