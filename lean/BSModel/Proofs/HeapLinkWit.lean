import BSModel.Proofs.HeapSplice
/-! Pillar 2, part 3: the geometry of the insertion point and of the paste witness. -/
namespace BS.Heap

/-- the insertion point `P` (inside `p`: `Plo`, `Phi`; inside no child: `sep`) and the nodes around it: `pred` right
    before `P`, `lastx` last of `x`'s tree, `succ` at `P`, `prevSib`/`nextSib` the children of `p` ending / starting at `P` -/
structure Geo (h : Heap) (w : Wit) (p x P pred lastx : Nat) (succ prevSib nextSib : Option Nat) : Prop where
  wf : WF h w
  xroot : h.parent x = none
  xkind : h.kind x ≠ .soup
  ptree : w.tree p ≠ x
  Plo : w.pos p < P
  Phi : P ≤ w.pos p + w.size p
  sep : ∀ k, h.parent k = some p → w.pos k + w.size k ≤ P ∨ P ≤ w.pos k
  pred_t : w.tree pred = w.tree p
  pred_p : w.pos pred + 1 = P
  last_t : w.tree lastx = x
  last_p : w.pos lastx + 1 = w.size x
  succ_iff : ∀ b, succ = some b ↔ (w.tree b = w.tree p ∧ w.pos b = P)
  prev_iff : ∀ a, prevSib = some a ↔ (h.parent a = some p ∧ w.pos a + w.size a = P)
  next_iff : ∀ b, nextSib = some b ↔ (h.parent b = some p ∧ w.pos b = P)

section
variable {h : Heap} {w : Wit} {p x P pred lastx : Nat} {succ prevSib nextSib : Option Nat}
  (G : Geo h w p x P pred lastx succ prevSib nextSib)
include G

theorem Geo.x_tree : w.tree x = x ∧ w.pos x = 0 := G.wf.root_tree x G.xroot

theorem Geo.x_ne_p : x ≠ p := by
  intro e; have := G.x_tree.1; have := G.ptree; subst e; contradiction

theorem Geo.in_x {m : Nat} (hm : w.tree m = x) : w.pos m + w.size m ≤ w.size x := by
  have := G.wf.bound m; rw [hm] at this; exact this

theorem Geo.unl_root {m : Nat} (hm : w.unl m = true) : h.kind m = .soup ∧ w.tree m = m ∧ w.pos m = 0 := by
  obtain ⟨h1, h2⟩ := G.wf.unl_soup m hm
  exact ⟨h1, G.wf.root_tree m h2⟩

theorem Geo.unl_in_x {m : Nat} (hm : w.tree m = x) : w.unl m = false := by
  cases hu : w.unl m with
  | false => rfl
  | true =>
    obtain ⟨h1, h2, _⟩ := G.unl_root hu
    have : m = x := by rw [← h2, hm]
    subst this
    exact absurd h1 G.xkind

theorem Geo.anc {m : Nat} (ht : w.tree m = w.tree p) (h1 : w.pos m ≤ w.pos p) (h2 : w.pos p < w.pos m + w.size m) :
    w.pos m < P ∧ P ≤ w.pos m + w.size m := by
  have := G.wf.laminar m p ht h1 h2
  have := G.Plo; have := G.Phi
  omega

theorem Geo.nonanc {m : Nat} (ht : w.tree m = w.tree p)
    (hn : w.pos p < w.pos m ∨ w.pos m + w.size m ≤ w.pos p) :
    w.pos m + w.size m ≤ P ∨ P ≤ w.pos m := by
  have hlo := G.Plo; have hhi := G.Phi
  have hs := G.wf.size_pos m
  by_cases h1 : w.pos m ≤ w.pos p
  · left; omega
  · by_cases h2 : w.pos p + w.size p ≤ w.pos m
    · right; omega
    · obtain ⟨k, hk, hk1, hk2⟩ := tiles_cover _ _ _ _ _ (w.pos m) (G.wf.tiles p) (by omega) (by omega)
      have hkt := G.wf.kid_tree p k hk
      have hl := G.wf.laminar k m (by rw [hkt, ht]) hk1 hk2
      rcases G.sep k (G.wf.kid_parent p k hk) with h3 | h3
      · left; omega
      · right; omega

omit G in
theorem paste_other (m : Nat) (h1 : w.tree m ≠ x) (h2 : w.tree m ≠ w.tree p) :
    (pasteWit w x p P).tree m = w.tree m ∧ (pasteWit w x p P).pos m = w.pos m ∧
    (pasteWit w x p P).size m = w.size m := by
  simp [pasteWit, h1, h2]

theorem Geo.paste_x {m : Nat} (hm : w.tree m = x) :
    (pasteWit w x p P).tree m = w.tree p ∧ (pasteWit w x p P).pos m = P + w.pos m ∧
    (pasteWit w x p P).size m = w.size m ∧ w.pos m + w.size m ≤ w.size x := by
  have hne : ¬ (w.tree m = w.tree p ∧ w.pos m ≤ w.pos p ∧ w.pos p < w.pos m + w.size m) :=
    fun c => G.ptree (c.1.symm.trans hm)
  exact ⟨if_pos hm, if_pos hm, if_neg hne, G.in_x hm⟩

/-- how the paste witness moves a node, by region: inside `x`'s tree / ancestor-or-self of `p` /
    before the insertion point / after it / in another tree -/
theorem Geo.region (m : Nat) :
    (w.tree m = x ∧ (pasteWit w x p P).tree m = w.tree p ∧ (pasteWit w x p P).pos m = P + w.pos m ∧
      (pasteWit w x p P).size m = w.size m ∧ w.pos m + w.size m ≤ w.size x) ∨
    (w.tree m = w.tree p ∧ (pasteWit w x p P).tree m = w.tree p ∧ (pasteWit w x p P).pos m = w.pos m ∧
      (pasteWit w x p P).size m = w.size m + w.size x ∧ w.pos m ≤ w.pos p ∧ w.pos p < w.pos m + w.size m ∧
      w.pos m < P ∧ P ≤ w.pos m + w.size m) ∨
    (w.tree m = w.tree p ∧ (pasteWit w x p P).tree m = w.tree p ∧ (pasteWit w x p P).pos m = w.pos m ∧
      (pasteWit w x p P).size m = w.size m ∧ (w.pos p < w.pos m ∨ w.pos m + w.size m ≤ w.pos p) ∧
      w.pos m + w.size m ≤ P) ∨
    (w.tree m = w.tree p ∧ (pasteWit w x p P).tree m = w.tree p ∧ (pasteWit w x p P).pos m = w.pos m + w.size x ∧
      (pasteWit w x p P).size m = w.size m ∧ (w.pos p < w.pos m ∨ w.pos m + w.size m ≤ w.pos p) ∧
      P ≤ w.pos m) ∨
    (w.tree m ≠ x ∧ w.tree m ≠ w.tree p ∧ (pasteWit w x p P).tree m = w.tree m ∧
      (pasteWit w x p P).pos m = w.pos m ∧ (pasteWit w x p P).size m = w.size m) := by
  have hpt := G.ptree
  have hs := G.wf.size_pos m
  by_cases h1 : w.tree m = x
  · exact Or.inl ⟨h1, G.paste_x h1⟩
  · by_cases h2 : w.tree m = w.tree p
    · right
      by_cases h3 : w.pos m ≤ w.pos p ∧ w.pos p < w.pos m + w.size m
      · left
        have := G.anc h2 h3.1 h3.2
        simp only [pasteWit]; grind
      · right
        have hn : w.pos p < w.pos m ∨ w.pos m + w.size m ≤ w.pos p := by omega
        rcases G.nonanc h2 hn with h4 | h4
        · left
          have : ¬ (P ≤ w.pos m) := by omega
          simp only [pasteWit]; grind
        · right
          simp only [pasteWit]; grind
    · exact Or.inr (Or.inr (Or.inr (Or.inr ⟨h1, h2, paste_other m h1 h2⟩)))

/-! the old witness is the collapse of the new one at the pasted segment `[P, P + size x)` (`cutPt`) -/

/-- what ends at `P` starts after `p`; what spans the segment is `p` or an ancestor -/
theorem Geo.paste_p {m : Nat} (hm : w.tree m = w.tree p) :
    Splice.Outside (pasteWit w x p P) w (w.tree p) P (w.size x) m ∧
    ((pasteWit w x p P).pos m + (pasteWit w x p P).size m = P → w.pos p < w.pos m) ∧
    ((pasteWit w x p P).pos m < P → P + w.size x ≤ (pasteWit w x p P).pos m + (pasteWit w x p P).size m →
      w.pos m ≤ w.pos p) := by
  have := G.ptree
  have hsx := G.wf.size_pos x
  have hsm := G.wf.size_pos m
  have hlo := G.Plo
  unfold Splice.Outside cutPt
  rcases G.region m with inx | anc | before | after | other
  · omega
  · rw [if_pos (by omega), if_neg (by omega)]; omega
  · rw [if_pos (by omega), if_pos (by omega)]; omega
  · rw [if_neg (by omega), if_neg (by omega)]; omega
  · omega

theorem Geo.out {m : Nat} (hm : w.tree m = w.tree p) : Splice.Outside (pasteWit w x p P) w (w.tree p) P (w.size x) m :=
  (G.paste_p hm).1

theorem Geo.ends_at {m : Nat} (hm : w.tree m = w.tree p)
    (he : (pasteWit w x p P).pos m + (pasteWit w x p P).size m = P) : w.pos p < w.pos m := (G.paste_p hm).2.1 he

theorem Geo.spans {m : Nat} (hm : w.tree m = w.tree p) (h1 : (pasteWit w x p P).pos m < P)
    (h2 : P + w.size x ≤ (pasteWit w x p P).pos m + (pasteWit w x p P).size m) : w.pos m ≤ w.pos p :=
  (G.paste_p hm).2.2 h1 h2

omit G in
theorem pasteWit_tree (m : Nat) : (pasteWit w x p P).tree m = if w.tree m = x then w.tree p else w.tree m := rfl

omit G in
theorem pasteWit_unl (m : Nat) : (pasteWit w x p P).unl m = (w.unl m && !(P = 1 && m = p)) := rfl

/-- the paste, read backwards -/
theorem Geo.splice : Splice (pasteWit w x p P) w x (w.tree p) P (w.size x) where
  inn := fun m hm => by
    obtain ⟨-, pm, zm, -⟩ := G.paste_x hm
    exact ⟨pm, zm, G.wf.size_pos m⟩
  out := fun m hm _ => G.out hm
  other := fun m hx hT => paste_other m hx hT

theorem Geo.out_of_lt {a : Nat} (tj : (pasteWit w x p P).tree a = w.tree p) (hlt : (pasteWit w x p P).pos a < P) :
    w.tree a = w.tree p := by
  by_cases hx : w.tree a = x
  · have := G.paste_x hx; omega
  · rwa [pasteWit_tree, if_neg hx] at tj

theorem Geo.mixed {a b : Nat} (ht : (pasteWit w x p P).tree a = (pasteWit w x p P).tree b) :
    w.tree a = w.tree b ∨ (w.tree a = x ∧ w.tree b = w.tree p) ∨ (w.tree a = w.tree p ∧ w.tree b = x) := by
  have := G.ptree
  rw [pasteWit_tree, pasteWit_tree] at ht
  split at ht <;> split at ht <;> omega

end

end BS.Heap
