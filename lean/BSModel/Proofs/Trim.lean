/-! `str.strip()` for any character class `p`. `strip`/`rstrip` of Model/Text and Model/Pretty unfold to `trim`/`rtrim` of their
    whitespace test: a lemma here applies as a term; `rw`/`simp` want the model's name. -/
namespace BS.Trim
variable {α : Type} (p : α → Bool)

/-- `s` without its maximal suffix of `p`s -/
def rtrim (s : List α) : List α := (s.reverse.dropWhile p).reverse
/-- `s` without its maximal prefix and suffix of `p`s -/
def trim (s : List α) : List α := rtrim p (s.dropWhile p)
/-- what `rtrim` removes -/
def rtail (s : List α) : List α := (s.reverse.takeWhile p).reverse

theorem rtrim_append_rtail (s : List α) : rtrim p s ++ rtail p s = s := by
  rw [rtrim, rtail, ← List.reverse_append, List.takeWhile_append_dropWhile, List.reverse_reverse]

theorem rtail_all (s : List α) : ∀ c ∈ rtail p s, p c = true := fun c hc =>
  List.all_eq_true.mp List.all_takeWhile c (List.mem_reverse.mp hc)

theorem rtrim_last (s : List α) (c : α) (h : (rtrim p s).getLast? = some c) : p c = false := by
  rw [rtrim, List.getLast?_reverse] at h
  simpa [h] using List.head?_dropWhile_not p s.reverse

theorem trim_last (s : List α) (c : α) (h : (trim p s).getLast? = some c) : p c = false := rtrim_last p _ c h

theorem trim_head (s : List α) (c : α) (h : (trim p s).head? = some c) : p c = false := by
  -- `trim p s` is a prefix of `s.dropWhile p`
  have hd : (s.dropWhile p).head? = some c := by
    rw [← rtrim_append_rtail p (s.dropWhile p), List.head?_append, show (rtrim p (s.dropWhile p)).head? = some c from h]; rfl
  simpa [hd] using List.head?_dropWhile_not p s

theorem trim_decomp (s : List α) :
    ∃ a b, s = a ++ trim p s ++ b ∧ (∀ c ∈ a, p c = true) ∧ (∀ c ∈ b, p c = true) :=
  ⟨s.takeWhile p, rtail p (s.dropWhile p),
    by rw [List.append_assoc, trim, rtrim_append_rtail, List.takeWhile_append_dropWhile],
    List.all_eq_true.mp List.all_takeWhile, rtail_all p _⟩

theorem dropWhile_eq_nil_iff (s : List α) : s.dropWhile p = [] ↔ ∀ c ∈ s, p c = true := by
  induction s with
  | nil => simp
  | cons a s ih => cases h : p a <;> simp [h, ih]

/-- the decomposition of `trim_decomp` is unique -/
theorem trim_unique (s a m b : List α) (hs : s = a ++ m ++ b) (ha : ∀ c ∈ a, p c = true) (hb : ∀ c ∈ b, p c = true)
    (hh : ∀ c, m.head? = some c → p c = false) (hl : ∀ c, m.getLast? = some c → p c = false) : trim p s = m := by
  subst hs
  have hb' : ∀ c ∈ b.reverse, p c = true := fun c hc => hb c (List.mem_reverse.mp hc)
  rw [trim, rtrim, List.append_assoc, List.dropWhile_append_of_pos ha]
  cases m with
  | nil =>
    simp [(dropWhile_eq_nil_iff p b).mpr hb]
  | cons x xs =>
    rw [List.cons_append, List.dropWhile_cons_of_neg (by simp [hh x rfl]), ← List.cons_append, List.reverse_append,
      List.dropWhile_append_of_pos hb']
    cases hr : (x :: xs).reverse with
    | nil => simp at hr
    | cons y ys =>
      have : p y = false := hl y (by rw [← List.head?_reverse, hr]; rfl)
      rw [List.dropWhile_cons_of_neg (by simp [this]), ← hr, List.reverse_reverse]

theorem trim_fixed (s : List α) (hh : ∀ c, s.head? = some c → p c = false)
    (hl : ∀ c, s.getLast? = some c → p c = false) : trim p s = s :=
  trim_unique p s [] s [] (by simp) (by simp) (by simp) hh hl

theorem trim_idem (s : List α) : trim p (trim p s) = trim p s := trim_fixed p _ (trim_head p s) (trim_last p s)

theorem trim_eq_nil_iff (s : List α) : trim p s = [] ↔ ∀ c ∈ s, p c = true := by
  constructor
  · intro h c hc
    obtain ⟨a, b, hs, ha, hb⟩ := trim_decomp p s
    rw [h, List.append_nil] at hs
    rw [hs] at hc
    exact (List.mem_append.mp hc).elim (ha c) (hb c)
  · exact fun h => trim_unique p s s [] [] (by simp) h (by simp) (by simp) (by simp)

end BS.Trim
