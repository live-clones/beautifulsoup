import BSModel.Base.PStr
namespace BS

theorem ofS_ofList (l : List Char) : ofS (String.ofList l) = l.map Char.toNat := by
  rw [ofS, String.toList_ofList]

/-- `decide +kernel` once every `ofS "…"` of the goal is an explicit list of code points. A literal is definitionally
    `String.ofList [chars]`, which costs the kernel nothing, whereas `String.toList` on a literal decodes UTF-8 by
    well-founded recursion, quadratic in its length: that, not the model, is what an evaluated test vector would pay for. -/
macro "decide_pstr" : tactic => `(tactic| (repeat rw [ofS_ofList]) <;> decide +kernel)

end BS
