import BSModel.Proofs.PrettyLaws
/-! C14, the layer above the pieces: `_format_tag` / `output_ready` pieces, receivers, encodings, XML declaration -/
namespace BS.Pretty

theorem formatTag_hidden (c : RCfg) (i : TagInfo) (e o : Bool) (h : i.hidden = true) : formatTag c i e o = [] := by
  simp [formatTag, h]

theorem formatTag_visible (c : RCfg) (i : TagInfo) (e o : Bool) (h : i.hidden = false) :
    ∃ mid, formatTag c i e o = 60 :: (mid ++ [62]) := by
  refine ⟨(if !o then [47] else []) ++ (if i.nsPrefix ≠ [] then i.nsPrefix ++ [58] else []) ++ i.name ++
    (if o then attrString i c.enc else []) ++ (if e then c.vcp else []), ?_⟩
  simp [formatTag, h]

theorem formatTag_ne_nil (c : RCfg) (i : TagInfo) (e o : Bool) (h : i.hidden = false) : formatTag c i e o ≠ [] := by
  obtain ⟨m, hm⟩ := formatTag_visible c i e o h
  simp [hm]

theorem formatTag_isEmpty (c : RCfg) (i : TagInfo) (e o : Bool) : (formatTag c i e o).isEmpty = i.hidden := by
  cases h : i.hidden
  · have := formatTag_ne_nil c i e o h
    simpa using this
  · simp [formatTag_hidden c i e o h]

theorem strip_bracketed (a b : Nat) (mid : PStr) (ha : isSpace a = false) (hb : isSpace b = false) :
    strip (a :: (mid ++ [b])) = a :: (mid ++ [b]) :=
  Trim.trim_fixed isSpace _ (fun c h => by cases h; exact ha) (fun c h => by
    rw [← List.cons_append, List.getLast?_concat] at h
    cases h; exact hb)

theorem strip_formatTag (c : RCfg) (i : TagInfo) (e o : Bool) : strip (formatTag c i e o) = formatTag c i e o := by
  cases h : i.hidden
  · obtain ⟨m, hm⟩ := formatTag_visible c i e o h
    rw [hm]
    exact strip_bracketed 60 62 m (by decide) (by decide)
  · simp [formatTag_hidden c i e o h, strip, rstrip, lstrip]

theorem rstrip_append_rtail (s : PStr) : rstrip s ++ rtail s = s := Trim.rtrim_append_rtail isSpace s

theorem rtail_ws (s : PStr) : ∀ c ∈ rtail s, isSpace c = true := Trim.rtail_all isSpace s

theorem rstrip_getLast? (s : PStr) : ∀ b, (rstrip s).getLast? = some b → isSpace b = false := Trim.rtrim_last isSpace s

/-- on a row `e` = (class, PREFIX, SUFFIX, flag) of `Gen.Pretty.stringAffixes`: both affixes empty, or PREFIX starts with and
    SUFFIX minus trailing whitespace ends with a non-whitespace character -/
def affixOk (e : PStr × PStr × PStr × Bool) : Bool :=
  (e.2.1.isEmpty && e.2.2.1.isEmpty) ||
    (match e.2.1.head?, (rstrip e.2.2.1).getLast? with
     | some a, some b => !isSpace a && !isSpace b
     | _, _ => false)

theorem strip_outputReady (e : PStr × PStr × PStr × Bool) (h : affixOk e = true) (hp : e.2.1 ≠ []) (body : PStr) :
    strip (outputReady e.2.1 e.2.2.1 body) = e.2.1 ++ body ++ rstrip e.2.2.1 ∧ strip (outputReady e.2.1 e.2.2.1 body) ≠ [] := by
  obtain ⟨nm, pre, suf, pf⟩ := e
  simp only at hp ⊢
  simp only [affixOk, Bool.or_eq_true, Bool.and_eq_true, List.isEmpty_iff] at h
  rcases h with h | h
  · exact absurd h.1 hp
  · cases hpre : pre with
    | nil => exact absurd hpre hp
    | cons a pre' =>
      cases hl : (rstrip suf).getLast? with
      | none => simp [hpre, hl] at h
      | some b =>
        simp only [hpre, hl, List.head?_cons, Bool.and_eq_true, Bool.not_eq_true'] at h
        -- PREFIX ++ body ++ SUFFIX = [] ++ (PREFIX ++ body ++ rstrip SUFFIX) ++ whitespace, the middle trimmed at both ends
        have key := Trim.trim_unique isSpace (outputReady (a :: pre') suf body) [] ((a :: pre') ++ body ++ rstrip suf) (rtail suf)
          (by rw [outputReady, List.nil_append, List.append_assoc _ (rstrip suf), rstrip_append_rtail]) (by simp) (rtail_ws suf)
          (fun c hc => by cases hc; exact h.1)
          (fun c hc => by
            rw [List.getLast?_append, hl] at hc
            cases hc; exact h.2)
        exact ⟨key, by rw [show strip _ = _ from key]; simp⟩

theorem resolveL_isEmpty (c : RCfg) (ks : List RNode) : (resolveL c ks).isEmpty = ks.isEmpty := by
  cases ks <;> simp [resolveL]

theorem resolve_tag (c : RCfg) (i : TagInfo) (ks : List RNode) :
    resolve c (.tag i ks) =
      if ks.isEmpty && i.canBeEmpty then .void (formatTag c i true true)
      else .elem i.id (formatTag c i false true) (formatTag c i false false) (!shouldPrettyPrint i.preserveWs i.name)
        (resolveL c ks) := by
  simp only [resolve, mkTag, resolveL_isEmpty]
  cases he : ks.isEmpty && i.canBeEmpty <;> simp

mutual
theorem ids_resolve (c : RCfg) : ∀ (r : RNode) (x : Nat), x ∈ ids (resolve c r) → x ∈ rids r
  | .str p s b, x, h => by simp [resolve, ids] at h
  | .tag i ks, x, h => by
    rw [resolve_tag] at h
    split at h
    · simp [ids] at h
    · simp only [ids, List.mem_cons] at h
      rcases h with h | h
      · simp [rids, h]
      · simp [rids, idsL_resolve c ks x h]
theorem idsL_resolve (c : RCfg) : ∀ (ks : List RNode) (x : Nat), x ∈ idsL (resolveL c ks) → x ∈ ridsL ks
  | [], x, h => by simp [resolveL, idsL] at h
  | k :: ks, x, h => by
    simp only [resolveL, idsL, List.mem_append] at h
    rcases h with h | h
    · simp [ridsL, ids_resolve c k x h]
    · simp [ridsL, idsL_resolve c ks x h]
end

mutual
theorem distinct_resolve (c : RCfg) : ∀ (r : RNode), rdistinct r = true → distinct (resolve c r) = true
  | .str p s b, _ => by simp [resolve, distinct]
  | .tag i ks, h => by
    simp only [rdistinct, Bool.and_eq_true, Bool.not_eq_true', List.contains_eq_mem, decide_eq_false_iff_not] at h
    rw [resolve_tag]
    split
    · rfl
    · simp only [distinct, Bool.and_eq_true, Bool.not_eq_true', List.contains_eq_mem, decide_eq_false_iff_not]
      exact ⟨fun hx => h.1 (idsL_resolve c ks _ hx), distinctL_resolve c ks h.2⟩
theorem distinctL_resolve (c : RCfg) : ∀ (ks : List RNode), rdistinctL ks = true → distinctL (resolveL c ks) = true
  | [], _ => by simp [resolveL, distinctL]
  | k :: ks, h => by
    simp only [rdistinctL, Bool.and_eq_true] at h
    simp [resolveL, distinctL, distinct_resolve c k h.1, distinctL_resolve c ks h.2]
end

mutual
theorem preVisible_resolve (c : RCfg) : ∀ (r : RNode), rPreVisible r = true → preVisible (resolve c r) = true
  | .str p s b, _ => by simp [resolve, preVisible]
  | .tag i ks, h => by
    rw [resolve_tag]
    simp only [rPreVisible] at h
    split
    · rfl  -- empty-element tag
    · rename_i he
      simp only [he, Bool.false_eq_true, if_false] at h
      simp only [preVisible]
      split
      · rename_i hp  -- whitespace-preserving
        simpa [hp, formatTag_isEmpty] using h
      · rename_i hp
        exact preVisibleL_resolve c ks (by simpa [hp] using h)
theorem preVisibleL_resolve (c : RCfg) : ∀ (ks : List RNode), rPreVisibleL ks = true → preVisibleL (resolveL c ks) = true
  | [], _ => by simp [resolveL, preVisibleL]
  | k :: ks, h => by
    simp only [rPreVisibleL, Bool.and_eq_true] at h
    simp [resolveL, preVisibleL, preVisible_resolve c k h.1, preVisibleL_resolve c ks h.2]
end

theorem kids_resolve (c : RCfg) (r : RNode) : (resolve c r).kids = resolveL c r.kids := by
  cases r with
  | str p s b => rfl
  | tag i ks =>
    rw [resolve_tag]
    split
    · rename_i he
      have : ks = [] := List.isEmpty_iff.mp (Bool.and_eq_true_iff.mp he).1
      subst this
      rfl
    · rfl

theorem rdistinctL_kids {r : RNode} (h : rdistinct r = true) : rdistinctL r.kids = true := by
  cases r with
  | str p s b => simp [RNode.kids, rdistinctL]
  | tag i ks =>
    simp only [rdistinct, Bool.and_eq_true] at h
    simpa [RNode.kids] using h.2

theorem tagDecode_void (u vcp : PStr) (l : Int) (enc : Option PStr) (i : TagInfo) (hc : i.canBeEmpty = true)
    (hh : i.hidden = false) :
    tagDecode u vcp (.int l) enc false (.tag i []) = rep u l ++ formatTag ⟨enc, vcp⟩ i true true ++ [10] := by
  simp [tagDecode, RNode.hidden, hh, receiverStream, resolve_tag, hc, events, decodeImpl_eq_run, run_cons, step_empty_out,
    fullLine, formatTag_ne_nil ⟨enc, vcp⟩ i true true hh, levelOf]

theorem xmlDecl_false (enc : Option PStr) : xmlDecl false enc = [] := by simp [xmlDecl]

theorem xmlDecl_endsNl (x : Bool) (enc : Option PStr) : EndsNl (xmlDecl x enc) := by
  cases x
  · exact Or.inl (xmlDecl_false enc)
  · simp only [xmlDecl, if_true]
    have : ofS "?>\n" = ofS "?>" ++ [10] := by decide
    rw [this]
    exact Or.inr ⟨_, (List.append_assoc _ _ _).symm⟩

theorem dropWs_decodeSpec (u : PStr) (hu : ∀ c ∈ u, isSpace c = true) (lvl : Option Int) (hid co : Bool) (t : Node) :
    dropWs (decodeSpec u lvl hid co t) = dropWs (decodeSpec u none hid co t) := by
  cases lvl with
  | none => rfl
  | some l =>
    by_cases hc : (hid || co) = true
    · simp [decodeSpec, hc, dropWs_prettyL u hu]
    · simp [decodeSpec, hc, dropWs_pretty u hu]

theorem preVisible_resolve_recv (c : RCfg) (r : RNode) (hid co : Bool)
    (hv : if (hid || co) = true then rPreVisibleL r.kids = true else rPreVisible r = true) :
    if (hid || co) = true then preVisibleL (resolve c r).kids = true else preVisible (resolve c r) = true := by
  rw [kids_resolve]
  split
  · rename_i hc; exact preVisibleL_resolve _ _ (by simpa [hc] using hv)
  · rename_i hc; exact preVisible_resolve _ _ (by simpa [hc] using hv)

theorem decodeSpec_layout (u : PStr) (l : Int) (hid co : Bool) (t : Node)
    (hv : if (hid || co) = true then preVisibleL t.kids = true else preVisible t = true) :
    decodeSpec u (some l) hid co t = layout u l (if (hid || co) = true then itemsL 0 t.kids else items 0 t) := by
  by_cases hc : (hid || co) = true
  · simp only [hc, if_true] at hv ⊢
    simpa [decodeSpec, hc] using prettyL_layout u t.kids l 0 hv
  · simp only [hc, Bool.false_eq_true, if_false] at hv ⊢
    simpa [decodeSpec, hc] using pretty_layout u t l 0 hv

theorem endsNl_decodeSpec (u : PStr) (l : Int) (h co : Bool) (t : Node)
    (hv : if (h || co) = true then preVisibleL t.kids = true else preVisible t = true) :
    EndsNl (decodeSpec u (some l) h co t) := by
  rw [decodeSpec_layout u l h co t hv]
  exact layout_endsNl u l _

end BS.Pretty
