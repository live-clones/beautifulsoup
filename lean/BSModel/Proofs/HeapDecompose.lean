import BSModel.Proofs.HeapOps
/-! # `decompose` keeps the forest consistent (C01)

`decompose()` = `extract()` followed by the wipe-out loop along `next_element`. On a well-formed heap the loop
visits exactly the nodes of the (now detached) tree of `x`, in document order — the successor is read *before*
the current element is wiped — and turns every one of them into an isolated one-node tree; no other element
changes. Together with the two pillars this gives `step_good2` (and `step_good`) for **all** editing calls. Core Lean only. -/
namespace BS.Heap

/-- one iteration of the loop: all six links and the children list of `e` are cleared -/
def wipeOne (h : Heap) (e : Nat) : Heap :=
  setKids (setNe (setPe (setNs (setPs (setParent h e none) e none) e none) e none) e none) e []

theorem wipe_succ (h : Heap) (f e : Nat) : wipe h (f + 1) (some e) = wipe (wipeOne h e) f (h.ne e) := rfl
theorem wipe_none (h : Heap) (f : Nat) : wipe h f none = h := by cases f <;> rfl
theorem wipe_zero (h : Heap) (o : Option Nat) : wipe h 0 o = h := rfl

theorem wipeOne_parent (h : Heap) (e m : Nat) : (wipeOne h e).parent m = if m = e then none else h.parent m := rfl
theorem wipeOne_ps (h : Heap) (e m : Nat) : (wipeOne h e).ps m = if m = e then none else h.ps m := rfl
theorem wipeOne_ns (h : Heap) (e m : Nat) : (wipeOne h e).ns m = if m = e then none else h.ns m := rfl
theorem wipeOne_pe (h : Heap) (e m : Nat) : (wipeOne h e).pe m = if m = e then none else h.pe m := rfl
theorem wipeOne_ne (h : Heap) (e m : Nat) : (wipeOne h e).ne m = if m = e then none else h.ne m := rfl
theorem wipeOne_kids (h : Heap) (e m : Nat) : (wipeOne h e).kids m = if m = e then [] else h.kids m := rfl

/-- loop invariant: in `g` the nodes at positions `< k` of the tree of `x` (positions of the witness `w` of the
    heap `h` the loop started from) are wiped, every other node is as in `h` -/
structure WipedTo (h : Heap) (w : Wit) (x k : Nat) (g : Heap) : Prop where
  parent : ∀ m, g.parent m = if w.tree m = x ∧ w.pos m < k then none else h.parent m
  ps : ∀ m, g.ps m = if w.tree m = x ∧ w.pos m < k then none else h.ps m
  ns : ∀ m, g.ns m = if w.tree m = x ∧ w.pos m < k then none else h.ns m
  pe : ∀ m, g.pe m = if w.tree m = x ∧ w.pos m < k then none else h.pe m
  ne : ∀ m, g.ne m = if w.tree m = x ∧ w.pos m < k then none else h.ne m
  kids : ∀ m, g.kids m = if w.tree m = x ∧ w.pos m < k then [] else h.kids m
  kind : g.kind = h.kind
  val : g.val = h.val
  next : g.next = h.next
  cap : g.cap = h.cap

/-- the whole tree of `x` is wiped, nothing else is touched -/
structure Wiped (h : Heap) (w : Wit) (x : Nat) (g : Heap) : Prop where
  parent : ∀ m, g.parent m = if w.tree m = x then none else h.parent m
  ps : ∀ m, g.ps m = if w.tree m = x then none else h.ps m
  ns : ∀ m, g.ns m = if w.tree m = x then none else h.ns m
  pe : ∀ m, g.pe m = if w.tree m = x then none else h.pe m
  ne : ∀ m, g.ne m = if w.tree m = x then none else h.ne m
  kids : ∀ m, g.kids m = if w.tree m = x then [] else h.kids m
  kind : g.kind = h.kind
  val : g.val = h.val
  next : g.next = h.next
  cap : g.cap = h.cap

theorem Wiped.inside {h g : Heap} {w : Wit} {x m : Nat} (hw : Wiped h w x g) (hm : w.tree m = x) :
    g.parent m = none ∧ g.ps m = none ∧ g.ns m = none ∧ g.pe m = none ∧ g.ne m = none ∧ g.kids m = [] :=
  ⟨by rw [hw.parent m, if_pos hm], by rw [hw.ps m, if_pos hm], by rw [hw.ns m, if_pos hm],
    by rw [hw.pe m, if_pos hm], by rw [hw.ne m, if_pos hm], by rw [hw.kids m, if_pos hm]⟩

theorem Wiped.outside {h g : Heap} {w : Wit} {x m : Nat} (hw : Wiped h w x g) (hm : w.tree m ≠ x) :
    g.parent m = h.parent m ∧ g.ps m = h.ps m ∧ g.ns m = h.ns m ∧ g.pe m = h.pe m ∧ g.ne m = h.ne m ∧
    g.kids m = h.kids m :=
  ⟨by rw [hw.parent m, if_neg hm], by rw [hw.ps m, if_neg hm], by rw [hw.ns m, if_neg hm],
    by rw [hw.pe m, if_neg hm], by rw [hw.ne m, if_neg hm], by rw [hw.kids m, if_neg hm]⟩

theorem ite_merge {α : Type} (P Q R : Prop) [Decidable P] [Decidable Q] [Decidable R] (hk : (P ∨ Q) ↔ R)
    (a b : α) : (if P then a else if Q then a else b) = if R then a else b := by
  by_cases hP : P <;> by_cases hQ : Q <;> by_cases hR : R <;> simp_all

theorem wipedTo_zero (h : Heap) (w : Wit) (x : Nat) : WipedTo h w x 0 h := by
  constructor <;> simp

theorem wipedTo_step {h g : Heap} {w : Wit} {x k e : Nat} (hwf : WF h w) (hg : WipedTo h w x k g)
    (ht : w.tree e = x) (hp : w.pos e = k) : WipedTo h w x (k + 1) (wipeOne g e) := by
  have key : ∀ m, (m = e ∨ (w.tree m = x ∧ w.pos m < k)) ↔ (w.tree m = x ∧ w.pos m < k + 1) := by
    intro m
    constructor
    · rintro (rfl | h1)
      · exact ⟨ht, by omega⟩
      · exact ⟨h1.1, by omega⟩
    · rintro ⟨h1, h2⟩
      by_cases h3 : w.pos m < k
      · exact Or.inr ⟨h1, h3⟩
      · exact Or.inl (hwf.inj m e (by rw [h1, ht]) (by omega))
  constructor
  · intro m; rw [wipeOne_parent, hg.parent m]; exact ite_merge _ _ _ (key m) _ _
  · intro m; rw [wipeOne_ps, hg.ps m]; exact ite_merge _ _ _ (key m) _ _
  · intro m; rw [wipeOne_ns, hg.ns m]; exact ite_merge _ _ _ (key m) _ _
  · intro m; rw [wipeOne_pe, hg.pe m]; exact ite_merge _ _ _ (key m) _ _
  · intro m; rw [wipeOne_ne, hg.ne m]; exact ite_merge _ _ _ (key m) _ _
  · intro m; rw [wipeOne_kids, hg.kids m]; exact ite_merge _ _ _ (key m) _ _
  · exact hg.kind
  · exact hg.val
  · exact hg.next
  · exact hg.cap

/-- the loop, started on the `k`-th element of the document order with the first `k` already wiped, wipes the
    rest of the tree: the successor it reads from a not-yet-wiped element is the original one -/
theorem wipe_loop {h : Heap} {w : Wit} {x : Nat} (hwf : WF h w) (hr : h.parent x = none) (hu : w.unl x = false) :
    ∀ (f k : Nat) (g : Heap), WipedTo h w x k g → k ≤ w.size x → w.size x ≤ f + k →
      WipedTo h w x (w.size x) (wipe g f (docOrder h x)[k]?) := by
  intro f
  induction f with
  | zero =>
    intro k g hg hk hf
    have : k = w.size x := by omega
    subst this
    rw [wipe_zero]; exact hg
  | succ f ih =>
    intro k g hg hk hf
    by_cases hlt : k < w.size x
    · have hlen : k < (docOrder h x).length := by rw [docOrder_length hwf]; exact hlt
      obtain ⟨hpos, htree⟩ := docOrder_getElem hwf hr k hlen
      rw [List.getElem?_eq_getElem hlen, wipe_succ]
      have hue : w.unl (docOrder h x)[k] = false := by
        by_cases hk0 : k = 0
        · have := wf_pos_zero hwf (a := (docOrder h x)[k]) (by omega)
          rw [htree] at this
          rw [this]; exact hu
        · exact wf_unl_pos hwf (by omega)
      have hne : g.ne (docOrder h x)[k] = (docOrder h x)[k + 1]? := by
        rw [hg.ne, if_neg (by rw [hpos]; omega)]
        have := (next_element_is_successor hwf (docOrder h x)[k]).1 hue
        rw [htree, hpos] at this
        exact this
      rw [hne]
      exact ih (k + 1) _ (wipedTo_step hwf hg htree hpos) (by omega) (by omega)
    · have : k = w.size x := by omega
      subst this
      rw [List.getElem?_eq_none (by rw [docOrder_length hwf]; omega), wipe_none]
      exact hg

theorem wipedTo_full {h g : Heap} {w : Wit} {x : Nat} (hwf : WF h w) (hg : WipedTo h w x (w.size x) g) :
    Wiped h w x g := by
  have key : ∀ m, (w.tree m = x ∧ w.pos m < w.size x) ↔ w.tree m = x := by
    intro m
    constructor
    · exact fun hh => hh.1
    · intro hh
      have := wf_pos_lt hwf m
      rw [hh] at this
      exact ⟨hh, this⟩
  constructor
  · intro m; rw [hg.parent m]; simp only [key m]
  · intro m; rw [hg.ps m]; simp only [key m]
  · intro m; rw [hg.ns m]; simp only [key m]
  · intro m; rw [hg.pe m]; simp only [key m]
  · intro m; rw [hg.ne m]; simp only [key m]
  · intro m; rw [hg.kids m]; simp only [key m]
  · exact hg.kind
  · exact hg.val
  · exact hg.next
  · exact hg.cap

/-- **closed form of the wipe-out loop**: started on a root `x` that stands in the element chain, with fuel at
    least the size of its tree, the loop clears all six links and the children list of every node of that tree
    and changes nothing else -/
theorem wipe_closed {h : Heap} {w : Wit} {x fuel : Nat} (hwf : WF h w) (hr : h.parent x = none)
    (hu : w.unl x = false) (hf : w.size x ≤ fuel) : Wiped h w x (wipe h fuel (some x)) := by
  have hrt := hwf.root_tree x hr
  have h0 : (docOrder h x)[0]? = some x := (docOrder_getElem? hwf hr 0 x).mpr hrt
  have := wipe_loop hwf hr hu fuel 0 h (wipedTo_zero h w x) (Nat.zero_le _) (by omega)
  rw [h0] at this
  exact wipedTo_full hwf this

theorem wipe_closed' {h : Heap} {w : Wit} {x fuel : Nat} (hwf : WF h w) (hr : h.parent x = none)
    (hu : w.unl x = false) (hf : w.size x ≤ fuel) :
    let h' := wipe h fuel (some x)
    (∀ m, w.tree m = x → h'.parent m = none ∧ h'.ps m = none ∧ h'.ns m = none ∧ h'.pe m = none ∧
      h'.ne m = none ∧ h'.kids m = []) ∧
    (∀ m, w.tree m ≠ x → h'.parent m = h.parent m ∧ h'.ps m = h.ps m ∧ h'.ns m = h.ns m ∧ h'.pe m = h.pe m ∧
      h'.ne m = h.ne m ∧ h'.kids m = h.kids m) ∧
    h'.kind = h.kind ∧ h'.val = h.val ∧ h'.next = h.next ∧ h'.cap = h.cap := by
  intro h'
  have hw := wipe_closed hwf hr hu hf
  exact ⟨fun m hm => hw.inside hm, fun m hm => hw.outside hm, hw.kind, hw.val, hw.next, hw.cap⟩

/-- the witness of the wiped heap: every node of the destroyed tree is an isolated one-node tree -/
def wipeWit (w : Wit) (x : Nat) : Wit where
  tree := fun m => if w.tree m = x then m else w.tree m
  pos := fun m => if w.tree m = x then 0 else w.pos m
  size := fun m => if w.tree m = x then 1 else w.size m
  unl := fun m => if w.tree m = x then false else w.unl m

section wipeWF
variable {h g : Heap} {w : Wit} {x : Nat} (hwf : WF h w) (hg : Wiped h w x g)
include hwf hg

theorem wipe_wf : WF g (wipeWit w x) := by
  -- a node of the tree of `x` becomes an isolated one-node tree, the rest stays; by `hself`, `hpar`, `kid_tree` that tree is
  -- closed under root, parent and child
  have hself : ∀ n, w.tree (w.tree n) = w.tree n := fun n => (wf_root_self hwf n).1
  have hpar : ∀ c p, h.parent c = some p → w.tree c = w.tree p := fun c p hp => (wf_parent_pos hwf hp).1
  have hcap1 : 1 ≤ h.cap := Nat.le_trans (hwf.size_pos 0) (hwf.size_cap 0)
  constructor
  case size_pos =>
    intro n; simp only [wipeWit]; have := hwf.size_pos n; split <;> omega
  case size_cap =>
    intro n; simp only [wipeWit]; have := hwf.size_cap n; rw [hg.cap]; split <;> omega
  case str_leaf =>
    intro n hn
    rw [hg.kind] at hn
    rw [hg.kids n]
    split
    · rfl
    · exact hwf.str_leaf n hn
  case tiles =>
    intro n
    rw [hg.kids n]
    by_cases hd : w.tree n = x
    · simp only [hd, if_true, wipeWit, Tiles]
    · simp only [hd, if_false]
      have hn : (wipeWit w x).pos n = w.pos n ∧ (wipeWit w x).size n = w.size n := by simp [wipeWit, hd]
      rw [hn.1, hn.2]
      apply tiles_congr w.pos w.size _ _ _ _ _ (hwf.tiles n)
      intro k hk
      have := hwf.kid_tree n k hk
      have hdk : ¬ w.tree k = x := by rw [this]; exact hd
      simp [wipeWit, hdk]
  case kid_parent =>
    intro n k hk
    have := hwf.kid_tree n k
    have := hwf.kid_parent n k
    rw [hg.kids n] at hk
    rw [hg.parent k]
    grind
  case kid_tree =>
    intro n k hk
    have := hwf.kid_tree n k
    rw [hg.kids n] at hk
    simp only [wipeWit]
    grind
  case parent_kid =>
    intro c p hp
    have := hpar c p
    have := hwf.parent_kid c p
    rw [hg.parent c] at hp
    rw [hg.kids p]
    grind
  case root_tree =>
    intro r hr
    have := hwf.root_tree r
    rw [hg.parent r] at hr
    simp only [wipeWit]
    grind
  case tree_root =>
    intro n
    have := hwf.tree_root n
    have := hself n
    rw [hg.parent]
    simp only [wipeWit]
    grind
  case bound =>
    intro n
    have := hwf.bound n
    have := hself n
    simp only [wipeWit]
    grind
  case inj =>
    intro a b ht hp
    have := hwf.inj a b
    have := hself a
    have := hself b
    simp only [wipeWit] at ht hp
    grind
  case laminar =>
    intro a b ht h1 h2
    have := hwf.laminar a b
    have := hself a
    have := hself b
    simp only [wipeWit] at ht h1 h2 ⊢
    grind
  case chain_ne =>
    intro a b
    have := hwf.chain_ne a b
    have := hself a
    have := hself b
    rw [hg.ne a]
    simp only [wipeWit]
    grind
  case chain_pe =>
    intro a b
    have := hwf.chain_pe a b
    have := hself a
    have := hself b
    rw [hg.pe b]
    simp only [wipeWit]
    grind
  case sib_ns =>
    intro a b
    have := hwf.sib_ns a b
    have := hpar a
    have := hpar b
    rw [hg.ns a, hg.parent a, hg.parent b]
    simp only [wipeWit]
    grind
  case sib_ps =>
    intro a b
    have := hwf.sib_ps a b
    have := hpar a
    have := hpar b
    rw [hg.ps b, hg.parent a, hg.parent b]
    simp only [wipeWit]
    grind
  case unl_soup =>
    intro r hr
    simp only [wipeWit] at hr
    by_cases hd : w.tree r = x
    · simp [hd] at hr
    · simp only [hd, if_false] at hr
      rw [hg.kind, hg.parent r, if_neg hd]
      exact hwf.unl_soup r hr
  case soup_root =>
    intro n hn
    rw [hg.kind] at hn
    rw [hg.parent n]
    split
    · rfl
    · exact hwf.soup_root n hn
  case fresh =>
    intro n hn
    rw [hg.next] at hn
    have := hwf.fresh n hn
    rw [hg.parent n, hg.kids n]
    simp only [wipeWit]
    refine ⟨?_, ?_, ?_⟩ <;> split <;> simp [this]

end wipeWF

/-- a childless BeautifulSoup root that stands outside the element chain may as well be regarded as standing in
    it: it has no first child whose `previous_element` could tell the difference -/
theorem wf_relink_childless {h : Heap} {w : Wit} {x : Nat} (hwf : WF h w) (hk : h.kids x = [])
    (hr : h.parent x = none) :
    WF h { w with unl := fun m => if m = x then false else w.unl m } := by
  have hrt := hwf.root_tree x hr
  have hsz := wf_leaf_size_one hwf hk
  have nosucc : ∀ b, ¬ (w.tree x = w.tree b ∧ w.pos b = w.pos x + 1) := by
    rintro b ⟨h1, h2⟩
    have hb := hwf.bound b
    have := hwf.size_pos b
    rw [← h1, hrt.1, hsz] at hb
    omega
  refine { hwf with chain_ne := ?_, chain_pe := ?_, unl_soup := ?_, fresh := ?_ }
  · intro a b
    have := hwf.chain_ne a b
    by_cases ha : a = x
    · subst ha
      have := nosucc b
      simp only [if_true]
      grind
    · simp only [ha, if_false]; exact this
  · intro a b
    have := hwf.chain_pe a b
    by_cases ha : a = x
    · subst ha
      have := nosucc b
      simp only [if_true]
      grind
    · simp only [ha, if_false]; exact this
  · intro r hr'
    by_cases hrx : r = x
    · simp [hrx] at hr'
    · simp only [hrx, if_false] at hr'
      exact hwf.unl_soup r hr'
  · intro n hn
    have := hwf.fresh n hn
    refine ⟨this.1, this.2.1, ?_⟩
    simp only
    split
    · rfl
    · exact this.2.2

/-- **`decompose` in closed form**: it is `extract` followed by wiping exactly the tree of `x`. The guard of the
    model (a BeautifulSoup object with children standing outside the element chain) is what makes this
    unconditional: in every other state the root of the detached tree stands in the element chain, or is alone. -/
theorem decompose_wiped {h h' : Heap} {w : Wit} {x : Nat} (hwf : WF h w) (hd : decompose h x = .ok h') :
    ∃ h1 w1, extract h x = .ok h1 ∧ WF h1 w1 ∧ h1.parent x = none ∧ h1.kind = h.kind ∧ h1.val = h.val ∧
      h1.next = h.next ∧ Wiped h1 w1 x h' ∧ (∀ m, w1.tree m = x ↔ m ∈ docOrder h x) := by
  unfold decompose at hd
  split at hd
  · cases hd
  · rename_i hguard
    obtain ⟨h1, he, hwf1, _, hpar, hkind, hval, hnext, _⟩ := extract_spec h w x hwf
    rw [he] at hd
    simp only [Except.ok.injEq] at hd
    subst hd
    have hr1 : h1.parent x = none := by rw [hpar x]; simp
    cases hu : w.unl x with
    | false =>
      exact ⟨h1, cutWit w x, he, hwf1, hr1, hkind, hval, hnext,
        wipe_closed hwf1 hr1 (by simp only [cutWit]; exact hu) (hwf1.size_cap x),
        fun m => (cutWit_tree_iff hwf x m).trans (docOrder_mem_inSub hwf x m).symm⟩
    | true =>
      -- an unlinked BeautifulSoup root: `extract` is the identity, and the guard says it has no children
      have hs := hwf.unl_soup x hu
      have hne := (next_element_is_successor hwf x).2 hu
      have hid := extract_root_id hwf hs.2
      rw [hid] at he
      simp only [Except.ok.injEq] at he
      subst he
      have hk : h.kids x = [] := by
        cases hkx : h.kids x with
        | nil => rfl
        | cons a l =>
          exfalso
          apply hguard
          refine ⟨hs.1, hne, ?_⟩
          rw [hkx]; simp
      have hwf2 := wf_relink_childless hwf hk hs.2
      exact ⟨h, _, hid, hwf2, hs.2, rfl, rfl, rfl,
        wipe_closed hwf2 hs.2 (by simp) (hwf2.size_cap x),
        fun m => (docOrder_mem hwf hs.2 m).symm⟩

theorem decompose_good2 {h : Heap} {x : Nat} (hg : Good2 h) : Post (decompose h x) (Succ h) := fun h' hd => by
  obtain ⟨w, hwf⟩ := hg.1
  obtain ⟨h1, w1, _, hwf1, _, hkind, _, hnext, hW, _⟩ := decompose_wiped hwf hd
  refine ⟨⟨⟨wipeWit w1 x, wipe_wf hwf1 hW⟩, ?_⟩, KSame.of_kind_eq (hW.kind.trans hkind)⟩
  intro n hn
  rw [hW.kind, hkind]
  rw [hW.next, hnext] at hn
  exact hg.2 n hn

theorem decomposeAll_good2 : ∀ (cs : List Nat) (h h' : Heap), Good2 h → decomposeAll h cs = .ok h' → Good2 h' ∧ KSame h h' := by
  intro cs h h' hg hd
  fun_induction decomposeAll h cs with
  | case1 => cases hd; exact ⟨hg, KSame.refl _⟩
  | case2 => cases hd
  | case3 h c cs h1 hc ih =>
    have e1 := decompose_good2 hg hc
    exact Succ.trans e1 (ih e1.1 hd)

/-- **every** editing call that returns keeps the forest consistent -/
theorem step_good2 {h : Heap} {op : Op} (hg : Good2 h) (hk : op.kindsOK) : Post (step h op) (Succ h) := by
  cases op with
  | decompose x => exact decompose_good2 hg
  | insertBefore x args => exact insertBefore_good2 hg
  | insertAfter x args => exact insertAfter_good2 hg
  | replaceWith x args => exact replaceWith_good2 hg
  | extract x => exact extract_good2 hg
  | clearDecompose t => exact .guard fun _ h' => decomposeAll_good2 _ h h' hg
  | append p a => exact .guard (append_good2 hg)
  | extendTag p t => exact .guard fun hp => appendAll_good2 _ h hg hp.1
  | extendList p args => exact .guard (appendAll_good2 _ h hg)
  | wrap x w => exact .guard (wrap_good2 hg)
  | unwrap x => exact .guard fun _ => unwrap_good2 hg
  | clear t => exact .guard fun _ => clear_good2 hg
  | smooth t => exact .guard fun _ => smooth_good2 hg
  | setString t k v => exact .guard fun ht => setString_good2 hg ht hk
  | insert p pos args =>
    -- `.map (·.1)` is no `match` of the model: by cases, not by a sequencing rule
    refine .guard fun hp h' hs => ?_
    cases hi : insert h p pos args with
    | error e => rw [hi] at hs; cases hs
    | ok r => rw [hi] at hs; cases hs; exact insert_good2 hg hp hi

/-- `step_good2` without its proviso: the class that `.string = v` allocates matters to `KSame` only -/
theorem step_good {h h' : Heap} {op : Op} (hg : Good2 h) (hs : step h op = .ok h') : Good2 h' := by
  cases op with
  | setString t k v => exact Post.guard (fun ht => setString_good hg ht) hs
  | _ => exact (step_good2 hg (by trivial) hs).1

end BS.Heap
