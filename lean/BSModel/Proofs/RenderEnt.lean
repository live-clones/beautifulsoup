import BSModel.Model.Render
import BSModel.Gen.Entities
/-! C05 helper lemmas: this model's `substitute_xml` / `quoted_attribute_value` are C09's (so C09's reversibility
    theorems apply to the rendering model). -/
namespace BS.Render

private theorem fm_other (c : Nat) (cs : PStr) (h60 : c ≠ 60) (h62 : c ≠ 62) (h38 : c ≠ 38) :
    BS.Entities.firstMatch BS.Entities.xmlParticles (c :: cs) = none := by
  have e60 : (60 == c) = false := by simpa using Ne.symm h60
  have e62 : (62 == c) = false := by simpa using Ne.symm h62
  have e38 : (38 == c) = false := by simpa using Ne.symm h38
  simp [BS.Entities.firstMatch, BS.Entities.xmlParticles, BS.Entities.Particle.matchesAt, List.find?, List.isPrefixOf,
    e60, e62, e38]

private theorem fm_hit (c : Nat) (cs : PStr) (h : c = 60 ∨ c = 62 ∨ c = 38) :
    BS.Entities.firstMatch BS.Entities.xmlParticles (c :: cs) = some ⟨[c], []⟩ := by
  rcases h with h | h | h <;> subst h <;>
    cases cs <;> simp [BS.Entities.firstMatch, BS.Entities.xmlParticles, BS.Entities.Particle.matchesAt, List.find?, List.isPrefixOf]

theorem substXml_eq_c09 (s : PStr) : substXml s = BS.Entities.substXml BS.Gen.C09.xmlTable s := by
  induction s with
  | nil => simp [substXml, BS.Entities.substXml, BS.Entities.reSub]
  | cons c cs ih =>
    unfold BS.Entities.substXml at ih ⊢
    by_cases h : c = 60 ∨ c = 62 ∨ c = 38
    · rw [BS.Entities.reSub, fm_hit c cs h]
      simp only [List.length_singleton, Nat.sub_self, substXml, ih]
      rcases h with h | h | h <;> subst h <;> rfl
    · have h1 : c ≠ 60 := fun e => h (Or.inl e)
      have h2 : c ≠ 62 := fun e => h (Or.inr (Or.inl e))
      have h3 : c ≠ 38 := fun e => h (Or.inr (Or.inr e))
      rw [BS.Entities.reSub, fm_other c cs h1 h2 h3]
      simp [substXml, esc, h1, h2, h3, ih]

theorem replaceDq_eq (v : PStr) : replaceDq v = BS.Entities.replaceDq v := by
  induction v with
  | nil => rfl
  | cons c cs ih => simp only [replaceDq, BS.Entities.replaceDq, ih]; split <;> simp [BS.Entities.quotEnt]

theorem quoteAttr_eq_c09 (v : PStr) : quoteAttr v = BS.Entities.quoteAttr v := by
  simp only [quoteAttr, BS.Entities.quoteAttr, replaceDq_eq]
  split <;> (try split) <;> simp

end BS.Render
