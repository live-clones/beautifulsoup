import BSModel.Proofs.Render
/-! C05 helper lemmas: the net effect of the events of a rendered forest on bs4's side of the parser (`run_forest`);
    under `ReaderLaws` the reader-level stream of a representable tree is the direct one (`emitRd_eq`). -/
namespace BS.Render

mutual
/-- the part of `representable` the stack-machine proof needs: an element with a void name has no children -/
def voidOk (p : PCfg) : Node → Bool
  | .str _ _ => true
  | .tag i kids => (!p.isVoid (fullName i) || kids.isEmpty) && voidOkL p kids
def voidOkL (p : PCfg) : List Node → Bool
  | [] => true
  | n :: ns => voidOk p n && voidOkL p ns
end

theorem voidOkL_of_text (p : PCfg) : ∀ (ks : List Node), ks.all isTextNode = true → voidOkL p ks = true
  | [], _ => by simp [voidOkL]
  | .str _ _ :: ks, h => by
    simp only [List.all_cons, Bool.and_eq_true] at h
    simp [voidOkL, voidOk, voidOkL_of_text p ks h.2]
  | .tag _ _ :: ks, h => by simp [isTextNode] at h

mutual
theorem representable_voidOk (p : PCfg) (f : Fmt) : ∀ (n : Node), representable p f n = true → voidOk p n = true
  | .str _ _, _ => by simp [voidOk]
  | .tag i kids, h => by
    simp only [representable, Bool.and_eq_true] at h
    obtain ⟨⟨⟨⟨⟨_, hvoid⟩, _⟩, _⟩, _⟩, hk⟩ := h
    simp only [voidOk, Bool.and_eq_true]
    refine ⟨hvoid, ?_⟩
    split at hk
    · simp only [rawKidsOK, Bool.and_eq_true] at hk
      exact voidOkL_of_text p kids hk.1
    · exact representableL_voidOkL p f kids hk
theorem representableL_voidOkL (p : PCfg) (f : Fmt) : ∀ (ns : List Node), representableL p f ns = true → voidOkL p ns = true
  | [], _ => by simp [voidOkL]
  | n :: ns, h => by
    simp only [representableL, Bool.and_eq_true] at h
    simp only [voidOkL, Bool.and_eq_true]
    exact ⟨representable_voidOk p f n h.1, representableL_voidOkL p f ns h.2⟩
end

theorem run_append (p : PCfg) (st : BState) (a b : List TEv) : run p st (a ++ b) = run p (run p st a) b := by
  simp [run, List.foldl_append]

theorem run_cons (p : PCfg) (st : BState) (e : TEv) (es : List TEv) : run p st (e :: es) = run p (step p st e) es := by
  simp [run]

theorem run_nil (p : PCfg) (st : BState) : run p st [] = st := rfl

theorem ctxOf_kids (p : PCfg) (top : Frame) (ks : List Node) (rest : List Frame) :
    ctxOf p ({ top with kids := ks } :: rest) = ctxOf p (top :: rest) := rfl

theorem flush_eq (p : PCfg) (top : Frame) (rest : List Frame) (b : List PStr) (cl : List PStr) :
    flush p ⟨top :: rest, b, cl⟩ =
      ⟨{ top with kids := top.kids ++ txt p (ctxOf p (top :: rest)) b } :: rest, [], cl⟩ := by
  simp [flush, addKids]

theorem txt_nil (p : PCfg) (ctx : Ctx) : txt p ctx [] = [] := rfl

theorem popTo_top (p : PCfg) (nm : PStr) (at' : List (PStr × AVal)) (ks : List Node) (below : Frame) (rest : List Frame) :
    popTo p nm (⟨nm, at', ks⟩ :: below :: rest) =
      some ({ below with kids := below.kids ++ [closeFrame p ⟨nm, at', ks⟩] } :: rest) := by
  simp [popTo, popToAux, addKids]

/-- `BeautifulSoup.handle_endtag` for the name of the top frame -/
theorem soupEnd_top (p : PCfg) (nm : PStr) (at' : List (PStr × AVal)) (ks : List Node) (below : Frame)
    (rest : List Frame) (b cl : List PStr) :
    soupEnd p nm ⟨⟨nm, at', ks⟩ :: below :: rest, b, cl⟩ =
      ⟨{ below with kids := below.kids ++
          [closeFrame p ⟨nm, at', ks ++ txt p (ctxOf p (⟨nm, at', ks⟩ :: below :: rest)) b⟩] } :: rest, [], cl⟩ := by
  simp only [soupEnd, flush_eq, popTo_top]

/-- start tag of a non-void name: pending text is flushed, a frame is pushed -/
theorem step_start_nonvoid (p : PCfg) (top : Frame) (rest : List Frame) (b cl : List PStr) (nm : PStr)
    (attrs : List (PStr × Option PStr)) (hv : p.isVoid nm = false) :
    step p ⟨top :: rest, b, cl⟩ (.start nm attrs) =
      ⟨⟨nm, buildAttrs p nm attrs, []⟩ :: { top with kids := top.kids ++ txt p (ctxOf p (top :: rest)) b } :: rest, [], cl⟩ := by
  simp only [step, soupStart, flush_eq, hv, Bool.false_eq_true, ↓reduceIte]

/-- end tag matching the top frame while nothing is on the already-closed list -/
theorem step_stop_top (p : PCfg) (nm : PStr) (at' : List (PStr × AVal)) (ks : List Node) (below : Frame)
    (rest : List Frame) (b : List PStr) :
    step p ⟨⟨nm, at', ks⟩ :: below :: rest, b, []⟩ (.stop nm) =
      ⟨{ below with kids := below.kids ++
          [closeFrame p ⟨nm, at', ks ++ txt p (ctxOf p (⟨nm, at', ks⟩ :: below :: rest)) b⟩] } :: rest, [], []⟩ := by
  simp only [step, adapterEnd, List.contains_nil, Bool.and_false, Bool.false_eq_true, ↓reduceIte, soupEnd_top]

/-- `<x/>`: flushed, pushed and popped at once (the already-closed list is empty) -/
theorem step_startend (p : PCfg) (top : Frame) (rest : List Frame) (b : List PStr) (nm : PStr)
    (attrs : List (PStr × Option PStr)) :
    step p ⟨top :: rest, b, []⟩ (.startend nm attrs) =
      ⟨{ top with kids := top.kids ++ txt p (ctxOf p (top :: rest)) b ++
          [closeFrame p ⟨nm, buildAttrs p nm attrs, []⟩] } :: rest, [], []⟩ := by
  simp only [step, adapterEnd, soupStart, flush_eq, List.contains_nil, Bool.and_false, Bool.false_eq_true,
    ↓reduceIte, soupEnd_top, txt_nil, List.append_nil]

/-- `<br></br>`: the start tag of a void name closes the element at once and lists the name, the end tag only
    takes the name off the list -/
theorem step_void_pair (p : PCfg) (top : Frame) (rest : List Frame) (b : List PStr) (nm : PStr)
    (attrs : List (PStr × Option PStr)) (hv : p.isVoid nm = true) :
    step p (step p ⟨top :: rest, b, []⟩ (.start nm attrs)) (.stop nm) =
      ⟨{ top with kids := top.kids ++ txt p (ctxOf p (top :: rest)) b ++
          [closeFrame p ⟨nm, buildAttrs p nm attrs, []⟩] } :: rest, [], []⟩ := by
  have h1 : step p ⟨top :: rest, b, []⟩ (.start nm attrs) =
      ⟨{ top with kids := top.kids ++ txt p (ctxOf p (top :: rest)) b ++
          [closeFrame p ⟨nm, buildAttrs p nm attrs, []⟩] } :: rest, [], [nm]⟩ := by
    simp only [step, soupStart, flush_eq, hv, ↓reduceIte, adapterEnd, Bool.false_and, Bool.false_eq_true,
      soupEnd_top, txt_nil, List.append_nil, List.nil_append]
  rw [h1]
  simp [step, adapterEnd]

mutual
/-- net effect of the events of a rendered forest: the current frame receives what `absorb` says, the pending
    character data is threaded through, and the already-closed list is empty again -/
theorem run_forest (p : PCfg) (f : Fmt) : ∀ (ds : List Node) (top : Frame) (rest : List Frame) (b : List PStr),
    voidOkL p ds = true →
    run p ⟨top :: rest, b, []⟩ (emitRL f ds) =
      ⟨{ top with kids := top.kids ++ (absorb p f (ctxOf p (top :: rest)) b ds).1 } :: rest,
        (absorb p f (ctxOf p (top :: rest)) b ds).2, []⟩
  | [] => by
    intro top rest b _
    simp [emitRL, run_nil, absorb]
  | d :: ds => by
    intro top rest b h
    simp only [voidOkL, Bool.and_eq_true] at h
    simp only [emitRL, run_append, absorb]
    rw [run_node p f d top rest b h.1, run_forest p f ds _ rest _ h.2]
    simp [ctxOf_kids, List.append_assoc]
theorem run_node (p : PCfg) (f : Fmt) : ∀ (d : Node) (top : Frame) (rest : List Frame) (b : List PStr),
    voidOk p d = true →
    run p ⟨top :: rest, b, []⟩ (emitR f d) =
      ⟨{ top with kids := top.kids ++ (absorb1 p f (ctxOf p (top :: rest)) b d).1 } :: rest,
        (absorb1 p f (ctxOf p (top :: rest)) b d).2, []⟩
  | .str c s => by
    intro top rest b _
    simp only [emitR, emitStr, absorb1]
    cases hk : strKind c s with
    | text s' =>
      by_cases he : s'.isEmpty = true
      · simp [he, run_nil]
      · simp [he, run, step]
    | special c' s' nl =>
      cases nl <;> simp [run, step, flush_eq, addKids, List.append_assoc, ctxOf]
  | .tag i ks => by
    intro top rest b h
    simp only [voidOk, Bool.and_eq_true] at h
    simp only [emitR, absorb1]
    by_cases he : (ks.isEmpty && i.cbe) = true
    · -- `<x/>`
      obtain ⟨rfl, _⟩ : ks = [] ∧ i.cbe = true := by simpa using he
      simp only [he, if_true, run_cons, run_nil, step_startend]
      simp [absorb, txt_nil, closeFrame, normAttrs, List.append_assoc]
    · simp only [he]
      by_cases hv : p.isVoid (fullName i) = true
      · -- `<br></br>`: no children
        obtain rfl : ks = [] := by simpa [hv] using h.1
        simp only [Bool.false_eq_true, if_false, emitRL, List.nil_append, run_cons, run_nil]
        rw [step_void_pair p top rest b _ _ hv]
        simp [absorb, txt_nil, closeFrame, normAttrs, List.append_assoc]
      · -- `<x> … </x>`
        have hv' : p.isVoid (fullName i) = false := by simpa using hv
        simp only [Bool.false_eq_true, if_false, run_cons, run_append, run_nil]
        rw [step_start_nonvoid p top rest b [] _ _ hv']
        rw [run_forest p f ks _ _ [] h.2]
        rw [step_stop_top]
        simp [closeFrame, normAttrs, ctxOf, List.append_assoc]
end

/-- what C09 proves of a substitution function and the readers: reading the written form gives the string back -/
def ReaderLaws (rd : Reader) (f : Fmt) : Prop :=
  ∃ g, f.subst = some g ∧ (∀ s, rd.text (g s) = s) ∧ (∀ v, rd.attr (quoteAttr (g v)) = some v)

theorem evAttrsRd_eq (rd : Reader) (f : Fmt) (h : ReaderLaws rd f) (attrs : List (PStr × AVal)) :
    evAttrsRd rd f attrs = evAttrs f attrs := by
  obtain ⟨g, hg, _, ha⟩ := h
  unfold evAttrsRd evAttrs
  apply List.map_congr_left
  intro kv _
  cases hv : kv.2 <;> simp [substitute_on hg (pn := none) rfl, ha]

theorem emitStrRd_eq (rd : Reader) (f : Fmt) (pname : Option PStr) (raw : Bool) (c : SCls) (s : PStr)
    (h : ∀ t, readData rd f pname raw c t = t) : emitStrRd rd f pname raw c s = emitStr c s := by
  unfold emitStrRd emitStr
  cases strKind c s with
  | special c' s' nl => rfl
  | text t => simp only [h t]

/-- the content of script/style: written as it stands (the writer skips substitution), read as it stands -/
theorem emitRdL_raw (p : PCfg) (rd : Reader) (f : Fmt) (nm : PStr)
    (hw : f.cdataTags.contains nm = true) : ∀ (ks : List Node), ks.all isTextNode = true →
    emitRdL p rd f (some nm) true ks = emitRL f ks
  | [], _ => by simp [emitRdL, emitRL]
  | .tag _ _ :: _, hk => by simp [isTextNode] at hk
  | .str c s :: ks, hk => by
    simp only [List.all_cons, Bool.and_eq_true, isTextNode] at hk
    have hcp : c ≠ .preformatted := by rintro rfl; simp [isTextCls] at hk
    simp only [emitRdL, emitRL, emitRd, emitR, emitRdL_raw p rd f nm hw ks hk.2]
    rw [emitStrRd_eq]
    intro t
    simp only [readData, hcp, if_false, substitute_off f hw, if_true]

mutual
theorem emitRd_eq (p : PCfg) (rd : Reader) (f : Fmt) (h : ReaderLaws rd f) :
    ∀ (n : Node) (pname : Option PStr), (match pname with | some n => f.cdataTags.contains n | none => false) = false →
      representable p f n = true → emitRd p rd f pname false n = emitR f n
  | .str c s => by
    intro pname hw hr
    have ⟨g, hg, ht, _⟩ := h
    have hcp : c ≠ .preformatted := by rintro rfl; simp [representable, okStr] at hr
    simp only [emitRd, emitR]
    rw [emitStrRd_eq]
    intro t
    simp only [readData, hcp, if_false, substitute_on hg hw, Bool.false_eq_true]
    exact ht t
  | .tag i kids => by
    intro pname _ hr
    simp only [representable, Bool.and_eq_true, beq_iff_eq] at hr
    obtain ⟨⟨⟨⟨_, hcdeq⟩, _⟩, _⟩, hk⟩ := hr
    simp only [emitRd, emitR, evAttrsRd_eq rd f h]
    have hkids : emitRdL p rd f (some i.name) (p.cdataElems.contains (fullName i)) kids = emitRL f kids := by
      by_cases hraw : p.cdataElems.contains (fullName i) = true
      · simp only [hraw, if_true, rawKidsOK, Bool.and_eq_true] at hk
        rw [hraw]
        exact emitRdL_raw p rd f i.name (by rw [hcdeq, hraw]) kids hk.1
      · have hraw' : p.cdataElems.contains (fullName i) = false := by simpa using hraw
        simp only [hraw', Bool.false_eq_true, if_false] at hk
        rw [hraw']
        exact emitRdL_eq p rd f h kids (some i.name) (by show f.cdataTags.contains i.name = false; rw [hcdeq, hraw']) hk
    rw [hkids]
theorem emitRdL_eq (p : PCfg) (rd : Reader) (f : Fmt) (h : ReaderLaws rd f) :
    ∀ (ns : List Node) (pname : Option PStr), PnOK f pname →
      representableL p f ns = true → emitRdL p rd f pname false ns = emitRL f ns
  | [] => by
    intro _ _ _
    simp [emitRdL, emitRL]
  | n :: ns => by
    intro pname hw hr
    simp only [representableL, Bool.and_eq_true] at hr
    simp only [emitRdL, emitRL, emitRd_eq p rd f h n pname hw hr.1, emitRdL_eq p rd f h ns pname hw hr.2]
end

end BS.Render
