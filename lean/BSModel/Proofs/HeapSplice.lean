import BSModel.Proofs.HeapBasics
/-! One relation between two witnesses: `wJ` has the subtree of `x` joined in as the segment `[X, X + N)` of the tree `T`,
    `wS` has it separate as the tree `x` (`cutWit` goes from `wJ` to `wS`, `pasteWit` back). Two nodes of one tree of `wS`
    are moved alike, so facts about such a pair pass between the witnesses; neither need be well-formed. -/
namespace BS.Heap

/-- `m` in `T` outside the segment: its `wJ` endpoints avoid it (an end may be `X`), its `wS` endpoints are their `cutPt` -/
abbrev Splice.Outside (wJ wS : Wit) (T X N m : Nat) : Prop :=
  wJ.tree m = T ∧ (wJ.pos m < X ∨ X + N ≤ wJ.pos m) ∧
  (wJ.pos m + wJ.size m ≤ X ∨ X + N ≤ wJ.pos m + wJ.size m) ∧ wS.pos m = cutPt X N (wJ.pos m) ∧
  wS.pos m + wS.size m = cutPt X N (wJ.pos m + wJ.size m)

namespace Splice.Outside
variable {wJ wS : Wit} {T X N m : Nat} (o : Outside wJ wS T X N m)
include o
theorem tree : wJ.tree m = T := o.1
theorem start : wJ.pos m < X ∨ X + N ≤ wJ.pos m := o.2.1
theorem stop : wJ.pos m + wJ.size m ≤ X ∨ X + N ≤ wJ.pos m + wJ.size m := o.2.2.1
theorem pos : wS.pos m = cutPt X N (wJ.pos m) := o.2.2.2.1
theorem fin : wS.pos m + wS.size m = cutPt X N (wJ.pos m + wJ.size m) := o.2.2.2.2
end Splice.Outside

/-- inside the segment a shift by `X`, outside it in `T` as `Outside` says, every other tree as it is -/
structure Splice (wJ wS : Wit) (x T X N : Nat) : Prop where
  inn : ∀ m, wS.tree m = x → wJ.pos m = X + wS.pos m ∧ wJ.size m = wS.size m ∧ 1 ≤ wS.size m
  out : ∀ m, wS.tree m = T → wS.tree m ≠ x → Splice.Outside wJ wS T X N m
  other : ∀ m, wS.tree m ≠ x → wS.tree m ≠ T → wJ.tree m = wS.tree m ∧ wJ.pos m = wS.pos m ∧ wJ.size m = wS.size m

namespace Splice
variable {wJ wS : Wit} {x T X N a b : Nat} (sp : Splice wJ wS x T X N) (ht : wS.tree a = wS.tree b)
include sp ht

/-- one common shift (`X` inside the segment, `0` in an untouched tree), or both outside the segment in `T` -/
theorem same :
    (∃ c, wS.pos a + c = wJ.pos a ∧ wJ.size a = wS.size a ∧ wS.pos b + c = wJ.pos b ∧ wJ.size b = wS.size b ∧
      ((wS.tree a = x ∧ X ≤ wJ.pos a ∧ 1 ≤ wJ.size a) ∨ (wJ.tree a ≠ T ∧ wS.tree a ≠ T))) ∨
    (wS.tree a = T ∧ Outside wJ wS T X N a ∧ Outside wJ wS T X N b) := by
  by_cases hx : wS.tree a = x
  · obtain ⟨pa, za, _⟩ := sp.inn a hx
    obtain ⟨pb, zb, -⟩ := sp.inn b (ht ▸ hx)
    exact Or.inl ⟨X, by omega, za, by omega, zb, Or.inl ⟨hx, by omega, by omega⟩⟩
  · by_cases hT : wS.tree a = T
    · exact Or.inr ⟨hT, sp.out a hT hx, sp.out b (ht ▸ hT) (ht ▸ hx)⟩
    · obtain ⟨ta, pa, za⟩ := sp.other a hx hT
      obtain ⟨-, pb, zb⟩ := sp.other b (ht ▸ hx) (ht ▸ hT)
      exact Or.inl ⟨0, pa.symm, za, pb.symm, zb, Or.inr ⟨by rw [ta]; exact hT, hT⟩⟩

theorem pos_lt_iff : wS.pos a < wS.pos b ↔ wJ.pos a < wJ.pos b := by
  rcases sp.same ht with ⟨c, pa, za, pb, zb, -⟩ | ⟨ta, oa, ob⟩
  · omega
  · rw [oa.pos, ob.pos]; exact cutPt_lt_iff oa.start (ob.start.imp_left Nat.le_of_lt)

/-- `b` starts before `a` ends -/
theorem pos_lt_end_iff : wS.pos b < wS.pos a + wS.size a ↔ wJ.pos b < wJ.pos a + wJ.size a := by
  rcases sp.same ht with ⟨c, pa, za, pb, zb, -⟩ | ⟨ta, oa, ob⟩
  · omega
  · rw [oa.fin, ob.pos]; exact cutPt_lt_iff ob.start oa.stop

/-- only weakly: the two sides of the segment fall together -/
theorem end_le_iff : wS.pos b + wS.size b ≤ wS.pos a + wS.size a ↔
    wJ.pos b + wJ.size b ≤ wJ.pos a + wJ.size a ∨
      (wS.tree a = T ∧ wJ.pos a + wJ.size a = X ∧ wJ.pos b + wJ.size b = X + N) := by
  rcases sp.same ht with ⟨c, pa, za, pb, zb, hc⟩ | ⟨ta, oa, ob⟩
  · omega
  · rw [oa.fin, ob.fin, cutPt_le_iff oa.stop ob.stop]; simp only [ta, true_and]

theorem succ_iff : wS.pos b = wS.pos a + 1 ↔
    wJ.pos b = wJ.pos a + 1 ∨ (wJ.tree a = T ∧ wJ.pos a + 1 = X ∧ wJ.pos b = X + N) := by
  rcases sp.same ht with ⟨c, pa, za, pb, zb, hc⟩ | ⟨ta, oa, ob⟩
  · omega
  · rw [oa.pos, ob.pos, cutPt_succ_iff oa.start ob.start]; simp only [oa.tree, true_and]

/-- `b` starts where `a` ends -/
theorem meet_iff : wS.pos b = wS.pos a + wS.size a ↔
    wJ.pos b = wJ.pos a + wJ.size a ∨ (wJ.tree a = T ∧ wJ.pos a + wJ.size a = X ∧ wJ.pos b = X + N) := by
  rcases sp.same ht with ⟨c, pa, za, pb, zb, hc⟩ | ⟨ta, oa, ob⟩
  · omega
  · rw [oa.fin, ob.pos, cutPt_eq_iff oa.stop ob.start]; simp only [oa.tree, true_and]

end Splice
end BS.Heap
