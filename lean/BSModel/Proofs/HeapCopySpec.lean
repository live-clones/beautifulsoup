import BSModel.Proofs.HeapCopyLoop
/-! # `copy` is `copyLoop` over the document order of the source; under `CInv` the clone is a detached tree whose document order is
the ids allocated so far. -/
namespace BS.Heap

/-- every element of the document order of `x` other than `x` itself has a parent: it is allocated and not a BeautifulSoup object -/
theorem docOrder_tail_old {h : Heap} {w : Wit} (hwf : WF h w) (x : Nat) :
    ∀ d ∈ (docOrder h x).tail, d < h.next ∧ h.kind d ≠ .soup := by
  intro d hd
  obtain ⟨j, hj⟩ := List.getElem?_of_mem hd
  rw [List.getElem?_tail] at hj
  have hp := ((docOrder_idx hwf x _ d).mp hj).2
  cases hpar : h.parent d with
  | none => rw [(hwf.root_tree d hpar).2] at hp; omega
  | some q =>
    exact ⟨good_kid_lt_next ⟨w, hwf⟩ (hwf.parent_kid _ _ hpar), wf_kid_not_soup hwf (hwf.parent_kid _ _ hpar)⟩

/-- `copy` is the loop over `self.descendants`, for a string too (it has none); the clone is the first id allocated -/
theorem copy_ok_iff {h : Heap} {w : Wit} (hwf : WF h w) (x : Nat) (h' : Heap) (c : Nat) :
    copy h x = .ok (h', c) ↔
      c = h.next ∧ copyLoop h.next (alloc h (h.kind x) (h.val x)).1 [] (docOrder h x).tail = .ok h' := by
  unfold copy
  split
  · rw [descendants_eq hwf x]
    show (match copyLoop h.next _ [] (docOrder h x).tail with
      | Except.error e => Except.error e | Except.ok h1 => Except.ok (h1, h.next)) = _ ↔ _
    cases copyLoop h.next (alloc h (h.kind x) (h.val x)).1 [] (docOrder h x).tail with
    | error e => exact ⟨nofun, fun e => (nomatch e.2)⟩
    | ok h1 => simp only [Except.ok.injEq, Prod.mk.injEq]; exact and_comm.trans (and_congr_left' eq_comm)
  · rename_i hnt
    rw [docOrder_leaf (hwf.str_leaf x (by simpa using hnt))]
    simp only [List.tail_cons, copyLoop, Except.ok.injEq, Prod.mk.injEq]
    exact and_comm.trans (and_congr_left' eq_comm)

/-- the clone as a tree: consistent forest, detached root, document order = the allocated ids, as long as `srcs` -/
theorem cinv_final {h0 h' : Heap} {N0 : Nat} {w' : Wit} {st' : List (Nat × Nat)} {srcs : List Nat}
    (inv : CInv h0 N0 h' w' st' srcs) :
    Good2 h' ∧ h'.parent N0 = none ∧ docOrder h' N0 = List.range' N0 (h'.next - N0) ∧
    (docOrder h' N0).length = srcs.length := by
  have hlen : (docOrder h' N0).length = h'.next - N0 := by rw [docOrder_length inv.wf, inv.size_root]
  refine ⟨⟨⟨w', inv.wf⟩, inv.strs⟩, inv.root, ?_, by rw [hlen, inv.len]⟩
  apply List.ext_getElem
  · rw [hlen, List.length_range']
  · intro j h1 h2
    rw [List.getElem_range']
    have hm := (docOrder_getElem? inv.wf inv.root j (N0 + j)).mpr
      ⟨inv.clone_tree (N0 + j) (by omega) (by omega), by rw [inv.clone_pos (N0 + j) (by omega) (by omega)]; omega⟩
    rw [List.getElem?_eq_getElem h1] at hm
    simpa using hm

theorem tree_closed {h : Heap} {w : Wit} (hwf : WF h w) {m b : Nat}
    (hl : h.ne m = some b ∨ h.pe m = some b ∨ h.ns m = some b ∨ h.ps m = some b ∨ h.parent m = some b ∨ b ∈ h.kids m) :
    w.tree b = w.tree m := by
  rcases hl with h1 | h1 | h1 | h1 | h1 | h1
  · exact ((hwf.chain_ne m b).mp h1).2.1.symm
  · exact ((hwf.chain_pe b m).mp h1).2.1
  · obtain ⟨⟨p, hp1, hp2⟩, _⟩ := (hwf.sib_ns m b).mp h1
    rw [(wf_parent_pos hwf hp1).1, (wf_parent_pos hwf hp2).1]
  · obtain ⟨⟨p, hp1, hp2⟩, _⟩ := (hwf.sib_ps b m).mp h1
    rw [(wf_parent_pos hwf hp1).1, (wf_parent_pos hwf hp2).1]
  · exact (wf_parent_pos hwf h1).1.symm
  · exact hwf.kid_tree m b h1

theorem docOrder_old {h : Heap} (hg : Good h) {r m : Nat} (hr : r < h.next) (hm : m ∈ docOrder h r) : m < h.next := by
  obtain ⟨w, hwf⟩ := hg
  rw [docOrder_cons] at hm
  rcases List.mem_cons.mp hm with rfl | ht
  · exact hr
  · exact (docOrder_tail_old hwf r m ht).1

/-- the class of every string `.string =` creates is a string class; copies and constructor calls need no side condition -/
def Op2.kindsOK : Op2 → Prop
  | .edit op => op.kindsOK
  | _ => True

end BS.Heap
