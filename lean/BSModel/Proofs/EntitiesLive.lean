import BSModel.Proofs.Entities
import BSModel.Gen.Entities
/-! The two table obligations of C09 for the generated tables, by kernel evaluation: C09 and C05 both rest on them. -/
namespace BS.Entities

theorem tblOK_htmlTable : TblOK BS.Gen.C09.htmlTable = true := by decide +kernel

theorem xmlOK_xmlTable : XmlOK BS.Gen.C09.xmlTable BS.Gen.C09.htmlTable = true := by decide +kernel

end BS.Entities
