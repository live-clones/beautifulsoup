import BSModel.Proofs.HeapLinkGeo
/-! Pillar 2, part 2: what `linkChild` computes, in closed form (read lemmas for every field). -/
namespace BS.Heap

/-- closed-form description of the heap after linking `x` under `p`:
    `pred`/`succ` = the elements that precede `x` / follow `x`'s last descendant `lastx` in document order,
    `prevSib`/`nextSib` = the new siblings of `x` -/
structure Linked (h h' : Heap) (p x pred lastx : Nat) (succ prevSib nextSib : Option Nat)
    (newKids : List Nat) : Prop where
  parent : ∀ j, h'.parent j = if j = x then some p else h.parent j
  ps : ∀ j, h'.ps j = if nextSib = some j then some x else if j = x then prevSib else h.ps j
  ns : ∀ j, h'.ns j = if j = x then nextSib else if prevSib = some j then some x else h.ns j
  ne : ∀ a, h'.ne a = if a = lastx then succ else if a = pred then some x else h.ne a
  pe : ∀ b, h'.pe b = if succ = some b then some lastx else if b = x then some pred else h.pe b
  kids : ∀ j, h'.kids j = if j = p then newKids else h.kids j
  kind : h'.kind = h.kind
  val : h'.val = h.val
  next : h'.next = h.next
  cap : h'.cap = h.cap + h.cap

@[simp] theorem setParent_parent (h : Heap) (i : Nat) (v : Option Nat) (j : Nat) : (setParent h i v).parent j = if j = i then v else h.parent j := rfl
@[simp] theorem setParent_ps (h : Heap) (i : Nat) (v : Option Nat) : (setParent h i v).ps = h.ps := rfl
@[simp] theorem setParent_ns (h : Heap) (i : Nat) (v : Option Nat) : (setParent h i v).ns = h.ns := rfl
@[simp] theorem setParent_pe (h : Heap) (i : Nat) (v : Option Nat) : (setParent h i v).pe = h.pe := rfl
@[simp] theorem setParent_ne (h : Heap) (i : Nat) (v : Option Nat) : (setParent h i v).ne = h.ne := rfl
@[simp] theorem setParent_kids (h : Heap) (i : Nat) (v : Option Nat) : (setParent h i v).kids = h.kids := rfl
@[simp] theorem setParent_kind (h : Heap) (i : Nat) (v : Option Nat) : (setParent h i v).kind = h.kind := rfl
@[simp] theorem setParent_val (h : Heap) (i : Nat) (v : Option Nat) : (setParent h i v).val = h.val := rfl
@[simp] theorem setParent_next (h : Heap) (i : Nat) (v : Option Nat) : (setParent h i v).next = h.next := rfl
@[simp] theorem setParent_cap (h : Heap) (i : Nat) (v : Option Nat) : (setParent h i v).cap = h.cap := rfl
@[simp] theorem setPs_parent (h : Heap) (i : Nat) (v : Option Nat) : (setPs h i v).parent = h.parent := rfl
@[simp] theorem setPs_ps (h : Heap) (i : Nat) (v : Option Nat) (j : Nat) : (setPs h i v).ps j = if j = i then v else h.ps j := rfl
@[simp] theorem setPs_ns (h : Heap) (i : Nat) (v : Option Nat) : (setPs h i v).ns = h.ns := rfl
@[simp] theorem setPs_pe (h : Heap) (i : Nat) (v : Option Nat) : (setPs h i v).pe = h.pe := rfl
@[simp] theorem setPs_ne (h : Heap) (i : Nat) (v : Option Nat) : (setPs h i v).ne = h.ne := rfl
@[simp] theorem setPs_kids (h : Heap) (i : Nat) (v : Option Nat) : (setPs h i v).kids = h.kids := rfl
@[simp] theorem setPs_kind (h : Heap) (i : Nat) (v : Option Nat) : (setPs h i v).kind = h.kind := rfl
@[simp] theorem setPs_val (h : Heap) (i : Nat) (v : Option Nat) : (setPs h i v).val = h.val := rfl
@[simp] theorem setPs_next (h : Heap) (i : Nat) (v : Option Nat) : (setPs h i v).next = h.next := rfl
@[simp] theorem setPs_cap (h : Heap) (i : Nat) (v : Option Nat) : (setPs h i v).cap = h.cap := rfl
@[simp] theorem setNs_parent (h : Heap) (i : Nat) (v : Option Nat) : (setNs h i v).parent = h.parent := rfl
@[simp] theorem setNs_ps (h : Heap) (i : Nat) (v : Option Nat) : (setNs h i v).ps = h.ps := rfl
@[simp] theorem setNs_ns (h : Heap) (i : Nat) (v : Option Nat) (j : Nat) : (setNs h i v).ns j = if j = i then v else h.ns j := rfl
@[simp] theorem setNs_pe (h : Heap) (i : Nat) (v : Option Nat) : (setNs h i v).pe = h.pe := rfl
@[simp] theorem setNs_ne (h : Heap) (i : Nat) (v : Option Nat) : (setNs h i v).ne = h.ne := rfl
@[simp] theorem setNs_kids (h : Heap) (i : Nat) (v : Option Nat) : (setNs h i v).kids = h.kids := rfl
@[simp] theorem setNs_kind (h : Heap) (i : Nat) (v : Option Nat) : (setNs h i v).kind = h.kind := rfl
@[simp] theorem setNs_val (h : Heap) (i : Nat) (v : Option Nat) : (setNs h i v).val = h.val := rfl
@[simp] theorem setNs_next (h : Heap) (i : Nat) (v : Option Nat) : (setNs h i v).next = h.next := rfl
@[simp] theorem setNs_cap (h : Heap) (i : Nat) (v : Option Nat) : (setNs h i v).cap = h.cap := rfl
@[simp] theorem setPe_parent (h : Heap) (i : Nat) (v : Option Nat) : (setPe h i v).parent = h.parent := rfl
@[simp] theorem setPe_ps (h : Heap) (i : Nat) (v : Option Nat) : (setPe h i v).ps = h.ps := rfl
@[simp] theorem setPe_ns (h : Heap) (i : Nat) (v : Option Nat) : (setPe h i v).ns = h.ns := rfl
@[simp] theorem setPe_pe (h : Heap) (i : Nat) (v : Option Nat) (j : Nat) : (setPe h i v).pe j = if j = i then v else h.pe j := rfl
@[simp] theorem setPe_ne (h : Heap) (i : Nat) (v : Option Nat) : (setPe h i v).ne = h.ne := rfl
@[simp] theorem setPe_kids (h : Heap) (i : Nat) (v : Option Nat) : (setPe h i v).kids = h.kids := rfl
@[simp] theorem setPe_kind (h : Heap) (i : Nat) (v : Option Nat) : (setPe h i v).kind = h.kind := rfl
@[simp] theorem setPe_val (h : Heap) (i : Nat) (v : Option Nat) : (setPe h i v).val = h.val := rfl
@[simp] theorem setPe_next (h : Heap) (i : Nat) (v : Option Nat) : (setPe h i v).next = h.next := rfl
@[simp] theorem setPe_cap (h : Heap) (i : Nat) (v : Option Nat) : (setPe h i v).cap = h.cap := rfl
@[simp] theorem setNe_parent (h : Heap) (i : Nat) (v : Option Nat) : (setNe h i v).parent = h.parent := rfl
@[simp] theorem setNe_ps (h : Heap) (i : Nat) (v : Option Nat) : (setNe h i v).ps = h.ps := rfl
@[simp] theorem setNe_ns (h : Heap) (i : Nat) (v : Option Nat) : (setNe h i v).ns = h.ns := rfl
@[simp] theorem setNe_pe (h : Heap) (i : Nat) (v : Option Nat) : (setNe h i v).pe = h.pe := rfl
@[simp] theorem setNe_ne (h : Heap) (i : Nat) (v : Option Nat) (j : Nat) : (setNe h i v).ne j = if j = i then v else h.ne j := rfl
@[simp] theorem setNe_kids (h : Heap) (i : Nat) (v : Option Nat) : (setNe h i v).kids = h.kids := rfl
@[simp] theorem setNe_kind (h : Heap) (i : Nat) (v : Option Nat) : (setNe h i v).kind = h.kind := rfl
@[simp] theorem setNe_val (h : Heap) (i : Nat) (v : Option Nat) : (setNe h i v).val = h.val := rfl
@[simp] theorem setNe_next (h : Heap) (i : Nat) (v : Option Nat) : (setNe h i v).next = h.next := rfl
@[simp] theorem setNe_cap (h : Heap) (i : Nat) (v : Option Nat) : (setNe h i v).cap = h.cap := rfl
@[simp] theorem setKids_parent (h : Heap) (i : Nat) (v : List Nat) : (setKids h i v).parent = h.parent := rfl
@[simp] theorem setKids_ps (h : Heap) (i : Nat) (v : List Nat) : (setKids h i v).ps = h.ps := rfl
@[simp] theorem setKids_ns (h : Heap) (i : Nat) (v : List Nat) : (setKids h i v).ns = h.ns := rfl
@[simp] theorem setKids_pe (h : Heap) (i : Nat) (v : List Nat) : (setKids h i v).pe = h.pe := rfl
@[simp] theorem setKids_ne (h : Heap) (i : Nat) (v : List Nat) : (setKids h i v).ne = h.ne := rfl
@[simp] theorem setKids_kids (h : Heap) (i : Nat) (v : List Nat) (j : Nat) : (setKids h i v).kids j = if j = i then v else h.kids j := rfl
@[simp] theorem setKids_kind (h : Heap) (i : Nat) (v : List Nat) : (setKids h i v).kind = h.kind := rfl
@[simp] theorem setKids_val (h : Heap) (i : Nat) (v : List Nat) : (setKids h i v).val = h.val := rfl
@[simp] theorem setKids_next (h : Heap) (i : Nat) (v : List Nat) : (setKids h i v).next = h.next := rfl
@[simp] theorem setKids_cap (h : Heap) (i : Nat) (v : List Nat) : (setKids h i v).cap = h.cap := rfl

@[simp] theorem lastDown_setParent (h : Heap) (i : Nat) (v : Option Nat) : lastDown (setParent h i v) = lastDown h :=
  lastDown_congr _ _ rfl rfl
@[simp] theorem lastDown_setPs (h : Heap) (i : Nat) (v : Option Nat) : lastDown (setPs h i v) = lastDown h :=
  lastDown_congr _ _ rfl rfl
@[simp] theorem lastDown_setNs (h : Heap) (i : Nat) (v : Option Nat) : lastDown (setNs h i v) = lastDown h :=
  lastDown_congr _ _ rfl rfl
@[simp] theorem lastDown_setPe (h : Heap) (i : Nat) (v : Option Nat) : lastDown (setPe h i v) = lastDown h :=
  lastDown_congr _ _ rfl rfl
@[simp] theorem lastDown_setNe (h : Heap) (i : Nat) (v : Option Nat) : lastDown (setNe h i v) = lastDown h :=
  lastDown_congr _ _ rfl rfl

/-- the previous sibling the new child gets -/
def prevSibOf (h : Heap) (p i : Nat) : Option Nat := if i = 0 then none else (h.kids p)[i - 1]?

/-- the element that will precede the new child -/
def predOf (h : Heap) (p i : Nat) : Nat :=
  match prevSibOf h p i with
  | none => p
  | some pc => lastDown h h.cap pc

/-! ### `linkChild` in three stages (`linkChild_eq` is `rfl`): previous side, next side, children list -/

def linkPrev (h : Heap) (p pos x : Nat) : Except Err (Heap × Option Nat) :=
  let h0 := setParent h x (some p)
  if pos = 0 then
    .ok (setPe (setPs h0 x none) x (some p), some p)
  else
    match (h0.kids p)[pos - 1]? with
    | none => .error .crash
    | some pc =>
      let h1 := setNs (setPs h0 x (some pc)) pc (some x)
      let l := lastDown h1 h1.cap pc
      .ok (setPe h1 x (some l), some l)

def linkNext (h3 : Heap) (p pos x lastx : Nat) : Heap :=
  if pos ≥ (h3.kids p).length then
    setNe (setNs h3 x none) lastx (nextAfter (setNs h3 x none) (setNs h3 x none).cap p)
  else
    match (h3.kids p)[pos]? with
    | none => h3
    | some nc => setNe (setPs (setNs h3 x (some nc)) nc (some x)) lastx (some nc)

def linkFin (h6 : Heap) (p pos x : Nat) : Heap :=
  { setKids h6 p ((h6.kids p).insertIdx pos x) with cap := h6.cap + h6.cap }

theorem linkChild_eq (h : Heap) (p pos x : Nat) :
    linkChild h p pos x =
      match linkPrev h p pos x with
      | .error e => .error e
      | .ok (h2, prevEl) =>
        let h3 := setNeO h2 prevEl (some x)
        let lastx := lastDown h3 h3.cap x
        let h5 := linkNext h3 p pos x lastx
        .ok (linkFin (setPeO h5 (h5.ne lastx) (some lastx)) p pos x) := rfl

theorem linkPrev_ok (h : Heap) (p i x : Nat) (hi : i ≤ (h.kids p).length) :
    ∃ h2, linkPrev h p i x = .ok (h2, some (predOf h p i)) ∧
      (∀ j, h2.parent j = if j = x then some p else h.parent j) ∧
      (∀ j, h2.ps j = if j = x then prevSibOf h p i else h.ps j) ∧
      (∀ j, h2.ns j = if prevSibOf h p i = some j then some x else h.ns j) ∧
      (∀ j, h2.pe j = if j = x then some (predOf h p i) else h.pe j) ∧
      h2.ne = h.ne ∧ h2.kids = h.kids ∧ h2.kind = h.kind ∧ h2.val = h.val ∧ h2.next = h.next ∧ h2.cap = h.cap := by
  by_cases hi0 : i = 0
  · subst hi0
    refine ⟨_, rfl, ?_⟩
    simp [prevSibOf, predOf]
  · have hlt : i - 1 < (h.kids p).length := by omega
    have hpc : (h.kids p)[i - 1]? = some ((h.kids p)[i - 1]) := List.getElem?_eq_getElem hlt
    refine ⟨setPe (setNs (setPs (setParent h x (some p)) x (some (h.kids p)[i - 1])) (h.kids p)[i - 1] (some x)) x
      (some (lastDown h h.cap (h.kids p)[i - 1])), ?_, ?_⟩
    · simp [linkPrev, hi0, hpc, predOf, prevSibOf]
    · simp [prevSibOf, predOf, hi0, hpc]
      -- left: `ns`, written under `j = pc`, read under `pc = j`
      intro j; grind

theorem linkNext_reads (h3 : Heap) (p i x lastx : Nat) :
    let succ := if (h3.kids p).length ≤ i then nextAfter (setNs h3 x none) h3.cap p else (h3.kids p)[i]?
    (linkNext h3 p i x lastx).parent = h3.parent ∧
    (∀ j, (linkNext h3 p i x lastx).ps j = if (h3.kids p)[i]? = some j then some x else h3.ps j) ∧
    (∀ j, (linkNext h3 p i x lastx).ns j = if j = x then (h3.kids p)[i]? else h3.ns j) ∧
    (∀ a, (linkNext h3 p i x lastx).ne a = if a = lastx then succ else h3.ne a) ∧
    (linkNext h3 p i x lastx).pe = h3.pe ∧ (linkNext h3 p i x lastx).kids = h3.kids ∧
    (linkNext h3 p i x lastx).kind = h3.kind ∧ (linkNext h3 p i x lastx).val = h3.val ∧
    (linkNext h3 p i x lastx).next = h3.next ∧ (linkNext h3 p i x lastx).cap = h3.cap := by
  intro succ
  by_cases hlen : (h3.kids p).length ≤ i
  · have hn : (h3.kids p)[i]? = none := List.getElem?_eq_none hlen
    simp [linkNext, hlen, succ]
  · have hlt : i < (h3.kids p).length := by omega
    have hn : (h3.kids p)[i]? = some ((h3.kids p)[i]) := List.getElem?_eq_getElem hlt
    simp [linkNext, hlen, hn, succ]
    -- left: `ps`, likewise at `nc`
    intro j; grind

/-- `g`: the intermediate heap the up-walk `nextAfter` runs on, given by `ns` and `parent`, all the walk reads -/
theorem linkChild_linked (h : Heap) (p i x : Nat) (hi : i ≤ (h.kids p).length) :
    ∃ h' g, linkChild h p i x = .ok h' ∧
      (∀ j, g.ns j = if j = x then none else if prevSibOf h p i = some j then some x else h.ns j) ∧
      (∀ j, g.parent j = if j = x then some p else h.parent j) ∧
      Linked h h' p x (predOf h p i) (lastDown h h.cap x)
        (if (h.kids p).length ≤ i then nextAfter g h.cap p else (h.kids p)[i]?)
        (prevSibOf h p i) ((h.kids p)[i]?) ((h.kids p).insertIdx i x) := by
  obtain ⟨h2, e2, rparent, rps, rns, rpe, rne, rkids, rkind, rval, rnext, rcap⟩ := linkPrev_ok h p i x hi
  have hr := linkNext_reads (setNe h2 (predOf h p i) (some x)) p i x (lastDown h h.cap x)
  simp only [setNe_kids, setNe_cap, setNe_parent, setNe_ps, setNe_ns, setNe_ne, setNe_pe, setNe_kind,
    setNe_val, setNe_next, rkids, rcap] at hr
  obtain ⟨qparent, qps, qns, qne, qpe, qkids, qkind, qval, qnext, qcap⟩ := hr
  generalize hh5 : linkNext (setNe h2 (predOf h p i) (some x)) p i x (lastDown h h.cap x) = h5 at *
  refine ⟨linkFin (setPeO h5 (h5.ne (lastDown h h.cap x)) (some (lastDown h h.cap x))) p i x,
    setNs (setNe h2 (predOf h p i) (some x)) x none, ?_, ?_, ?_, ?_⟩
  · rw [linkChild_eq, e2]
    simp only [setNeO, lastDown_setNe, setNe_cap, rcap, lastDown_congr h2 h rkids rkind, hh5]
  · intro j; simp [rns]
  · intro j; simp [rparent]
  · have hsucc := qne (lastDown h h.cap x)
    simp only [if_true] at hsucc
    generalize hs : (if (h.kids p).length ≤ i then nextAfter (setNs (setNe h2 (predOf h p i) (some x)) x none) h.cap p
        else (h.kids p)[i]?) = succ at *
    rw [hsucc]
    cases succ with
    | none =>
      constructor <;> simp [linkFin, setPeO, *]
    | some sc =>
      constructor <;> simp [linkFin, setPeO, *]
      -- left: `pe`, likewise at `sc`
      intro b; grind

end BS.Heap
