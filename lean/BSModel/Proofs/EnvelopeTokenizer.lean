import BSModel.Model.EnvelopeTokenizer
import BSModel.Proofs.TokenizerErr
import BSModel.Proofs.TokenizerRound
import BSModel.Proofs.TokenizerTurn
import BSModel.Proofs.Envelope
/-! C06 over the tokenizer model: the model's only raise is `parse_marked_section`'s, and `RaisesAt` says on which
    suffixes — exactly for one call and for one turn of `goahead`'s loop, as a necessary condition for a whole run, and as
    a sufficient one when only plain text precedes the section. -/
namespace BS.EnvelopeTokenizer
open BS.Tokenizer

theorem isWs_not_declName : ∀ x ∈ BS.Gen.pyWhitespace, isDeclNameCh x = false := by decide

theorem isWs_declName (x : Nat) (h : isWs x = true) : isDeclNameCh x = false := by
  apply isWs_not_declName
  simpa [isWs] using h

theorem scanName_err_iff (t : PStr) : scanName t = .err ↔ ∃ c, t.head? = some c ∧ isAlpha c = false := by
  cases t with
  | nil => simp [scanName]
  | cons c t' =>
    by_cases hc : isAlpha c = true
    · simp only [scanName, hc, if_true, List.head?_cons, Option.some.injEq, exists_eq_left']
      constructor
      · intro h; split at h <;> cases h
      · intro h; cases h
    · simp only [scanName, hc, List.head?_cons, Option.some.injEq, exists_eq_left']
      simp

/-- `_scan_name` returns a name exactly on `name ws c rest` with the name and the whitespace taken greedily -/
theorem scanName_ok_iff (t : PStr) (name : PStr) :
    (∃ len, scanName t = .ok name len) ↔
      ∃ a tl ws c rest, t = (a :: tl) ++ ws ++ c :: rest ∧ isAlpha a = true ∧ (∀ x ∈ tl, isDeclNameCh x = true) ∧
        (∀ x ∈ ws, isWs x = true) ∧ isWs c = false ∧ (ws = [] → isDeclNameCh c = false) ∧ name = asciiLower (a :: tl) := by
  constructor
  · rintro ⟨len, h⟩
    cases t with
    | nil => simp [scanName] at h
    | cons a t' =>
      simp only [scanName] at h
      split at h
      · rename_i ha
        split at h
        · cases h
        · rename_i hne
          injection h with h1 h2
          let nl := spanLen isDeclNameCh t'
          let w := spanLen isWs (t'.drop nl)
          cases hr : t'.drop (nl + w) with
          | nil => simp [nl, w, hr] at hne
          | cons c rest =>
            have hw : w ≤ (t'.drop nl).length := spanLen_le _ _
            have hsplit : t' = t'.take nl ++ ((t'.drop nl).take w ++ c :: rest) := by
              rw [← hr, ← List.drop_drop, List.take_append_drop, List.take_append_drop]
            have hc : isWs c = false := by
              apply spanLen_stop isWs (t'.drop nl) c
              show ((t'.drop nl).drop w).head? = some c
              rw [List.drop_drop, hr]; rfl
            refine ⟨a, t'.take nl, (t'.drop nl).take w, c, rest, ?_, ha, spanLen_all _ _, spanLen_all _ _, hc, ?_, h1.symm⟩
            · simp only [List.cons_append, List.append_assoc]
              rw [← hsplit]
            · intro hws
              have hw0 : w = 0 := by
                have := List.length_take_of_le hw
                rw [hws] at this; simpa using this.symm
              apply spanLen_stop isDeclNameCh t' c
              show (t'.drop nl).head? = some c
              have : t'.drop (nl + w) = t'.drop nl := by rw [hw0]; rfl
              rw [← this, hr]; rfl
      · cases h
  · rintro ⟨a, tl, ws, c, rest, rfl, ha, htl, hws, hc, hcd, rfl⟩
    have hstop : ∀ x, (ws ++ c :: rest).head? = some x → isDeclNameCh x = false := by
      intro x hx
      cases ws with
      | nil => simp at hx; subst hx; exact hcd rfl
      | cons w0 ws' => simp at hx; subst hx; exact isWs_declName _ (hws _ (by simp))
    have h1 : spanLen isDeclNameCh (tl ++ (ws ++ c :: rest)) = tl.length := spanLen_append_stop _ _ _ htl hstop
    have h2 : spanLen isWs (ws ++ c :: rest) = ws.length :=
      spanLen_append_stop _ _ _ hws (by intro x hx; simp at hx; subst hx; exact hc)
    refine ⟨1 + tl.length + ws.length, ?_⟩
    simp only [List.cons_append, List.append_assoc, scanName, ha, if_true, h1, List.drop_left, h2, List.take_left]
    rw [← List.append_assoc, show tl.length + ws.length = (tl ++ ws).length by simp, List.drop_left]
    simp

theorem parseMarkedSection_err_iff (cd : Option PStr) (s : PStr) :
    parseMarkedSection cd s = .err ↔
      scanName (s.drop 3) = .err ∨ ∃ name len, scanName (s.drop 3) = .ok name len ∧ name ∉ knownKeywords := by
  unfold parseMarkedSection
  cases scanName (s.drop 3) with
  | incomplete => simp
  | err => simp
  | ok name len =>
    by_cases h1 : name ∈ sectStd
    · simp only [List.contains_eq_mem, h1, decide_true, if_true]
      split <;> simp [knownKeywords, h1]
    · by_cases h2 : name ∈ sectMs
      · simp only [List.contains_eq_mem, h1, h2, decide_true, decide_false, Bool.false_eq_true, if_true, if_false]
        split <;> simp [knownKeywords, h2]
      · simp [knownKeywords, h1, h2]

/-- `parse_marked_section` raises on `s` (which its caller has checked to begin with `<![`) exactly when `RaisesAt s` -/
theorem raisesAt_iff (cd : Option PStr) (s : PStr) :
    (sw [60, 33, 91] s = true ∧ parseMarkedSection cd s = .err) ↔ RaisesAt s := by
  unfold RaisesAt
  rw [show sw [60, 33, 91] s = true ↔ s.take 3 = [60, 33, 91] by simp [sw], parseMarkedSection_err_iff]
  apply and_congr_right
  intro _
  apply or_congr
  · exact scanName_err_iff (s.drop 3)
  · constructor
    · rintro ⟨name, len, h, hk⟩
      obtain ⟨a, tl, ws, c, rest, h1, h2, h3, h4, h5, h6, h7⟩ := (scanName_ok_iff (s.drop 3) name).1 ⟨len, h⟩
      exact ⟨a, tl, ws, c, rest, h1, h2, h3, h4, h5, h6, h7 ▸ hk⟩
    · rintro ⟨a, tl, ws, c, rest, h1, h2, h3, h4, h5, h6, hk⟩
      obtain ⟨len, h⟩ := (scanName_ok_iff (s.drop 3) _).2 ⟨a, tl, ws, c, rest, h1, h2, h3, h4, h5, h6, rfl⟩
      exact ⟨_, len, h, hk⟩

theorem chooseAct_marked (P : Params) (end_ : Bool) (cd : Option PStr) (s : PStr) (hs : sw [60, 33, 91] s = true) :
    chooseAct P end_ cd s = .err ↔ parseMarkedSection cd s = .err := by
  obtain ⟨t, rfl⟩ : ∃ t, s = 60 :: 33 :: 91 :: t :=
    ⟨s.drop 3, by rw [← List.take_append_drop 3 s, show s.take 3 = [60, 33, 91] by simpa [sw] using hs]; simp⟩
  simp only [chooseAct, List.head?_cons, actLt, parseLt_marked]
  cases parseMarkedSection cd (60 :: 33 :: 91 :: t) with
  | incomplete => simp only [beq_self_eq_true, if_true]; split <;> simp   -- `brk`, or forced text at the end
  | _ => simp

/-- **one turn raises exactly when** the parser is in normal mode (not inside `<script>`/`<style>`) and the next
    interesting character (the first `<` or `&` of the buffer) starts a suffix on which `parse_marked_section` raises -/
theorem step_err_iff (P : Params) (end_ : Bool) (st : St) :
    (step P end_ st).2.2 = some .err ↔ st.cd = none ∧ RaisesAt (st.s.drop (spanLen isPlain st.s)) := by
  constructor
  · intro h
    obtain ⟨hcd, hm⟩ := step_err_plain P end_ st h
    exact ⟨hcd, (raisesAt_iff none _).1 hm⟩
  · obtain ⟨s, pos, cd⟩ := st
    rintro ⟨rfl, hr⟩
    obtain ⟨hsw, hpm⟩ := (raisesAt_iff none _).2 hr
    have hne : (s.drop (spanLen isPlain s)).isEmpty = false := by
      cases hd : s.drop (spanLen isPlain s) with
      | nil => rw [hd] at hsw; simp [sw] at hsw
      | cons a b => rfl
    have := step_plain P end_ pos _ _ (spanLen_all isPlain s) (spanLen_stop isPlain s)
    rw [List.take_append_drop] at this
    rw [this, hne, if_neg Bool.false_ne_true, (chooseAct_marked P end_ none _ hsw).2 hpm]
    rfl

/-- a rejected text contains, at some index, a suffix on which `parse_marked_section` raises -/
theorem run_err_raisesAt (P : Params) (text : PStr) (h : (run P text).flag = .err) : ∃ i, RaisesAt (text.drop i) :=
  (run_err_marked P text h).imp fun _ hm => (raisesAt_iff none _).1 hm

theorem raisesAt_head (s : PStr) (h : RaisesAt s) : s.head? = some 60 ∧ s ≠ [] := by
  obtain ⟨h3, _⟩ := h
  cases s with
  | nil => simp at h3
  | cons a t => simp at h3; simp [h3.1]

/-- the converse where nothing but plain text (no `<`, no `&`) stands before the offending section -/
theorem run_err_of_plain_prefix (P : Params) (pre s : PStr) (hpre : ∀ x ∈ pre, isPlain x = true) (hs : RaisesAt s) :
    (run P (pre ++ s)).flag = .err := by
  obtain ⟨hh, hne⟩ := raisesAt_head s hs
  have hsp : spanLen isPlain (pre ++ s) = pre.length := by
    apply spanLen_append_stop _ _ _ hpre
    intro c hc; rw [hh] at hc; simp at hc; subst hc; decide
  have hstep : (step P false (init (pre ++ s))).2.2 = some .err := by
    rw [step_err_iff]
    refine ⟨rfl, ?_⟩
    show RaisesAt ((pre ++ s).drop (spanLen isPlain (pre ++ s)))
    rw [hsp, List.drop_left]; exact hs
  have hloop : (loop P false ((pre ++ s).length + 1) (init (pre ++ s))).flag = .err := by
    generalize hx : step P false (init (pre ++ s)) = x at hstep
    obtain ⟨e1, st1, fl⟩ := x
    cases hstep
    rw [(Runs.stop _ _ _ _ (by simpa [init] using fun _ => hne) hx).loop_eq _ (by simp [init])]
  have hg : (goahead P false (init (pre ++ s))).flag = .err := by
    unfold goahead
    simp only [init] at hloop ⊢
    simp only [hloop]
  unfold run
  simp only [hg]

theorem feedClose_rejected_iff (c : PCfg) (text : PStr) : feedClose c text = .rejected ↔ (run c.tp text).flag = .err := by
  simp only [feedClose]
  cases (run c.tp text).flag <;> simp

theorem feedClose_tree_iff (c : PCfg) (text : PStr) (docs : List Builder.Doc) (infos : List Adapter.StartInfo) :
    feedClose c text = .tree docs infos ↔
      (run c.tp text).flag = .ok ∧ docs = Builder.build c.bcfg (eventsOf c text) ∧
        infos = (Adapter.toEvents c.acfg (callbacks (run c.tp text))).2 := by
  simp only [feedClose, eventsOf, Adapter.adapterBuild]
  cases (run c.tp text).flag <;> simp [eq_comm]

theorem feedClose_not_outOfFuel (c : PCfg) (text : PStr) : feedClose c text ≠ .outOfFuel := by
  have := run_not_stuck c.tp text
  simp only [feedClose]
  cases hf : (run c.tp text).flag <;> simp_all

/-! ### the tokenizer model as the tokenizer primitives of the envelope model -/
open BS.Construct

theorem phaseOf_raises (o : Out) (hns : o.flag ≠ .stuck) (c : Err) (h : (phaseOf o).2 = some c) :
    c = .assertionError := by
  simp only [phaseOf] at h
  cases hf : o.flag with
  | ok => simp [hf] at h
  | err => simp only [hf, Option.some.injEq] at h; exact h.symm
  | stuck => exact absurd hf hns

theorem tokModel_raises (tp : Params) (text : PStr) (c : Err) :
    ((tokFeedModel tp text).2 = some c → c = .assertionError) ∧ ((tokCloseModel tp text).2 = some c → c = .assertionError) :=
  ⟨phaseOf_raises _ (goahead_not_stuck tp false _) c, phaseOf_raises _ (goahead_not_stuck tp true _) c⟩

/-- replacing the two tokenizer primitives by the tokenizer model keeps the primitives within any recorded kinds that
    list `AssertionError` for the tokenizer -/
theorem withTokenizer_within {V : Type} (P : Prims V) (r : Recorded) (hP : P.Within r) (tp : Params)
    (ha : Err.assertionError ∈ r.tokenizer) : (withTokenizer P tp).Within r :=
  { hP with
    tokFeed := fun s c h => by rw [(tokModel_raises tp s c).1 h]; exact ha
    tokClose := fun s c h => by rw [(tokModel_raises tp s c).2 h]; exact ha }

/-- the two phases are the run: `feed` then (if it returned) `close` deliver the run's callbacks in order, and the run
    is rejected exactly when one of the phases raises -/
theorem phases_are_run (tp : Params) (text : PStr) :
    ((tokFeedModel tp text).2 = none →
        (tokFeedModel tp text).1 ++ (tokCloseModel tp text).1 = (run tp text).evs.filterMap toEvent ∧
        ((tokCloseModel tp text).2 = some .assertionError ↔ (run tp text).flag = .err)) ∧
    ((tokFeedModel tp text).2 ≠ none →
        (tokFeedModel tp text).1 = (run tp text).evs.filterMap toEvent ∧ (run tp text).flag = .err) := by
  have hns := goahead_not_stuck tp false (init text)
  have hns2 := goahead_not_stuck tp true (goahead tp false (init text)).st
  simp only [tokFeedModel, tokCloseModel, phaseOf, run]
  cases hf : (goahead tp false (init text)).flag with
  | stuck => exact absurd hf hns
  | err => simp [hf]
  | ok =>
    simp only [List.filterMap_append, true_and, ne_eq, not_true_eq_false, false_implies, and_true, forall_const]
    cases hf2 : (goahead tp true (goahead tp false (init text)).st).flag with
    | stuck => exact absurd hf2 hns2
    | err => simp
    | ok => simp

end BS.EnvelopeTokenizer
