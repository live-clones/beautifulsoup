import BSModel.Proofs.HeapSplice
/-! Pillar 1, part 2: the cut witness against the old one. Outside the cut segment start and end move by `cutPt`, inside
    down by `pos x`, other trees stay: the two witnesses are a `Splice` (`cut_splice`). -/
namespace BS.Heap

section
variable {h : Heap} {w : Wit} {x p : Nat}

theorem tree_ne_x (hwf : WF h w) (hp : h.parent x = some p) (m : Nat) : w.tree m ≠ x := by
  intro e
  have := hwf.tree_root m
  rw [e, hp] at this
  cases this

theorem cut_other (x m : Nat) (hm : w.tree m ≠ w.tree x) :
    (cutWit w x).tree m = w.tree m ∧ (cutWit w x).pos m = w.pos m ∧ (cutWit w x).size m = w.size m := by
  simp [cutWit, hm]

/-- inside the segment: old end within `x`'s; new tree, start, size -/
theorem cut_in (hwf : WF h w) (x m : Nat) (hm : w.inSub x m) :
    w.pos m + w.size m ≤ w.pos x + w.size x ∧
    (cutWit w x).tree m = x ∧ (cutWit w x).pos m + w.pos x = w.pos m ∧ (cutWit w x).size m = w.size m := by
  obtain ⟨ht, h1, h2⟩ := hm
  have hl := hwf.laminar x m ht.symm h1 h2
  have n1 : ¬ w.pos m < w.pos x := by omega
  refine ⟨hl, if_pos ⟨ht, h1, h2⟩, ?_, if_neg fun c => n1 c.2.1⟩
  show (if w.tree m = w.tree x then _ else _) + _ = _
  rw [if_pos ht, if_neg n1, if_pos h2]; omega

/-- outside the segment, in `x`'s old tree: old start avoids it; old end avoids its inside; new tree; new start and end are
    `cutPt` of the old -/
theorem cut_out (hwf : WF h w) (x m : Nat) (ht : w.tree m = w.tree x) (hm : ¬ w.inSub x m) :
    (w.pos m < w.pos x ∨ w.pos x + w.size x ≤ w.pos m) ∧
    (w.pos m + w.size m ≤ w.pos x ∨ w.pos x + w.size x ≤ w.pos m + w.size m) ∧
    (cutWit w x).tree m = w.tree x ∧ (cutWit w x).pos m = cutPt (w.pos x) (w.size x) (w.pos m) ∧
    (cutWit w x).pos m + (cutWit w x).size m = cutPt (w.pos x) (w.size x) (w.pos m + w.size m) := by
  have hsm := hwf.size_pos m
  have hsx := hwf.size_pos x
  have hl := hwf.laminar m x ht
  have hm' : ¬ (w.pos x ≤ w.pos m ∧ w.pos m < w.pos x + w.size x) := fun c => hm ⟨ht, c⟩
  have he : w.pos m + w.size m ≤ w.pos x ∨ w.pos x + w.size x ≤ w.pos m + w.size m := by
    by_cases c : w.pos m < w.pos x ∧ w.pos x < w.pos m + w.size m
    · exact Or.inr (hl (by omega) c.2)
    · omega
  have ep : (cutWit w x).pos m = if w.pos m < w.pos x then w.pos m
      else if w.pos m < w.pos x + w.size x then w.pos m - w.pos x else w.pos m - w.size x := if_pos ht
  have es : (cutWit w x).size m =
      if w.tree m = w.tree x ∧ w.pos m < w.pos x ∧ w.pos x < w.pos m + w.size m then w.size m - w.size x
      else w.size m := rfl
  refine ⟨by omega, he, (if_neg hm).trans ht, ?_⟩
  rw [ep, es]
  unfold cutPt
  by_cases c1 : w.pos m < w.pos x
  · rw [if_pos c1, if_pos (Nat.le_of_lt c1)]
    by_cases c2 : w.pos x < w.pos m + w.size m
    · -- `m` spans the segment
      rw [if_pos ⟨ht, c1, c2⟩, if_neg (by omega)]
      omega
    · -- `m` ends before the segment
      rw [if_neg fun c => c2 c.2.2, if_pos (by omega)]
      exact ⟨rfl, rfl⟩
  · -- `m` starts after the segment
    have c3 : ¬ (w.tree m = w.tree x ∧ w.pos m < w.pos x ∧ w.pos x < w.pos m + w.size m) := fun c => c1 c.2.1
    rw [if_neg c1, if_neg c3, if_neg (by omega), if_neg (by omega), if_neg (by omega)]
    omega

/-- same old tree, same side of the segment -/
theorem cut_tree_eq_iff (hwf : WF h w) (hp : h.parent x = some p) (a b : Nat) :
    (cutWit w x).tree a = (cutWit w x).tree b ↔ w.tree a = w.tree b ∧ (w.inSub x a ↔ w.inSub x b) := by
  have na := tree_ne_x hwf hp a
  have nb := tree_ne_x hwf hp b
  have tin : ∀ m, w.inSub x m → (cutWit w x).tree m = x := fun m hm => if_pos hm
  have tout : ∀ m, ¬ w.inSub x m → (cutWit w x).tree m = w.tree m := fun m hm => if_neg hm
  by_cases ha : w.inSub x a <;> by_cases hb : w.inSub x b
  · rw [tin a ha, tin b hb]
    exact ⟨fun _ => ⟨ha.1.trans hb.1.symm, iff_of_true ha hb⟩, fun _ => rfl⟩
  · rw [tin a ha, tout b hb]
    exact ⟨fun e => absurd e.symm nb, fun e => absurd (e.2.mp ha) hb⟩
  · rw [tout a ha, tin b hb]
    exact ⟨fun e => absurd e na, fun e => absurd (e.2.mpr hb) ha⟩
  · rw [tout a ha, tout b hb]
    exact ⟨fun e => ⟨e, iff_of_false ha hb⟩, And.left⟩

theorem cut_kid_tree (hwf : WF h w) (hp : h.parent x = some p) (n k : Nat) (hk : k ∈ h.kids n) (hkx : k ≠ x) :
    (cutWit w x).tree k = (cutWit w x).tree n :=
  (cut_tree_eq_iff hwf hp k n).mpr ⟨hwf.kid_tree n k hk, kid_inSub_iff hwf x n k hk hkx⟩

/-- the cut, read forwards -/
theorem cut_splice (hwf : WF h w) (hp : h.parent x = some p) :
    Splice w (cutWit w x) x (w.tree x) (w.pos x) (w.size x) where
  inn := fun m hm => by
    have hi : w.inSub x m := Classical.byContradiction fun c => tree_ne_x hwf hp m ((if_neg c).symm.trans hm)
    obtain ⟨-, -, pm, zm⟩ := cut_in hwf x m hi
    have := hwf.size_pos m
    exact ⟨by omega, zm.symm, by omega⟩
  out := fun m hm hx => by
    have hi : ¬ w.inSub x m := fun c => hx (if_pos c)
    obtain ⟨s, e, -, pm, qm⟩ := cut_out hwf x m ((if_neg hi).symm.trans hm) hi
    exact ⟨(if_neg hi).symm.trans hm, s, e, pm, qm⟩
  other := fun m hx hT => by
    have hi : ¬ w.inSub x m := fun c => hx (if_pos c)
    obtain ⟨t, pm, zm⟩ := cut_other x m (fun e => hT ((if_neg hi).trans e))
    exact ⟨t.symm, pm.symm, zm.symm⟩

end
end BS.Heap
