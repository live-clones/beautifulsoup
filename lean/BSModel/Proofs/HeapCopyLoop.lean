import BSModel.Model.HeapCopy
import BSModel.Proofs.HeapCopy
/-! # The loop of `__deepcopy__`: its invariant

`CInv`: the clone under construction is ONE tree rooted at the first allocated id `N0`; its nodes are exactly the ids allocated since,
and they stand in document order in allocation order (`pos (N0 + i) = i`); the stack of open clones is the right spine of that tree
(every open clone's interval ends where the tree ends, deeper ones further right) — which is why `tag_stack[-1].append(…)` puts the next
clone at the very end of the document order; every id below `N0` (everything that existed before the copy) has every field it had.
Stack entries are (source tag, clone); `srcs[i]` is the source of clone `N0 + i`. -/
namespace BS.Heap

structure CInv (h0 : Heap) (N0 : Nat) (h : Heap) (w : Wit) (st : List (Nat × Nat)) (srcs : List Nat) : Prop where
  wf : WF h w
  strs : ∀ n, h.next ≤ n → h.kind n = .str      -- second half of `Good2`
  lt : N0 < h.next
  root : h.parent N0 = none
  clone_tree : ∀ m, N0 ≤ m → m < h.next → w.tree m = N0
  clone_pos : ∀ m, N0 ≤ m → m < h.next → w.pos m = m - N0
  size_root : w.size N0 = h.next - N0
  old_tree : ∀ a, a < N0 → w.tree a < N0
  frame : ∀ a, a < N0 → h.parent a = h0.parent a ∧ h.kids a = h0.kids a ∧ h.ne a = h0.ne a ∧ h.pe a = h0.pe a ∧
    h.ns a = h0.ns a ∧ h.ps a = h0.ps a ∧ h.kind a = h0.kind a ∧ h.val a = h0.val a
  stack : ∀ e ∈ st, N0 < e.2 ∧ e.2 < h.next ∧ w.pos e.2 + w.size e.2 = w.size N0
  sorted : st.Pairwise (fun a b => w.pos b.2 < w.pos a.2)
  len : srcs.length = h.next - N0
  img : ∀ i d, srcs[i]? = some d → h.kind (N0 + i) = h0.kind d ∧ h.val (N0 + i) = h0.val d

theorem popClosed_suffix (par : Option Nat) (st : List (Nat × Nat)) : popClosed par st <:+ st := by
  fun_induction popClosed par st with
  | case1 => exact List.suffix_refl _
  | case2 => exact List.suffix_refl _
  | case3 _ _ _ _ ih => exact ih.trans (List.suffix_cons _ _)

/-- one iteration on `d`. `st1`: the stack after the closing loop, `p`: the clone on top of it, `h.next`: the new clone -/
structure CopyStepped (h h2 : Heap) (w : Wit) (d p : Nat) (st1 st2 : List (Nat × Nat)) : Prop where
  stack : st2 = (if (h.kind d).isTag then (d, h.next) :: st1 else st1)
  wf : WF h2 (pasteWit w h.next p (w.pos p + w.size p))
  tree_ne : w.tree p ≠ h.next
  kids : ∀ n, h2.kids n = if n = p then h.kids p ++ [h.next] else h.kids n
  parent : ∀ n, h2.parent n = if n = h.next then some p else h.parent n
  kind : ∀ n, h2.kind n = if n = h.next then h.kind d else h.kind n
  val : ∀ n, h2.val n = if n = h.next then h.val d else h.val n
  next : h2.next = h.next + 1
  frame : ∀ a, w.tree a ≠ w.tree p → a ≠ h.next → h2.ne a = h.ne a ∧ h2.pe a = h.pe a ∧ h2.ns a = h.ns a ∧ h2.ps a = h.ps a

theorem copyStep_spec {h h2 : Heap} {w : Wit} {N0 d p : Nat} {st st1 st2 : List (Nat × Nat)} (hwf : WF h w) (hds : h.kind d ≠ .soup)
    (hs : copyStep h N0 st d = .ok (h2, st2)) (hst1 : popClosed (h.parent d) st = st1) (hp : topClone N0 st1 = p) :
    CopyStepped h h2 w d p st1 st2 := by
  simp only [copyStep, hst1, hp] at hs
  split at hs
  · cases hs
  · rename_i h2' hap
    cases hs
    have hf := hwf.fresh h.next (Nat.le_refl _)
    have hwf1 : WF (alloc h (h.kind d) (h.val d)).1 w := alloc_wf_any hwf _ _
    have hks : (alloc h (h.kind d) (h.val d)).1.kind h.next ≠ .soup := fun e => hds ((if_pos rfl).symm.trans e)
    obtain ⟨hwf2, htpc, _hptag, _hpn, _hcn, hkids, hpar, hkind, hval, hnext⟩ := append_leaf_spec hwf1 hf.1 hf.2.1 hks hap
    exact ⟨rfl, hwf2, htpc, hkids, hpar, fun n => by rw [hkind]; rfl, fun n => by rw [hval]; rfl, hnext,
      fun a hat hac => append_leaf_frame hwf1 hwf2 hf.1 hf.2.1 hpar hat hac⟩

theorem CInv.kind_val {h0 : Heap} {N0 : Nat} {h : Heap} {w : Wit} {st : List (Nat × Nat)} {srcs : List Nat}
    (inv : CInv h0 N0 h w st srcs) {a : Nat} (ha : a < N0) : h.kind a = h0.kind a ∧ h.val a = h0.val a :=
  (inv.frame a ha).2.2.2.2.2.2

/-- the clone on top after closing: ends where the clone tree ends, rightmost of what is left open -/
theorem CInv.top {h0 : Heap} {N0 : Nat} {h : Heap} {w : Wit} {st st1 : List (Nat × Nat)} {srcs : List Nat} {p : Nat}
    (inv : CInv h0 N0 h w st srcs) (hsuf : st1 <:+ st) (hp : topClone N0 st1 = p) :
    N0 ≤ p ∧ p < h.next ∧ w.pos p + w.size p = w.size N0 ∧ ∀ e ∈ st1, w.pos e.2 ≤ w.pos p := by
  subst hp
  cases st1 with
  | nil =>
    refine ⟨Nat.le_refl _, inv.lt, ?_, nofun⟩
    show w.pos N0 + w.size N0 = w.size N0
    rw [inv.clone_pos N0 (Nat.le_refl _) inv.lt, Nat.sub_self, Nat.zero_add]
  | cons e tl =>
    have hes := inv.stack e (hsuf.subset List.mem_cons_self)
    refine ⟨Nat.le_of_lt hes.1, hes.2.1, hes.2.2, fun e' he' => ?_⟩
    rcases List.mem_cons.mp he' with rfl | hin
    · exact Nat.le_refl _
    · exact Nat.le_of_lt ((List.pairwise_cons.mp (inv.sorted.sublist hsuf.sublist)).1 e' hin)

/-- the start of the loop: right after `clone = self.copy_self()` -/
theorem cinv_init {h0 : Heap} {w : Wit} (hwf : WF h0 w) (hstr : ∀ n, h0.next ≤ n → h0.kind n = .str) (x : Nat) :
    CInv h0 h0.next (alloc h0 (h0.kind x) (h0.val x)).1 w [] [x] := by
  have hf := hwf.fresh h0.next (Nat.le_refl _)
  obtain ⟨htc, hpc, hsc, _⟩ := wf_leaf_root hwf hf.1 hf.2.1
  have hone : ∀ m, h0.next ≤ m → m < h0.next + 1 → m = h0.next := fun m hm1 hm2 => Nat.le_antisymm (Nat.le_of_lt_succ hm2) hm1
  refine { wf := alloc_wf_any hwf _ _, strs := fun n hn => ?strs, lt := Nat.lt_succ_self _, root := hf.1,
           clone_tree := fun m hm1 hm2 => ?clone_tree, clone_pos := fun m hm1 hm2 => ?clone_pos, size_root := ?size_root,
           old_tree := fun a ha => ?old_tree, frame := fun a ha => ?frame, stack := nofun, sorted := List.Pairwise.nil,
           len := (Nat.add_sub_cancel_left ..).symm, img := fun i d hi => ?img }
  case strs =>
    exact (if_neg (Nat.ne_of_gt hn)).trans (hstr n (Nat.le_of_lt hn))
  case clone_tree =>
    rw [hone m hm1 hm2]; exact htc
  case clone_pos =>
    rw [hone m hm1 hm2, hpc, Nat.sub_self]
  case size_root =>
    exact hsc.trans (Nat.add_sub_cancel_left ..).symm
  case old_tree =>
    -- a fresh id is the root of nobody's tree
    refine Nat.lt_of_not_le fun hge => ?_
    have hfr := hwf.fresh (w.tree a) hge
    have := (wf_leaf_root hwf hfr.1 hfr.2.1).2.2.2 a rfl
    omega
  case frame =>
    exact ⟨rfl, rfl, rfl, rfl, rfl, rfl, if_neg (Nat.ne_of_lt ha), if_neg (Nat.ne_of_lt ha)⟩
  case img =>
    obtain ⟨hi', rfl⟩ := List.getElem?_eq_some_iff.mp hi
    have : i = 0 := Nat.lt_one_iff.mp hi'
    subst this
    exact ⟨if_pos rfl, if_pos rfl⟩

theorem cinv_step {h0 : Heap} {N0 : Nat} {h h2 : Heap} {w : Wit} {st st2 : List (Nat × Nat)} {srcs : List Nat} {d : Nat}
    (inv : CInv h0 N0 h w st srcs) (hd : d < N0) (hds : h0.kind d ≠ .soup)
    (hs : copyStep h N0 st d = .ok (h2, st2)) :
    ∃ w2, CInv h0 N0 h2 w2 st2 (srcs ++ [d]) := by
  obtain ⟨hkd, hvd⟩ := inv.kind_val hd
  obtain ⟨st1, hst1⟩ : ∃ st1, popClosed (h.parent d) st = st1 := ⟨_, rfl⟩
  obtain ⟨p, hp⟩ : ∃ p, topClone N0 st1 = p := ⟨_, rfl⟩
  have hsuf : st1 <:+ st := hst1 ▸ popClosed_suffix _ _
  obtain ⟨rfl, hwf2, htpc, hkids, hpar, hkind, hval, hnext, hfr⟩ := copyStep_spec inv.wf (hkd ▸ hds) hs hst1 hp
  obtain ⟨hp1, hp2, hp3, hp4⟩ := inv.top hsuf hp
  have htp : w.tree p = N0 := inv.clone_tree p hp1 hp2
  have hf := inv.wf.fresh h.next (Nat.le_refl _)
  -- the new witness: the clone of `d` stands at the end of the clone tree, the open clones and the root clone grow by one
  obtain ⟨⟨ct, cp, cs⟩, hold⟩ := pasteWit_leaf (P := w.pos p + w.size p) inv.wf hf.1 hf.2.1 htpc (by rw [htp, hp3]; exact Nat.le_refl _)
  generalize pasteWit w h.next p (w.pos p + w.size p) = w2 at hwf2 ct cp cs hold
  have hlt := inv.lt
  have hold_lt : ∀ m, m < h2.next → m ≠ h.next → m < h.next := fun m hm1 hm2 => by omega
  have hgrow : ∀ m, N0 ≤ m → m < h.next → w.pos m ≤ w.pos p → w.pos m + w.size m = w.size N0 → w2.size m = w.size m + 1 := by
    intro m hm1 hm2 hle hend
    have := inv.wf.size_pos p
    rw [(hold m (Nat.ne_of_lt hm2)).2.2, if_pos ⟨by rw [htp, inv.clone_tree m hm1 hm2], hle, by omega⟩]
  have hposN : w.pos N0 = 0 := by rw [inv.clone_pos N0 (Nat.le_refl _) hlt, Nat.sub_self]
  have hsizeN : w2.size N0 = w.size N0 + 1 :=
    hgrow N0 (Nat.le_refl _) hlt (hposN ▸ Nat.zero_le _) (by rw [hposN, Nat.zero_add])
  have hopen : ∀ e ∈ st1, N0 < e.2 ∧ e.2 < h.next ∧ w2.pos e.2 = w.pos e.2 ∧ w2.pos e.2 + w2.size e.2 = w2.size N0 ∧
      w.pos e.2 < w.size N0 := by
    intro e he
    obtain ⟨e1, e2, e3⟩ := inv.stack e (hsuf.subset he)
    have hpe := (hold e.2 (Nat.ne_of_lt e2)).2.1
    refine ⟨e1, e2, hpe, ?_, e3 ▸ Nat.lt_add_of_pos_right (inv.wf.size_pos e.2)⟩
    rw [hpe, hgrow e.2 (Nat.le_of_lt e1) e2 (hp4 e he) e3, hsizeN, ← Nat.add_assoc, e3]
  have hold_ne : ∀ a, a < N0 → a ≠ h.next := fun a ha => Nat.ne_of_lt (Nat.lt_trans ha hlt)
  refine ⟨w2, { wf := hwf2, strs := fun n hn => ?strs, lt := hnext ▸ Nat.lt_succ_of_lt hlt, root := ?root,
                clone_tree := fun m hm1 hm2 => ?clone_tree, clone_pos := fun m hm1 hm2 => ?clone_pos, size_root := ?size_root,
                old_tree := fun a ha => ?old_tree, frame := fun a ha => ?frame, stack := ?stack, sorted := ?sorted, len := ?len,
                img := fun i d' hi => ?img }⟩
  case strs =>
    have hn' : h.next < n := by rw [hnext] at hn; exact hn
    rw [hkind, if_neg (Nat.ne_of_gt hn')]
    exact inv.strs n (Nat.le_of_lt hn')
  case root =>
    rw [hpar, if_neg (Nat.ne_of_lt hlt)]
    exact inv.root
  case clone_tree =>
    by_cases hm : m = h.next
    · rw [hm, ct, htp]
    · rw [(hold m hm).1]; exact inv.clone_tree m hm1 (hold_lt m hm2 hm)
  case clone_pos =>
    by_cases hm : m = h.next
    · rw [hm, cp, hp3, inv.size_root]
    · rw [(hold m hm).2.1]; exact inv.clone_pos m hm1 (hold_lt m hm2 hm)
  case size_root =>
    rw [hsizeN, inv.size_root, hnext, Nat.succ_sub (Nat.le_of_lt hlt)]
  case old_tree =>
    rw [(hold a (hold_ne a ha)).1]; exact inv.old_tree a ha
  case frame =>
    have hane := hold_ne a ha
    have hap : a ≠ p := Nat.ne_of_lt (Nat.lt_of_lt_of_le ha hp1)
    obtain ⟨f1, f2, f3, f4⟩ := hfr a (htp ▸ Nat.ne_of_lt (inv.old_tree a ha)) hane
    rw [hpar, hkids, hkind, hval, if_neg hane, if_neg hap, if_neg hane, if_neg hane, f1, f2, f3, f4]
    exact inv.frame a ha
  case stack =>
    refine forall_mem_ite_cons (fun _ => ⟨hlt, hnext ▸ Nat.lt_succ_self _, by rw [cp, cs, hp3, hsizeN]⟩) fun e he => ?_
    obtain ⟨hgt, hlt', _, hend, _⟩ := hopen e he
    exact ⟨hgt, hnext ▸ Nat.lt_succ_of_lt hlt', hend⟩
  case sorted =>
    refine pairwise_ite_cons (fun e he => ?_) ((inv.sorted.sublist hsuf.sublist).imp_of_mem fun {a b} ha hb hab => ?_)
    · obtain ⟨_, _, hpos, _, hin⟩ := hopen e he
      rw [hpos, cp, hp3]; exact hin
    · obtain ⟨_, _, hpa, _, _⟩ := hopen a ha
      obtain ⟨_, _, hpb, _, _⟩ := hopen b hb
      rw [hpa, hpb]; exact hab
  case len =>
    rw [List.length_append, List.length_singleton, inv.len, hnext, Nat.succ_sub (Nat.le_of_lt hlt)]
  case img =>
    have hnx : N0 + srcs.length = h.next := by rw [inv.len, Nat.add_sub_of_le (Nat.le_of_lt hlt)]
    rw [hkind, hval]
    rcases getElem?_snoc hi with hi | ⟨rfl, rfl⟩
    · have hne : N0 + i ≠ h.next := fun e =>
        Nat.ne_of_lt (List.getElem?_eq_some_iff.mp hi).1 (Nat.add_left_cancel (e.trans hnx.symm))
      rw [if_neg hne, if_neg hne]
      exact inv.img i d' hi
    · rw [if_pos hnx, if_pos hnx]
      exact ⟨hkd, hvd⟩

end BS.Heap
