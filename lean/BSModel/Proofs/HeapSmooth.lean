import BSModel.Model.HeapSmooth
import BSModel.Proofs.HeapEffects
import BSModel.Proofs.HeapIter
/-! # C02: `smooth()` has exactly its documented effect

On lists: the procedure "mark the indices `i` where items `i`, `i+1` are both strings; for the marks in reverse order
merge items `i`, `i+1`" computes `squash` (proved with the identities of the children, `squashId`; the plain statement
is its image under `map Prod.snd`). On the heap: one iteration of the merge loop of `_smooth_children` (`extract`;
allocate; `replace_with`) is `mergeAtId` on the children list and touches no other children list; the loop is the fold;
`smoothChildren` is `squashId`; `smooth` is `squashId` on every tag of the subtree. Core Lean only. -/
namespace BS.Heap

/-- indices `i` with `l[i]`, `l[i+1]` both strings (what `smoothMarks` computes on the view); the first argument is the
    index of the head of the list, 0 at top level -/
def marks : Nat → List Item → List Nat
  | _, [] => []
  | _, [_] => []
  | i, a :: b :: rest =>
    let tl := marks (i + 1) (b :: rest)
    if a.isStr ∧ b.isStr then i :: tl else tl

/-- merge items `i` and `i+1` (both strings) into one -/
def mergeAt : List Item → Nat → List Item
  | .str a :: .str b :: rest, 0 => .str (a ++ b) :: rest
  | l, 0 => l
  | x :: rest, i + 1 => x :: mergeAt rest i
  | [], _ => []

theorem marks_shift : ∀ (l : List Item) (i : Nat), marks (i + 1) l = (marks i l).map (· + 1) := by
  intro l
  induction l with
  | nil => intro i; simp [marks]
  | cons a t ih =>
    intro i
    cases t with
    | nil => simp [marks]
    | cons b rest =>
      simp only [marks]
      rw [ih (i + 1)]
      split <;> simp

theorem mergeAt_cons_succ (a : Item) (tl : List Item) (m : Nat) : mergeAt (a :: tl) (m + 1) = a :: mergeAt tl m := by
  cases a <;> cases tl <;> simp [mergeAt]

theorem foldl_shift (a : Item) : ∀ (ms : List Nat) (tl : List Item),
    (ms.map (· + 1)).foldl mergeAt (a :: tl) = a :: ms.foldl mergeAt tl := by
  intro ms
  induction ms with
  | nil => intro tl; rfl
  | cons m ms ih =>
    intro tl
    simp only [List.map_cons, List.foldl_cons]
    rw [mergeAt_cons_succ, ih]

/-! ### the two equations that pin `squash` down, and its observable consequences -/

/-- a child that is not a plain string separates: the two sides are smoothed independently and it stays where it is -/
theorem squash_split (l₁ l₂ : List Item) (k : Nat) :
    squash (l₁ ++ .other k :: l₂) = squash l₁ ++ .other k :: squash l₂ := by
  induction l₁ with
  | nil => rfl
  | cons a l ih =>
    simp only [List.cons_append, squash, ih]
    cases a with
    | other j => rfl
    | str av =>
      cases squash l with
      | nil => rfl
      | cons c r => cases c <;> rfl

/-- a non-empty run of plain strings becomes one string: the concatenation -/
theorem squash_run : ∀ (v : PStr) (vs : List PStr), squash ((v :: vs).map Item.str) = [.str (v :: vs).flatten] := by
  intro v vs
  induction vs generalizing v with
  | nil => simp [squash, squashCons]
  | cons u us ih =>
    have := ih u
    simp only [List.map_cons, squash] at this ⊢
    rw [this]
    simp [squashCons]

theorem squashCons_noAdj (x : Item) (r : List Item) (hr : NoAdjStr r) : NoAdjStr (squashCons x r) := by
  cases r with
  | nil => cases x <;> simp [squashCons, NoAdjStr]
  | cons c r' =>
    cases x with
    | other k => exact ⟨by simp [Item.isStr], hr⟩
    | str a =>
      cases c with
      | other j => exact ⟨by simp [Item.isStr], hr⟩
      | str b =>
        simp only [squashCons]
        cases r' with
        | nil => trivial
        | cons d r'' => exact ⟨by have := hr.1; simpa [Item.isStr] using this, hr.2⟩

/-- afterwards no two adjacent children are plain strings -/
theorem squash_noAdj (l : List Item) : NoAdjStr (squash l) := by
  induction l with
  | nil => trivial
  | cons a t ih => exact squashCons_noAdj a _ ih

theorem squashCons_strCat (x : Item) (r : List Item) : strCat (squashCons x r) = strCat (x :: r) := by
  cases x with
  | other k => rfl
  | str a =>
    cases r with
    | nil => rfl
    | cons c r' => cases c <;> simp [squashCons, strCat]

/-- no text is lost, duplicated or reordered -/
theorem squash_strCat (l : List Item) : strCat (squash l) = strCat l := by
  induction l with
  | nil => rfl
  | cons a t ih =>
    simp only [squash]
    rw [squashCons_strCat]
    cases a <;> simp [strCat, ih]

theorem squashCons_others (x : Item) (r : List Item) : others (squashCons x r) = others (x :: r) := by
  cases x with
  | other k => rfl
  | str a =>
    cases r with
    | nil => rfl
    | cons c r' => cases c <;> simp [squashCons, others]

/-- the children that are not plain strings are the same objects, in the same order -/
theorem squash_others (l : List Item) : others (squash l) = others l := by
  induction l with
  | nil => rfl
  | cons a t ih =>
    simp only [squash]
    rw [squashCons_others]
    cases a <;> simp [others, ih]

/-- a list without adjacent plain strings is left alone -/
theorem squash_of_noAdj : ∀ (l : List Item), NoAdjStr l → squash l = l := by
  intro l
  induction l with
  | nil => intro _; rfl
  | cons a t ih =>
    intro hn
    cases t with
    | nil => cases a <;> rfl
    | cons b rest =>
      have := ih hn.2
      simp only [squash] at this ⊢
      rw [this]
      cases a with
      | other k => rfl
      | str av =>
        cases b with
        | other j => rfl
        | str bv => exact absurd ⟨rfl, rfl⟩ hn.1

theorem squash_idem (l : List Item) : squash (squash l) = squash l := squash_of_noAdj _ (squash_noAdj l)

/-- items `m`, `m+1` exist and are both strings -/
def StrPairAt (l : List Item) (m : Nat) : Prop := ∃ a b, l[m]? = some (.str a) ∧ l[m + 1]? = some (.str b)

/-- every mark, at the moment it is used, points at two strings -/
def MarksOK (l : List Item) : List Nat → Prop
  | [] => True
  | i :: is => StrPairAt l i ∧ MarksOK (mergeAt l i) is

theorem split_two {α : Type} (l : List α) (i : Nat) (a b : α) (h1 : l[i]? = some a) (h2 : l[i + 1]? = some b) :
    ∃ pre post, l = pre ++ a :: b :: post ∧ pre.length = i := by
  obtain ⟨hi, rfl⟩ := List.getElem?_eq_some_iff.mp h1
  obtain ⟨hi', rfl⟩ := List.getElem?_eq_some_iff.mp h2
  refine ⟨l.take i, l.drop (i + 2), ?_, List.length_take_of_le (Nat.le_of_lt hi)⟩
  rw [← List.drop_eq_getElem_cons hi', ← List.drop_eq_getElem_cons hi, List.take_append_drop]

theorem mergeAt_append (l₁ : List Item) (a b : PStr) (l₂ : List Item) :
    mergeAt (l₁ ++ .str a :: .str b :: l₂) l₁.length = l₁ ++ .str (a ++ b) :: l₂ := by
  induction l₁ with
  | nil => rfl
  | cons x l ih => simp only [List.cons_append, List.length_cons, mergeAt_cons_succ, ih]

theorem strPairAt_mergeAt {l : List Item} {i j : Nat} (hi : StrPairAt l i) (hj : StrPairAt l j) (hlt : j < i) :
    StrPairAt (mergeAt l i) j := by
  obtain ⟨a, b, h1, h2⟩ := hi
  obtain ⟨pre, post, rfl, rfl⟩ := split_two _ _ _ _ h1 h2
  obtain ⟨c, d, h3, h4⟩ := hj
  rw [mergeAt_append]
  rw [List.getElem?_append_left hlt] at h3
  by_cases he : j + 1 < pre.length
  · rw [List.getElem?_append_left he] at h4
    exact ⟨c, d, by rw [List.getElem?_append_left hlt]; exact h3, by rw [List.getElem?_append_left he]; exact h4⟩
  · have e : j + 1 = pre.length := by omega
    exact ⟨c, a ++ b, by rw [List.getElem?_append_left hlt]; exact h3, by rw [e]; simp⟩

theorem marksOK_of_sorted : ∀ (ms : List Nat) (l : List Item), ms.Pairwise (· > ·) → (∀ m ∈ ms, StrPairAt l m) →
    MarksOK l ms := by
  intro ms
  induction ms with
  | nil => intro l _ _; trivial
  | cons i is ih =>
    intro l hs hp
    have hs' := List.pairwise_cons.mp hs
    refine ⟨hp i (by simp), ih _ hs'.2 ?_⟩
    intro m hm
    exact strPairAt_mergeAt (hp i (by simp)) (hp m (by simp [hm])) (hs'.1 m hm)

theorem marks_mem : ∀ (l : List Item) (m : Nat), m ∈ marks 0 l → StrPairAt l m := by
  intro l
  induction l with
  | nil => intro m h; simp [marks] at h
  | cons a t ih =>
    intro m h
    cases t with
    | nil => simp [marks] at h
    | cons b rest =>
      simp only [marks, marks_shift _ 0] at h
      have tl : m ∈ (marks 0 (b :: rest)).map (· + 1) → StrPairAt (a :: b :: rest) m := by
        intro hm
        obtain ⟨m', hm', rfl⟩ := List.mem_map.mp hm
        exact ih m' hm'
      split at h
      · rename_i hc
        rcases List.mem_cons.mp h with rfl | hm
        · -- `hc` leaves only the case of two strings
          match a, b, hc with
          | .str av, .str bv, _ => exact ⟨av, bv, rfl, rfl⟩
        · exact tl hm
      · exact tl h

theorem marks_sorted : ∀ (l : List Item), (marks 0 l).Pairwise (· < ·) := by
  intro l
  induction l with
  | nil => simp [marks]
  | cons a t ih =>
    cases t with
    | nil => simp [marks]
    | cons b rest =>
      simp only [marks, marks_shift _ 0]
      have tl := ih.map (· + 1) (fun _ _ h => Nat.succ_lt_succ h)
      split
      · exact List.pairwise_cons.mpr ⟨fun m hm => by obtain ⟨m', _, rfl⟩ := List.mem_map.mp hm; omega, tl⟩
      · exact tl

/-- processing the marks in reverse order keeps every one of them valid -/
theorem marksOK_marks (l : List Item) : MarksOK l (marks 0 l).reverse := by
  apply marksOK_of_sorted
  · rw [List.pairwise_reverse]; exact marks_sorted l
  · intro m hm
    exact marks_mem l m (List.mem_reverse.mp hm)

theorem item_isStr (h : Heap) (k : Nat) : (item h k).isStr = true ↔ h.kind k = .str := by
  unfold item; split <;> simp [Item.isStr, *]

/-- the marking pass of `_smooth_children` reads nothing but the view -/
theorem smoothMarks_eq (h : Heap) : ∀ (l : List Nat) (k : Nat), smoothMarks h k l = marks k (l.map (item h)) := by
  intro l
  induction l with
  | nil => intro k; rfl
  | cons a t ih =>
    intro k
    cases t with
    | nil => rfl
    | cons b rest =>
      simp only [smoothMarks, List.map_cons, marks]
      rw [ih (k + 1)]
      simp only [List.map_cons, item_isStr]

theorem smoothChildren_eq (h : Heap) (t : Nat) :
    smoothChildren h t = smoothMerge h t (marks 0 (view h t)).reverse := by
  unfold smoothChildren; rw [smoothMarks_eq]; rfl

theorem item_congr {h h' : Heap} {k : Nat} (hk : h'.kind k = h.kind k) (hv : h'.val k = h.val k) :
    item h' k = item h k := by
  unfold item; rw [hk, hv]

/-- `_insert` of a parentless element is the linking part alone: no class, no text, no allocation counter changes,
    and only the element's own parent field does -/
theorem insertCore_root_linked {h h' : Heap} {p pos x : Nat} (hroot : h.parent x = none)
    (hc : insertCore h p pos x = .ok h') :
    h'.kind = h.kind ∧ h'.val = h.val ∧ h'.next = h.next ∧
    (∀ j, h'.parent j = if j = x then some p else h.parent j) := by
  rw [insertCore_root hroot] at hc
  split at hc
  · cases hc
  split at hc
  · cases hc
  obtain ⟨h'', g, e, _, _, hl⟩ := linkChild_linked h p (min pos (h.kids p).length) x (Nat.min_le_right _ _)
  rw [e] at hc; cases hc
  exact ⟨hl.kind, hl.val, hl.next, hl.parent⟩

/-- `x.replace_with(y)` for a parentless `y`: classes, texts and the allocation counter are untouched; `x` loses its
    parent, `y` gets it, no other parent field changes -/
theorem replaceWith_root_frame {h h' : Heap} {x y p : Nat} (hg : Good h) (hp : h.parent x = some p)
    (hy : h.kind y ≠ .soup) (hxy : y ≠ x) (hyr : h.parent y = none)
    (hr : replaceWith h x [.node y] = .ok h') :
    h'.kind = h.kind ∧ h'.val = h.val ∧ h'.next = h.next ∧
    (∀ j, h'.parent j = if j = y then some p else if j = x then none else h.parent j) := by
  obtain ⟨_, hk, hv, hn, _, _, hpa⟩ := replaceWith_one_spec hg hp hy hxy (good_root_not_kid hg hyr p) hr
  exact ⟨hk, hv, hn, hpa⟩

/-- **one iteration of the merge loop** (`b.extract(); n = NavigableString(a + b); a.replace_with(n)`) on two adjacent
    children `a`, `b` of `t`: the pair is replaced, in place, by ONE new object — the next unused identity, a plain string
    whose text is the concatenation; no other children list changes; no existing object changes class or text; `a` and
    `b` come back detached, no other parent field changes -/
theorem smooth_step {h h1 h3 : Heap} {t a b : Nat} {pre post : List Nat} (hg : Good2 h)
    (hk : h.kids t = pre ++ a :: b :: post) (he : extract h b = .ok h1)
    (hr : replaceWith (alloc h1 .str (h1.val a ++ h1.val b)).1 a
      [.node (alloc h1 .str (h1.val a ++ h1.val b)).2] = .ok h3) :
    Good2 h3 ∧ h3.kids t = pre ++ h.next :: post ∧ (∀ q, q ≠ t → h3.kids q = h.kids q) ∧
    h3.next = h.next + 1 ∧ h3.kind h.next = .str ∧ h3.val h.next = h.val a ++ h.val b ∧
    (∀ k, k ≠ h.next → h3.kind k = h.kind k ∧ h3.val k = h.val k) ∧
    (∀ k, h3.parent k = if k = h.next then some t else if k = a ∨ k = b then none else h.parent k) := by
  have hnd := good_kids_nodup hg.1 t
  rw [hk] at hnd
  have hamem : a ∈ h.kids t := by rw [hk]; simp
  have hat := (good_mem_kids_iff hg.1).mp hamem
  have hbt : h.parent b = some t := (good_mem_kids_iff hg.1).mp (by rw [hk]; simp)
  have hnd2 := List.nodup_append.mp hnd
  have habp := List.nodup_cons.mp hnd2.2.1
  have hapre : a ∉ pre := not_mem_of_nodup_middle hnd
  have hbpre : b ∉ pre := fun hm => hnd2.2.2 b hm b (by simp) rfl
  have hab : a ≠ b := fun e => habp.1 (by simp [e])
  have hapost : a ∉ post := fun hm => habp.1 (by simp [hm])
  have hother : ∀ c q, h.parent c = some t → q ≠ t → c ∉ h.kids q := fun _ _ => good_not_mem_kids hg.1
  -- `b.extract()`
  obtain ⟨e1, hkids1, hpar1, hkind1, hval1, hnext1⟩ := extract_effect2 hg he
  have hk1t : h1.kids t = pre ++ a :: post := by
    rw [hkids1 t, hk, List.erase_append_right _ hbpre]
    simp [hab]
  -- `NavigableString(a + b)`
  -- the text is named so that it stays one term through `alloc`
  generalize hv : h1.val a ++ h1.val b = v at hr
  have e2 := alloc_good2 e1.1 .str v (Or.inl rfl)
  obtain ⟨_, hap, hak, han, hakn, hako⟩ := alloc_fields h1 .str v
  -- `(alloc …).2` is `h1.next`
  have hr : replaceWith (alloc h1 .str v).1 a [.node h1.next] = .ok h3 := hr
  have hval2 : ∀ k, (alloc h1 .str v).1.val k = if k = h1.next then v else h1.val k := fun k => rfl
  -- `a.replace_with(n)`
  have halt : a < h.next := good_kid_lt_next hg.1 hamem
  have hnew : h1.next ≠ a := by omega   -- `a` is allocated, the new id is not
  have hfresh1 : ∀ q, h1.next ∉ h1.kids q := fun q hm => by have := good_kid_lt_next e1.1.1 hm; omega
  obtain ⟨hg3, fk, fv, fn, hk3t, hk3o, fp⟩ := replaceWith_one_spec e2.1.1
    (by rw [hap, hpar1 a, if_neg hab]; exact hat) (by rw [hakn]; decide) hnew
    (by rw [hak]; exact hfresh1 t) hr
  refine ⟨(Succ.of_kind_eq e2.1 hg3 fk fn).1, ?_, ?_, ?_, ?_, ?_, ?_, ?_⟩
  · -- the children of `t`
    rw [hk3t, hak, hk1t, List.map_append, List.map_cons, map_replace_of_not_mem pre hapre,
      map_replace_of_not_mem post hapost, hnext1]
    simp
  · -- the other children lists
    intro q hq
    rw [hk3o q hq, hak, hkids1 q, List.erase_of_not_mem (hother b q hbt hq), List.erase_of_not_mem (hother a q hat hq)]
    apply List.erase_of_not_mem
    have := hfresh1 q
    rwa [hkids1 q, List.erase_of_not_mem (hother b q hbt hq)] at this
  · -- the counter; class and text of the new string
    rw [fn, han, hnext1]
  · rw [fk, ← hnext1]; exact hakn
  · rw [fv, ← hnext1, hval2, if_pos rfl, ← hv, hval1]
  · -- classes and texts of the old objects
    intro k hk'
    rw [← hnext1] at hk'
    exact ⟨by rw [fk, hako k hk', hkind1], by rw [fv, hval2, if_neg hk', hval1]⟩
  · -- parents
    intro k
    rw [fp k, hap, hpar1 k, hnext1]
    have han' : a ≠ h.next := by omega
    by_cases hkn : k = h.next
    · simp [hkn]
    · by_cases hka : k = a
      · simp [hka, han']
      · by_cases hkb : k = b <;> simp [hkn, hka, hkb]

/-- `mergeAt` on a list with identities: merge items `i` and `i+1` (both strings) into one new object `n` -/
def mergeAtL : List IItem → Nat → Nat → List IItem
  | (_, .str a) :: (_, .str b) :: rest, 0, n => (n, .str (a ++ b)) :: rest
  | l, 0, _ => l
  | x :: rest, i + 1, n => x :: mergeAtL rest i n
  | [], _, _ => []

/-- one iteration of the loop on (children with identities, allocation counter) -/
def mergeAtId (s : List IItem × Nat) (i : Nat) : List IItem × Nat := (mergeAtL s.1 i s.2, s.2 + 1)

/-- `_smooth_children` on children with identities, from the counter `n` -/
def smoothPureId (n : Nat) (l : List IItem) : List IItem × Nat :=
  (marks 0 (l.map Prod.snd)).reverse.foldl mergeAtId (l, n)

theorem mergeAtL_cons_succ (a : IItem) (tl : List IItem) (m n : Nat) :
    mergeAtL (a :: tl) (m + 1) n = a :: mergeAtL tl m n := by
  obtain ⟨ia, a⟩ := a
  cases a <;> cases tl <;> simp [mergeAtL]

theorem foldl_shift_id (a : IItem) : ∀ (ms : List Nat) (s : List IItem × Nat),
    (ms.map (· + 1)).foldl mergeAtId (a :: s.1, s.2) =
      (a :: (ms.foldl mergeAtId s).1, (ms.foldl mergeAtId s).2) := by
  intro ms
  induction ms with
  | nil => intro s; rfl
  | cons m ms ih =>
    intro s
    simp only [List.map_cons, List.foldl_cons]
    have : mergeAtId (a :: s.1, s.2) (m + 1) = (a :: (mergeAtId s m).1, (mergeAtId s m).2) := by
      simp only [mergeAtId, mergeAtL_cons_succ]
    rw [this, ih]

theorem smoothPureId_cons2 (n : Nat) (a b : IItem) (rest : List IItem) :
    smoothPureId n (a :: b :: rest) =
      (if a.2.isStr ∧ b.2.isStr then
        mergeAtId (a :: (smoothPureId n (b :: rest)).1, (smoothPureId n (b :: rest)).2) 0
       else (a :: (smoothPureId n (b :: rest)).1, (smoothPureId n (b :: rest)).2)) := by
  unfold smoothPureId
  simp only [List.map_cons, marks]
  rw [marks_shift (b.2 :: rest.map Prod.snd) 0]
  split
  · rw [List.reverse_cons, List.foldl_append, ← List.map_reverse]
    have := foldl_shift_id a (marks 0 (b.2 :: rest.map Prod.snd)).reverse (b :: rest, n)
    simp only at this
    rw [this]
    simp
  · rw [← List.map_reverse]
    exact foldl_shift_id a (marks 0 (b.2 :: rest.map Prod.snd)).reverse (b :: rest, n)

/-- **the procedure computes the documented effect, identities and allocation counter included** (lists) -/
theorem smoothPureId_eq_squashId (n : Nat) : ∀ (l : List IItem), smoothPureId n l = squashId n l := by
  intro l
  induction l with
  | nil => rfl
  | cons a t ih =>
    cases t with
    | nil => obtain ⟨ia, a⟩ := a; cases a <;> rfl
    | cons b rest =>
      rw [smoothPureId_cons2, ih]
      obtain ⟨ia, a⟩ := a
      obtain ⟨ib, b⟩ := b
      cases a with
      | other ka =>
        simp only [Item.isStr, Bool.false_eq_true, false_and, if_false]
        rfl
      | str av =>
        cases b with
        | other kb =>
          simp only [Item.isStr, Bool.false_eq_true, and_false, if_false]
          rfl
        | str bv =>
          simp only [Item.isStr, and_self, if_true, squashId]
          rcases squashId n rest with ⟨l, m⟩
          cases l with
          | nil => rfl
          | cons c r =>
            obtain ⟨ic, c⟩ := c
            cases c <;> rfl

theorem map_snd_mergeAtL : ∀ (l : List IItem) (i n : Nat), (mergeAtL l i n).map Prod.snd = mergeAt (l.map Prod.snd) i := by
  intro l
  induction l with
  | nil => intro i n; cases i <;> simp [mergeAtL, mergeAt]
  | cons x l ih =>
    intro i n
    cases i with
    | succ i => rw [mergeAtL_cons_succ, List.map_cons, List.map_cons, mergeAt_cons_succ, ih]
    | zero =>
      obtain ⟨ix, x⟩ := x
      cases x with
      | other k => simp [mergeAtL, mergeAt]
      | str a =>
        cases l with
        | nil => simp [mergeAtL, mergeAt]
        | cons y l' =>
          obtain ⟨iy, y⟩ := y
          cases y <;> simp [mergeAtL, mergeAt]

theorem mergeAtL_append (l₁ : List IItem) (ia ib n : Nat) (a b : PStr) (l₂ : List IItem) :
    mergeAtL (l₁ ++ (ia, .str a) :: (ib, .str b) :: l₂) l₁.length n = l₁ ++ (n, .str (a ++ b)) :: l₂ := by
  induction l₁ with
  | nil => rfl
  | cons x l ih => simp only [List.cons_append, List.length_cons, mergeAtL_cons_succ, ih]

theorem squashIdCons_snd (x : IItem) (r : List IItem × Nat) :
    (squashIdCons x r).1.map Prod.snd = squashCons x.2 (r.1.map Prod.snd) := by
  obtain ⟨ix, x⟩ := x
  obtain ⟨l, n⟩ := r
  cases x with
  | other k => rfl
  | str a =>
    cases l with
    | nil => rfl
    | cons c l' =>
      obtain ⟨ic, c⟩ := c
      cases c <;> rfl

/-- forgetting the identities gives `squash` -/
theorem squashId_snd (n : Nat) : ∀ (l : List IItem), (squashId n l).1.map Prod.snd = squash (l.map Prod.snd) := by
  intro l
  induction l with
  | nil => rfl
  | cons x rest ih =>
    simp only [squashId, List.map_cons, squash]
    rw [squashIdCons_snd, ih]

/-- the procedure of `_smooth_children` on the view -/
def smoothPure (l : List Item) : List Item := (marks 0 l).reverse.foldl mergeAt l

/-- forgetting the identities turns the loop on identified children into the loop on the view -/
theorem foldl_mergeAtId_snd : ∀ (ms : List Nat) (s : List IItem × Nat),
    (ms.foldl mergeAtId s).1.map Prod.snd = ms.foldl mergeAt (s.1.map Prod.snd) := by
  intro ms
  induction ms with
  | nil => intro s; rfl
  | cons m ms ih => intro s; rw [List.foldl_cons, ih, List.foldl_cons, mergeAtId, map_snd_mergeAtL]

/-- **the procedure computes the documented effect** (lists): the identity-carrying statement, identities forgotten -/
theorem smoothPure_eq_squash : ∀ (l : List Item), smoothPure l = squash l := by
  intro l
  have hl : (l.map (fun x => ((0 : Nat), x))).map Prod.snd = l := by rw [List.map_map]; exact List.map_id _
  have h1 := foldl_mergeAtId_snd (marks 0 l).reverse (l.map (fun x => ((0 : Nat), x)), 0)
  have h2 := smoothPureId_eq_squashId 0 (l.map (fun x => ((0 : Nat), x)))
  unfold smoothPureId at h2
  rw [hl] at h2
  rw [h2, squashId_snd, hl] at h1
  exact h1.symm

/-- the allocation counter only grows, and every identity in the result is an old one or was allocated in between -/
theorem squashId_counter (n : Nat) : ∀ (l : List IItem), n ≤ (squashId n l).2 ∧
    ∀ x ∈ (squashId n l).1, x ∈ l ∨ (n ≤ x.1 ∧ x.1 < (squashId n l).2) := by
  intro l
  induction l with
  | nil => exact ⟨Nat.le_refl _, fun x hx => by cases hx⟩
  | cons a rest ih =>
    simp only [squashId]
    rcases hq : squashId n rest with ⟨r, m⟩
    rw [hq] at ih
    obtain ⟨hnm, hmem⟩ := ih
    have generic : ∀ x ∈ a :: r, x ∈ a :: rest ∨ (n ≤ x.1 ∧ x.1 < m) := fun x hx => by
      rcases List.mem_cons.mp hx with rfl | hx'
      · exact Or.inl (List.mem_cons_self ..)
      · exact (hmem x hx').imp (List.mem_cons_of_mem _) id
    obtain ⟨ia, a⟩ := a
    cases a with
    | other k => exact ⟨hnm, generic⟩
    | str av =>
      cases r with
      | nil => exact ⟨hnm, generic⟩
      | cons c r' =>
        obtain ⟨ic, c⟩ := c
        cases c with
        | other k => exact ⟨hnm, generic⟩
        | str cv =>
          -- the merged string is new, the rest as before
          refine ⟨Nat.le_succ_of_le hnm, fun x hx => ?_⟩
          rcases List.mem_cons.mp hx with rfl | hx'
          · exact Or.inr ⟨hnm, Nat.lt_succ_self m⟩
          · exact (generic x (List.mem_cons_of_mem _ (List.mem_cons_of_mem _ hx'))).imp id
              fun hn => ⟨hn.1, Nat.lt_succ_of_lt hn.2⟩

/-- what a smoothing pass over the tags in `S` leaves alone: the children list of every other object; the class and text
    of every existing object; every parent field except that of plain strings directly beneath a tag in `S` (the merged
    ones come back detached); everything it allocates is a plain string -/
structure SmoothFrame (h h' : Heap) (S : Nat → Prop) : Prop where
  others : ∀ q, ¬ S q → h'.kids q = h.kids q
  next : h.next ≤ h'.next
  old : ∀ k, k < h.next → h'.kind k = h.kind k ∧ h'.val k = h.val k
  newStr : ∀ k, h.next ≤ k → k < h'.next → h'.kind k = .str
  parent : ∀ k, k < h.next → h'.parent k = h.parent k ∨
    (∃ q, S q ∧ h.parent k = some q ∧ h.kind k = .str ∧ h'.parent k = none)

theorem SmoothFrame.refl (h : Heap) (S : Nat → Prop) : SmoothFrame h h S :=
  ⟨fun _ _ => rfl, Nat.le_refl _, fun _ _ => ⟨rfl, rfl⟩, fun k h1 h2 => by omega, fun _ _ => Or.inl rfl⟩

theorem SmoothFrame.mono {h h' : Heap} {S S' : Nat → Prop} (hs : ∀ q, S q → S' q) (f : SmoothFrame h h' S) :
    SmoothFrame h h' S' :=
  ⟨fun q hq => f.others q (fun hh => hq (hs q hh)), f.next, f.old, f.newStr,
    fun k hk => (f.parent k hk).imp id (fun ⟨q, h1, h2⟩ => ⟨q, hs q h1, h2⟩)⟩

theorem SmoothFrame.trans {h h1 h' : Heap} {S : Nat → Prop} (f : SmoothFrame h h1 S) (g : SmoothFrame h1 h' S) :
    SmoothFrame h h' S := by
  constructor
  case others =>
    intro q hq; rw [g.others q hq, f.others q hq]
  case next =>
    exact Nat.le_trans f.next g.next
  case old =>
    intro k hk
    have a := f.old k hk
    have b := g.old k (Nat.lt_of_lt_of_le hk f.next)
    exact ⟨b.1.trans a.1, b.2.trans a.2⟩
  case newStr =>
    intro k h1k h2k
    by_cases hlt : k < h1.next
    · rw [(g.old k hlt).1]; exact f.newStr k h1k hlt
    · exact g.newStr k (by omega) h2k
  case parent =>
    intro k hk
    have hk1 : k < h1.next := Nat.lt_of_lt_of_le hk f.next
    rcases f.parent k hk with a | ⟨q, sq, hp, hkd, hn⟩
    · rcases g.parent k hk1 with b | ⟨q, sq, hp, hkd, hn⟩
      · exact Or.inl (b.trans a)
      · exact Or.inr ⟨q, sq, by rw [← a]; exact hp, by rw [← (f.old k hk).1]; exact hkd, hn⟩
    · rcases g.parent k hk1 with b | ⟨q', _, hp', _, hn'⟩
      · exact Or.inr ⟨q, sq, hp, hkd, b.trans hn⟩
      · exact Or.inr ⟨q, sq, hp, hkd, hn'⟩

theorem idView_snd (h : Heap) (t : Nat) : (idView h t).map Prod.snd = view h t := by
  unfold idView view; rw [List.map_map]; rfl

theorem idView_fst (h : Heap) (t : Nat) : (idView h t).map Prod.fst = h.kids t := by
  unfold idView; rw [List.map_map]; exact List.map_id _

theorem idView_congr {h h' : Heap} {q : Nat} (hk : h'.kids q = h.kids q)
    (hkv : ∀ k ∈ h.kids q, h'.kind k = h.kind k ∧ h'.val k = h.val k) : idView h' q = idView h q := by
  unfold idView; rw [hk]
  apply List.map_congr_left
  intro k hk'
  rw [item_congr (hkv k hk').1 (hkv k hk').2]

theorem item_str_iff {h : Heap} {k : Nat} {v : PStr} : item h k = .str v ↔ h.kind k = .str ∧ h.val k = v := by
  unfold item
  split
  · rename_i hk; simp [hk]
  · rename_i hk; simp [hk]

/-- the parent walk can only answer "yes" at the start or by arriving from a child -/
theorem isAnc_true_imp (h : Heap) (a : Nat) : ∀ (f x : Nat), isAnc h a f x = true → x = a ∨ ∃ c, h.parent c = some a := by
  intro f x hx
  apply Classical.byContradiction
  intro hn
  rw [isAnc_childless h a (fun c hc => hn (Or.inr ⟨c, hc⟩)) f x (fun e => hn (Or.inl e))] at hx
  cases hx

/-- `x.replace_with(y)` for an attached `x` and an allocated, parentless, childless `y` never fails -/
theorem replaceWith_root_total {h : Heap} {x y p : Nat} (hg : Good h) (hp : h.parent x = some p)
    (hy : h.kind y ≠ .soup) (hxy : y ≠ x) (hyr : h.parent y = none) (hyk : h.kids y = []) (hyn : y < h.next) :
    ∃ h', replaceWith h x [.node y] = .ok h' := by
  have hxmem := (good_mem_kids_iff hg).mpr hp
  have hyp : y ≠ p := by intro e; subst e; rw [hyk] at hxmem; cases hxmem
  obtain ⟨i, hidx⟩ := indexOf_of_mem hxmem
  obtain ⟨h1, he⟩ := extract_total x hg
  obtain ⟨_, _, hpar1, hkind1, _, hnext1⟩ := extract_good hg he
  have hnc1 : ∀ c, h1.parent c ≠ some y := by
    intro c hc
    rw [hpar1 c] at hc
    split at hc
    · cases hc
    · have := (good_mem_kids_iff hg).mpr hc; rw [hyk] at this; cases this
  obtain ⟨h3, hi3, _⟩ := insert_root_total (i := i) (by rw [hkind1]; exact hy) (by rw [hpar1]; simp [hyr]) hyp hnc1
    (by rw [hnext1]; exact hyn) (by rw [hnext1]; exact good_parent_lt_next hg hp)
  exact ⟨h3, by simp [replaceWith, hp, hxy, isSelf, hyp, hidx, he, hi3]⟩

theorem view_getElem? {h : Heap} {t i : Nat} {v : Item} (hv : (view h t)[i]? = some v) :
    ∃ a, (h.kids t)[i]? = some a ∧ item h a = v := by
  unfold view at hv
  rw [List.getElem?_map] at hv
  exact Option.map_eq_some_iff.mp hv

/-- one iteration of the merge loop at a valid mark `i` never fails and is `mergeAtId` on (children with identities,
    allocation counter) -/
theorem smoothMerge_step {h : Heap} {t i : Nat} (is : List Nat) (hg : Good2 h) (hok : StrPairAt (view h t) i) :
    ∃ h3, smoothMerge h t (i :: is) = smoothMerge h3 t is ∧
    Good2 h3 ∧ (idView h3 t, h3.next) = mergeAtId (idView h t, h.next) i ∧
    view h3 t = mergeAt (view h t) i ∧ SmoothFrame h h3 (· = t) := by
  obtain ⟨va, vb, hva, hvb⟩ := hok
  obtain ⟨a, hia, hia'⟩ := view_getElem? hva
  obtain ⟨b, hib, hib'⟩ := view_getElem? hvb
  obtain ⟨pre, post, hk, hlen⟩ := split_two _ _ _ _ hia hib
  subst hlen
  have hnd := good_kids_nodup hg.1 t
  rw [hk] at hnd
  have hab : a ≠ b := fun e => (List.nodup_cons.mp (List.nodup_append.mp hnd).2.1).1 (by simp [e])
  have hamem : a ∈ h.kids t := by rw [hk]; simp
  have halt : a < h.next := good_kid_lt_next hg.1 hamem
  -- `b.extract()`, `NavigableString(a + b)` and `a.replace_with(n)` return
  obtain ⟨h1, he⟩ := extract_total b hg.1
  obtain ⟨e1, _, hpar1, _, _, hnext1⟩ := extract_effect2 hg he
  have hfr := good_fresh e1.1.1 (Nat.le_refl h1.next)
  obtain ⟨ha2, hap, hak, han, hakn, _⟩ := alloc_fields h1 .str (h1.val a ++ h1.val b)
  obtain ⟨h3, hr⟩ := replaceWith_root_total (x := a) (y := h1.next) (p := t)
    (alloc_good2 e1.1 .str (h1.val a ++ h1.val b) (Or.inl rfl)).1.1
    (by rw [hap, hpar1 a, if_neg hab]; exact (good_mem_kids_iff hg.1).mp hamem) (by rw [hakn]; decide) (by omega)
    (by rw [hap]; exact hfr.1) (by rw [hak]; exact hfr.2) (by rw [han]; omega)
  rw [← ha2] at hr
  refine ⟨h3, by simp only [smoothMerge, hia, hib, he, hr], ?_⟩
  -- their effect
  obtain ⟨hg3, hk3, hko3, hn3, hkn3, hvn3, hold3, hpar3⟩ := smooth_step hg hk he hr
  have hka := item_str_iff.mp hia'
  have hkb := item_str_iff.mp hib'
  have hlt : ∀ k ∈ h.kids t, k < h.next := fun k hk' => good_kid_lt_next hg.1 hk'
  have hsame : ∀ k ∈ h.kids t, (k, item h3 k) = (k, item h k) := by
    intro k hk'
    have := hold3 k (by have := hlt k hk'; omega)
    rw [item_congr this.1 this.2]
  have hnew : item h3 h.next = .str (va ++ vb) :=
    item_str_iff.mpr ⟨hkn3, by rw [hvn3, hka.2, hkb.2]⟩
  have hid3 : idView h3 t = mergeAtL (idView h t) pre.length h.next := by
    have hm := mergeAtL_append (pre.map (fun k => (k, item h k))) a b h.next va vb
      (post.map (fun k => (k, item h k)))
    rw [List.length_map] at hm
    unfold idView
    rw [hk3, hk, List.map_append, List.map_cons, List.map_append, List.map_cons, List.map_cons, hia', hib',
      hm, hnew]
    congr 1
    · apply List.map_congr_left
      intro k hk'; exact hsame k (by rw [hk]; simp [hk'])
    · congr 1
      apply List.map_congr_left
      intro k hk'; exact hsame k (by rw [hk]; simp [hk'])
  have hview3 : view h3 t = mergeAt (view h t) pre.length := by
    rw [← idView_snd, hid3, map_snd_mergeAtL, idView_snd]
  refine ⟨hg3, by simp only [mergeAtId, hid3, hn3], hview3, ?_⟩
  constructor
  case others =>
    exact hko3
  case next =>
    omega
  case old =>
    intro k hk'; exact hold3 k (by omega)
  case newStr =>
    intro k h1k h2k
    have : k = h.next := by omega
    rw [this]; exact hkn3
  case parent =>
    intro k hk'
    rw [hpar3 k, if_neg (by omega)]
    by_cases hab : k = a ∨ k = b
    · rw [if_pos hab]
      rcases hab with rfl | rfl
      · exact Or.inr ⟨t, rfl, (good_mem_kids_iff hg.1).mp (by rw [hk]; simp), hka.1, rfl⟩
      · exact Or.inr ⟨t, rfl, (good_mem_kids_iff hg.1).mp (by rw [hk]; simp), hkb.1, rfl⟩
    · rw [if_neg hab]; exact Or.inl rfl

/-- the merge loop over marks each of which, when it is used, points at two plain strings — which processing them in
    reverse order guarantees (`marksOK_marks`) — never fails and is the fold of `mergeAtId` -/
theorem smoothMerge_run {t : Nat} : ∀ (ms : List Nat) (h : Heap), Good2 h → MarksOK (view h t) ms →
    ∃ h', smoothMerge h t ms = .ok h' ∧
      (idView h' t, h'.next) = ms.foldl mergeAtId (idView h t, h.next) ∧ Good2 h' ∧ SmoothFrame h h' (· = t) := by
  intro ms
  induction ms with
  | nil => intro h hg _; exact ⟨h, rfl, rfl, hg, SmoothFrame.refl _ _⟩
  | cons i is ih =>
    intro h hg hok
    obtain ⟨hpair, hok'⟩ := hok
    obtain ⟨h3, hs3, hg3, hid3, hview3, fr0⟩ := smoothMerge_step is hg hpair
    rw [← hview3] at hok'
    obtain ⟨h', hs, e, hg', fr⟩ := ih h3 hg3 hok'
    exact ⟨h', hs3.trans hs, by rw [e, List.foldl_cons, hid3], hg', fr0.trans fr⟩

theorem smoothMerge_fold {t : Nat} : ∀ (ms : List Nat) (h h' : Heap), Good2 h → MarksOK (view h t) ms →
    smoothMerge h t ms = .ok h' →
    (idView h' t, h'.next) = ms.foldl mergeAtId (idView h t, h.next) ∧ Good2 h' ∧ SmoothFrame h h' (· = t) := by
  intro ms h h' hg hok hs
  obtain ⟨h'', hs', r⟩ := smoothMerge_run ms h hg hok
  rw [hs'] at hs; cases hs
  exact r

/-- **`_smooth_children`, exactly**: the children list of `t` — identities included — and the allocation counter are
    those of `squashId`; the forest stays consistent; nothing else changes (`SmoothFrame`) -/
theorem smoothChildren_exact {h h' : Heap} {t : Nat} (hg : Good2 h) (hs : smoothChildren h t = .ok h') :
    (idView h' t, h'.next) = squashId h.next (idView h t) ∧ Good2 h' ∧ SmoothFrame h h' (· = t) := by
  rw [smoothChildren_eq] at hs
  obtain ⟨e, hg', fr⟩ := smoothMerge_fold _ h h' hg (marksOK_marks (view h t)) hs
  refine ⟨?_, hg', fr⟩
  rw [e, ← smoothPureId_eq_squashId]
  unfold smoothPureId
  rw [idView_snd]

/-- **`_smooth_children`, as the property sees it**: every maximal run of adjacent plain strings among the children of
    `t` has become one string, the concatenation, and nothing else has moved -/
theorem smoothChildren_effect {h h' : Heap} {t : Nat} (hg : Good2 h) (hs : smoothChildren h t = .ok h') :
    view h' t = squash (view h t) ∧ Good2 h' ∧ SmoothFrame h h' (· = t) := by
  obtain ⟨e, hg', fr⟩ := smoothChildren_exact hg hs
  refine ⟨?_, hg', fr⟩
  have : idView h' t = (squashId h.next (idView h t)).1 := by rw [← e]
  rw [← idView_snd, this, squashId_snd, idView_snd]

theorem smoothChildren_noop {h : Heap} {t : Nat} (hn : NoAdjStr (view h t)) : smoothChildren h t = .ok h := by
  rw [smoothChildren_eq]
  have : ∀ (l : List Item) (k : Nat), NoAdjStr l → marks k l = [] := by
    intro l
    induction l with
    | nil => intro k _; rfl
    | cons a r ih =>
      intro k hl
      cases r with
      | nil => rfl
      | cons b rest =>
        simp only [marks]
        rw [ih (k + 1) hl.2, if_neg hl.1]
  rw [this _ 0 hn]
  rfl

/-- outside the smoothed tags every children list looks exactly as before (same objects, same classes, same texts) -/
theorem SmoothFrame.view_others {h h' : Heap} {S : Nat → Prop} (hg : Good h) (f : SmoothFrame h h' S) {q : Nat}
    (hq : ¬ S q) : idView h' q = idView h q ∧ view h' q = view h q := by
  have e := idView_congr (f.others q hq) (fun k hk => f.old k (good_kid_lt_next hg hk))
  exact ⟨e, by rw [← idView_snd, e, idView_snd]⟩

/-- the walk of any subtree (not only of a whole tree) lists no element twice -/
theorem pre_nodup {h : Heap} {w : Wit} (hwf : WF h w) (t : Nat) : (docOrder h t).Nodup := by
  unfold docOrder; rw [pre_slice hwf t]
  exact (docOrder_nodup hwf (hwf.tree_root t)).sublist ((List.take_sublist _ _).trans (List.drop_sublist _ _))

/-- the loop of `smooth` over distinct tags: each tag's children list is changed by its own pass only -/
theorem smoothAll_effect : ∀ (ts : List Nat) (h h' : Heap), Good2 h → ts.Nodup → smoothAll h ts = .ok h' →
    Good2 h' ∧ SmoothFrame h h' (· ∈ ts) ∧
    (∀ q ∈ ts, ∃ n, h.next ≤ n ∧ idView h' q = (squashId n (idView h q)).1) := by
  intro ts h h' hg hnd hs
  fun_induction smoothAll h ts with
  | case1 => cases hs; exact ⟨hg, SmoothFrame.refl _ _, fun q hq => by cases hq⟩
  | case2 => cases hs
  | case3 h t ts h1 hc ih =>
    obtain ⟨e1, hg1, fr1⟩ := smoothChildren_exact hg hc
    have hnd' := List.nodup_cons.mp hnd
    obtain ⟨hg', fr2, hq2⟩ := ih hg1 hnd'.2 hs
    refine ⟨hg', (fr1.mono ?_).trans (fr2.mono ?_), ?_⟩
    · intro q hq; rw [hq]; simp
    · intro q hq; simp [hq]
    · intro q hq
      rcases List.mem_cons.mp hq with hqt | hq'
      · rw [hqt]
        refine ⟨h.next, Nat.le_refl _, ?_⟩
        have : idView h1 t = (squashId h.next (idView h t)).1 := by rw [← e1]
        rw [← this]
        exact (fr2.view_others hg1.1 hnd'.1).1
      · obtain ⟨n, hn, e⟩ := hq2 q hq'
        refine ⟨n, Nat.le_trans fr1.next hn, ?_⟩
        rw [e]
        rw [(fr1.view_others hg.1 (fun e : q = t => hnd'.1 (e ▸ hq'))).1]

theorem smooth_effect {h h' : Heap} {t : Nat} (hg : Good2 h) (hs : smooth h t = .ok h') :
    Good2 h' ∧ SmoothFrame h h' (· ∈ docOrder h t) ∧
    (∀ q ∈ docOrder h t, ∃ n, h.next ≤ n ∧ idView h' q = (squashId n (idView h q)).1) ∧
    (∀ q ∈ docOrder h t, view h' q = squash (view h q)) := by
  obtain ⟨w, hwf⟩ := hg.1
  obtain ⟨ds, hd, hdo, _⟩ := descendants_docOrder hwf t
  unfold smooth at hs
  simp only [hd] at hs
  have hnd : (t :: ds.filter (fun d => (h.kind d).isTag)).Nodup := by
    have := pre_nodup hwf t; rw [hdo] at this
    have h2 := List.nodup_cons.mp this
    exact List.nodup_cons.mpr ⟨fun hm => h2.1 (List.mem_filter.mp hm).1, h2.2.sublist List.filter_sublist⟩
  obtain ⟨hg', fr, hq⟩ := smoothAll_effect _ h h' hg hnd hs
  have hsub : ∀ q, q ∈ t :: ds.filter (fun d => (h.kind d).isTag) → q ∈ docOrder h t := by
    intro q hq'
    rw [hdo]
    rcases List.mem_cons.mp hq' with rfl | hq''
    · simp
    · exact List.mem_cons_of_mem _ (List.mem_filter.mp hq'').1
  have hid : ∀ q ∈ docOrder h t, ∃ n, h.next ≤ n ∧ idView h' q = (squashId n (idView h q)).1 := by
    intro q hqd
    by_cases hin : q ∈ t :: ds.filter (fun d => (h.kind d).isTag)
    · exact hq _ hin
    · have hnt : (h.kind q).isTag = false := by
        rw [hdo] at hqd
        rcases List.mem_cons.mp hqd with hqt | hq'
        · exact absurd (by rw [hqt]; simp) hin
        · cases hk : (h.kind q).isTag with
          | false => rfl
          | true => exact absurd (List.mem_cons_of_mem _ (List.mem_filter.mpr ⟨hq', by simpa using hk⟩)) hin
      have hk0 : h.kids q = [] := hwf.str_leaf q hnt
      have hk1 : h'.kids q = [] := by rw [fr.others q hin, hk0]
      refine ⟨h.next, Nat.le_refl _, ?_⟩
      simp [idView, hk0, hk1, squashId]
  refine ⟨hg', fr.mono hsub, hid, ?_⟩
  intro q hqd
  obtain ⟨n, _, e⟩ := hid q hqd
  rw [← idView_snd, e, squashId_snd, idView_snd]

theorem smoothChildren_total {h : Heap} (t : Nat) (hg : Good2 h) : ∃ h', smoothChildren h t = .ok h' := by
  rw [smoothChildren_eq]
  obtain ⟨h', hs, _⟩ := smoothMerge_run _ h hg (marksOK_marks (view h t))
  exact ⟨h', hs⟩

theorem smoothAll_total : ∀ (ts : List Nat) (h : Heap), Good2 h → ∃ h', smoothAll h ts = .ok h' := by
  intro ts
  induction ts with
  | nil => intro h _; exact ⟨h, rfl⟩
  | cons t ts ih =>
    intro h hg
    obtain ⟨h1, hc⟩ := smoothChildren_total t hg
    obtain ⟨_, hg1, _⟩ := smoothChildren_exact hg hc
    obtain ⟨h', hs⟩ := ih h1 hg1
    exact ⟨h', by simp only [smoothAll, hc]; exact hs⟩

theorem smooth_total {h : Heap} (t : Nat) (hg : Good2 h) : ∃ h', smooth h t = .ok h' := by
  obtain ⟨w, hwf⟩ := hg.1
  obtain ⟨ds, hd, _, _⟩ := descendants_docOrder hwf t
  obtain ⟨h', hs⟩ := smoothAll_total (t :: ds.filter (fun d => (h.kind d).isTag)) h hg
  exact ⟨h', by unfold smooth; simp only [hd]; exact hs⟩

theorem smoothAll_noop : ∀ (ts : List Nat) (h : Heap), (∀ q ∈ ts, NoAdjStr (view h q)) → smoothAll h ts = .ok h := by
  intro ts
  induction ts with
  | nil => intro h _; rfl
  | cons t ts ih =>
    intro h hn
    simp only [smoothAll, smoothChildren_noop (hn t (by simp))]
    exact ih h (fun q hq => hn q (by simp [hq]))

/-- an existing object that lies beneath `t` after a smoothing pass lay beneath `t` before it: the pass detaches plain
    strings and attaches new ones, it moves no existing object to another parent. `n` bounds `m`'s position in `h'`: induction up
    its parent chain -/
theorem smoothFrame_subtree_old {h h' : Heap} {w w' : Wit} {S : Nat → Prop} (hwf : WF h w) (hwf' : WF h' w')
    (fr : SmoothFrame h h' S) (t : Nat) :
    ∀ (n m : Nat), w'.pos m ≤ n → m < h.next → w'.inSub t m → w.inSub t m := by
  intro n
  induction n with
  | zero =>
    intro m hn hm hin
    by_cases hmt : m = t
    · rw [hmt]; exact inSub_refl hwf t
    · exfalso
      -- position 0: `m` is a root of `h'`, so it has no proper ancestor
      have hr : h'.parent m = none := by
        have := wf_pos_zero hwf' (a := m) (by omega)
        rw [this]; exact hwf'.tree_root m
      exact inSub_root hwf' hr t ⟨fun e => hmt e.symm, hin⟩
  | succ n ih =>
    intro m hn hm hin
    by_cases hmt : m = t
    · rw [hmt]; exact inSub_refl hwf t
    · cases hp' : h'.parent m with
      | none => exact absurd ⟨fun e => hmt e.symm, hin⟩ (inSub_root hwf' hp' t)
      | some p =>
        have hinp : w'.inSub t p := (inSub_parent hwf' hp' t).mp ⟨fun e => hmt e.symm, hin⟩
        have hp : h.parent m = some p := by
          rcases fr.parent m hm with a | ⟨_, _, _, _, hnone⟩
          · rw [← a]; exact hp'
          · rw [hnone] at hp'; cases hp'
        have hpold := good_parent_lt_next ⟨w, hwf⟩ hp
        have hpos := wf_parent_pos hwf' hp'
        have := ih p (by omega) hpold hinp
        exact ((inSub_parent hwf hp t).mpr this).2

theorem smooth_idempotent {h h' : Heap} {t : Nat} (hg : Good2 h) (hs : smooth h t = .ok h') : smooth h' t = .ok h' := by
  obtain ⟨hg', fr, _, hv⟩ := smooth_effect hg hs
  obtain ⟨w, hwf⟩ := hg.1
  obtain ⟨w', hwf'⟩ := hg'.1
  obtain ⟨ds', hd', hdo', _⟩ := descendants_docOrder hwf' t
  unfold smooth
  simp only [hd']
  apply smoothAll_noop
  intro q hq
  have hin : q ∈ docOrder h t := by
    rcases List.mem_cons.mp hq with hqt | hq'
    · rw [hqt]; exact docOrder_self_mem h t
    · obtain ⟨hqd, hqtag⟩ := List.mem_filter.mp hq'
      have hqtag : (h'.kind q).isTag = true := by simpa using hqtag
      have hqd' : q ∈ docOrder h' t := by rw [hdo']; exact List.mem_cons_of_mem _ hqd
      -- a tag of the result is an existing object
      have hold : q < h.next := by
        apply Classical.byContradiction
        intro hge
        have hstr : h'.kind q = .str := by
          by_cases hlt : q < h'.next
          · exact fr.newStr q (by omega) hlt
          · exact hg'.2 q (by omega)
        rw [hstr] at hqtag; cases hqtag
      have := smoothFrame_subtree_old hwf hwf' fr t (w'.pos q) q (Nat.le_refl _) hold
        ((docOrder_mem_inSub hwf' t q).mp hqd')
      exact (docOrder_mem_inSub hwf t q).mpr this
  rw [hv q hin]
  exact squash_noAdj _

end BS.Heap
