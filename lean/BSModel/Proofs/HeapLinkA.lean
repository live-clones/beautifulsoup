import BSModel.Proofs.HeapLinkCode
import BSModel.Proofs.HeapLinkWit
/-! Pillar 2, part 4: the clauses of the invariant after linking. -/
namespace BS.Heap

section
variable {h h' : Heap} {w : Wit} {p x P pred lastx : Nat} {succ prevSib nextSib : Option Nat}
  {newKids : List Nat}
  (G : Geo h w p x P pred lastx succ prevSib nextSib)
  (L : Linked h h' p x pred lastx succ prevSib nextSib newKids)

section
include G

theorem paste_size_pos (n : Nat) : 1 ≤ (pasteWit w x p P).size n := by
  have := G.region n; have := G.wf.size_pos n; omega

theorem paste_inj (a b : Nat) (ht : (pasteWit w x p P).tree a = (pasteWit w x p P).tree b)
    (hp : (pasteWit w x p P).pos a = (pasteWit w x p P).pos b) : a = b := by
  have hsa := G.wf.size_pos a; have hsb := G.wf.size_pos b
  rcases G.mixed ht with e | ⟨ha, hb⟩ | ⟨ha, hb⟩
  · have := G.splice.pos_lt_iff e; have := G.splice.pos_lt_iff e.symm
    exact G.wf.inj a b e (by omega)
  · -- `a` inside `[P, P + size x)`, `b`'s start avoids it
    obtain ⟨-, pa, -, ba⟩ := G.paste_x ha
    have sb := (G.out hb).start
    omega
  · have sa := (G.out ha).start
    obtain ⟨-, pb, -, bb⟩ := G.paste_x hb
    omega

theorem paste_laminar (a b : Nat) (ht : (pasteWit w x p P).tree a = (pasteWit w x p P).tree b)
    (h1 : (pasteWit w x p P).pos a ≤ (pasteWit w x p P).pos b)
    (h2 : (pasteWit w x p P).pos b < (pasteWit w x p P).pos a + (pasteWit w x p P).size a) :
    (pasteWit w x p P).pos b + (pasteWit w x p P).size b ≤
      (pasteWit w x p P).pos a + (pasteWit w x p P).size a := by
  rcases G.mixed ht with e | ⟨ha, hb⟩ | ⟨ha, hb⟩
  · -- the ends could only be out of order as the two sides of the segment: then `a` contains `p` and does not
    have := G.splice.pos_lt_iff e.symm
    rcases (G.splice.end_le_iff e).mp
      (G.wf.laminar a b e (by omega) ((G.splice.pos_lt_end_iff e).mpr h2)) with hle | ⟨ta, e1, e2⟩
    · exact hle
    · have xa := G.ends_at ta e1
      have yb := G.spans (e ▸ ta) (by omega) (by omega)
      omega
  · obtain ⟨-, pa, za, ba⟩ := G.paste_x ha
    have sb := (G.out hb).start
    omega
  · have sa := (G.out ha).start; have ea := (G.out ha).stop
    obtain ⟨-, pb, zb, bb⟩ := G.paste_x hb
    omega

theorem paste_bound (n : Nat) :
    (pasteWit w x p P).pos n + (pasteWit w x p P).size n ≤ (pasteWit w x p P).size ((pasteWit w x p P).tree n) := by
  -- `n`'s new root: its old one, or `p`'s, grown by `size x`
  have rn := G.region n
  have rt := G.region (w.tree p)
  have rtn := G.region (w.tree n)
  have := G.wf.bound n
  have := G.wf.bound p
  have := wf_root_self G.wf p
  have := wf_root_self G.wf n
  have := G.ptree; have := G.Phi; have := G.Plo
  have := G.wf.size_pos p
  grind

theorem x_not_kid (n : Nat) : x ∉ h.kids n := by
  intro hm
  have := G.wf.kid_parent n x hm
  rw [G.xroot] at this; cases this

end

include L in
theorem link_kids_mem (hk : ∀ k, k ∈ newKids ↔ (k = x ∨ k ∈ h.kids p)) {n k : Nat} (hm : k ∈ h'.kids n) :
    k = x ∧ n = p ∨ k ∈ h.kids n := by
  rw [L.kids] at hm
  split at hm
  · next hn => exact ((hk k).mp hm).imp (fun e => ⟨e, hn⟩) (hn ▸ id)
  · exact Or.inr hm

section
include G

theorem kid_before {n k : Nat} (hk : h.parent k = some n) (hn : w.tree n = w.tree p)
    (hna : w.pos p < w.pos n ∨ w.pos n + w.size n ≤ w.pos p) (he : w.pos n + w.size n ≤ P) :
    (pasteWit w x p P).pos k = w.pos k ∧ (pasteWit w x p P).size k = w.size k := by
  have := wf_parent_pos G.wf hk; have := G.ptree; have := G.wf.size_pos k
  -- a child lies in its parent's region
  rcases G.region k with inx | anc | before | after | other <;> omega

theorem kid_after {n k : Nat} (hk : h.parent k = some n) (hn : w.tree n = w.tree p) (hs : P ≤ w.pos n) :
    (pasteWit w x p P).pos k = w.pos k + w.size x ∧ (pasteWit w x p P).size k = w.size k := by
  have := wf_parent_pos G.wf hk; have := G.ptree; have := G.wf.size_pos k; have := G.Plo
  rcases G.region k with inx | anc | before | after | other <;> omega

theorem kid_around {n k : Nat} (hk : h.parent k = some n) (hn : w.tree n = w.tree p)
    (h1 : w.pos n < w.pos p) :
    ((pasteWit w x p P).pos k = if w.pos k ≤ w.pos p then w.pos k else w.pos k + w.size x) ∧
    ((pasteWit w x p P).pos k + (pasteWit w x p P).size k =
      if w.pos k + w.size k ≤ w.pos p then w.pos k + w.size k else w.pos k + w.size k + w.size x) := by
  obtain ⟨tk, k1, k2⟩ := wf_parent_pos G.wf hk
  have tk' : w.tree k = w.tree p := tk.trans hn
  have hptr := G.ptree
  have hlo := G.Plo
  have hsk := G.wf.size_pos k
  -- a child starting after `p` is not inside `p`: it starts at `P` or later
  have hk1 : w.pos p < w.pos k → P ≤ w.pos k := fun c => by
    have := G.Phi
    have := mt (parent_min G.wf (m := p) hk tk'.symm c) (by omega)
    omega
  rcases G.region k with inx | anc | before | after | other
  · omega
  · rw [if_pos (by omega), if_neg (by omega)]; omega
  · rw [if_pos (by omega), if_pos (by omega)]; omega
  · rw [if_neg (by omega), if_neg (by omega)]; omega
  · omega

end

section
include G L

theorem link_tiles
    (htp : Tiles (pasteWit w x p P).pos (pasteWit w x p P).size newKids (w.pos p + 1) (w.pos p + w.size p + w.size x))
    (n : Nat) :
    Tiles (pasteWit w x p P).pos (pasteWit w x p P).size (h'.kids n)
      ((pasteWit w x p P).pos n + 1) ((pasteWit w x p P).pos n + (pasteWit w x p P).size n) := by
  rw [L.kids]
  have hptr := G.ptree
  have hlo := G.Plo; have hhi := G.Phi
  have rn := G.region n
  have hsn := G.wf.size_pos n
  by_cases hnp : n = p
  · subst hnp
    simp only [if_true]
    have e1 : (pasteWit w x n P).pos n = w.pos n := by omega
    have e2 : (pasteWit w x n P).size n = w.size n + w.size x := by omega
    rw [e1, e2]
    have e3 : w.pos n + (w.size n + w.size x) = w.pos n + w.size n + w.size x := by omega
    rw [e3]; exact htp
  · simp only [hnp, if_false]
    have hT := G.wf.tiles n
    have hsx := G.wf.size_pos x
    have hkp : ∀ k ∈ h.kids n, h.parent k = some n := G.wf.kid_parent n
    rcases rn with rn | rn | rn | rn | rn
    · -- inside x's tree: shift by P
      refine tiles_map (P + ·) hT (fun k hk => ?_) (by omega) (by omega)
      obtain ⟨-, pk, zk, -⟩ := G.paste_x ((wf_parent_pos G.wf (hkp k hk)).1.trans rn.1)
      have := G.wf.size_pos k
      exact ⟨pk, by omega, by omega⟩
    · -- a proper ancestor of `p`: what lies after `p`'s start moves up
      have hpn : w.pos n ≠ w.pos p := fun hp => hnp (G.wf.inj n p rn.1 hp)
      refine tiles_map (fun e => if e ≤ w.pos p then e else e + w.size x) hT (fun k hk => ?_)
        (by rw [if_pos (by omega)]; omega) (by rw [if_neg (by omega)]; omega)
      obtain ⟨e1, e2⟩ := kid_around G (hkp k hk) rn.1 (by omega)
      have := G.wf.size_pos k
      refine ⟨e1, e2, ?_⟩
      rw [e1] at e2; split at e2 <;> split at e2 <;> omega
    · -- before the insertion point: nothing moves
      obtain ⟨tn, -, pn, zn, hna, he⟩ := rn
      rw [pn, zn]
      exact tiles_congr _ _ _ _ _ _ _ hT fun k hk => kid_before G (hkp k hk) tn hna he
    · -- after the insertion point: shift by size x
      refine tiles_map (· + w.size x) hT (fun k hk => ?_) (by omega) (by omega)
      obtain ⟨tn, -, -, -, -, hPn⟩ := rn
      obtain ⟨pk, zk⟩ := kid_after G (hkp k hk) tn hPn
      have := G.wf.size_pos k
      exact ⟨pk, by omega, by omega⟩
    · -- another tree
      obtain ⟨h1, h2, -, pn, zn⟩ := rn
      rw [pn, zn]
      refine tiles_congr _ _ _ _ _ _ _ hT fun k hk => (paste_other k ?_ ?_).2
      all_goals rw [(wf_parent_pos G.wf (hkp k hk)).1]; assumption

end

section
include G

theorem paste_unl (a : Nat) : (pasteWit w x p P).unl a = if a = pred then false else w.unl a := by
  rw [pasteWit_unl]
  have hpp := G.pred_p; have hlo := G.Plo
  by_cases hc : P = 1 ∧ a = p
  · obtain ⟨hp1, rfl⟩ := hc
    have : a = pred := (G.wf.inj pred a G.pred_t (by omega)).symm
    simp [hp1, this]
  · have hd : (decide (P = 1) && decide (a = p)) = false := by
      simp only [Bool.and_eq_false_iff, decide_eq_false_iff_not]; omega
    rw [hd, Bool.not_false, Bool.and_true]
    split
    · next hap =>
      subst hap
      -- an unlinked `pred` is the root `p`, so `P = 1`
      cases hu : w.unl a with
      | false => rfl
      | true =>
        obtain ⟨_, _, h0⟩ := G.unl_root hu
        exact absurd ⟨by omega, G.wf.inj a p G.pred_t (by omega)⟩ hc
    · rfl

theorem pred_ne_lastx : pred ≠ lastx := by
  intro e
  have := G.pred_t; have := G.last_t; have := G.ptree
  rw [e] at *; omega

theorem paste_step_iff (a b : Nat) (hpred : ¬ (w.tree a = w.tree p ∧ w.pos a + 1 = P))
    (hlast : ¬ (w.tree a = x ∧ w.pos a + 1 = w.size x)) :
    ((pasteWit w x p P).tree a = (pasteWit w x p P).tree b ∧
      (pasteWit w x p P).pos b = (pasteWit w x p P).pos a + 1) ↔
    (w.tree a = w.tree b ∧ w.pos b = w.pos a + 1) := by
  have hsa := G.wf.size_pos a; have hsb := G.wf.size_pos b; have hsx := G.wf.size_pos x
  constructor
  · rintro ⟨ht, hs⟩
    rcases G.mixed ht with e | ⟨ha, hb⟩ | ⟨ha, hb⟩
    · exact ⟨e, (G.splice.succ_iff e).mpr (Or.inl hs)⟩
    · obtain ⟨-, pa, -, ba⟩ := G.paste_x ha
      have sb := (G.out hb).start
      exact absurd ⟨ha, by omega⟩ hlast
    · have sa := (G.out ha).start; have pa := (G.out ha).pos
      obtain ⟨-, pb, -, bb⟩ := G.paste_x hb
      rcases cutPt_spec P (w.size x) (a := (pasteWit w x p P).pos a) (by omega) with c | c
      · exact absurd ⟨ha, by omega⟩ hpred
      · omega
  · rintro ⟨e, hs⟩
    -- a step of the old witness crosses `P` or is one of the new
    refine ⟨by simp only [pasteWit, e], ((G.splice.succ_iff e).mp hs).resolve_right fun ⟨tj, e1, _⟩ => hpred ?_⟩
    have ht := G.out_of_lt tj (by omega)
    exact ⟨ht, by rw [(G.out ht).pos]; unfold cutPt; rw [if_pos (by omega)]; exact e1⟩

theorem paste_at_iff (b : Nat) :
    ((pasteWit w x p P).tree b = w.tree p ∧ (pasteWit w x p P).pos b = P + w.size x ↔
      w.tree b = w.tree p ∧ w.pos b = P) ∧
    ((pasteWit w x p P).tree b = w.tree p ∧ (pasteWit w x p P).pos b = P ↔ w.tree b = x ∧ w.pos b = 0) := by
  have hpt := G.ptree
  have hsx := G.wf.size_pos x
  have hsb := G.wf.size_pos b
  by_cases hx : w.tree b = x
  · obtain ⟨tb, pb, -, bb⟩ := G.paste_x hx
    rw [tb, pb, hx]; omega
  · by_cases ht : w.tree b = w.tree p
    · have ob := G.out ht; have sb := ob.start
      rw [ob.tree, ob.pos, ht]
      rcases cutPt_spec P (w.size x) (a := (pasteWit w x p P).pos b) (by omega) with c | c <;> omega
    · obtain ⟨tb, -⟩ := paste_other (P := P) b hx ht
      rw [tb]; omega

end

section
include G L

/-- the successor relation after linking: the old one with `x … lastx` put in between `pred` and `succ` -/
theorem link_elems : Links h'.ne h'.pe fun a b => (pasteWit w x p P).unl a = false ∧
    (pasteWit w x p P).tree a = (pasteWit w x p P).tree b ∧ (pasteWit w x p P).pos b = (pasteWit w x p P).pos a + 1 := by
  have hxt := G.x_tree; have hptr := G.ptree
  have hpl := pred_ne_lastx G
  have hx : ∀ a, ¬ (w.unl a = false ∧ w.tree a = w.tree x ∧ w.pos x = w.pos a + 1) := fun a ⟨_, _, c⟩ => by omega
  have hL : ∀ b, ¬ (w.unl lastx = false ∧ w.tree lastx = w.tree b ∧ w.pos b = w.pos lastx + 1) := fun b ⟨_, t, c⟩ => by
    have := G.last_t; have := G.last_p
    have := G.in_x (m := b) (by omega); have := G.wf.size_pos b
    omega
  have hs : ∀ a b, succ = some b → (w.unl a = false ∧ w.tree a = w.tree b ∧ w.pos b = w.pos a + 1) → some pred = some a :=
    fun a b e ⟨_, t, c⟩ => by
      have := (G.succ_iff b).mp e; have := G.pred_t; have := G.pred_p
      exact congrArg some (G.wf.inj pred a (by omega) (by omega))
  have key := G.wf.elems.paste x lastx (some pred) succ hx hL
    (fun a b e ⟨_, t, c⟩ => by
      cases e; have := G.pred_t; have := G.pred_p
      exact (G.succ_iff b).mpr (by omega)) hs
    (fun e => hpl (Option.some.inj e)) (fun e => by have := (G.succ_iff x).mp e; omega)
  refine (key.congr fun a b => ?_).reads
    (fun a => (L.ne a).trans (by simp only [Option.some.injEq, @eq_comm _ pred a])) L.pe
  rw [paste_unl G]
  obtain ⟨at1, at2⟩ := paste_at_iff G b
  by_cases hal : a = lastx
  · -- `lastx`: what stood at `P` follows
    subst hal
    obtain ⟨ta, pa, -⟩ := G.paste_x G.last_t
    rw [if_neg (fun e => hpl e.symm), G.unl_in_x G.last_t, ta, pa, G.succ_iff b, ← at1]
    have := G.last_p
    refine ⟨fun ⟨_, t, c⟩ => Or.inl ⟨rfl, t.symm, by omega⟩, ?_⟩
    rintro (⟨-, t, c⟩ | ⟨c, -⟩ | ⟨c, -⟩)
    · exact ⟨rfl, t.symm, by omega⟩
    · exact absurd (Option.some.inj c) hpl
    · exact absurd ⟨G.unl_in_x G.last_t, c.2⟩ (hL b)
  by_cases hap : a = pred
  · -- `pred`: `x` follows
    subst hap
    have oa := G.out G.pred_t; have sa := oa.start; have pa := oa.pos
    have hpa : (pasteWit w x p P).pos a + 1 = P := by
      have := G.pred_p
      rcases cutPt_spec P (w.size x) (a := (pasteWit w x p P).pos a) (by omega) with c | c <;> omega
    rw [if_pos rfl, oa.tree]
    constructor
    · rintro ⟨-, e1, e2⟩
      obtain ⟨t, q⟩ := at2.mp ⟨e1.symm, e2.trans hpa⟩
      exact Or.inr (Or.inl ⟨rfl, G.wf.inj b x (t.trans hxt.1.symm) (q.trans hxt.2.symm)⟩)
    · rintro (⟨c, -⟩ | ⟨-, rfl⟩ | ⟨-, c, -⟩)
      · exact absurd c hal
      · exact ⟨rfl, (at2.mpr hxt).1.symm, by rw [(at2.mpr hxt).2, hpa]⟩
      · exact absurd rfl c
  · have hp' : some pred ≠ some a := fun e => hap (Option.some.inj e).symm
    rw [if_neg hap, paste_step_iff G a b (fun c => hap ?_) (fun c => hal ?_)]
    · exact ⟨fun c => Or.inr (Or.inr ⟨c, hp', fun e => hp' (hs a b e c)⟩),
        fun c => c.elim (fun c => absurd c.1 hal) fun c => c.elim (fun c => absurd c.1 hp') And.left⟩
    · exact G.wf.inj a pred (c.1.trans G.pred_t.symm) (by have := G.pred_p; omega)
    · exact G.wf.inj a lastx (c.1.trans G.last_t.symm) (by have := G.last_p; omega)

end

section
include G

/-- what ends at `P`, has a next sibling and does not span `p` is a child of `p` -/
theorem prev_unique {a b q : Nat} (ha : h.parent a = some q) (hb : h.parent b = some q)
    (hab : w.pos b = w.pos a + w.size a) (haP : w.pos a + w.size a = P) (ht : w.tree a = w.tree p)
    (hn : w.pos p < w.pos a ∨ w.pos a + w.size a ≤ w.pos p) : h.parent a = some p := by
  have hlo := G.Plo; have hhi := G.Phi
  have hsa := G.wf.size_pos a; have hsb := G.wf.size_pos b
  have hm := parent_min G.wf (m := p) ha ht.symm (by omega) (by omega)
  obtain ⟨ta, a1, a2⟩ := wf_parent_pos G.wf ha
  obtain ⟨tb, b1, b2⟩ := wf_parent_pos G.wf hb
  by_cases hpq : w.pos p = w.pos q
  · have : p = q := G.wf.inj p q (by rw [← ta, ht]) hpq
    rw [this]; exact ha
  · have := G.nonanc (m := q) (by rw [← ta, ht]) (by omega)
    omega

/-- a child of `p` keeps its size; after the insertion point it moves up by `size x` -/
theorem kid_region {k : Nat} (hk : h.parent k = some p) :
    w.tree k = w.tree p ∧ (pasteWit w x p P).size k = w.size k ∧
    ((w.pos k + w.size k ≤ P ∧ (pasteWit w x p P).pos k = w.pos k) ∨
     (P ≤ w.pos k ∧ (pasteWit w x p P).pos k = w.pos k + w.size x)) := by
  obtain ⟨t, k1, k2⟩ := wf_parent_pos G.wf hk
  have := G.region k
  have := G.ptree
  have := G.wf.size_pos k
  omega

theorem paste_meet_iff {a b q : Nat} (ha : h.parent a = some q) (hb : h.parent b = some q)
    (hprev : prevSib ≠ some a) :
    (pasteWit w x p P).pos b = (pasteWit w x p P).pos a + (pasteWit w x p P).size a ↔
      w.pos b = w.pos a + w.size a := by
  have e : w.tree a = w.tree b := (wf_parent_pos G.wf ha).1.trans (wf_parent_pos G.wf hb).1.symm
  rw [G.splice.meet_iff e]
  refine ⟨Or.inl, fun hm => hm.resolve_right fun ⟨tj, e1, e2⟩ => hprev ?_⟩
  -- the two sides of the pasted segment: then `a` is `prevSib`
  have ht := G.out_of_lt tj (by have := paste_size_pos G a; omega)
  have haP : w.pos a + w.size a = P := by rw [(G.out ht).fin, e1]; exact if_pos (Nat.le_refl _)
  have hbP : w.pos b = P := by
    rw [(G.out (e ▸ ht)).pos, e2, ← cutPt_collapse]; exact if_pos (Nat.le_refl _)
  exact (G.prev_iff a).mpr ⟨prev_unique G ha hb (hbP.trans haP.symm) haP ht (Or.inl (G.ends_at ht e1)), haP⟩

end

section
include G L

theorem link_sibs : Links h'.ns h'.ps fun a b => (∃ q, h'.parent a = some q ∧ h'.parent b = some q) ∧
    (pasteWit w x p P).pos b = (pasteWit w x p P).pos a + (pasteWit w x p P).size a := by
  have hxt := G.x_tree; have hsx := G.wf.size_pos x
  obtain ⟨-, rx1, rx2, -⟩ := G.paste_x hxt.1
  have kid_ne : ∀ {a q}, h.parent a = some q → a ≠ x := fun c e => by rw [e, G.xroot] at c; cases c
  have hx : ∀ a, ¬ ((∃ q, h.parent a = some q ∧ h.parent x = some q) ∧ w.pos x = w.pos a + w.size a) :=
    fun a ⟨⟨q, _, c⟩, _⟩ => kid_ne c rfl
  have hL : ∀ b, ¬ ((∃ q, h.parent x = some q ∧ h.parent b = some q) ∧ w.pos b = w.pos x + w.size x) :=
    fun b ⟨⟨q, c, _⟩, _⟩ => kid_ne c rfl
  have hs : ∀ a b, nextSib = some b → ((∃ q, h.parent a = some q ∧ h.parent b = some q) ∧
      w.pos b = w.pos a + w.size a) → prevSib = some a := fun a b e ⟨⟨q, q1, q2⟩, q3⟩ => by
    obtain ⟨n1, n2⟩ := (G.next_iff b).mp e
    cases some_parent_eq n1 q2
    exact (G.prev_iff a).mpr ⟨q1, by omega⟩
  have key := G.wf.sibs.paste x x prevSib nextSib hx hL
    (fun a b e ⟨⟨q, q1, q2⟩, q3⟩ => by
      obtain ⟨n1, n2⟩ := (G.prev_iff a).mp e
      cases some_parent_eq n1 q1
      exact (G.next_iff b).mpr ⟨q2, by omega⟩) hs
    (fun e => kid_ne ((G.prev_iff x).mp e).1 rfl) (fun e => kid_ne ((G.next_iff x).mp e).1 rfl)
  refine (key.congr fun a b => ?_).reads L.ns L.ps
  simp only [L.parent]
  by_cases hax : a = x
  · subst hax
    rw [if_pos rfl, G.next_iff b]
    have := G.wf.size_pos b
    constructor
    · rintro ⟨⟨q, q1, q2⟩, hm⟩
      cases q1
      have hbx : b ≠ a := by rintro rfl; omega
      rw [if_neg hbx] at q2
      have := kid_region G q2
      exact Or.inl ⟨rfl, q2, by omega⟩
    · rintro (⟨-, q2, e⟩ | ⟨c, -⟩ | ⟨c, -⟩)
      · have := kid_region G q2
        exact ⟨⟨p, rfl, by rw [if_neg (kid_ne q2)]; exact q2⟩, by omega⟩
      · exact absurd rfl (kid_ne ((G.prev_iff a).mp c).1)
      · exact absurd c (hL b)
  rw [if_neg hax]
  by_cases hbx : b = x
  · subst hbx
    rw [if_pos rfl, G.prev_iff a]
    have := G.wf.size_pos a
    constructor
    · rintro ⟨⟨q, q1, q2⟩, hm⟩
      cases q2
      have := kid_region G q1
      exact Or.inr (Or.inl ⟨⟨q1, by omega⟩, rfl⟩)
    · rintro (⟨c, -⟩ | ⟨⟨q1, e⟩, -⟩ | ⟨c, -⟩)
      · exact absurd c hax
      · have := kid_region G q1
        exact ⟨⟨p, q1, rfl⟩, by omega⟩
      · exact absurd c (hx a)
  rw [if_neg hbx]
  by_cases hpa : prevSib = some a
  · -- `a` ends at `P`, where `x` now starts: no `b ≠ x` under `p` starts there
    obtain ⟨pa1, pa2⟩ := (G.prev_iff a).mp hpa
    refine iff_of_false ?_ (by simp [hax, hbx, hpa])
    rintro ⟨⟨q, q1, q2⟩, hm⟩
    cases some_parent_eq pa1 q1
    have := kid_region G pa1; have := kid_region G q2
    have := G.wf.size_pos a; have := G.wf.size_pos b
    omega
  · constructor
    · rintro ⟨⟨q, q1, q2⟩, hm⟩
      have e := (paste_meet_iff G q1 q2 hpa).mp hm
      exact Or.inr (Or.inr ⟨⟨⟨q, q1, q2⟩, e⟩, hpa, fun c => hpa (hs a b c ⟨⟨q, q1, q2⟩, e⟩)⟩)
    · rintro (⟨c, -⟩ | ⟨-, c⟩ | ⟨⟨⟨q, q1, q2⟩, e⟩, -, -⟩)
      · exact absurd c hax
      · exact absurd c hbx
      · exact ⟨⟨q, q1, q2⟩, (paste_meet_iff G q1 q2 hpa).mpr e⟩

end

include G L in
/-- `htp`: the new children list of `p` tiles -/
theorem link_wf (hp : (h.kind p).isTag = true) (hk : ∀ k, k ∈ newKids ↔ (k = x ∨ k ∈ h.kids p))
    (htp : Tiles (pasteWit w x p P).pos (pasteWit w x p P).size newKids (w.pos p + 1) (w.pos p + w.size p + w.size x))
    (hxn : x < h.next) (hpn : p < h.next) : WF h' (pasteWit w x p P) where
  size_pos := paste_size_pos G
  size_cap := fun n => by
    have := G.region n
    have := G.wf.size_cap n; have := G.wf.size_cap x
    rw [L.cap]; omega
  str_leaf := fun n hn => by
    rw [L.kind] at hn
    rw [L.kids]
    have : n ≠ p := by intro e; subst e; rw [hp] at hn; cases hn
    simp only [this, if_false]
    exact G.wf.str_leaf n hn
  tiles := link_tiles G L htp
  kid_parent := fun n k hm => by
    rw [L.parent]
    rcases link_kids_mem L hk hm with ⟨rfl, rfl⟩ | hm'
    · rw [if_pos rfl]
    · rw [if_neg (fun (e : k = x) => x_not_kid G n (e ▸ hm'))]
      exact G.wf.kid_parent n k hm'
  kid_tree := fun n k hm => by
    rcases link_kids_mem L hk hm with ⟨rfl, rfl⟩ | hm'
    · rw [pasteWit_tree, pasteWit_tree, if_pos G.x_tree.1, if_neg G.ptree]
    · simp only [pasteWit, G.wf.kid_tree n k hm']
  parent_kid := fun c q hc => by
    rw [L.parent] at hc
    rw [L.kids]
    split at hc
    · next hcx =>
      cases hc
      rw [if_pos rfl]
      exact (hk c).mpr (Or.inl hcx)
    · have := G.wf.parent_kid c q hc
      split
      · next hq => exact (hk c).mpr (Or.inr (hq ▸ this))
      · exact this
  root_tree := fun r hr => by
    rw [L.parent] at hr
    by_cases hrx : r = x
    · subst hrx; simp at hr
    · simp only [hrx, if_false] at hr
      obtain ⟨h1, h2⟩ := G.wf.root_tree r hr
      have := G.region r
      have := G.Plo
      omega
  tree_root := fun n => by
    rw [pasteWit_tree]
    by_cases hx : w.tree n = x
    · rw [if_pos hx, L.parent, if_neg G.ptree]
      exact G.wf.tree_root p
    · rw [if_neg hx, L.parent, if_neg hx]
      exact G.wf.tree_root n
  bound := paste_bound G
  inj := paste_inj G
  laminar := paste_laminar G
  chain_ne := fun a b => (link_elems G L a b).1
  chain_pe := fun a b => (link_elems G L a b).2
  sib_ns := fun a b => (link_sibs G L a b).1
  sib_ps := fun a b => (link_sibs G L a b).2
  unl_soup := fun r hr => by
    rw [pasteWit_unl] at hr
    have hu : w.unl r = true := by revert hr; cases w.unl r <;> simp
    obtain ⟨h1, h2⟩ := G.wf.unl_soup r hu
    rw [L.kind, L.parent]
    have : r ≠ x := by intro e; subst e; exact G.xkind h1
    simp only [this, if_false]
    exact ⟨h1, h2⟩
  soup_root := fun n hn => by
    rw [L.kind] at hn
    rw [L.parent]
    have : n ≠ x := by intro e; subst e; exact G.xkind hn
    simp only [this, if_false]
    exact G.wf.soup_root n hn
  fresh := fun n hn => by
    rw [L.next] at hn
    rw [L.parent, L.kids, pasteWit_unl]
    have h1 : n ≠ x := by omega
    have h2 : n ≠ p := by omega
    obtain ⟨f1, f2, f3⟩ := G.wf.fresh n hn
    simp [h1, h2, f1, f2, f3]

end

end BS.Heap
