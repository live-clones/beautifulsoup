import BSModel.Proofs.TokenizerBasics
/-! Tokenizer: the writer grammar (names over `[a-z][-.:_a-z0-9]*`), the end-tag round trip, `step_plain`. -/
namespace BS.Tokenizer

theorem spanLen_append_stop (p : Nat → Bool) (a b : PStr) (ha : ∀ x ∈ a, p x = true)
    (hb : ∀ c, b.head? = some c → p c = false) : spanLen p (a ++ b) = a.length := by
  induction a with
  | nil =>
    cases b with
    | nil => simp [spanLen]
    | cons c t => simp [spanLen, hb c rfl]
  | cons x t ih =>
    have hx : p x = true := ha x (by simp)
    simp only [List.cons_append, spanLen, hx, if_true, List.length_cons]
    rw [ih (fun y hy => ha y (by simp [hy]))]

/-- the turn outside CDATA mode as an equation (any turn: `step_shape`, TokenizerTerm) -/
theorem step_plain (P : Params) (end_ : Bool) (pos : Nat × Nat) (l rest : PStr) (hl : ∀ x ∈ l, isPlain x = true)
    (hr : ∀ c, rest.head? = some c → isPlain c = false) :
    step P end_ ⟨l ++ rest, pos, none⟩ =
      if rest.isEmpty then (if 0 < l.length then [⟨.data l, l, pos⟩] else [], ⟨[], BS.SourcePos.updatepos pos l, none⟩, some .ok)
      else applyAct (if 0 < l.length then [⟨.data l, l, pos⟩] else []) rest (BS.SourcePos.updatepos pos l) none (chooseAct P end_ none rest) := by
  simp only [step, spanLen_append_stop isPlain l rest hl hr, List.take_left, List.drop_left]
  cases rest <;> simp

theorem head_cons_stop {p : Nat → Bool} {x : Nat} (r : PStr) (h : p x = false) : ∀ c, (x :: r).head? = some c → p c = false := by
  rintro _ ⟨⟩
  exact h

theorem spanLen_zero (p : Nat → Bool) (b : PStr) (hb : ∀ c, b.head? = some c → p c = false) : spanLen p b = 0 := by
  simpa using spanLen_append_stop p [] b (by simp) hb

theorem findCh_append_first (c : Nat) (a b : PStr) (ha : ∀ x ∈ a, x ≠ c) : findCh c (a ++ c :: b) = some a.length := by
  induction a with
  | nil => simp [findCh]
  | cons x t ih =>
    have hx : (x == c) = false := by simpa using ha x (by simp)
    simp only [List.cons_append, findCh, hx, Bool.false_eq_true, if_false, List.length_cons]
    rw [ih (fun y hy => ha y (by simp [hy]))]
    simp

def isLower (c : Nat) : Bool := 97 ≤ c && c ≤ 122
/-- `[-.:_a-z0-9]`: what may follow the first letter of a (tag or attribute) name -/
def isNameCh (c : Nat) : Bool := isLower c || isDigit c || c == 45 || c == 46 || c == 58 || c == 95

/-- `[a-z][-.:_a-z0-9]*` -/
def NameOK (n : PStr) : Prop := ∃ c t, n = c :: t ∧ isLower c = true ∧ ∀ x ∈ t, isNameCh x = true

theorem isNameCh_bounds (x : Nat) (h : isNameCh x = true) : 45 ≤ x ∧ x ≤ 122 ∧ x ≠ 47 ∧ x ≠ 61 ∧ x ≠ 62 := by
  simp only [isNameCh, isLower, isDigit, Bool.or_eq_true, Bool.and_eq_true, decide_eq_true_eq, beq_iff_eq] at h
  omega

theorem isWs_of_printable (x : Nat) (h1 : 33 ≤ x) (h2 : x ≤ 132) : isWs x = false := by
  have hall : ∀ w ∈ BS.Gen.pyWhitespace, w < 33 ∨ 132 < w := by decide
  cases h : isWs x with
  | false => rfl
  | true => have := hall x (by simpa [isWs] using h); omega

theorem isNameCh_isWs (x : Nat) (h : isNameCh x = true) : isWs x = false := by
  have := isNameCh_bounds x h
  exact isWs_of_printable x (by omega) (by omega)

theorem isNameCh_ne_gt (x : Nat) (h : isNameCh x = true) : x ≠ 62 := by
  obtain ⟨_, _, _, _, hgt⟩ := isNameCh_bounds x h
  exact hgt

theorem isNameCh_tagName (x : Nat) (h : isNameCh x = true) : isTagNameCh x = true := by
  have := isNameCh_bounds x h
  simp only [isTagNameCh, Bool.not_eq_true', Bool.or_eq_false_iff, beq_eq_false_iff_ne, ne_eq]
  omega

theorem isNameCh_attrRest (x : Nat) (h : isNameCh x = true) : isAttrRest x = true := by
  have := isNameCh_bounds x h
  simp only [isAttrRest, isNameCh_isWs x h, Bool.false_or, Bool.not_eq_true', Bool.or_eq_false_iff, beq_eq_false_iff_ne, ne_eq]
  omega

theorem isNameCh_attrFirst (x : Nat) (h : isNameCh x = true) : isAttrFirst x = true := by
  have := isNameCh_bounds x h
  simp only [isAttrFirst, isNameCh_isWs x h, Bool.false_or, Bool.not_eq_true', Bool.or_eq_false_iff, beq_eq_false_iff_ne, ne_eq]
  omega

theorem isLower_facts (c : Nat) (h : isLower c = true) : isAlpha c = true ∧ isNameCh c = true := by
  simp only [isLower, Bool.and_eq_true, decide_eq_true_eq] at h
  constructor
  · simp only [isAlpha, Bool.or_eq_true, Bool.and_eq_true, decide_eq_true_eq]; omega
  · simp only [isNameCh, isLower, isDigit, Bool.or_eq_true, Bool.and_eq_true, decide_eq_true_eq, beq_iff_eq]; omega

/-- `[-.:_a-z0-9]` is `[-.:_a-zA-Z0-9]` without the capitals -/
theorem isNameCh_endName (x : Nat) (h : isNameCh x = true) : isEndNameCh x = true := by
  have hl : isLower x = true → isAlnum x = true := fun hl => by simp [isAlnum, (isLower_facts x hl).1]
  have hd : isDigit x = true → isAlnum x = true := fun hd => by simp [isAlnum, hd]
  simp only [isNameCh, Bool.or_eq_true] at h
  simp only [isEndNameCh, Bool.or_eq_true]
  exact h.imp_left fun h => h.imp_left fun h => h.imp_left fun h => h.imp_left fun h => h.elim hl hd

/-- `</name>` -/
def writeEndTag (name : PStr) : PStr := [60, 47] ++ name ++ [62]

theorem parseEndTag_write (P : Params) (cd : Option PStr) (name rest : PStr) (hn : NameOK name)
    (hl : P.lower name = name) (hcd : cd = none ∨ cd = some name) :
    parseEndTag P cd (writeEndTag name ++ rest) = .ok (.et name) (writeEndTag name).length none := by
  obtain ⟨c, t, rfl, hc, ht⟩ := hn
  obtain ⟨hcAlpha, hcName⟩ := isLower_facts c hc
  have hfind : findCh 62 (47 :: c :: (t ++ 62 :: rest)) = some (2 + t.length) := by
    have := findCh_append_first 62 (47 :: c :: t) rest (by
      intro x hx
      simp only [List.mem_cons] at hx
      rcases hx with rfl | rfl | hx
      · decide
      · exact isNameCh_ne_gt _ hcName
      · exact isNameCh_ne_gt x (ht x hx))
    rw [show 2 + t.length = (47 :: c :: t).length by simp; omega]
    simpa using this
  have hspan : spanLen isEndNameCh (t ++ 62 :: rest) = t.length :=
    spanLen_append_stop _ _ _ (fun x hx => isNameCh_endName x (ht x hx)) (head_cons_stop _ (by decide))
  have hw1 : spanLen isWs (c :: (t ++ 62 :: rest)) = 0 := spanLen_zero _ _ (head_cons_stop _ (isNameCh_isWs _ hcName))
  have hw2 : spanLen isWs (62 :: rest) = 0 := spanLen_zero _ _ (head_cons_stop _ (by decide))
  have hetf : endTagFind (60 :: 47 :: c :: (t ++ 62 :: rest)) = some (c :: t) := by
    simp only [endTagFind, sw, List.length_cons, List.length_nil, List.take_succ_cons, List.take_zero, beq_self_eq_true, if_true,
      List.drop_succ_cons, List.drop_zero, hw1, Nat.add_zero, hcAlpha, hspan, List.drop_left, hw2, List.head?_cons]
    simp
  simp only [parseEndTag, writeEndTag, List.cons_append, List.nil_append, List.append_assoc, List.drop_succ_cons, List.drop_zero,
    hfind, hetf, hl, List.length_cons, List.length_append, List.length_nil]
  rcases hcd with rfl | rfl
  · simp; omega
  · simp; omega

/-- `<!--body-->` -/
def writeComment (body : PStr) : PStr := [60, 33, 45, 45] ++ body ++ [45, 45, 62]

/-- `<name>` -/
def writeStartTag0 (name : PStr) : PStr := [60] ++ name ++ [62]

end BS.Tokenizer
