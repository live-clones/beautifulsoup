import BSModel.Proofs.HeapCopyTotal
import BSModel.Proofs.HeapDecompose
/-! # The loop of `__deepcopy__`: the source side of its invariant, the finished copy, the isomorphism

`SInv`: the open SOURCE tags on the stack are exactly the proper ancestors, strictly inside `x`, of the next element of
`self.descendants`, innermost on top, each paired with its own clone — so after `_event_stream`'s closing loop the top of the stack is
the parent of the next element (or the stack is empty and the parent is `x`), and `tag_stack[-1].append(clone)` links the clone under
the clone of that parent; `par` records that link. Positions refer to the witness `w0` of the heap BEFORE the copy; the clone of
`a` is `N0 + (w0.pos a - w0.pos x)`. From the finished loop (`copy_ok`): parents correspond, hence children lists, hence one
isomorphism. -/
namespace BS.Heap

/-- with no entry for `a` the closing loop empties the stack -/
theorem popClosed_none_match (a : Nat) (st : List (Nat × Nat)) (hall : ∀ e ∈ st, e.1 ≠ a) :
    popClosed (some a) st = [] := by
  fun_induction popClosed (some a) st with
  | case1 => rfl
  | case2 s c st hs => exact absurd (Option.some.inj hs).symm (hall (s, c) List.mem_cons_self)
  | case3 s c st _ ih => exact ih fun e he => hall e (List.mem_cons_of_mem _ he)

/-- on a stack sorted by decreasing position it stops at `a`'s entry, and what it popped lay after `a` -/
theorem popClosed_found (pos : Nat → Nat) (a t : Nat) (st : List (Nat × Nat))
    (hp : st.Pairwise (fun e1 e2 => pos e2.1 < pos e1.1)) (hm : (a, t) ∈ st) :
    ∃ front rest, st = front ++ (a, t) :: rest ∧ popClosed (some a) st = (a, t) :: rest ∧ ∀ e ∈ front, pos a < pos e.1 := by
  fun_induction popClosed (some a) st with
  | case1 => cases hm
  | case2 s c st hs =>
    cases hs
    obtain ⟨hhead, _⟩ := List.pairwise_cons.mp hp
    have : t = c := by
      rcases List.mem_cons.mp hm with heq | hin
      · cases heq; rfl
      · exact absurd (hhead (a, t) hin) (Nat.lt_irrefl _)
    subst this
    exact ⟨[], st, rfl, rfl, nofun⟩
  | case3 s c st hs ih =>
    obtain ⟨hhead, htail⟩ := List.pairwise_cons.mp hp
    have hin : (a, t) ∈ st := (List.mem_cons.mp hm).resolve_left fun heq => hs (by cases heq; rfl)
    obtain ⟨front, rest, h1, h2, h3⟩ := ih htail hin
    exact ⟨(s, c) :: front, rest, by rw [h1]; rfl, h2, List.forall_mem_cons.mpr ⟨hhead (a, t) hin, h3⟩⟩

structure SInv (h0 : Heap) (w0 : Wit) (x N0 : Nat) (h : Heap) (st : List (Nat × Nat)) (srcs : List Nat) : Prop where
  src : ∀ e ∈ st, w0.tree e.1 = w0.tree x ∧ w0.pos x < w0.pos e.1 ∧ w0.pos e.1 < w0.pos x + srcs.length ∧
    e.2 = N0 + (w0.pos e.1 - w0.pos x)
  complete : ∀ a, w0.tree a = w0.tree x → w0.pos x < w0.pos a → w0.pos a < w0.pos x + srcs.length →
    w0.pos x + srcs.length < w0.pos a + w0.size a → (a, N0 + (w0.pos a - w0.pos x)) ∈ st
  sorted : st.Pairwise (fun e1 e2 => w0.pos e2.1 < w0.pos e1.1)
  par : ∀ i d, srcs[i]? = some d → 1 ≤ i →
    ∃ π, h0.parent d = some π ∧ h.parent (N0 + i) = some (N0 + (w0.pos π - w0.pos x))

theorem sinv_init (h0 : Heap) (w0 : Wit) (x N0 : Nat) (h : Heap) : SInv h0 w0 x N0 h [] [x] :=
  ⟨nofun, fun _ _ h1 h2 _ => absurd h2 (Nat.not_lt.mpr h1), List.Pairwise.nil,
    fun _ _ hi h1 => absurd (List.getElem?_eq_some_iff.mp hi).1 (Nat.not_lt.mpr h1)⟩

/-- closing for an element with parent `π`: the top is the clone of `π`; open tags at or before `π` stay (for `complete`) -/
theorem SInv.closing {h0 : Heap} {w0 : Wit} {x N0 : Nat} {h : Heap} {st : List (Nat × Nat)} {srcs : List Nat}
    (sinv : SInv h0 w0 x N0 h st srcs) (hwf0 : WF h0 w0) {π : Nat} (hπ : w0.inSub x π)
    (h1 : w0.pos π < w0.pos x + srcs.length) (h2 : w0.pos x + srcs.length < w0.pos π + w0.size π) :
    topClone N0 (popClosed (some π) st) = N0 + (w0.pos π - w0.pos x) ∧
    ∀ a t, (a, t) ∈ st → w0.pos a ≤ w0.pos π → (a, t) ∈ popClosed (some π) st := by
  by_cases hπx : π = x
  · subst hπx
    have : popClosed (some π) st = [] := by
      apply popClosed_none_match
      intro e he hh
      have := (sinv.src e he).2.1
      rw [hh] at this; omega
    rw [this]
    refine ⟨by rw [Nat.sub_self]; rfl, fun a t hat hle => ?_⟩
    have := (sinv.src (a, t) hat).2.1
    simp only at this; omega
  · have hlt : w0.pos x < w0.pos π :=
      Nat.lt_of_le_of_ne hπ.2.1 fun e => hπx (hwf0.inj π x hπ.1 e.symm)
    obtain ⟨front, rest, e1, e2, e3⟩ := popClosed_found w0.pos π _ st sinv.sorted (sinv.complete π hπ.1 hlt h1 h2)
    rw [e2]
    refine ⟨rfl, fun a t hat hle => ?_⟩
    rw [e1] at hat
    rcases List.mem_append.mp hat with hpre | hrest
    · have := e3 (a, t) hpre; simp only at this; omega
    · exact hrest

/-- `hin`, `hposd`, `hlen1`: `d` is the next element of `x`'s document order after `srcs` -/
theorem sinv_step {h0 : Heap} {w0 : Wit} {x N0 : Nat} {h h2 : Heap} {w : Wit} {st st2 : List (Nat × Nat)} {srcs : List Nat}
    {d : Nat} (hwf0 : WF h0 w0) (inv : CInv h0 N0 h w st srcs) (sinv : SInv h0 w0 x N0 h st srcs)
    (hd : d < N0) (hds : h0.kind d ≠ .soup) (hin : w0.inSub x d) (hposd : w0.pos d = w0.pos x + srcs.length)
    (hlen1 : 1 ≤ srcs.length) (hs : copyStep h N0 st d = .ok (h2, st2)) :
    SInv h0 w0 x N0 h2 st2 (srcs ++ [d]) := by
  have hpd : h.parent d = h0.parent d := (inv.frame d hd).1
  have hkd : h.kind d = h0.kind d := (inv.kind_val hd).1
  -- the parent of `d`
  have hltd : w0.pos x < w0.pos d := by rw [hposd]; exact Nat.lt_add_of_pos_right hlen1
  have hxd : x ≠ d := fun e => Nat.lt_irrefl _ (e ▸ hltd)
  obtain ⟨π, hπ⟩ : ∃ π, h0.parent d = some π := by
    cases hp : h0.parent d with
    | none => rw [(hwf0.root_tree d hp).2] at hltd; cases hltd
    | some π => exact ⟨π, rfl⟩
  have hπin : w0.inSub x π := (inSub_parent hwf0 hπ x).mp ⟨hxd, hin⟩
  have hπd := wf_parent_pos hwf0 hπ
  have hszd := hwf0.size_pos d
  obtain ⟨htop, hkeep⟩ := sinv.closing hwf0 hπin (Nat.lt_of_lt_of_eq (Nat.lt_of_succ_le hπd.2.1) hposd)
    (hposd ▸ Nat.lt_of_lt_of_le (Nat.lt_add_of_pos_right hszd) hπd.2.2)
  have hst1 : popClosed (h.parent d) st = popClosed (some π) st := by rw [hpd, hπ]
  have hsuf : popClosed (some π) st <:+ st := popClosed_suffix _ _
  generalize popClosed (some π) st = st1 at htop hkeep hst1 hsuf
  have S := copyStep_spec inv.wf (hkd ▸ hds) hs hst1 htop
  obtain rfl := S.stack
  have hpar := S.parent
  have hnext : N0 + srcs.length = h.next := by rw [inv.len, Nat.add_sub_of_le (Nat.le_of_lt inv.lt)]
  -- as an equation of pairs: `omega` below must not see this subtraction
  have hpush : (d, h.next) = (d, N0 + (w0.pos d - w0.pos x)) := by rw [hposd, Nat.add_sub_cancel_left, hnext]
  have hlen2 : (srcs ++ [d]).length = srcs.length + 1 := by rw [List.length_append, List.length_singleton]
  refine { src := ?src, complete := fun a hta h1 h2 h3 => ?complete, sorted := ?sorted, par := fun i d' hi h1 => ?par }
  case src =>
    refine forall_mem_ite_cons
      (fun _ => ⟨hin.1, hltd, by show w0.pos d < _; rw [hlen2, hposd]; exact Nat.lt_succ_self _, congrArg Prod.snd hpush⟩)
      fun e he => ?_
    have := sinv.src e (hsuf.subset he)
    exact ⟨this.1, this.2.1, by rw [hlen2]; exact Nat.lt_succ_of_lt this.2.2.1, this.2.2.2⟩
  case complete =>
    rw [hlen2] at h2 h3
    by_cases had : w0.pos a = w0.pos x + srcs.length
    · have : a = d := hwf0.inj a d (by rw [hta, hin.1]) (by rw [had, hposd])
      subst this
      -- `a` has descendants still to come, so it is a tag and was pushed
      have htag : (h.kind a).isTag = true := by
        rw [hkd]
        cases hk : (h0.kind a).isTag with
        | true => rfl
        | false =>
          have ht := hwf0.tiles a
          rw [hwf0.str_leaf a hk] at ht; simp only [Tiles] at ht; omega
      rw [if_pos htag, ← hpush]; exact List.mem_cons_self
    · -- `a` was open before and `d` lies beneath it, so its parent does too: `a` is not popped
      have hlt' : w0.pos a < w0.pos x + srcs.length := Nat.lt_of_le_of_ne (Nat.le_of_lt_succ h2) had
      have hend : w0.pos x + srcs.length < w0.pos a + w0.size a := Nat.lt_of_succ_lt h3
      have hina : w0.inSub a d := ⟨by rw [hin.1, hta], hposd ▸ Nat.le_of_lt hlt', hposd ▸ hend⟩
      have hinπ := (inSub_parent hwf0 hπ a).mp ⟨fun hh => had (by rw [hh, hposd]), hina⟩
      have := hkeep a _ (sinv.complete a hta h1 hlt' hend) hinπ.2.1
      split
      · exact List.mem_cons_of_mem _ this
      · exact this
  case sorted =>
    exact pairwise_ite_cons (fun e he => Nat.lt_of_lt_of_eq (sinv.src e (hsuf.subset he)).2.2.1 hposd.symm)
      (sinv.sorted.sublist hsuf.sublist)
  case par =>
    rw [hpar]
    rcases getElem?_snoc hi with hi | ⟨rfl, rfl⟩
    · have := (List.getElem?_eq_some_iff.mp hi).1
      rw [if_neg fun e => Nat.ne_of_lt this (Nat.add_left_cancel (e.trans hnext.symm))]
      exact sinv.par i d' hi h1
    · rw [if_pos hnext]
      exact ⟨π, hπ, rfl⟩

/-- `hall`, `hsz`: `srcs ++ ds` is an initial stretch of the document order of `x`'s subtree; `hlen1`: it begins with `x` -/
theorem copyLoop_ok {h0 : Heap} {w0 : Wit} {x N0 : Nat} (hwf0 : WF h0 w0)
    (ds : List Nat) (h : Heap) (w : Wit) (st : List (Nat × Nat)) (srcs : List Nat)
    (inv : CInv h0 N0 h w st srcs) (sinv : SInv h0 w0 x N0 h st srcs) (tinv : TInv N0 h st) (hlen1 : 1 ≤ srcs.length)
    (hds : ∀ d ∈ ds, d < N0 ∧ h0.kind d ≠ .soup)
    (hall : ∀ i d, (srcs ++ ds)[i]? = some d → w0.tree d = w0.tree x ∧ w0.pos d = w0.pos x + i)
    (hsz : (srcs ++ ds).length ≤ w0.size x) :
    ∃ h' w' st', copyLoop N0 h st ds = .ok h' ∧ CInv h0 N0 h' w' st' (srcs ++ ds) ∧ SInv h0 w0 x N0 h' st' (srcs ++ ds) := by
  induction ds generalizing h w st srcs with
  | nil => exact ⟨h, w, st, rfl, by simpa using inv, by simpa using sinv⟩
  | cons d ds ih =>
    have hdd := hds d List.mem_cons_self
    obtain ⟨h2, st2, hs, tinv2⟩ := copyStep_total inv tinv hdd.1 hdd.2
    obtain ⟨w1, inv1⟩ := cinv_step inv hdd.1 hdd.2 hs
    have hdpos := hall srcs.length d (by simp)
    have hin : w0.inSub x d := by
      refine ⟨hdpos.1, by omega, ?_⟩
      rw [List.length_append] at hsz; simp only [List.length_cons] at hsz; omega
    have sinv1 := sinv_step hwf0 inv sinv hdd.1 hdd.2 hin hdpos.2 hlen1 hs
    have heq : srcs ++ d :: ds = (srcs ++ [d]) ++ ds := by simp
    rw [heq] at hall hsz ⊢
    obtain ⟨h', w', st', hl, r⟩ := ih h2 w1 st2 (srcs ++ [d]) inv1 sinv1 tinv2 (by simp)
      (fun e he => hds e (List.mem_cons_of_mem _ he)) hall hsz
    exact ⟨h', w', st', by simp only [copyLoop, hs]; exact hl, r⟩

theorem copy_ok {h : Heap} {w : Wit} (x : Nat) (hwf : WF h w) (hstr : ∀ n, h.next ≤ n → h.kind n = .str) :
    ∃ h' w' st', copy h x = .ok (h', h.next) ∧ CInv h h.next h' w' st' (docOrder h x) ∧ SInv h w x h.next h' st' (docOrder h x) := by
  have hI := cinv_init hwf hstr x
  have hS := sinv_init h w x h.next (alloc h (h.kind x) (h.val x)).1
  suffices ∃ h' w' st', copyLoop h.next (alloc h (h.kind x) (h.val x)).1 [] (docOrder h x).tail = .ok h' ∧
      CInv h h.next h' w' st' (docOrder h x) ∧ SInv h w x h.next h' st' (docOrder h x) by
    obtain ⟨h', w', st', hl, r⟩ := this
    exact ⟨h', w', st', (copy_ok_iff hwf x h' h.next).mpr ⟨rfl, hl⟩, r⟩
  by_cases htag : (h.kind x).isTag = true
  · have := copyLoop_ok hwf (docOrder h x).tail _ w [] [x] hI hS ⟨(congrArg Kind.isTag (if_pos rfl)).trans htag, nofun⟩
      (Nat.le_refl 1) (docOrder_tail_old hwf x)
    rw [List.singleton_append, ← docOrder_cons] at this
    exact this (fun i d hi => ⟨((docOrder_idx hwf x i d).mp hi).1.1, ((docOrder_idx hwf x i d).mp hi).2⟩)
      (Nat.le_of_eq (docOrder_length hwf x))
  · rw [docOrder_leaf (hwf.str_leaf x (by simpa using htag))]
    exact ⟨_, w, [], rfl, hI, hS⟩

theorem copy_total {h : Heap} (x : Nat) (hg : Good2 h) : ∃ h' c, copy h x = .ok (h', c) := by
  obtain ⟨⟨w, hwf⟩, hstr⟩ := hg
  obtain ⟨h', _, _, he, _⟩ := copy_ok x hwf hstr
  exact ⟨h', _, he⟩

theorem copy_invs {h h' : Heap} {w : Wit} {x c : Nat} (hwf : WF h w) (hstr : ∀ n, h.next ≤ n → h.kind n = .str)
    (hc : copy h x = .ok (h', c)) :
    c = h.next ∧ ∃ w' st', CInv h h.next h' w' st' (docOrder h x) ∧ SInv h w x h.next h' st' (docOrder h x) := by
  obtain ⟨h1, w', st', he, r⟩ := copy_ok x hwf hstr
  rw [he] at hc; cases hc
  exact ⟨rfl, w', st', r⟩

theorem copy_cinv {h h' : Heap} {x c : Nat} (hg : Good2 h) (hc : copy h x = .ok (h', c)) :
    c = h.next ∧ ∃ w' st', CInv h h.next h' w' st' (docOrder h x) := by
  obtain ⟨⟨w, hwf⟩, hstr⟩ := hg
  obtain ⟨hcn, w', st', inv, _⟩ := copy_invs hwf hstr hc
  exact ⟨hcn, w', st', inv⟩

theorem step2_good {h h' : Heap} {op : Op2} (hg : Good2 h) (hs : step2 h op = .ok h') : Good2 h' := by
  cases op with
  | edit op => exact step_good hg hs
  | copy x =>
    simp only [step2] at hs
    cases hc : copy h x with
    | error e => simp only [hc, Except.map] at hs; cases hs
    | ok r =>
      simp only [hc, Except.map] at hs; cases hs
      obtain ⟨_, w', st', inv⟩ := copy_cinv hg hc
      exact (cinv_final inv).1
  | alloc k v =>
    simp only [step2] at hs; cases hs
    exact (alloc_good2_any hg k v).1

theorem copy_parents {h h' : Heap} {x c : Nat} (hg : Good2 h) (hc : copy h x = .ok (h', c)) :
    ∀ i d, 1 ≤ i → (docOrder h x)[i]? = some d →
      ∃ π j, h.parent d = some π ∧ (docOrder h x)[j]? = some π ∧ j < i ∧ h'.parent (h.next + i) = some (h.next + j) := by
  obtain ⟨⟨w, hwf⟩, hstr⟩ := hg
  obtain ⟨_, w', st', inv, sinv⟩ := copy_invs hwf hstr hc
  intro i d hi1 hid
  obtain ⟨π, hp1, hp2⟩ := sinv.par i d hid hi1
  obtain ⟨hind, hdpos⟩ := (docOrder_idx hwf x i d).mp hid
  have hxd : x ≠ d := by intro hh; subst hh; omega
  have hinπ := (inSub_parent hwf hp1 x).mp ⟨hxd, hind⟩
  have hπd := wf_parent_pos hwf hp1
  have hπ : w.pos π = w.pos x + (w.pos π - w.pos x) := by have := hinπ.2.1; omega
  exact ⟨π, w.pos π - w.pos x, hp1, (docOrder_idx hwf x _ π).mpr ⟨hinπ, hπ⟩, by omega, hp2⟩

theorem sorted_ext (key : Nat → Nat) (l1 l2 : List Nat) (h1 : l1.Pairwise (fun a b => key a < key b))
    (h2 : l2.Pairwise (fun a b => key a < key b)) (hm : ∀ m, m ∈ l1 ↔ m ∈ l2) : l1 = l2 := by
  have hnd : ∀ {l : List Nat}, l.Pairwise (fun a b => key a < key b) → l.Nodup :=
    fun h => List.Pairwise.imp (S := (· ≠ ·)) (fun {a b} (hab : key a < key b) (e : a = b) => Nat.lt_irrefl _ (e ▸ hab)) h
  exact List.Perm.eq_of_pairwise (fun a b _ _ hab hba => absurd hab (Nat.lt_asymm hba)) h1 h2
    ((List.perm_ext_iff_of_nodup (hnd h1) (hnd h2)).mpr hm)

/-- a children list is determined by the parent fields and the order of positions -/
theorem wf_kids_ext {h : Heap} {w : Wit} (hwf : WF h w) {n : Nat} {l : List Nat}
    (hs : l.Pairwise (fun a b => w.pos a < w.pos b)) (hm : ∀ m, m ∈ l ↔ h.parent m = some n) : h.kids n = l :=
  sorted_ext w.pos _ _ ((tiles_sorted _ _ _ _ _ (hwf.tiles n)).imp And.left) hs fun m =>
    ⟨fun h1 => (hm m).mpr (hwf.kid_parent n m h1), fun h1 => hwf.parent_kid m n ((hm m).mp h1)⟩

/-- **children lists correspond** under `φ` = "element at index `j` of the source's document order ↦ `j`-th object allocated" -/
theorem copy_kids {h h' : Heap} {x c : Nat} (hg : Good2 h) (hc : copy h x = .ok (h', c)) :
    ∃ φ : Nat → Nat, (∀ j k, (docOrder h x)[j]? = some k → φ k = h.next + j) ∧
      ∀ i d, (docOrder h x)[i]? = some d → h'.kids (h.next + i) = (h.kids d).map φ := by
  have hpar := copy_parents hg hc
  obtain ⟨⟨w, hwf⟩, hstr⟩ := hg
  obtain ⟨_, w', st', inv, _⟩ := copy_invs hwf hstr hc
  obtain ⟨_, hroot, hdoc, _⟩ := cinv_final inv
  obtain ⟨φ, hφ⟩ : ∃ φ : Nat → Nat, ∀ j k, (docOrder h x)[j]? = some k → φ k = h.next + j :=
    ⟨fun k => h.next + (w.pos k - w.pos x), fun j k hjk => by
      show h.next + (w.pos k - w.pos x) = _
      rw [((docOrder_idx hwf x j k).mp hjk).2, Nat.add_sub_cancel_left]⟩
  refine ⟨φ, hφ, fun i d hid => ?_⟩
  have hinj : ∀ {j j' k}, (docOrder h x)[j]? = some k → (docOrder h x)[j']? = some k → j = j' := fun a b =>
    Nat.add_left_cancel ((hφ _ _ a).symm.trans (hφ _ _ b))
  have hlen : h.next + (docOrder h x).length = h'.next := by rw [inv.len, Nat.add_sub_of_le (Nat.le_of_lt inv.lt)]
  have hclone : ∀ {j k}, (docOrder h x)[j]? = some k → h.next + j < h'.next ∧ w'.pos (h.next + j) = j := fun hj => by
    have hlt : h.next + _ < h'.next := hlen ▸ Nat.add_lt_add_left (List.getElem?_eq_some_iff.mp hj).1 _
    exact ⟨hlt, by rw [inv.clone_pos _ (Nat.le_add_right ..) hlt, Nat.add_sub_cancel_left]⟩
  obtain ⟨hind, hdpos⟩ := (docOrder_idx hwf x i d).mp hid
  have hkid : ∀ k ∈ h.kids d, ∃ j, (docOrder h x)[j]? = some k ∧ i < j ∧ w.pos k = w.pos x + j := by
    intro k hk
    have h1 := wf_kid_lt hwf hk
    have h3 := hwf.laminar x d hind.1.symm hind.2.1 hind.2.2
    have hxk : w.pos x ≤ w.pos k := Nat.le_trans hind.2.1 (Nat.le_of_succ_le h1.1)
    obtain ⟨j, hj⟩ := Nat.le.dest hxk
    have hin : w.inSub x k := ⟨(hwf.kid_tree d k hk).trans hind.1, hxk,
      Nat.lt_of_lt_of_le (Nat.lt_add_of_pos_right h1.2.2) (Nat.le_trans h1.2.1 h3)⟩
    exact ⟨j, (docOrder_idx hwf x j k).mpr ⟨hin, hj.symm⟩,
      Nat.lt_of_add_lt_add_left (by rw [← hdpos, hj]; exact Nat.lt_of_succ_le h1.1), hj.symm⟩
  apply wf_kids_ext inv.wf
  · -- sorted
    rw [List.pairwise_map]
    refine (tiles_sorted _ _ _ _ _ (hwf.tiles d)).imp_of_mem fun {a b} ha hb hab => ?_
    obtain ⟨ja, hja, _, pa⟩ := hkid a ha
    obtain ⟨jb, hjb, _, pb⟩ := hkid b hb
    rw [hφ ja a hja, hφ jb b hjb, (hclone hja).2, (hclone hjb).2]
    have hab := hab.1
    rw [pa, pb] at hab
    exact Nat.lt_of_add_lt_add_left hab
  · -- same members
    intro m
    constructor
    · intro hm
      obtain ⟨k, hk, rfl⟩ := List.mem_map.mp hm
      obtain ⟨j, hj, hij, _⟩ := hkid k hk
      obtain ⟨π, jπ, hp1, hjπ, _, hp2⟩ := hpar j k (Nat.lt_of_le_of_lt (Nat.zero_le i) hij) hj
      cases (hwf.kid_parent d k hk).symm.trans hp1
      rw [hφ j k hj, hp2, hinj hjπ hid]
    · intro hpm
      -- `m` is the clone of some `d'`, whose parent must be `d`
      have htm : w'.tree m = h.next :=
        (wf_parent_pos inv.wf hpm).1.trans (inv.clone_tree _ (Nat.le_add_right ..) (hclone hid).1)
      have hmem := (docOrder_mem inv.wf hroot m).mpr htm
      rw [hdoc, List.mem_range'_1] at hmem
      obtain ⟨i', rfl⟩ : ∃ i', m = h.next + i' := ⟨m - h.next, (Nat.add_sub_of_le hmem.1).symm⟩
      have hi'lt : i' < (docOrder h x).length := by rw [inv.len]; exact Nat.lt_of_add_lt_add_left hmem.2
      have hd' := List.getElem?_eq_getElem hi'lt
      have hi'1 : 1 ≤ i' := Nat.pos_of_ne_zero fun e => by rw [e, Nat.add_zero, hroot] at hpm; cases hpm
      obtain ⟨π, jπ, hp1, hjπ, _, hp2⟩ := hpar i' _ hi'1 hd'
      cases Nat.add_left_cancel (Option.some.inj (hpm.symm.trans hp2))
      cases Option.some.inj (hid.symm.trans hjπ)
      exact List.mem_map.mpr ⟨_, hwf.parent_kid _ _ hp1, hφ i' _ hd'⟩

/-- **the isomorphism, assembled**: one map `φ` from the source's document order onto the clone's -/
theorem copy_iso {h h' : Heap} {x c : Nat} (hg : Good2 h) (hc : copy h x = .ok (h', c)) :
    ∃ φ : Nat → Nat, (∀ j k, (docOrder h x)[j]? = some k → φ k = h.next + j) ∧
      docOrder h' c = (docOrder h x).map φ ∧
      (∀ d, d ∈ docOrder h x → h'.kind (φ d) = h.kind d ∧ h'.val (φ d) = h.val d ∧ h'.kids (φ d) = (h.kids d).map φ) ∧
      (∀ d, d ∈ docOrder h x → d ≠ x → ∃ π, h.parent d = some π ∧ π ∈ docOrder h x ∧ h'.parent (φ d) = some (φ π)) := by
  obtain ⟨φ, hφ, hkids⟩ := copy_kids hg hc
  have hpar := copy_parents hg hc
  obtain ⟨rfl, w', st', inv⟩ := copy_cinv hg hc
  obtain ⟨_, hroot, hdoc, hlen⟩ := cinv_final inv
  refine ⟨φ, hφ, ?_, ?_, ?_⟩
  · apply List.ext_getElem
    · rw [hlen, List.length_map]
    · intro i h1 h2
      rw [List.getElem_map]
      have hi : i < (docOrder h x).length := by rw [← hlen]; exact h1
      rw [hφ i _ (List.getElem?_eq_getElem hi)]
      have : (docOrder h' h.next)[i]? = some (h.next + i) := by
        rw [hdoc, List.getElem?_range' (by rw [← inv.len]; exact hi)]; simp
      rw [List.getElem?_eq_getElem h1] at this
      exact Option.some.inj this
  · intro d hd
    obtain ⟨i, hi, rfl⟩ := List.getElem_of_mem hd
    have hid := List.getElem?_eq_getElem hi
    rw [hφ i _ hid]
    exact ⟨(inv.img i _ hid).1, (inv.img i _ hid).2, hkids i _ hid⟩
  · intro d hd hdx
    obtain ⟨i, hi, rfl⟩ := List.getElem_of_mem hd
    have hid := List.getElem?_eq_getElem hi
    have hi1 : 1 ≤ i := Nat.pos_of_ne_zero fun e => hdx (by
      subst e
      have h0 : (docOrder h x)[0]? = some x := by rw [docOrder_cons]; rfl
      exact Option.some.inj (hid.symm.trans h0))
    obtain ⟨π, j, hp1, hj, _, hp2⟩ := hpar i _ hi1 hid
    refine ⟨π, hp1, List.mem_of_getElem? hj, ?_⟩
    rw [hφ i _ hid, hφ j π hj]; exact hp2

end BS.Heap
