import BSModel.Proofs.Digits
/-! C04: `decDigits` (of Props/C04 `charref_denotes_decimal`) parse back to their number -/
namespace BS.Adapter
open BS.Builder

/-- decimal digits of a number, most significant first -/
def decDigits : Nat → Nat → PStr
  | 0, _ => []
  | fuel + 1, n => if n < 10 then [48 + n] else decDigits fuel (n / 10) ++ [48 + n % 10]

theorem parse_append_digit (acc : Option Nat) (s : PStr) (d : Nat) :
    (s ++ [d]).foldl (fun acc c => match acc, decVal c with | some a, some v => some (a * 10 + v) | _, _ => none) acc
      = match s.foldl (fun acc c => match acc, decVal c with | some a, some v => some (a * 10 + v) | _, _ => none) acc,
          decVal d with
        | some a, some v => some (a * 10 + v)
        | _, _ => none := by
  simp [List.foldl_append]

theorem decDigits_eq (fuel n : Nat) : decDigits fuel n = BS.Writer.digits 10 BS.Writer.decDig fuel n := by
  fun_induction decDigits fuel n <;> simp [BS.Writer.digits, BS.Writer.decDig, *] <;> omega

theorem parse_decDigits : ∀ fuel n, n < 10 ^ fuel → 0 < fuel →
    (decDigits fuel n).foldl (fun acc c => match acc, decVal c with | some a, some v => some (a * 10 + v) | _, _ => none) (some 0)
      = some n := fun fuel n hn _ =>
  decDigits_eq fuel n ▸ BS.Writer.pfold_digits 10 BS.Writer.decDig (by omega) decVal (by decide) fuel n hn

end BS.Adapter
