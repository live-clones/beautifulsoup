import BSModel.Model.Reparse
import BSModel.Proofs.PStr
/-! C05 helper lemmas: the net effect of a balanced block on the tag stack of `_event_stream`; `substitute`,
    `output_ready`, `formatter_for_name` in the cases the properties use; the character writers as `flatMap`s. -/
namespace BS.Render

/-- the stack below the dangling frames is empty or has the parent of the coming element on top -/
def Stops (par : Option Nat) : List Item → Prop
  | [] => True
  | b :: _ => par = some b.id

theorem popWhile_spec (par : Option Nat) : ∀ (S base : List Item) (acc : List (Ev × Item)),
    (∀ f ∈ S, par ≠ some f.id) → Stops par base →
    popWhile par (S ++ base) acc = (base, acc ++ closes S)
  | [], base, acc, _, hb => by
    cases base with
    | nil => simp [popWhile, closes]
    | cons b rest =>
      have hb' : par = some b.id := hb
      simp [popWhile, closes, hb']
  | s :: S, base, acc, hS, hb => by
    have h1 : par ≠ some s.id := hS s (by simp)
    have ih := popWhile_spec par S base (acc ++ [(Ev.stop, s)]) (fun f hf => hS f (by simp [hf])) hb
    simp [popWhile, h1, ih, closes]

theorem pieces_append (ci : SCls → ClsInfo) (f : Fmt) (a b : List (Ev × Item)) :
    pieces ci f (a ++ b) = pieces ci f a ++ pieces ci f b := by
  simp [pieces, List.flatMap_append]

theorem closes_append (a b : List Item) : closes (a ++ b) = closes a ++ closes b := by
  simp [closes]

theorem length_zero_isEmpty {α} (l : List α) : (l.length == 0) = l.isEmpty := by
  cases l <;> simp

mutual
/-- processing the block of one node: every dangling frame is closed, the node's events are produced except for the
    end events still owed (`S'`). `S`: frames a finished sibling left open, `base`: the stack below. -/
theorem fold_node : ∀ (n : Node) (par : Option Nat) (pname : Option PStr) (k : Nat)
    (S base : List Item) (acc : List (Ev × Item)),
    (∀ f ∈ S, par ≠ some f.id) → Stops par base →
    ∃ S' acc', (flatten par pname k n).foldl evStep (S ++ base, acc) = (S' ++ base, acc') ∧
      acc' ++ closes S' = acc ++ closes S ++ specEvents par pname k n ∧
      (∀ f ∈ S', k ≤ f.id)
  | .str c s => by
    intro par pname k S base acc hS hb
    refine ⟨[], acc ++ closes S ++ [(Ev.string, ⟨k, par, .str c s pname⟩)], ?_, ?_, by simp⟩
    · simp [flatten, evStep, popWhile_spec par S base acc hS hb]
    · simp [closes, specEvents]
  | .tag i kids => by
    intro par pname k S base acc hS hb
    simp only [flatten, List.foldl_cons]
    by_cases he : (kids.isEmpty && i.cbe) = true
    · obtain ⟨rfl, hcbe⟩ : kids = [] ∧ i.cbe = true := by simpa using he
      refine ⟨[], acc ++ closes S ++ [(Ev.empty, ⟨k, par, .tag i 0⟩)], ?_, ?_, by simp⟩
      · simp [flattenL, evStep, popWhile_spec par S base acc hS hb, Payload.isEmptyElement, hcbe]
      · simp [closes, specEvents, hcbe]
    · have hne : (Payload.tag i kids.length).isEmptyElement = false := by
        simp only [Payload.isEmptyElement, length_zero_isEmpty]
        simpa using he
      have hstep : evStep (S ++ base, acc) ⟨k, par, .tag i kids.length⟩ =
          ([] ++ (⟨k, par, .tag i kids.length⟩ :: base),
            acc ++ closes S ++ [(Ev.start, ⟨k, par, .tag i kids.length⟩)]) := by
        simp only [evStep, popWhile_spec par S base acc hS hb, hne, Bool.false_eq_true, if_false, List.nil_append]
      rw [hstep]
      obtain ⟨S2, acc2, h1, h2, h3⟩ := fold_forest kids (some k) (some i.name) (k + 1) []
        (⟨k, par, .tag i kids.length⟩ :: base) (acc ++ closes S ++ [(Ev.start, ⟨k, par, .tag i kids.length⟩)])
        (by simp) rfl (fun q hq => by cases hq; exact Nat.lt_succ_self k)
      refine ⟨S2 ++ [⟨k, par, .tag i kids.length⟩], acc2, ?_, ?_, ?_⟩
      · rw [h1]; simp
      · rw [closes_append, ← List.append_assoc, h2]
        simp only [specEvents, he]
        simp [closes, List.append_assoc]
      · intro f hf
        simp only [List.mem_append, List.mem_singleton] at hf
        rcases hf with hf | hf
        · rcases h3 f hf with h | h
          · cases h
          · exact Nat.le_of_succ_le h
        · subst hf; simp
/-- ids are pre-order positions: a parent's is below its block (`q < k`), so no frame a sibling leaves (`k ≤ f.id`) is
    the next one's parent -/
theorem fold_forest : ∀ (ns : List Node) (par : Option Nat) (pname : Option PStr) (k : Nat)
    (S base : List Item) (acc : List (Ev × Item)),
    (∀ f ∈ S, par ≠ some f.id) → Stops par base → (∀ q, par = some q → q < k) →
    ∃ S' acc', (flattenL par pname k ns).foldl evStep (S ++ base, acc) = (S' ++ base, acc') ∧
      acc' ++ closes S' = acc ++ closes S ++ specEventsL par pname k ns ∧
      (∀ f ∈ S', f ∈ S ∨ k ≤ f.id)
  | [] => by
    intro par pname k S base acc _ _ _
    exact ⟨S, acc, by simp [flattenL], by simp [specEventsL], fun f hf => Or.inl hf⟩
  | n :: ns => by
    intro par pname k S base acc hS hb hk
    simp only [flattenL, List.foldl_append]
    obtain ⟨S1, acc1, h1, h2, h3⟩ := fold_node n par pname k S base acc hS hb
    rw [h1]
    obtain ⟨S2, acc2, g1, g2, g3⟩ := fold_forest ns par pname (k + (flatten par pname k n).length) S1 base acc1
      (fun f hf heq => Nat.lt_irrefl _ (Nat.lt_of_lt_of_le (hk f.id heq) (h3 f hf)))
      hb (fun q hq => Nat.lt_of_lt_of_le (hk q hq) (Nat.le_add_right _ _))
    refine ⟨S2, acc2, g1, ?_, ?_⟩
    · rw [g2, h2]; simp [specEventsL, List.append_assoc]
    · intro f hf
      rcases g3 f hf with h | h
      · exact Or.inr (h3 f h)
      · exact Or.inr (Nat.le_trans (Nat.le_add_right _ _) h)
end

/-- **`_event_stream` is the structural recursion** (a forest: `descendants` of a tag) -/
theorem eventStream_flattenL (ns : List Node) (par : Option Nat) (pname : Option PStr) (k : Nat) (hk : ∀ q, par = some q → q < k) :
    eventStream (flattenL par pname k ns) = specEventsL par pname k ns := by
  obtain ⟨S, acc, h1, h2, _⟩ := fold_forest ns par pname k [] [] [] (by simp) trivial hk
  simp only [eventStream]
  simp only [List.append_nil] at h1
  rw [h1]
  simpa [closes] using h2

theorem eventStream_flatten (n : Node) (par : Option Nat) (pname : Option PStr) (k : Nat) (hk : ∀ q, par = some q → q < k) :
    eventStream (flatten par pname k n) = specEvents par pname k n := by
  simpa [flattenL, specEventsL] using eventStream_flattenL [n] par pname k hk

mutual
theorem pieces_specEvents (ci : SCls → ClsInfo) (fm : Fmt) : ∀ (n : Node) (par : Option Nat) (pname : Option PStr) (k : Nat),
    pieces ci fm (specEvents par pname k n) = renderSpec ci fm pname n
  | .str c s => by
    intro par pname k
    simp [specEvents, pieces, piece, renderSpec]
  | .tag i kids => by
    intro par pname k
    simp only [specEvents, renderSpec]
    by_cases he : (kids.isEmpty && i.cbe) = true
    · obtain ⟨rfl, hcbe⟩ : kids = [] ∧ i.cbe = true := by simpa using he
      simp [pieces, piece, Payload.isEmptyElement, hcbe]
    · have hne : (Payload.tag i kids.length).isEmptyElement = false := by
        simp only [Payload.isEmptyElement, length_zero_isEmpty]
        simpa using he
      have hk := pieces_specEventsL ci fm kids (some k) (some i.name) (k + 1)
      simp only [pieces] at hk ⊢
      simp only [he, Bool.false_eq_true, if_false, List.flatMap_cons, List.flatMap_append, hk]
      simp [piece, hne]
theorem pieces_specEventsL (ci : SCls → ClsInfo) (fm : Fmt) : ∀ (ns : List Node) (par : Option Nat) (pname : Option PStr) (k : Nat),
    pieces ci fm (specEventsL par pname k ns) = renderL ci fm pname ns
  | [] => by
    intro _ _ _
    simp [specEventsL, pieces, renderL]
  | n :: ns => by
    intro par pname k
    simp only [specEventsL, renderL, pieces_append, pieces_specEvents ci fm n, pieces_specEventsL ci fm ns]
end

/-- what an event of the stream says about its element: `EMPTY` only for a childless tag that can be empty,
    `START`/`END` only for the other tags, `STRING` only for strings -/
def evOK (e : Ev × Item) : Bool :=
  match e.1, e.2.pl with
  | .empty, .tag i nk => nk == 0 && i.cbe
  | .start, .tag i nk => !(nk == 0 && i.cbe)
  | .stop, .tag i nk => !(nk == 0 && i.cbe)
  | .string, .str _ _ _ => true
  | _, _ => false

mutual
theorem specEvents_ok : ∀ (n : Node) (par : Option Nat) (pname : Option PStr) (k : Nat),
    ∀ e ∈ specEvents par pname k n, evOK e = true
  | .str c s => by
    intro par pname k
    simp [specEvents, evOK]
  | .tag i kids => by
    intro par pname k e he
    simp only [specEvents] at he
    split at he
    · rename_i hc
      obtain rfl : e = _ := List.mem_singleton.mp he
      simpa [evOK, length_zero_isEmpty] using hc
    · rename_i hc
      have hne : (!(kids.length == 0 && i.cbe)) = true := by
        rw [length_zero_isEmpty, Bool.not_eq_true']
        exact Bool.eq_false_iff.mpr hc
      simp only [List.mem_cons, List.mem_append, List.not_mem_nil, or_false] at he
      rcases he with rfl | he | rfl
      · exact hne
      · exact specEventsL_ok kids _ _ _ e he
      · exact hne
theorem specEventsL_ok : ∀ (ns : List Node) (par : Option Nat) (pname : Option PStr) (k : Nat),
    ∀ e ∈ specEventsL par pname k ns, evOK e = true
  | [] => by
    intro _ _ _
    simp [specEventsL]
  | n :: ns => by
    intro par pname k e he
    simp only [specEventsL, List.mem_append] at he
    rcases he with he | he
    · exact specEvents_ok n _ _ _ e he
    · exact specEventsL_ok ns _ _ _ e he
end

/-- the parent's name does not switch substitution off -/
abbrev PnOK (f : Fmt) (pn : Option PStr) : Prop := (match pn with | some n => f.cdataTags.contains n | none => false) = false

theorem substitute_on {f : Fmt} {g : PStr → PStr} (hf : f.subst = some g) {pn : Option PStr} (hpn : PnOK f pn) (s : PStr) :
    substitute f pn s = g s := by
  unfold substitute
  rw [hf]
  cases pn with
  | none => rfl
  | some n => simp only [show f.cdataTags.contains n = false from hpn, Bool.false_eq_true, if_false]

theorem substitute_off (f : Fmt) {n : PStr} (h : f.cdataTags.contains n = true) (s : PStr) : substitute f (some n) s = s := by
  unfold substitute
  cases f.subst with
  | none => rfl
  | some g => simp only [h, if_true]

theorem outputReady_cdata (ci : SCls → ClsInfo) (f : Fmt) (pn : PStr) (c : SCls) (s : PStr)
    (h : f.cdataTags.contains pn = true) :
    outputReady ci f (some pn) c s = (ci c).pre ++ s ++ (ci c).suf := by
  simp only [outputReady, substitute_off f h, ite_self]

theorem formatterForName_name (e : FmtEnv) (x : Bool) (k : Option PStr) (s : FmtSpec)
    (h : lookupReg (e.registry x) k = some s) : formatterForName e x (.name k) = .ok (e.mk' s) := by
  simp only [formatterForName, h]

theorem outputReady_preformatted (ci : SCls → ClsInfo) (hci : ∀ c, ci c = assumedMarkup c) (f : Fmt)
    (pn : Option PStr) (c : SCls) (hc : (assumedMarkup c).preformatted = true) (s : PStr) :
    outputReady ci f pn c s = (assumedMarkup c).pre ++ s ++ (assumedMarkup c).suf := by
  simp [outputReady, hci, hc]

theorem outputReady_text (ci : SCls → ClsInfo) (hci : ∀ c, ci c = assumedMarkup c) (f : Fmt)
    (pn : Option PStr) (c : SCls) (hc : assumedMarkup c = ⟨[], [], false⟩) (s : PStr) :
    outputReady ci f pn c s = substitute f pn s := by
  simp [outputReady, hci, hc]

/-- a child below a cdata-containing element: strings verbatim -/
def rawKid (ci : SCls → ClsInfo) (fm : Fmt) (pn : PStr) : Node → PStr
  | .str c s => (ci c).pre ++ s ++ (ci c).suf
  | .tag i ks => renderSpec ci fm (some pn) (.tag i ks)

theorem renderL_cdata (ci : SCls → ClsInfo) (f : Fmt) (pn : PStr) (h : f.cdataTags.contains pn = true) :
    ∀ (ks : List Node), renderL ci f (some pn) ks = ks.flatMap (rawKid ci f pn)
  | [] => by simp [renderL]
  | .str c s :: ks => by
    simp only [renderL, renderSpec, outputReady_cdata ci f pn c s h, renderL_cdata ci f pn h ks, List.flatMap_cons, rawKid]
  | .tag i k2 :: ks => by
    simp only [renderL, renderL_cdata ci f pn h ks, List.flatMap_cons, rawKid]

theorem substXml_eq_flatMap : ∀ (s : PStr), substXml s = s.flatMap esc
  | [] => rfl
  | c :: cs => by simp [substXml, substXml_eq_flatMap cs]

theorem replaceDq_eq_flatMap : ∀ (s : PStr),
    replaceDq s = s.flatMap fun c => if c = 34 then [38, 113, 117, 111, 116, 59] else [c]
  | [] => rfl
  | c :: cs => by simp [replaceDq, replaceDq_eq_flatMap cs]

end BS.Render
