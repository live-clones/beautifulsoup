import BSModel.Proofs.HeapLinkA
/-! Pillar 2 (`LinkChildSpec`): the linking part of `Tag._insert` never fails on a well-formed heap and
    preserves the invariant with the paste witness. -/
namespace BS.Heap

theorem insertIdx_eq_take_drop (x : Nat) : ∀ (l : List Nat) (i : Nat), i ≤ l.length →
    l.insertIdx i x = l.take i ++ x :: l.drop i := by
  intro l
  induction l with
  | nil => intro i hi; simp at hi; subst hi; simp
  | cons a l ih =>
    intro i hi
    cases i with
    | zero => simp
    | succ i =>
      simp only [List.insertIdx_succ_cons, List.take_succ_cons, List.drop_succ_cons, List.cons_append]
      rw [ih i (by simpa using hi)]

/-- the geometry of the insertion point computed by `linkChild` -/
theorem geo_of (h : Heap) (w : Wit) (p i x : Nat) (g : Heap) (hwf : WF h w)
    (hx : h.parent x = none) (hkx : h.kind x ≠ .soup) (hpx : w.tree p ≠ x) (hi : i ≤ (h.kids p).length)
    (g1 : ∀ j, g.ns j = if j = x then none else if prevSibOf h p i = some j then some x else h.ns j)
    (g2 : ∀ j, g.parent j = if j = x then some p else h.parent j) :
    Geo h w p x (boundary w.size (h.kids p) (w.pos p + 1) i) (predOf h p i) (lastDown h h.cap x)
      (if (h.kids p).length ≤ i then nextAfter g h.cap p else (h.kids p)[i]?)
      (prevSibOf h p i) ((h.kids p)[i]?) := by
  have hT := hwf.tiles p
  have hbs := boundary_spec w.pos w.size (h.kids p) _ _ i hT hi
  have hbg := boundary_ge w.size (h.kids p) (w.pos p + 1) i
  have hxt := hwf.root_tree x hx
  have hkid : ∀ k, k ∈ h.kids p → w.tree k = w.tree p ∧ w.pos p + 1 ≤ w.pos k ∧
      w.pos k + w.size k ≤ w.pos p + w.size p ∧ 1 ≤ w.size k :=
    fun k hk => ⟨hwf.kid_tree p k hk, wf_kid_lt hwf hk⟩
  have hprev : ∀ a, prevSibOf h p i = some a ↔
      (h.parent a = some p ∧ w.pos a + w.size a = boundary w.size (h.kids p) (w.pos p + 1) i) := by
    intro a
    by_cases hi0 : i = 0
    · subst hi0
      simp only [prevSibOf, if_true, boundary_zero]
      constructor
      · intro e; cases e
      · rintro ⟨h1, h2⟩
        have := hkid a (hwf.parent_kid a p h1)
        omega
    · simp only [prevSibOf, hi0, if_false]
      have hlt : i - 1 < (h.kids p).length := by omega
      have hpc : (h.kids p)[i - 1]? = some ((h.kids p)[i - 1]) := List.getElem?_eq_getElem hlt
      have hbp := boundary_prev w.pos w.size (h.kids p) _ _ (i - 1) _ hT hpc
      have e : i - 1 + 1 = i := by omega
      rw [e] at hbp
      have hm : (h.kids p)[i - 1] ∈ h.kids p := List.getElem_mem hlt
      rw [hpc]
      constructor
      · intro e; cases e
        exact ⟨hwf.kid_parent p _ hm, hbp.symm⟩
      · rintro ⟨h1, h2⟩
        have hma := hwf.parent_kid a p h1
        have k1 := hkid a hma
        have k2 := hkid _ hm
        -- two children ending at one boundary overlap, so they are one
        have d1 := tiles_disjoint _ _ _ _ _ hT a hma _ hm
        have d2 := tiles_disjoint _ _ _ _ _ hT _ hm a hma
        have : (h.kids p)[i - 1] = a := hwf.inj _ a (by rw [k1.1, k2.1]) (by omega)
        rw [this]
  have hat : ∀ b, i < (h.kids p).length → w.tree b = w.tree p →
      w.pos b = boundary w.size (h.kids p) (w.pos p + 1) i → (h.kids p)[i]? = some b := by
    intro b hlen t1 t2
    have hnc : (h.kids p)[i]? = some ((h.kids p)[i]) := List.getElem?_eq_getElem hlen
    have k2 := hkid _ (List.mem_of_getElem? hnc)
    rw [hnc, hwf.inj _ b (k2.1.trans t1.symm) ((hbs.1 _ hnc).trans t2.symm)]
  have hnext : ∀ b, (h.kids p)[i]? = some b ↔
      (h.parent b = some p ∧ w.pos b = boundary w.size (h.kids p) (w.pos p + 1) i) := by
    intro b
    constructor
    · intro e
      exact ⟨hwf.kid_parent p b (List.mem_of_getElem? e), hbs.1 b e⟩
    · rintro ⟨h1, h2⟩
      have k1 := hkid b (hwf.parent_kid b p h1)
      by_cases hlen : i < (h.kids p).length
      · exact hat b hlen k1.1 h2
      · have := hbs.2.1 (by omega)
        omega
  -- `pred` is `p` before the first slot, else the last node of the previous sibling's subtree
  have hpred : w.tree (predOf h p i) = w.tree p ∧
      w.pos (predOf h p i) + 1 = boundary w.size (h.kids p) (w.pos p + 1) i := by
    unfold predOf
    cases hps : prevSibOf h p i with
    | none =>
      by_cases hi0 : i = 0
      · subst hi0; exact ⟨rfl, (boundary_zero _ _ _).symm⟩
      · exfalso
        simp only [prevSibOf, hi0, if_false] at hps
        have : (h.kids p).length ≤ i - 1 := by simpa using hps
        omega
    | some pc =>
      simp only
      have hpc := (hprev pc).mp hps
      have := last_facts h w hwf pc
      exact ⟨this.1.trans (hwf.kid_tree p pc (hwf.parent_kid pc p hpc.1)), by omega⟩
  refine
    { wf := hwf, xroot := hx, xkind := hkx, ptree := hpx, Plo := by omega, Phi := hbs.2.2,
      sep := fun k hk => boundary_sep w.pos w.size (h.kids p) _ _ i hT k (hwf.parent_kid k p hk),
      pred_t := hpred.1, pred_p := hpred.2, last_t := (last_facts h w hwf x).1.trans hxt.1,
      last_p := by have := last_facts h w hwf x; omega, succ_iff := ?_, prev_iff := hprev, next_iff := hnext }
  · intro b
    by_cases hlen : (h.kids p).length ≤ i
    · rw [if_pos hlen]
      -- `g` is `h` on `p` and before: not `x` (another tree), not `prevSib` (after `p`)
      have hag : ∀ n, w.tree n = w.tree p → w.pos n ≤ w.pos p → g.ns n = h.ns n ∧ g.parent n = h.parent n := by
        intro n hn1 hn2
        have hnx : n ≠ x := by intro e; subst e; exact hpx (by rw [← hn1]; exact hxt.1)
        have hnp : prevSibOf h p i ≠ some n := by
          intro e
          have := hkid n (hwf.parent_kid n p ((hprev n).mp e).1)
          omega
        rw [g1, g2]; simp [hnx, hnp]
      have hcap : w.pos p < h.cap := by
        have := wf_pos_lt hwf p; have := hwf.size_cap (w.tree p); omega
      rw [nextAfter_spec hwf g p hag h.cap p rfl (Nat.le_refl _) hcap b, hbs.2.1 (by omega)]
    · rw [if_neg hlen]
      exact ⟨fun e => ⟨(hkid b (List.mem_of_getElem? e)).1, hbs.1 b e⟩, fun ⟨t1, t2⟩ => hat b (by omega) t1 t2⟩

/-- **Pillar 2**: the linking part of `Tag._insert` -/
theorem linkChild_spec : LinkChildSpec := by
  intro h w p i x hwf hx hkx hptag hpx hi hxn hpn
  obtain ⟨h', g, hok, g1, g2, L⟩ := linkChild_linked h p i x hi
  have G := geo_of h w p i x g hwf hx hkx hpx hi g1 g2
  refine ⟨h', hok, ?_, ?_, L.parent, L.kind, L.val, L.next⟩
  · have hk : ∀ k, k ∈ (h.kids p).insertIdx i x ↔ (k = x ∨ k ∈ h.kids p) := fun k => List.mem_insertIdx hi
    have htp : Tiles (pasteWit w x p (boundary w.size (h.kids p) (w.pos p + 1) i)).pos
        (pasteWit w x p (boundary w.size (h.kids p) (w.pos p + 1) i)).size ((h.kids p).insertIdx i x)
        (w.pos p + 1) (w.pos p + w.size p + w.size x) := by
      rw [insertIdx_eq_take_drop x _ i hi]
      have rx := G.region x
      have hxt := G.x_tree; have hptr := G.ptree
      apply tiles_insert w.pos w.size _ _ x (w.size x) (hwf.size_pos x) (h.kids p) i _ _ (hwf.tiles p)
        (x_not_kid G p)
      · intro k hk
        have := kid_region G (hwf.kid_parent p k hk)
        omega
      · intro k hk
        have := kid_region G (hwf.kid_parent p k hk)
        have := hwf.size_pos k
        split <;> omega
      · omega
      · omega
    exact link_wf G L hptag hk htp hxn hpn
  · intro n; rw [L.kids]

end BS.Heap

#print axioms BS.Heap.linkChild_spec
