import BSModel.Proofs.PrettyRaw
/-! C14: the token cuts `plainToks`/`prettyToks` (`Model/Pretty.lean`) are cuts of the real outputs (`plainToks_text`,
    `prettyToks_text`), and the two token sequences agree once character data is merged and its whitespace disregarded
    (`eqv_toks`). -/
namespace BS.Pretty

theorem textOf_append (a b : List Tok) : textOf (a ++ b) = textOf a ++ textOf b := by simp [textOf]

theorem textOf_tagTok (p : PStr) : textOf (tagTok p) = p := by by_cases h : p = [] <;> simp [tagTok, textOf, h, Tok.text]
theorem textOf_lineToks (u : PStr) (l : Int) (p : PStr) : textOf (lineToks u l p) = fullLine u l p := by
  by_cases h : p = [] <;> simp [lineToks, textOf, fullLine, h, Tok.text]
theorem textOf_openToks (u : PStr) (l : Int) (p : PStr) : textOf (openToks u l p) = openLine u l p := by
  by_cases h : p = [] <;> simp [openToks, textOf, openLine, h, Tok.text]
theorem textOf_closeToks (p : PStr) : textOf (closeToks p) = closeLine p := by
  by_cases h : p = [] <;> simp [closeToks, textOf, closeLine, h, Tok.text]
theorem textOf_strToks (p s b : PStr) : textOf (strToks p s b) = outputReady p s b := by
  by_cases h : p = [] <;> simp [strToks, textOf, h, Tok.text, rstrip_append_rtail]

mutual
theorem plainToks_text (c : RCfg) : ∀ (r : RNode), textOf (plainToks c r) = plain (resolve c r)
  | .str p s b => by simp [plainToks, resolve, plain, textOf_strToks]
  | .tag i ks => by
    simp only [plainToks, resolve_tag]
    by_cases he : (ks.isEmpty && i.canBeEmpty) = true
    · simp [he, plain, textOf_tagTok]
    · simp [he, plain, textOf_append, textOf_tagTok, plainToksL_text c ks]
theorem plainToksL_text (c : RCfg) : ∀ (ks : List RNode), textOf (plainToksL c ks) = plainL (resolveL c ks)
  | [] => by simp [plainToksL, resolveL, plainL, textOf]
  | k :: ks => by simp [plainToksL, resolveL, plainL, textOf_append, plainToks_text c k, plainToksL_text c ks]
end

mutual
theorem prettyToks_text (c : RCfg) (u : PStr) : ∀ (r : RNode) (l : Int) (lit : Bool),
    textOf (prettyToks c u l lit r) = prettyNode u l lit (resolve c r)
  | .str p s b, l, lit => by
    cases lit  -- `false` first, here and below
    · by_cases h : strip (outputReady p s b) = [] <;> cases p <;>
        simp [prettyToks, resolve, prettyNode, h, fullLine, textOf, Tok.text]
    · simp [prettyToks, resolve, prettyNode, textOf_strToks]
  | .tag i ks, l, lit => by
    simp only [prettyToks, resolve_tag]
    by_cases he : (ks.isEmpty && i.canBeEmpty) = true
    · cases lit <;> simp [he, prettyNode, textOf_tagTok, textOf_lineToks]
    · cases lit
      · by_cases hp : (!shouldPrettyPrint i.preserveWs i.name) = true
        · simp [he, hp, prettyNode, textOf_append, textOf_openToks, textOf_closeToks, prettyToksL_text c u ks]
        · simp [he, hp, prettyNode, textOf_append, textOf_lineToks, prettyToksL_text c u ks]
      · simp [he, prettyNode, textOf_append, textOf_tagTok, prettyToksL_text c u ks]
theorem prettyToksL_text (c : RCfg) (u : PStr) : ∀ (ks : List RNode) (l : Int) (lit : Bool),
    textOf (prettyToksL c u l lit ks) = prettyL u l lit (resolveL c ks)
  | [], l, lit => by simp [prettyToksL, resolveL, prettyL, textOf]
  | k :: ks, l, lit => by
    simp [prettyToksL, resolveL, prettyL, textOf_append, prettyToks_text c u k l lit, prettyToksL_text c u ks l lit]
end

/-- two continuations that canonicalise alike whatever character data is pending -/
def Eqv (a b : List Tok) : Prop := ∀ acc, canonAux acc a = canonAux acc b

theorem Eqv.refl (a : List Tok) : Eqv a a := fun _ => rfl
theorem Eqv.symm {a b : List Tok} (h : Eqv a b) : Eqv b a := fun acc => (h acc).symm
theorem Eqv.trans {a b c : List Tok} (h1 : Eqv a b) (h2 : Eqv b c) : Eqv a c := fun acc => (h1 acc).trans (h2 acc)

theorem Eqv.markup (p : PStr) {a b : List Tok} (h : Eqv a b) : Eqv (.markup p :: a) (.markup p :: b) := by
  intro acc; simp [canonAux, h []]

theorem Eqv.data {s s' : PStr} (hs : dropWs s = dropWs s') {a b : List Tok} (h : Eqv a b) :
    Eqv (.data s :: a) (.data s' :: b) := by
  intro acc; simp [canonAux, hs, h _]

theorem Eqv.dropL {s : PStr} (hs : dropWs s = []) {a b : List Tok} (h : Eqv a b) : Eqv (.data s :: a) b := by
  intro acc; simp [canonAux, hs, h _]

theorem Eqv.dropR {s : PStr} (hs : dropWs s = []) {a b : List Tok} (h : Eqv a b) : Eqv a (.data s :: b) :=
  (Eqv.dropL hs h.symm).symm

theorem Eqv.append_left : ∀ (x : List Tok) {a b : List Tok}, Eqv a b → Eqv (x ++ a) (x ++ b)
  | [], _, _, h => h
  | .markup p :: x, _, _, h => Eqv.markup p (Eqv.append_left x h)
  | .data _ :: x, _, _, h => Eqv.data rfl (Eqv.append_left x h)

/-- every string with a PREFIX starts with a character that is not whitespace (true of every bs4 class: generated table) -/
def specialsOk : RNode → Bool
  | .str p _ _ => match p with
    | [] => true
    | a :: _ => !isSpace a
  | .tag _ ks => specialsOkL ks
where specialsOkL : List RNode → Bool
  | [] => true
  | k :: ks => specialsOk k && specialsOkL ks

theorem strip_eq_rstrip_of_head {a : Nat} {x : PStr} (ha : isSpace a = false) : strip (a :: x) = rstrip (a :: x) := by
  simp [strip, lstrip, ha]

theorem rstrip_ne_nil_of_head {a : Nat} {x : PStr} (ha : isSpace a = false) : rstrip (a :: x) ≠ [] := by
  intro h
  have h1 := rstrip_append_rtail (a :: x)
  rw [h, List.nil_append] at h1
  have := rtail_ws (a :: x) a (by rw [h1]; simp)
  simp [ha] at this

theorem eqv_tagTok_line (u : PStr) (hu : ∀ c ∈ u, isSpace c = true) (l : Int) (p : PStr) {a b : List Tok} (h : Eqv a b) :
    Eqv (lineToks u l p ++ a) (tagTok p ++ b) := by
  by_cases hp : p = []
  · simpa [lineToks, tagTok, hp] using h
  · simp only [lineToks, tagTok, hp, if_false, List.cons_append, List.nil_append]
    exact Eqv.dropL (dropWs_rep u l hu) (Eqv.markup p (Eqv.dropL dropWs_nl h))

theorem eqv_tagTok_open (u : PStr) (hu : ∀ c ∈ u, isSpace c = true) (l : Int) (p : PStr) {a b : List Tok} (h : Eqv a b) :
    Eqv (openToks u l p ++ a) (tagTok p ++ b) := by
  by_cases hp : p = []
  · simpa [openToks, tagTok, hp] using h
  · simp only [openToks, tagTok, hp, if_false, List.cons_append, List.nil_append]
    exact Eqv.dropL (dropWs_rep u l hu) (Eqv.markup p h)

theorem eqv_tagTok_close (p : PStr) {a b : List Tok} (h : Eqv a b) : Eqv (closeToks p ++ a) (tagTok p ++ b) := by
  by_cases hp : p = []
  · simpa [closeToks, tagTok, hp] using h
  · simp only [closeToks, tagTok, hp, if_false, List.cons_append, List.nil_append]
    exact Eqv.markup p (Eqv.dropL dropWs_nl h)

mutual
theorem eqv_toks (c : RCfg) (u : PStr) (hu : ∀ c ∈ u, isSpace c = true) : ∀ (r : RNode) (l : Int) (lit : Bool)
    (a b : List Tok), specialsOk r = true → Eqv a b → Eqv (prettyToks c u l lit r ++ a) (plainToks c r ++ b)
  | .str p s b0, l, lit, a, b, hok, h => by
    cases lit
    · simp only [prettyToks, plainToks, Bool.false_eq_true, if_false]
      cases hp : p with
      | nil =>
        by_cases hs : strip (outputReady [] s b0) = []
        · simp only [hs, if_true, strToks, List.nil_append, List.cons_append]
          exact Eqv.dropR (dropWs_nil_of_strip hs) h
        · simp only [hs, if_false, if_true, strToks, List.nil_append, List.cons_append]
          refine Eqv.data ?_ h
          simp [dropWs_append, dropWs_rep u l hu, dropWs_nl, dropWs_strip]
      | cons a0 p' =>
        have ha : isSpace a0 = false := by simpa [specialsOk, hp] using hok
        have hx : outputReady (a0 :: p') s b0 = a0 :: (p' ++ b0 ++ s) := by simp [outputReady]
        have hst : strip (outputReady (a0 :: p') s b0) = rstrip (outputReady (a0 :: p') s b0) := by
          rw [hx]; exact strip_eq_rstrip_of_head ha
        have hne : strip (outputReady (a0 :: p') s b0) ≠ [] := by
          rw [hst, hx]; exact rstrip_ne_nil_of_head ha
        simp only [hne, if_false, strToks, List.cons_append, List.nil_append, reduceCtorEq]
        rw [hst]
        refine Eqv.dropL (dropWs_rep u l hu) (Eqv.markup _ (Eqv.data ?_ h))
        rw [dropWs_nl, dropWs_all (rtail_ws _)]
    · simp only [prettyToks, plainToks, if_true]
      exact Eqv.append_left _ h
  | .tag i ks, l, lit, a, b, hok, h => by
    have hks : specialsOk.specialsOkL ks = true := by simpa [specialsOk] using hok
    simp only [prettyToks, plainToks]
    by_cases he : (ks.isEmpty && i.canBeEmpty) = true
    · cases lit
      · simp only [he, if_true, Bool.false_eq_true, if_false]
        exact eqv_tagTok_line u hu l _ h
      · simp only [he, if_true]
        exact Eqv.append_left _ h
    · cases lit
      · by_cases hp : (!shouldPrettyPrint i.preserveWs i.name) = true
        · simp only [he, hp, if_true, Bool.false_eq_true, if_false, List.append_assoc]
          exact eqv_tagTok_open u hu l _ (eqv_toksL c u hu ks (l + 1) true _ _ hks (eqv_tagTok_close _ h))
        · simp only [he, hp, Bool.false_eq_true, if_false, List.append_assoc]
          exact eqv_tagTok_line u hu l _ (eqv_toksL c u hu ks (l + 1) false _ _ hks (eqv_tagTok_line u hu l _ h))
      · simp only [he, if_true, Bool.false_eq_true, if_false, List.append_assoc]
        exact Eqv.append_left _ (eqv_toksL c u hu ks (l + 1) true _ _ hks (Eqv.append_left _ h))
theorem eqv_toksL (c : RCfg) (u : PStr) (hu : ∀ c ∈ u, isSpace c = true) : ∀ (ks : List RNode) (l : Int) (lit : Bool)
    (a b : List Tok), specialsOk.specialsOkL ks = true → Eqv a b →
    Eqv (prettyToksL c u l lit ks ++ a) (plainToksL c ks ++ b)
  | [], l, lit, a, b, _, h => by simpa [prettyToksL, plainToksL] using h
  | k :: ks, l, lit, a, b, hok, h => by
    simp only [specialsOk.specialsOkL, Bool.and_eq_true] at hok
    simp only [prettyToksL, plainToksL, List.append_assoc]
    exact eqv_toks c u hu k l lit _ _ hok.1 (eqv_toksL c u hu ks l lit a b hok.2 h)
end

end BS.Pretty
