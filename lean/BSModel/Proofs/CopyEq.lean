import BSModel.Model.Copy
import BSModel.Proofs.Assoc
/-! C12: `dict.__eq__` is equality of finite maps, `same` (`self is other`) holds exactly of equal values, `==` is equality of the normal forms `canon`;
    equal trees have the same size; permuting a dict changes no lookup -/
namespace BS.Copy

theorem lookup_none_iff {β : Type} (k : PStr) (l : List (PStr × β)) : l.lookup k = none ↔ k ∉ l.map Prod.fst := by
  simp only [List.lookup_eq_none_iff, List.mem_map, bne_iff_ne, ne_eq]
  exact ⟨fun h ⟨p, hp, e⟩ => h p hp e.symm, fun h p hp e => h ⟨p, hp, e.symm⟩⟩

theorem lookup_map_snd {β γ : Type} (f : β → γ) (k : PStr) (l : List (PStr × β)) :
    (l.map fun kv => (kv.1, f kv.2)).lookup k = (l.lookup k).map f := by
  induction l with
  | nil => simp
  | cons kv r ih =>
    obtain ⟨k', v⟩ := kv
    simp only [List.map_cons, List.lookup_cons]
    cases (k == k') <;> simp [ih]

theorem eraseAttrs_lookup (l : Attrs) (k : PStr) :
    (eraseAttrs l).lookup k = (l.lookup k).map fun e => (e.1, e.2.erase) := by
  simp only [eraseAttrs]
  exact lookup_map_snd (fun e : AEntry => (e.1, e.2.erase)) k l

theorem valEq_iff (v w : AVal) : valEq v w = true ↔ v.val = w.val := by
  cases v <;> cases w <;> simp [valEq, AVal.val, numOf]

theorem mem_keys_iff (k : PStr) (l : Attrs) : k ∈ l.map Prod.fst ↔ attrMap l k ≠ none := by
  rw [attrMap, ne_eq, Option.map_eq_none_iff, lookup_none_iff, Classical.not_not]

theorem dictEq_iff (a b : Attrs) (ha : (a.map Prod.fst).Nodup) (hb : (b.map Prod.fst).Nodup) :
    dictEq a b = true ↔ attrMap a = attrMap b := by
  constructor
  · intro h
    simp only [dictEq, Bool.and_eq_true, beq_iff_eq, List.all_eq_true] at h
    obtain ⟨hlen, hall⟩ := h
    have hsub : a.map Prod.fst ⊆ b.map Prod.fst := by
      intro k hk
      obtain ⟨kv, hkv, rfl⟩ := List.mem_map.mp hk
      cases hl : b.lookup kv.1 with
      | none =>
        have hkv' := hall kv hkv
        simp [hl] at hkv'
      | some w => exact List.mem_map.mpr ⟨_, mem_of_lookup hl, rfl⟩
    -- the keys of `b` are among those of `a`: otherwise the distinct keys of `a` fit into `b` with one key removed
    have hfull : ∀ k, k ∈ b.map Prod.fst → k ∈ a.map Prod.fst := by
      intro k hkb
      refine Classical.byContradiction fun hka => ?_
      have hle := ha.length_le_of_subset (l₂ := (b.map Prod.fst).erase k) fun x hx =>
        (List.mem_erase_of_ne (fun (e : x = k) => hka (e ▸ hx))).mpr (hsub hx)
      have hpos := List.length_pos_of_mem hkb
      rw [List.length_erase_of_mem hkb] at hle
      simp only [List.length_map] at hle hpos
      omega
    funext k
    cases hl : a.lookup k with
    | none =>
      have hk : k ∉ a.map Prod.fst := (lookup_none_iff k a).mp hl
      have hk' : k ∉ b.map Prod.fst := fun h => hk (hfull k h)
      simp [attrMap, hl, (lookup_none_iff k b).mpr hk']
    | some v =>
      have := hall (k, v) (mem_of_lookup hl)
      cases hl' : b.lookup k with
      | none => simp [hl'] at this
      | some w =>
        simp only [hl'] at this
        simp [attrMap, hl, hl', (valEq_iff v.2 w.2).mp this]
  · intro h
    have hkeys : ∀ k, k ∈ a.map Prod.fst ↔ k ∈ b.map Prod.fst := by
      intro k; rw [mem_keys_iff, mem_keys_iff, h]
    have l1 := ha.length_le_of_subset (fun k hk => (hkeys k).mp hk)
    have l2 := hb.length_le_of_subset (fun k hk => (hkeys k).mpr hk)
    simp only [List.length_map] at l1 l2
    simp only [dictEq, Bool.and_eq_true, beq_iff_eq, List.all_eq_true]
    refine ⟨by omega, ?_⟩
    intro kv hkv
    have hl := lookup_of_mem ha hkv
    have hk := congrFun h kv.1
    simp only [attrMap, hl, Option.map_some] at hk
    cases hl' : b.lookup kv.1 with
    | none => simp [hl'] at hk
    | some w =>
      simp only [hl', Option.map_some, Option.some.injEq] at hk
      exact (valEq_iff _ _).mpr hk

mutual
theorem same_iff : ∀ (a b : Node), same a b = true ↔ a = b
  | .str i c v, .str j d w => by simp [same, and_assoc]
  | .tag i a ks, .tag j b ls => by simp [same, sameL_iff ks ls, and_assoc]
  | .str _ _ _, .tag _ _ _ => by simp [same]
  | .tag _ _ _, .str _ _ _ => by simp [same]
theorem sameL_iff : ∀ (ks ls : List Node), sameL ks ls = true ↔ ks = ls
  | [], [] => by simp [sameL]
  | k :: ks, l :: ls => by simp [sameL, same_iff k l, sameL_iff ks ls]
  | [], _ :: _ => by simp [sameL]
  | _ :: _, [] => by simp [sameL]
end

theorem sameL_eq : ∀ (ks ls : List Node), sameL ks ls = true → ks = ls := fun ks ls => (sameL_iff ks ls).mp

theorem same_refl : ∀ (a : Node), same a a = true := fun a => (same_iff a a).mpr rfl

theorem sameL_refl : ∀ (ks : List Node), sameL ks ks = true := fun ks => (sameL_iff ks ks).mpr rfl

theorem canonL_length : ∀ (ks : List Node), (canonL ks).length = ks.length
  | [] => by simp [canonL]
  | k :: ks => by simp [canonL, canonL_length ks]

mutual
theorem eqImpl_iff : ∀ (a b : Node), DictOK a → DictOK b → (eqImpl a b = true ↔ canon a = canon b)
  | .str i c v, .str j d w, _, _ => by simp [eqImpl, canon]
  | .str _ _ _, .tag _ _ _, _, _ => by simp [eqImpl, canon]
  | .tag _ _ _, .str _ _ _, _, _ => by simp [eqImpl, canon]
  | .tag i a ks, .tag j b ls, ha, hb => by
    simp only [DictOK] at ha hb
    simp only [eqImpl, canon, Canon.tag.injEq]
    split
    · -- `if self is other: return True`
      rename_i hs
      cases (same_iff _ _).mp hs
      simp
    · by_cases hlen : ks.length = ls.length
      · -- then name, dict, number of children, children
        simp [← dictEq_iff _ _ ha.1 hb.1, ← kidsEq_iff ks ls ha.2 hb.2 hlen, hlen, and_assoc]
      · have : canonL ks ≠ canonL ls := fun h => hlen (by simpa [canonL_length] using congrArg List.length h)
        simp [hlen, this]
theorem kidsEq_iff : ∀ (ks ls : List Node), DictOKL ks → DictOKL ls → ks.length = ls.length →
    (kidsEq ks ls = true ↔ canonL ks = canonL ls)
  | [], [], _, _, _ => by simp [kidsEq, canonL]
  | [], _ :: _, _, _, h => by simp at h
  | _ :: _, [], _, _, h => by simp at h
  | k :: ks, l :: ls, ha, hb, h => by
    simp only [DictOKL] at ha hb
    have h1 := eqImpl_iff k l ha.1 hb.1
    have h2 := kidsEq_iff ks ls ha.2 hb.2 (by simpa using h)
    simp only [kidsEq, canonL, List.cons.injEq, ← h1, ← h2]
    cases eqImpl k l <;> simp
end

mutual
def csize : Canon → Nat
  | .str _ => 1
  | .tag _ _ ks => 1 + csizeL ks
def csizeL : List Canon → Nat
  | [] => 0
  | k :: ks => csize k + csizeL ks
end

mutual
theorem csize_canon : ∀ (t : Node), csize (canon t) = sizeN t
  | .str _ _ _ => by simp [canon, csize, sizeN]
  | .tag _ _ ks => by simp [canon, csize, sizeN, csizeL_canonL ks]
theorem csizeL_canonL : ∀ (ks : List Node), csizeL (canonL ks) = sizeL ks
  | [] => by simp [canonL, csizeL, sizeL]
  | k :: ks => by simp [canonL, csizeL, sizeL, csize_canon k, csizeL_canonL ks]
end

theorem sizeL_mem {k : Node} : ∀ {ks : List Node}, k ∈ ks → sizeN k ≤ sizeL ks
  | [], h => by simp at h
  | x :: xs, h => by
    simp only [sizeL]
    rcases List.mem_cons.mp h with rfl | h
    · omega
    · have := sizeL_mem h; omega

theorem below_size {a x : Node} (h : Below a x) : sizeN x < sizeN a := by
  induction h with
  | kid hk | deeper hk _ ih =>
    -- `deeper`: `ih` bounds `x` by the child on the way
    simp only [sizeN]
    have := sizeL_mem hk
    omega

theorem perm_lookup {β : Type} {a b : List (PStr × β)} (p : a.Perm b) (hn : (a.map Prod.fst).Nodup) (k : PStr) :
    a.lookup k = b.lookup k := by
  cases h : a.lookup k with
  | none =>
    have hk := (lookup_none_iff k a).mp h
    exact ((lookup_none_iff k b).mpr fun hb => hk ((p.map Prod.fst).mem_iff.mpr hb)).symm
  | some v => exact (lookup_of_mem ((p.map Prod.fst).nodup_iff.mp hn) (p.mem_iff.mp (mem_of_lookup h))).symm

theorem attrMap_perm {a b : Attrs} (p : a.Perm b) (h : (a.map Prod.fst).Nodup) : attrMap a = attrMap b := by
  funext k
  simp [attrMap, perm_lookup p h k]

end BS.Copy
