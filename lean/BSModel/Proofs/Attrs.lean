import BSModel.Model.Attrs
import BSModel.Proofs.PStr
import BSModel.Proofs.Assoc
import BSModel.Proofs.Digits
import BSModel.Proofs.SortKeys
/-! Lemmas about the attribute model of `Model/Attrs.lean`, and the vocabulary of Props/C17's statements: `AllWs`, `Tok`,
    `glue`, `GoodItems`, `keys`, `StrOrList`, `HtmlStorable`, `XmlStorable`, `IsFixed`, `valsOf`, `dedupAcc`, `decVal`, `SortedAdj`. -/
namespace BS.Attrs

/-- a string of whitespace only -/
def AllWs (w : PStr) : Prop := ∀ c ∈ w, isWs c = true

/-- a non-empty string without whitespace -/
def Tok (t : PStr) : Prop := t ≠ [] ∧ ∀ c ∈ t, isWs c = false

/-- tokens each followed by its separator -/
def glue : List (PStr × PStr) → PStr
  | [] => []
  | p :: rest => p.1 ++ p.2 ++ glue rest

/-- every token is a `Tok`, every separator is whitespace, and only the last separator may be empty -/
def GoodItems : List (PStr × PStr) → Prop
  | [] => True
  | p :: rest => Tok p.1 ∧ AllWs p.2 ∧ (rest ≠ [] → p.2 ≠ []) ∧ GoodItems rest

theorem splitGo_tok (t rest cur : PStr) (h : ∀ c ∈ t, isWs c = false) :
    splitGo (t ++ rest) cur = splitGo rest (cur ++ t) := by
  induction t generalizing cur with
  | nil => simp
  | cons c t ih =>
    simp only [List.cons_append, splitGo, h c (by simp), Bool.false_eq_true, if_false]
    rw [ih _ fun x hx => h x (by simp [hx])]; simp

theorem splitGo_ws_nil (w rest : PStr) (h : AllWs w) : splitGo (w ++ rest) [] = splitGo rest [] := by
  induction w with
  | nil => rfl
  | cons c w ih =>
    simp only [List.cons_append, splitGo, h c (by simp), if_true, List.isEmpty_nil]
    exact ih fun x hx => h x (by simp [hx])

theorem splitGo_ws_mid (s t cur : PStr) (c : Nat) (hc : isWs c = true) :
    splitGo (s ++ c :: t) cur = splitGo s cur ++ splitGo t [] := by
  induction s generalizing cur with
  | nil => cases cur <;> simp [splitGo, hc]
  -- four cases, here and in the lemmas below: `x` whitespace or not, a token pending (`cur ≠ []`) or not
  | cons x s ih => cases hx : isWs x <;> cases cur <;> simp [splitGo, hx, ih]

theorem splitWs_append_ws (s t : PStr) (c : Nat) (hc : isWs c = true) :
    splitWs (s ++ c :: t) = splitWs s ++ splitWs t := splitGo_ws_mid s t [] c hc

theorem splitWs_tok (t : PStr) (h : Tok t) : splitWs t = [t] := by
  simpa [splitWs, splitGo, h.1] using splitGo_tok t [] [] h.2

theorem splitWs_joinSp_flat (l : List PStr) : splitWs (joinSp l) = l.flatMap splitWs := by
  induction l with
  | nil => rfl
  | cons t ts ih =>
    cases ts with
    | nil => simp [joinSp]
    | cons t' ts' =>
      show splitWs (t ++ 32 :: joinSp (t' :: ts')) = _
      rw [splitWs_append_ws _ _ 32 (by decide), List.flatMap_cons, ih]

theorem splitWs_joinSp_toks (toks : List PStr) (h : ∀ t ∈ toks, Tok t) : splitWs (joinSp toks) = toks := by
  rw [splitWs_joinSp_flat]
  induction toks with
  | nil => rfl
  | cons t ts ih => rw [List.flatMap_cons, splitWs_tok t (h t (by simp)), ih fun x hx => h x (by simp [hx])]; rfl

theorem splitWs_lead_glue (lead : PStr) (items : List (PStr × PStr)) (hl : AllWs lead) (hg : GoodItems items) :
    splitWs (lead ++ glue items) = items.map (·.1) := by
  rw [splitWs, splitGo_ws_nil _ _ hl]
  clear hl
  induction items with
  | nil => rfl
  | cons p rest ih =>
    obtain ⟨htok, hws, hlast, hrest⟩ := hg
    show splitWs (glue (p :: rest)) = _
    rw [glue, List.append_assoc, List.map_cons]
    cases hw : p.2 with
    | nil =>
      have : rest = [] := Classical.byContradiction fun hr => hlast hr hw
      subst this
      simp [glue, splitWs_tok _ htok]
    | cons c w =>
      rw [List.cons_append, splitWs_append_ws _ _ c (hws c (by simp [hw])), splitWs_tok _ htok, splitWs,
        splitGo_ws_nil _ _ fun x hx => hws x (by simp [hw, hx])]
      exact congrArg _ (ih hrest)

theorem tok_cons {c : Nat} {t : PStr} (hc : isWs c = false) (ht : ∀ x ∈ t, isWs x = false) : Tok (c :: t) := by
  refine ⟨by simp, fun x hx => ?_⟩
  rcases List.mem_cons.mp hx with rfl | hx
  · exact hc
  · exact ht x hx

/-- every string is leading whitespace followed by tokens with their separators: a whitespace character in front
    extends the lead; any other character starts a token (when whitespace follows) or extends the first one -/
theorem decompose (s : PStr) :
    ∃ lead items, AllWs lead ∧ GoodItems items ∧ s = lead ++ glue items := by
  induction s with
  | nil => exact ⟨[], [], by simp [AllWs], trivial, rfl⟩
  | cons c s ih =>
    obtain ⟨lead, items, hl, hg, rfl⟩ := ih
    have hnil : AllWs [] := by simp [AllWs]
    cases hc : isWs c with
    | true => exact ⟨c :: lead, items, fun x hx => (List.mem_cons.mp hx).elim (· ▸ hc) (hl x), hg, rfl⟩
    | false =>
      cases lead with
      | cons l ls =>
        exact ⟨[], ([c], l :: ls) :: items, hnil, ⟨tok_cons hc (by simp), hl, by simp, hg⟩, by simp [glue]⟩
      | nil =>
        cases items with
        | nil => exact ⟨[], [([c], [])], hnil, ⟨tok_cons hc (by simp), hnil, by simp, trivial⟩, rfl⟩
        | cons p rest =>
          obtain ⟨⟨_, hnw⟩, hws, hlast, hrest⟩ := hg
          exact ⟨[], (c :: p.1, p.2) :: rest, hnil, ⟨tok_cons hc hnw, hws, hlast, hrest⟩, by simp [glue]⟩

theorem splitWs_shape (s : PStr) : ∀ t ∈ splitWs s, Tok t := by
  obtain ⟨lead, items, hl, hg, rfl⟩ := decompose s
  rw [splitWs_lead_glue lead items hl hg]
  clear hl
  induction items with
  | nil => simp
  | cons p rest ih =>
    obtain ⟨htok, _, _, hrest⟩ := hg
    intro t ht
    rcases List.mem_cons.mp ht with rfl | ht
    · exact htok
    · exact ih hrest t ht

theorem splitGo_flatten (s cur : PStr) :
    (splitGo s cur).flatten = cur ++ s.filter (fun c => !isWs c) := by
  induction s generalizing cur with
  | nil => cases cur <;> simp [splitGo]
  | cons c s ih => cases hc : isWs c <;> cases cur <;> simp [splitGo, hc, ih]

theorem splitGo_run (s cur : PStr) (h : cur ≠ []) :
    splitGo s cur = (cur ++ s.takeWhile (fun x => !isWs x)) :: splitGo (s.dropWhile (fun x => !isWs x)) [] := by
  induction s generalizing cur with
  | nil => cases cur <;> simp_all [splitGo]
  | cons c s ih => cases hc : isWs c <;> cases cur <;> simp_all [splitGo, List.takeWhile, List.dropWhile]

theorem findallGo_eq (fuel : Nat) (s : PStr) (h : s.length < fuel) : findallGo fuel s = splitWs s := by
  induction fuel generalizing s with
  | zero => omega
  | succ f ih =>
    cases s with
    | nil => rfl
    | cons c cs =>
      have hlen := (List.dropWhile_sublist (l := cs) (fun x => !isWs x)).length_le
      cases hc : isWs c <;> simp [findallGo, hc, splitWs, splitGo, List.takeWhile, List.dropWhile]
      · -- `c` starts a token
        rw [ih _ (by simp at h; omega), splitGo_run cs [c] (by simp)]; rfl
      · -- `c` is whitespace
        exact ih cs (by simp at h; omega)

def keys (d : Items) : List PStr := d.map (·.1)

theorem dictGet_cons (p : PStr × PyVal) (d : Items) (k : PStr) :
    dictGet (p :: d) k = if k = p.1 then some p.2 else dictGet d k := by
  obtain ⟨k0, v0⟩ := p
  simp only [dictGet, List.lookup_cons]
  split <;> simp_all

theorem dictSet_cons (p : PStr × PyVal) (d : Items) (k : PStr) (v : PyVal) :
    dictSet (p :: d) k v = if p.1 = k then (p.1, v) :: d else p :: dictSet d k v := by
  obtain ⟨k0, v0⟩ := p
  simp [dictSet]

theorem dictDel_cons (p : PStr × PyVal) (d : Items) (k : PStr) :
    dictDel (p :: d) k = if p.1 = k then dictDel d k else p :: dictDel d k := by
  by_cases h : p.1 = k <;> simp [dictDel, h]

theorem dictGet_dictSet (d : Items) (k k' : PStr) (v : PyVal) :
    dictGet (dictSet d k v) k' = if k' = k then some v else dictGet d k' := by
  induction d with
  | nil => rw [dictSet, dictGet_cons]
  | cons p d ih =>
    rw [dictSet_cons]
    -- the first entry is `k`'s or not; `k'` is `k`, the first entry's key, or neither
    split <;> by_cases hk : k' = k <;> by_cases hp : k' = p.1 <;> simp_all [dictGet_cons]

theorem dictGet_dictDel (d : Items) (k k' : PStr) :
    dictGet (dictDel d k) k' = if k' = k then none else dictGet d k' := by
  induction d with
  | nil => simp [dictDel, dictGet]
  | cons p d ih =>
    rw [dictDel_cons]
    split <;> by_cases hk : k' = k <;> by_cases hp : k' = p.1 <;> simp_all [dictGet_cons]

theorem dictHas_iff_mem (d : Items) (k : PStr) : dictHas d k = true ↔ k ∈ keys d := by
  simp [dictHas, keys]

theorem dictHas_eq_isSome (d : Items) (k : PStr) : dictHas d k = (dictGet d k).isSome := by
  rw [Bool.eq_iff_iff, dictGet, List.lookup_isSome_iff, dictHas, List.any_eq_true]
  exact exists_congr fun p => and_congr_right fun _ => by rw [beq_iff_eq, beq_iff_eq, eq_comm]

theorem dictSet_of_not_has (d : Items) (k : PStr) (v : PyVal) (h : dictHas d k = false) :
    dictSet d k v = d ++ [(k, v)] := by
  induction d with
  | nil => rfl
  | cons p d ih =>
    simp only [dictHas, List.any_cons, Bool.or_eq_false_iff, beq_eq_false_iff_ne] at h ih
    rw [dictSet_cons, if_neg h.1, ih h.2]; rfl

theorem dictSet_of_get (d : Items) (k : PStr) (v : PyVal) (h : dictGet d k = some v) : dictSet d k v = d := by
  induction d with
  | nil => simp [dictGet] at h
  | cons p d ih =>
    rw [dictGet_cons] at h
    rw [dictSet_cons]
    by_cases hk : p.1 = k
    · rw [if_pos hk.symm] at h; rw [if_pos hk, ← Option.some.inj h]
    · rw [if_neg (Ne.symm hk)] at h; rw [if_neg hk, ih h]

theorem keys_dictSet (d : Items) (k : PStr) (v : PyVal) :
    keys (dictSet d k v) = if dictHas d k then keys d else keys d ++ [k] := by
  cases h : dictHas d k
  · simp [dictSet_of_not_has d k v h, keys]
  · rw [if_pos rfl]
    induction d with
    | nil => cases h
    | cons p d ih =>
      rw [dictSet_cons]
      split
      · rfl
      · rename_i hne
        simp only [dictHas, List.any_cons, beq_false_of_ne hne, Bool.false_or] at h
        exact congrArg (p.1 :: ·) (ih h)

theorem keys_dictDel (d : Items) (k : PStr) : keys (dictDel d k) = (keys d).filter (fun x => !(x == k)) := by
  simp [keys, dictDel, List.filter_map]; rfl

theorem nodup_snoc {l : List PStr} {k : PStr} (h : l.Nodup) (hk : k ∉ l) : (l ++ [k]).Nodup :=
  List.nodup_append.mpr ⟨h, by simp, by simpa using fun a ha (e : a = k) => hk (e ▸ ha)⟩

theorem nodup_dictSet (d : Items) (k : PStr) (v : PyVal) (h : (keys d).Nodup) : (keys (dictSet d k v)).Nodup := by
  rw [keys_dictSet]
  split
  · exact h
  · rename_i hh
    exact nodup_snoc h (mt (dictHas_iff_mem d k).mpr hh)

theorem nodup_dictDel (d : Items) (k : PStr) (h : (keys d).Nodup) : (keys (dictDel d k)).Nodup := by
  rw [keys_dictDel]; exact h.filter _

theorem not_has_of_nodup {d : Items} {k : PStr} {ks : List PStr} (h : (keys d ++ k :: ks).Nodup) :
    dictHas d k = false := by
  rw [Bool.eq_false_iff, Ne, dictHas_iff_mem]
  exact fun hm => (List.nodup_append.mp h).2.2 _ hm _ List.mem_cons_self rfl

theorem mem_dictSet (d : Items) (k : PStr) (v : PyVal) (p : PStr × PyVal) (hp : p ∈ dictSet d k v) :
    p ∈ d ∨ p.2 = v := by
  induction d with
  | nil => right; simp [dictSet] at hp; simp [hp]
  | cons q d ih =>
    rw [dictSet_cons] at hp
    split at hp <;> rcases List.mem_cons.mp hp with rfl | hp
    · exact .inr rfl
    · exact .inl (List.mem_cons_of_mem _ hp)
    · exact .inl List.mem_cons_self
    · exact (ih hp).imp_left (List.mem_cons_of_mem _)

theorem dictDel_of_not_has (d : Items) (k : PStr) (h : dictHas d k = false) : dictDel d k = d :=
  List.filter_eq_self.mpr (by simpa [dictHas] using h)

theorem dictSet_as_map (d : Items) (k : PStr) (v : PyVal) (f : PyVal → PyVal) (hnd : (keys d).Nodup)
    (hget : dictGet d k = some v) :
    dictSet d k (f v) = d.map (fun p => if p.1 == k then (p.1, f p.2) else p) := by
  induction d with
  | nil => simp [dictGet] at hget
  | cons p d ih =>
    rw [keys, List.map_cons, List.nodup_cons] at hnd
    rw [dictGet_cons] at hget
    rw [dictSet_cons, List.map_cons]
    by_cases hk : p.1 = k
    · rw [if_pos hk.symm, Option.some.injEq] at hget
      have hrest : ∀ q ∈ d, (if q.1 == k then (q.1, f q.2) else q) = q := fun q hq =>
        if_neg fun e => hnd.1 (List.mem_map.mpr ⟨q, hq, (beq_iff_eq.mp e).trans hk.symm⟩)
      rw [if_pos hk, if_pos (beq_iff_eq.mpr hk), hget, (List.map_congr_left hrest).trans (List.map_id' d)]
    · rw [if_neg (Ne.symm hk)] at hget
      rw [if_neg hk, if_neg (by simpa using hk), ih hnd.2 hget]

theorem keys_map_upd (d : Items) (c : PStr × PyVal → Bool) (g : PStr × PyVal → PyVal) :
    keys (d.map fun p => if c p then (p.1, g p) else p) = keys d := by
  rw [keys, List.map_map]
  exact List.map_congr_left fun p _ => by simp only [Function.comp]; split <;> rfl

theorem dictGet_map_upd (d : Items) (c : PStr → Bool) (f : PyVal → PyVal) (k : PStr) :
    dictGet (d.map fun p => if c p.1 then (p.1, f p.2) else p) k
      = (dictGet d k).map (fun v => if c k then f v else v) := by
  induction d with
  | nil => rfl
  | cons p d ih =>
    rw [List.map_cons, dictGet_cons, dictGet_cons, ih]
    by_cases h : k = p.1 <;> by_cases hc : c p.1 = true <;> simp [h, hc]

/-- a value the parser itself produces: a string, or a list (from an accumulating duplicate handler) -/
def StrOrList : PyVal → Prop
  | .str _ | .list _ _ => True
  | _ => False

/-- what an HTML container can hold after assignments through it: no number, no bool. `None` it can (`True` under a key
    without `name`), though assigning `None` removes the key: `isFixed_html`'s extra hypothesis -/
def HtmlStorable : PyVal → Prop
  | .int _ | .float _ _ | .bool _ => False
  | _ => True

/-- … and an XML container: no number, no `None`; booleans are kept -/
def XmlStorable : PyVal → Prop
  | .int _ | .float _ _ | .none => False
  | _ => True

theorem pyStrInt_cases (md : Nat) (i : Int) :
    (tooBig md (.int i) ∧ pyStrInt md i = .valueError) ∨ (¬ tooBig md (.int i) ∧ pyStrInt md i = .ok (intStr i)) := by
  simp only [pyStrInt, tooBig]
  split <;> simp [*]

theorem htmlSet_spec (md : Nat) (d : Items) (k : Key) (v : PyVal) :
    (htmlSet md d k v = .valueError ↔ tooBig md v) ∧
    ∀ d', htmlSet md d k v = .ok d' → d' = match htmlStored k v with
      | none => dictDel d k.str
      | some w => dictSet d k.str w := by
  cases v with
  | int i => rcases pyStrInt_cases md i with ⟨h, e⟩ | ⟨h, e⟩ <;> simp [htmlSet, htmlStored, Res.bind, e, h]
  | bool b => cases b <;> simp [htmlSet, htmlStored, tooBig]
  | _ => simp [htmlSet, htmlStored, tooBig]

theorem xmlSet_spec (md : Nat) (d : Items) (k : Key) (v : PyVal) :
    (xmlSet md d k v = .valueError ↔ tooBig md v) ∧
    ∀ d', xmlSet md d k v = .ok d' → d' = dictSet d k.str (xmlStored v) := by
  cases v with
  | int i => rcases pyStrInt_cases md i with ⟨h, e⟩ | ⟨h, e⟩ <;> simp [xmlSet, xmlStored, Res.bind, e, h]
  | _ => simp [xmlSet, xmlStored, tooBig]

theorem htmlStored_storable (k : Key) (v w : PyVal) (h : htmlStored k v = some w) : HtmlStorable w := by
  cases v with
  | bool b =>
    cases b
    · simp [htmlStored] at h
    · rw [← Option.some.inj h]
      unfold ownName; split <;> trivial
  -- the other values are stored as themselves or as a string, `None` not at all
  | _ => simp [htmlStored] at h <;> subst h <;> trivial

theorem xmlStored_storable (v : PyVal) : XmlStorable (xmlStored v) := by
  cases v <;> simp [xmlStored, XmlStorable]

theorem Res.bind_eq_ok {α β : Type} {r : Res α} {f : α → Res β} {b : β} :
    r.bind f = .ok b ↔ ∃ a, r = .ok a ∧ f a = .ok b := by
  cases r <;> simp [Res.bind]

theorem setMany_forall (md : Nat) (cls : DictClass) (P : PyVal → Prop)
    (hstep : ∀ d k v d', setItem md cls d k v = .ok d' → (∀ p ∈ d, P p.2) → ∀ p ∈ d', P p.2)
    (sets : List (Key × PyVal)) (d0 d : Items) (h0 : ∀ p ∈ d0, P p.2) (h : setMany md cls d0 sets = .ok d) :
    ∀ p ∈ d, P p.2 := by
  induction sets generalizing d0 with
  | nil => cases h; exact h0
  | cons kv rest ih =>
    obtain ⟨d1, h1, h⟩ := Res.bind_eq_ok.mp h
    exact ih d1 (hstep _ _ _ _ h1 h0) h

/-- assigning `v` through class `cls` is a plain store -/
def IsFixed (md : Nat) (cls : DictClass) (v : PyVal) : Prop :=
  ∀ d k, setItem md cls d (Key.plain k) v = .ok (dictSet d k v)

theorem isFixed_plain (md : Nat) (v : PyVal) : IsFixed md .plain v := fun _ _ => rfl

theorem isFixed_strOrList (md : Nat) (cls : DictClass) (v : PyVal) (h : StrOrList v) : IsFixed md cls v := by
  intro d k
  cases cls <;> cases v <;> simp_all [StrOrList, setItem, htmlSet, xmlSet, Key.str]

theorem isFixed_html (md : Nat) (v : PyVal) (h : HtmlStorable v) (hn : v ≠ .none) : IsFixed md .html v := by
  intro d k
  cases v <;> simp_all [HtmlStorable, setItem, htmlSet, Key.str]

theorem isFixed_xml (md : Nat) (v : PyVal) (h : XmlStorable v) : IsFixed md .xml v := by
  intro d k
  cases v <;> simp_all [XmlStorable, setItem, xmlSet, Key.str]

theorem setItem_str (md : Nat) (cls : DictClass) (d : Items) (k s : PStr) :
    setItem md cls d (.plain k) (.str s) = .ok (dictSet d k (.str s)) :=
  isFixed_strOrList md cls (.str s) trivial d k

theorem splitVal_idem (c : Nat) (v : PyVal) : splitVal c (splitVal c v) = splitVal c v := by
  cases v <;> rfl

theorem strOrList_splitVal (lc : Nat) (v : PyVal) (h : StrOrList v) : StrOrList (splitVal lc v) := by
  cases v <;> trivial

/-- `ks`: keys still to visit; a store is a `map` (`dictSet_as_map`); `hd` survives by `splitVal_idem` -/
theorem replaceLoop_fixed (md : Nat) (m : CdataMap) (lower : PStr → PStr) (lc : Nat) (cls : DictClass) (tag : PStr)
    (ks : List PStr) (d : Items) (hnd : (keys d).Nodup) (hks : ∀ k ∈ ks, k ∈ keys d)
    (hd : ∀ p ∈ d, IsFixed md cls (splitVal lc p.2)) :
    replaceLoop md m lower lc cls tag ks d =
      .ok (d.map fun p => if ks.contains p.1 && isMulti m lower tag p.1 then (p.1, splitVal lc p.2) else p) := by
  induction ks generalizing d with
  | nil => simp [replaceLoop]
  | cons attr rest ih =>
    have hrest : ∀ k ∈ rest, k ∈ keys d := fun k hk => hks k (by simp [hk])
    rw [replaceLoop]
    by_cases hm : isMulti m lower tag attr = true
    · obtain ⟨v, hv⟩ : ∃ v, dictGet d attr = some v := by
        have := (dictHas_iff_mem d attr).mpr (hks attr (by simp))
        rwa [dictHas_eq_isSome, Option.isSome_iff_exists] at this
      have hupd := keys_map_upd d (fun p => p.1 == attr) (fun p => splitVal lc p.2)
      have hfix := hd (attr, v) (mem_of_lookup hv) d attr
      simp only [if_pos hm, hv, hfix, Res.bind]
      have hd' : ∀ p ∈ d.map (fun p => if p.1 == attr then (p.1, splitVal lc p.2) else p),
          IsFixed md cls (splitVal lc p.2) := by
        intro p hp
        obtain ⟨q, hq, rfl⟩ := List.mem_map.mp hp
        split
        · rw [splitVal_idem]; exact hd q hq
        · exact hd q hq
      rw [dictSet_as_map d attr v (splitVal lc) hnd hv, ih _ (hupd ▸ hnd) (hupd ▸ hrest) hd', List.map_map]
      refine congrArg _ (List.map_congr_left fun p _ => ?_)
      by_cases h1 : p.1 = attr
      · simp [h1, hm, splitVal_idem]
      · simp [h1]
    · rw [if_neg hm, ih d hnd hrest hd]
      refine congrArg _ (List.map_congr_left fun p _ => ?_)
      by_cases h1 : p.1 = attr
      · simp [h1, hm]
      · simp [h1]

theorem replaceLoop_plain (md : Nat) (m : CdataMap) (lower : PStr → PStr) (lc : Nat) (tag : PStr)
    (ks : List PStr) (d : Items) (hnd : (keys d).Nodup) (hks : ∀ k ∈ ks, k ∈ keys d) :
    replaceLoop md m lower lc .plain tag ks d =
      .ok (d.map fun p => if ks.contains p.1 && isMulti m lower tag p.1 then (p.1, splitVal lc p.2) else p) :=
  replaceLoop_fixed md m lower lc .plain tag ks d hnd hks fun _ _ => isFixed_plain md _

theorem replaceCdataList_fixed (md : Nat) (m : Option CdataMap) (lower : PStr → PStr) (lc : Nat) (cls : DictClass)
    (tag : PStr) (d : Items) (hnd : (keys d).Nodup) (hd : ∀ p ∈ d, IsFixed md cls (splitVal lc p.2)) :
    replaceCdataList md m lower lc cls tag d = .ok (replaceSpec m lower lc tag d) := by
  cases m with
  | none => rfl
  | some m =>
    simp only [replaceCdataList, replaceSpec]
    change (if _ then _ else replaceLoop md m lower lc cls tag (keys d) d) = _
    split
    · rename_i h
      simp only [Bool.or_eq_true, List.isEmpty_iff] at h
      rcases h with rfl | rfl
      · rfl
      · simp [isMulti, List.lookup]
    · rw [replaceLoop_fixed md m lower lc cls tag (keys d) d hnd (fun k hk => hk) hd]
      refine congrArg _ (List.map_congr_left fun p hp => ?_)
      have : (keys d).contains p.1 = true := by simpa [keys] using ⟨p.2, hp⟩
      rw [this, Bool.true_and]

theorem copyInto_fixed (md : Nat) (cls : DictClass) (d acc : Items) (hnd : (keys (acc ++ d)).Nodup)
    (hd : ∀ p ∈ d, IsFixed md cls p.2) : copyInto md cls d acc = .ok (acc ++ d) := by
  induction d generalizing acc with
  | nil => simp [copyInto]
  | cons p rest ih =>
    have hk : dictHas acc p.1 = false := not_has_of_nodup (ks := keys rest) (by simpa [keys] using hnd)
    rw [copyInto, hd p List.mem_cons_self acc p.1, Res.bind, dictSet_of_not_has acc p.1 p.2 hk,
      ih (acc ++ [p]) (by simpa using hnd) fun q hq => hd q (List.mem_cons_of_mem _ hq)]
    simp

theorem copyTag_fixed (md : Nat) (lower : PStr → PStr) (n : PStr) (t : TagAttrs) (hnd : (keys t.items).Nodup)
    (hd : ∀ p ∈ t.items, IsFixed md t.cls p.2) : copyTag md lower n t = .ok { t with listCls := 1 } := by
  have := copyInto_fixed md t.cls t.items [] (by simpa using hnd) hd
  rw [List.nil_append] at this
  simp [copyTag, tagInit, this, Res.bind]

/-- the values given to `k` in a start tag, in source order -/
def valsOf (attrs : List (PStr × Option PStr)) (k : PStr) : List PStr :=
  (attrs.filter (fun p => p.1 == k)).map (fun p => rawVal p.2)

/-- keys in order of first occurrence, continuing from the keys already `seen` -/
def dedupAcc : List PStr → List PStr → List PStr
  | seen, [] => seen
  | seen, k :: ks => if seen.contains k then dedupAcc seen ks else dedupAcc (seen ++ [k]) ks

theorem valsOf_snoc (pre : List (PStr × Option PStr)) (k k' : PStr) (v : Option PStr) :
    valsOf (pre ++ [(k, v)]) k' = if k' = k then valsOf pre k' ++ [rawVal v] else valsOf pre k' := by
  by_cases h : k' = k
  · simp [valsOf, List.filter_append, h]
  · simp [valsOf, List.filter_append, List.filter, h, beq_false_of_ne (Ne.symm h)]

theorem mem_dedupAcc (seen ks : List PStr) (x : PStr) : x ∈ dedupAcc seen ks ↔ x ∈ seen ∨ x ∈ ks := by
  fun_induction dedupAcc seen ks with
  | case1 => simp
  | case2 seen k ks h ih =>
    have : k ∈ seen := by simpa using h
    rw [ih, List.mem_cons]
    by_cases hx : x = k <;> simp [hx, this]
  | case3 seen k ks _ ih => simp [ih, or_assoc]

theorem nodup_dedupAcc (seen ks : List PStr) (h : seen.Nodup) : (dedupAcc seen ks).Nodup := by
  fun_induction dedupAcc seen ks with
  | case1 => exact h
  | case2 seen k ks _ ih => exact ih h
  | case3 seen k ks hc ih => exact ih (nodup_snoc h (by simpa using hc))

/-- `enc vs` is what the duplicate policy `onDup` leaves stored under a key given the values `vs`, in source order:
    nothing for no value, the string for one, and each further value makes the handler store the next encoding -/
structure Encodes (md : Nat) (cls : DictClass) (onDup : OnDup) (enc : List PStr → Option PyVal) : Prop where
  isSome : ∀ vs, (enc vs).isSome = !vs.isEmpty
  first : ∀ v, enc [v] = some (.str v)
  dup : ∀ d k v vs, vs ≠ [] → dictGet d k = enc vs →
    ∃ w, enc (vs ++ [v]) = some w ∧ onDuplicate md cls onDup d k v = .ok (dictSet d k w)
  strOrList : ∀ vs w, enc vs = some w → StrOrList w

/-- Invariant of the `for key, value in attrs` loop: every key holds the encoding of the values seen so far, and the
    keys stand in order of first occurrence. -/
theorem startTagLoop_enc {md : Nat} {cls : DictClass} {onDup : OnDup} {enc : List PStr → Option PyVal}
    (h : Encodes md cls onDup enc) (rest pre : List (PStr × Option PStr)) (d : Items)
    (hinv : ∀ k, dictGet d k = enc (valsOf pre k)) :
    ∃ d', startTagLoop md cls onDup rest d = .ok d' ∧ (∀ k, dictGet d' k = enc (valsOf (pre ++ rest) k)) ∧
      keys d' = dedupAcc (keys d) (rest.map (·.1)) := by
  induction rest generalizing pre d with
  | nil => exact ⟨d, rfl, by simpa using hinv, rfl⟩
  | cons kv rest ih =>
    obtain ⟨k, v⟩ := kv
    -- first occurrence or not, the step stores the encoding of the values of `k` so far
    obtain ⟨w, hw, hstep⟩ : ∃ w, enc (valsOf pre k ++ [rawVal v]) = some w ∧
        (if dictHas d k then onDuplicate md cls onDup d k (rawVal v)
          else setItem md cls d (.plain k) (.str (rawVal v))) = .ok (dictSet d k w) := by
      have hhas : dictHas d k = !(valsOf pre k).isEmpty := by rw [dictHas_eq_isSome, hinv k, h.isSome]
      cases hv : valsOf pre k with
      | nil => exact ⟨_, h.first _, by rw [hhas, hv, setItem_str]; rfl⟩
      | cons a l =>
        obtain ⟨w, hw, hd⟩ := h.dup d k (rawVal v) (a :: l) (by simp) (hv ▸ hinv k)
        exact ⟨w, hw, by rw [hhas, hv]; exact hd⟩
    obtain ⟨d', e1, e2, e3⟩ := ih (pre ++ [(k, v)]) (dictSet d k w) (by
      intro k'
      rw [valsOf_snoc, dictGet_dictSet]
      split
      · rename_i hk; rw [hk, hw]
      · exact hinv k')
    refine ⟨d', by rw [startTagLoop, hstep]; exact e1, by simpa using e2, ?_⟩
    have hc : (keys d).contains k = dictHas d k := by
      rw [Bool.eq_iff_iff, dictHas_iff_mem, List.contains_iff_mem]
    rw [e3, keys_dictSet, List.map_cons, dedupAcc, hc]
    split <;> rfl

theorem startTagLoop_enc_nil {md : Nat} {cls : DictClass} {onDup : OnDup} {enc : List PStr → Option PyVal}
    (h : Encodes md cls onDup enc) (attrs : List (PStr × Option PStr)) :
    ∃ d, startTagLoop md cls onDup attrs [] = .ok d ∧ (∀ k, dictGet d k = enc (valsOf attrs k)) ∧
      keys d = dedupAcc [] (attrs.map (·.1)) ∧ (keys d).Nodup ∧ ∀ p ∈ d, StrOrList p.2 := by
  obtain ⟨d, h1, h2, h3⟩ := startTagLoop_enc h attrs [] [] fun k => by
    have : enc [] = none := by simpa using h.isSome []
    exact this.symm
  have hnd : (keys d).Nodup := h3 ▸ nodup_dedupAcc [] _ List.nodup_nil
  exact ⟨d, h1, h2, h3, hnd, fun p hp => h.strOrList _ p.2 ((h2 p.1).symm.trans (lookup_of_mem hnd hp))⟩

/-- `enc` per policy: last value, first value, string then list of all -/
def encReplace (vs : List PStr) : Option PyVal := vs.getLast?.map .str
def encIgnore (vs : List PStr) : Option PyVal := vs.head?.map .str
def encAccumulate : List PStr → Option PyVal
  | [] => none
  | [v] => some (.str v)
  | vs => some (.list 0 vs)

theorem encodes_replace (md : Nat) (cls : DictClass) : Encodes md cls .replace encReplace where
  isSome vs := by cases vs <;> simp [encReplace, List.getLast?_isSome]
  first v := rfl
  dup d k v vs _ _ := ⟨.str v, by simp [encReplace], setItem_str md cls d k v⟩
  strOrList vs w h := by
    cases hl : vs.getLast? <;> simp [encReplace, hl] at h
    subst h; trivial

theorem encodes_ignore (md : Nat) (cls : DictClass) : Encodes md cls .ignore encIgnore where
  isSome vs := by cases vs <;> simp [encIgnore]
  first v := rfl
  dup d k v vs hne hget := by
    cases vs with
    | nil => exact absurd rfl hne
    | cons a l => exact ⟨.str a, rfl, by rw [dictSet_of_get d k _ hget]; rfl⟩
  strOrList vs w h := by
    cases hl : vs.head? <;> simp [encIgnore, hl] at h
    subst h; trivial

theorem encodes_accumulate (md : Nat) (cls : DictClass) : Encodes md cls (.callable accumulate) encAccumulate where
  isSome vs := by
    match vs with
    | [] | [_] | _ :: _ :: _ => rfl
  first v := rfl
  dup d k v vs hne hget := by
    match vs, hne with
    | [s], _ => exact ⟨.list 0 [s, v], rfl, by simp [onDuplicate, accumulate, hget, encAccumulate]⟩
    | a :: b :: l, _ =>
      exact ⟨.list 0 (a :: b :: l ++ [v]), rfl, by simp [onDuplicate, accumulate, hget, encAccumulate]⟩
  strOrList vs w h := by
    match vs with
    | [] => cases h
    | [_] | _ :: _ :: _ => cases h; trivial

theorem startTagLoop_fresh (md : Nat) (cls : DictClass) (p : OnDup) (attrs : List (PStr × Option PStr)) (d : Items)
    (h : (keys d ++ attrs.map (·.1)).Nodup) :
    startTagLoop md cls p attrs d = .ok (d ++ attrs.map fun kv => (kv.1, .str (rawVal kv.2))) := by
  induction attrs generalizing d with
  | nil => simp [startTagLoop]
  | cons kv rest ih =>
    have hk : dictHas d kv.1 = false := not_has_of_nodup h
    simp only [startTagLoop, hk, Bool.false_eq_true, if_false, setItem_str, Res.bind]
    rw [dictSet_of_not_has _ _ _ hk, ih _ (by simpa [keys] using h)]
    simp

theorem hasDupKey_false_nodup (ks : List PStr) (h : hasDupKey ks = false) : ks.Nodup := by
  induction ks with
  | nil => simp
  | cons k ks ih =>
    simp only [hasDupKey, Bool.or_eq_false_iff] at h
    exact List.nodup_cons.mpr ⟨by simpa using h.1, ih h.2⟩

theorem tagInit_cdata (md : Nat) (lower : PStr → PStr) (m : CdataMap) (hm : m ≠ []) (cls : DictClass) (lc : Nat)
    (x : Bool) (name : PStr) (d : Items) (hnd : (keys d).Nodup) (hd : ∀ p ∈ d, IsFixed md cls (splitVal lc p.2)) :
    tagInit md lower (some ⟨some m, cls, lc, x⟩) false name (some (cls, d))
      = .ok ⟨cls, lc, replaceSpec (some m) lower lc name d, x⟩ := by
  have htruthy : truthyMap (some m) = true := by cases m <;> simp_all [truthyMap]
  simp only [tagInit, htruthy, if_true]
  rw [replaceCdataList_fixed md (some m) lower lc cls name d hnd hd]; rfl

theorem parseStartTag_of_loop (md : Nat) (lower : PStr → PStr) (m : CdataMap) (hm : m ≠ []) (cls : DictClass)
    (lc : Nat) (x : Bool) (onDup : OnDup) (name : PStr) (attrs : List (PStr × Option PStr)) (d : Items)
    (hloop : startTagLoop md cls onDup attrs [] = .ok d) (hnd : (keys d).Nodup) (hd : ∀ p ∈ d, StrOrList p.2) :
    parseStartTag md lower ⟨some m, cls, lc, x⟩ onDup name attrs
      = .ok ⟨cls, lc, replaceSpec (some m) lower lc name d, x⟩ := by
  rw [parseStartTag, hloop]
  exact tagInit_cdata md lower m hm cls lc x name d hnd fun p hp =>
    isFixed_strOrList md cls _ (strOrList_splitVal lc _ (hd p hp))

theorem parseStartTag_enc {md : Nat} {cls : DictClass} {onDup : OnDup} {enc : List PStr → Option PyVal}
    (h : Encodes md cls onDup enc) (lower : PStr → PStr) (m : CdataMap) (hm : m ≠ []) (lc : Nat) (x : Bool)
    (name : PStr) (attrs : List (PStr × Option PStr)) :
    ∃ t, parseStartTag md lower ⟨some m, cls, lc, x⟩ onDup name attrs = .ok t ∧ t.cls = cls ∧ t.listCls = lc ∧
      keys t.items = dedupAcc [] (attrs.map (·.1)) ∧
      ∀ k, dictGet t.items k =
        (enc (valsOf attrs k)).map (fun v => if isMulti m lower name k then splitVal lc v else v) := by
  obtain ⟨d, h1, h2, h3, hnd, hstr⟩ := startTagLoop_enc_nil h attrs
  refine ⟨_, parseStartTag_of_loop md lower m hm cls lc x onDup name attrs d h1 hnd hstr, rfl, rfl, ?_, fun k => ?_⟩
  · exact (keys_map_upd d _ _).trans h3
  · exact (dictGet_map_upd d _ _ k).trans (congrArg _ (h2 k))

/-- the number a string of decimal digits denotes -/
def decVal (s : PStr) : Nat := s.foldl (fun acc c => acc * 10 + (c - 48)) 0

theorem natDigits_eq (fuel n : Nat) (acc : PStr) : natDigits fuel n acc = Writer.digits 10 (48 + ·) fuel n ++ acc :=
  Writer.digits_acc 10 _ natDigits (fun _ _ => rfl) (fun _ _ _ => rfl) fuel n acc

theorem natDigits_spec (fuel n : Nat) (h : n < fuel) :
    decVal (natDigits fuel n []) = n ∧ (∀ c ∈ natDigits fuel n [], 48 ≤ c ∧ c ≤ 57) ∧
    (n ≠ 0 → ∃ c rest, natDigits fuel n [] = c :: rest ∧ c ≠ 48) := by
  have hp : n < 10 ^ fuel := Nat.lt_trans h (Nat.lt_pow_self (by omega))
  rw [natDigits_eq, List.append_nil]
  exact ⟨Writer.foldl_digits 10 _ (by omega) (· - 48) (fun k _ => by simp) fuel n hp,
    Writer.digits_mem 10 _ _ (by omega) (fun k hk => by omega) fuel n,
    Writer.digits_head 10 _ (by omega) (fun k hk _ => by omega) fuel n hp⟩

theorem sortedKeys_tail (a : Nat × List Nat) (rest : List (Nat × List Nat)) (h : sortedKeys (a :: rest) = true) :
    sortedKeys rest = true := by
  cases rest with
  | nil => rfl
  | cons b rest => simp only [sortedKeys, Bool.and_eq_true] at h; exact h.2

theorem sortedKeys_lt (a : Nat × List Nat) (rest : List (Nat × List Nat)) (h : sortedKeys (a :: rest) = true) :
    ∀ p ∈ rest, a.1 < p.1 := by
  induction rest generalizing a with
  | nil => simp
  | cons b rest ih =>
    have hb := sortedKeys_tail a _ h
    simp only [sortedKeys, Bool.and_eq_true, decide_eq_true_eq] at h
    intro p hp
    rcases List.mem_cons.mp hp with rfl | hp
    · exact h.1
    · exact Nat.lt_trans h.1 (ih b hb p hp)

theorem lookupSorted_eq_lookup (t : List (Nat × List Nat)) (c : Nat) (h : sortedKeys t = true) :
    lookupSorted t c = t.lookup c := by
  induction t with
  | nil => rfl
  | cons a rest ih =>
    obtain ⟨k, v⟩ := a
    rw [lookupSorted, List.lookup_cons]
    by_cases hk : k = c
    · simp [hk]
    · rw [if_neg (by simpa using hk), beq_false_of_ne (Ne.symm hk)]
      split
      · -- `c` is below every remaining key
        rename_i hlt
        refine (List.lookup_eq_none_iff.mpr fun p hp => ?_).symm
        have := sortedKeys_lt (k, v) rest h p hp
        simp; omega
      · exact ih (sortedKeys_tail _ _ h)

open BS.Gen in
/-- The generated table with its chunks appended to the right. `c17LowerMap` nests them to the left, so every step of
    an evaluation has to look through all the appends; evaluations go through this form. -/
def lowerMapR : List (Nat × List Nat) :=
  c17LowerMap_0 ++ (c17LowerMap_1 ++ (c17LowerMap_2 ++ (c17LowerMap_3 ++ (c17LowerMap_4 ++ (c17LowerMap_5 ++
  (c17LowerMap_6 ++ (c17LowerMap_7 ++ (c17LowerMap_8 ++ (c17LowerMap_9 ++ (c17LowerMap_10 ++ (c17LowerMap_11 ++
  (c17LowerMap_12 ++ (c17LowerMap_13 ++ (c17LowerMap_14 ++ (c17LowerMap_15 ++ (c17LowerMap_16 ++ (c17LowerMap_17 ++
  (c17LowerMap_18 ++ (c17LowerMap_19 ++ (c17LowerMap_20 ++ (c17LowerMap_21 ++ c17LowerMap_22)))))))))))))))))))))

theorem lowerMap_eq : BS.Gen.c17LowerMap = lowerMapR := by
  unfold BS.Gen.c17LowerMap lowerMapR
  simp only [List.append_assoc]

theorem lowerCp_eq : lowerCp = fun c =>
    match lookupSorted lowerMapR c with
    | some l => l
    | none => [c] := by
  rw [← lowerMap_eq]; rfl

theorem pyLower_eq : pyLower = fun s => s.flatMap fun c =>
    match lookupSorted lowerMapR c with
    | some l => l
    | none => [c] := by
  rw [← lowerCp_eq]; rfl

theorem lowerCp_ascii : ∀ c, c < 128 → lowerCp c = [asciiLowerCp c] := by
  rw [lowerCp_eq]; decide +kernel

theorem pyLower_ascii (s : PStr) (h : ∀ c ∈ s, c < 128) : pyLower s = asciiLower s := by
  induction s with
  | nil => rfl
  | cons c s ih =>
    simp only [pyLower, List.flatMap_cons, asciiLower, List.map_cons] at ih ⊢
    rw [lowerCp_ascii c (h c (by simp)), ih (fun x hx => h x (by simp [hx]))]
    rfl

theorem pyLower_asciiLower (s : PStr) (h : ∀ c ∈ s, c < 128) : pyLower (asciiLower s) = pyLower s := by
  have hlt : ∀ c ∈ asciiLower s, c < 128 := by
    intro c hc
    obtain ⟨x, hx, rfl⟩ := List.mem_map.mp hc
    have := h x hx
    unfold asciiLowerCp; split <;> omega
  rw [pyLower_ascii s h, pyLower_ascii _ hlt, asciiLower, asciiLower, List.map_map]
  refine List.map_congr_left fun c _ => ?_
  simp only [Function.comp, asciiLowerCp]
  split
  · rw [if_neg (by omega)]
  · rfl

theorem isMulti_iff (m : CdataMap) (lower : PStr → PStr) (tag attr : PStr) :
    isMulti m lower tag attr = true ↔
      (∃ set, m.lookup star = some set ∧ attr ∈ set) ∨ (∃ set, m.lookup (lower tag) = some set ∧ attr ∈ set) := by
  unfold isMulti
  cases m.lookup star <;> cases m.lookup (lower tag) <;> simp

theorem isMulti_of_entry (m : CdataMap) (lower : PStr → PStr) (tag a : PStr) (hnd : (m.map (·.1)).Nodup)
    (e : PStr × List PStr) (he : e ∈ m) (ha : a ∈ e.2) (hk : e.1 = star ∨ e.1 = lower tag) :
    isMulti m lower tag a = true := by
  have hl : m.lookup e.1 = some e.2 := lookup_of_mem hnd he
  exact (isMulti_iff m lower tag a).mpr
    (hk.imp (fun (hk : e.1 = star) => ⟨e.2, hk ▸ hl, ha⟩) fun (hk : e.1 = lower tag) => ⟨e.2, hk ▸ hl, ha⟩)

theorem entry_of_isMulti (m : CdataMap) (lower : PStr → PStr) (tag a : PStr) (h : isMulti m lower tag a = true) :
    ∃ e ∈ m, a ∈ e.2 ∧ (e.1 = star ∨ e.1 = lower tag) := by
  rcases (isMulti_iff m lower tag a).mp h with ⟨set, hl, ha⟩ | ⟨set, hl, ha⟩
  · exact ⟨_, mem_of_lookup hl, ha, .inl rfl⟩
  · exact ⟨_, mem_of_lookup hl, ha, .inr rfl⟩

theorem isMulti_false_of_not_listed (m : CdataMap) (lower : PStr → PStr) (tag a : PStr)
    (h : ∀ e ∈ m, a ∉ e.2) : isMulti m lower tag a = false := by
  rw [Bool.eq_false_iff]
  intro hm
  obtain ⟨e, he, ha, _⟩ := entry_of_isMulti m lower tag a hm
  exact h e he ha

theorem lexLe_total (a b : PStr) : lexLe a b = true ∨ lexLe b a = true := by
  -- `[]` left, `[]` right, `x < y`, `y < x`, equal heads
  fun_induction lexLe a b with
  | case1 => exact .inl rfl
  | case2 => exact .inr rfl
  | case3 => exact .inl rfl
  | case4 x xs y ys _ h2 => exact .inr (by simp [lexLe, h2])
  | case5 x xs y ys h1 h2 ih => simpa only [lexLe, h1, h2, if_false] using ih

/-- adjacent elements are in key order -/
def SortedAdj : Items → Prop
  | [] => True
  | [_] => True
  | a :: b :: rest => lexLe a.1 b.1 = true ∧ SortedAdj (b :: rest)

theorem sortItems_perm (d : Items) : (sortItems d).Perm d := by
  rw [BS.SortKeys.sortK_unique (le := lexLe) (ins := insertItem) (srt := sortItems) (fun _ => rfl) (fun _ _ _ => rfl) rfl (fun _ _ => rfl) d]
  exact BS.SortKeys.sortK_perm lexLe d

theorem insertItem_sorted (p : PStr × PyVal) (d : Items) (h : SortedAdj d) : SortedAdj (insertItem p d) := by
  induction d with
  | nil => trivial
  | cons q qs ih =>
    rw [insertItem]
    split
    · rename_i hpq; exact ⟨hpq, h⟩
    · rename_i hpq
      have hqp : lexLe q.1 p.1 = true := (lexLe_total p.1 q.1).resolve_left hpq
      cases qs with
      | nil => exact ⟨hqp, trivial⟩
      | cons r rs =>
        -- whichever element follows `q` in the result, it is not below `q`
        have ih' := ih h.2
        rw [insertItem] at ih' ⊢
        by_cases hpr : lexLe p.1 r.1 = true
        · rw [if_pos hpr] at ih' ⊢; exact ⟨hqp, ih'⟩
        · rw [if_neg hpr] at ih' ⊢; exact ⟨h.1, ih'⟩

theorem sortItems_sorted (d : Items) : SortedAdj (sortItems d) := by
  induction d with
  | nil => trivial
  | cons p ps ih => exact insertItem_sorted p _ ih

theorem quoted_delimits (v : PStr) :
    ∃ q body, (q = 34 ∨ q = 39) ∧ quotedAttributeValue v = q :: body ++ [q] ∧ q ∉ body := by
  unfold quotedAttributeValue
  split
  · split
    · refine ⟨34, _, .inl rfl, rfl, fun hm => ?_⟩
      obtain ⟨c, _, hc⟩ := List.mem_flatMap.mp hm
      by_cases h34 : c = 34 <;> simp [h34, quotEntity] at hc
      exact h34 hc.symm
    · rename_i h2; exact ⟨39, v, .inr rfl, rfl, by simpa using h2⟩
  · rename_i h1; exact ⟨34, v, .inl rfl, rfl, by simpa using h1⟩

theorem mem_fmtAttributes (e : Bool) (items : Items) (p : PStr × PyVal) :
    p ∈ fmtAttributes e items ↔
      ∃ q ∈ items, p = (q.1, if e && q.2 == PyVal.str [] then PyVal.none else q.2) := by
  rw [fmtAttributes, (sortItems_perm _).mem_iff, List.mem_map]
  exact exists_congr fun q => and_congr_right fun _ => eq_comm

theorem formatAttrs_ok (md : Nat) (f : FmtCfg) (sel : Items) (l : List PStr) (h : formatAttrs md f sel = .ok l) :
    l.length = sel.length ∧
    ∀ i (hi : i < sel.length) (hl : i < l.length), formatAttr md f sel[i] = .ok l[i] := by
  induction sel generalizing l with
  | nil => cases h; exact ⟨rfl, fun i hi => absurd hi (by simp)⟩
  | cons p ps ih =>
    obtain ⟨a, h1, h⟩ := Res.bind_eq_ok.mp h
    obtain ⟨as, h2, h⟩ := Res.bind_eq_ok.mp h
    cases h
    obtain ⟨hlen, hget⟩ := ih as h2
    refine ⟨by simp [hlen], fun i hi hl => ?_⟩
    cases i with
    | zero => exact h1
    | succ j => exact hget j (by simpa using hi) (by simpa using hl)

theorem getElem?_modifyAt {α : Type} (l : List α) (i j : Nat) (f : α → α) :
    (modifyAt l i f)[j]? = if j = i then l[j]?.map f else l[j]? := by
  induction l generalizing i j with
  | nil => simp [modifyAt]
  | cons a l ih => cases i <;> cases j <;> simp [modifyAt, ih]

theorem length_modifyAt {α : Type} (l : List α) (i : Nat) (f : α → α) : (modifyAt l i f).length = l.length := by
  induction l generalizing i with
  | nil => rfl
  | cons a l ih => cases i <;> simp [modifyAt, ih]

theorem attrAt_modifyAt_ne (st : Hist) {i j : Nat} (hj : j ≠ i) (f : PStr × TagAttrs → PStr × TagAttrs) (k : PStr) :
    attrAt (modifyAt st i f) j k = attrAt st j k := by
  simp only [attrAt, getElem?_modifyAt, if_neg hj]

/-- `F`: what `g` does to the value under `k`; `hF`: `i` beyond the history -/
theorem attrAt_modifyAt_self (st : Hist) (i : Nat) (g : TagAttrs → TagAttrs) (k : PStr)
    (F : Option PyVal → Option PyVal) (hF : F none = none) (hg : ∀ t, dictGet (g t).items k = F (dictGet t.items k)) :
    attrAt (modifyAt st i (fun p => (p.1, g p.2))) i k = F (attrAt st i k) := by
  simp only [attrAt, getElem?_modifyAt]
  cases st[i]? with
  | none => exact hF.symm
  | some p => exact hg p.2

theorem dictGet_mutateTag (t : TagAttrs) (k k' : PStr) (op : ListOp) :
    dictGet (mutateTag t k op).items k' =
      if k' = k then (dictGet t.items k').map (mutateValue op) else dictGet t.items k' := by
  unfold mutateTag
  split
  · rename_i v hg
    rw [dictGet_dictSet]
    split
    · rename_i h; rw [h, hg]; rfl
    · rfl
  · rename_i hg
    split
    · rename_i h; rw [h, hg]; rfl
    · rfl

theorem mutateTag_frame (t : TagAttrs) (k : PStr) (op : ListOp) :
    (mutateTag t k op).cls = t.cls ∧ (mutateTag t k op).listCls = t.listCls ∧
    keys (mutateTag t k op).items = keys t.items := by
  unfold mutateTag
  split
  · rename_i v hg
    refine ⟨rfl, rfl, ?_⟩
    show keys (dictSet t.items k (mutateValue op v)) = keys t.items
    rw [keys_dictSet, dictHas_eq_isSome, hg]; rfl
  · exact ⟨rfl, rfl, rfl⟩

theorem hasAttr_tagDel (t : TagAttrs) (k k' : PStr) :
    hasAttr (tagDel t k) k' = (hasAttr t k' && !(k' == k)) := by
  simp only [hasAttr, tagDel, dictHas_eq_isSome, dictGet_dictDel]
  by_cases h : k' = k <;> simp [h]

theorem keys_rawUpdate_nodup (d a : Items) (h : (keys d).Nodup) : (keys (rawUpdate d a)).Nodup := by
  induction a generalizing d with
  | nil => exact h
  | cons p rest ih => exact ih _ (nodup_dictSet d p.1 p.2 h)

theorem dictGet_rawUpdate (d a : Items) (k : PStr) :
    dictGet (rawUpdate d a) k = match dictGet a.reverse k with
      | some v => some v
      | none => dictGet d k := by
  induction a generalizing d with
  | nil => rfl
  | cons p rest ih =>
    rw [rawUpdate, ih, List.reverse_cons]
    simp only [dictGet]
    rw [List.lookup_append]
    cases List.lookup k rest.reverse with
    | some v => rfl
    | none =>
      change dictGet (dictSet d p.1 p.2) k = match dictGet [p] k with
        | some v => some v
        | none => dictGet d k
      rw [dictGet_cons, dictGet_dictSet]
      split <;> rfl

end BS.Attrs
