import BSModel.Model.Writer
/-! C04 (`emit_build`): what can be read off `normalise` — the element skeleton, the tag names in document order,
    the special strings — and the attribute dictionary of a duplicate-free attribute list -/
namespace BS.Writer
open BS.Builder BS.Adapter

theorem representable_elem {r : Name} {iv : Name → Bool} {n : Name} {a : List (PStr × Option PStr)} {ks : List WDoc}
    (h : representable r iv (.elem n a ks) = true) : (iv n = true → ks = []) ∧ representableL r iv ks = true := by
  simp only [representable, Bool.and_eq_true, Bool.or_eq_true, Bool.not_eq_true', List.isEmpty_iff] at h
  exact ⟨fun hv => h.1.2.resolve_left (by simp [hv]), h.2⟩

theorem skelL_append : ∀ (a b : List Doc), skelL (a ++ b) = skelL a ++ skelL b := by
  intro a
  induction a with
  | nil => intro b; simp [skelL]
  | cons d ds ih => intro b; simp [skelL, ih, List.append_assoc]

theorem skelL_flushP (cfg : Cfg) (ctx : List Name) (pend : Option PStr) : skelL (flushP cfg ctx pend) = [] := by
  cases pend <;> simp [flushP, skelL, skel]

mutual
theorem skel_norm1 (cfg : Cfg) : ∀ (d : WDoc) (ctx : List Name) (pend : Option PStr),
    skelL (norm1 cfg ctx pend d).1 = wskel d
  | .text s, ctx, pend => by simp [norm1, skelL, wskel]
  | .special k s, ctx, pend => by simp [norm1, skelL_append, skelL_flushP, skelL, skel, wskel]
  | .elem n a ks, ctx, pend => by
    simp [norm1, skelL_append, skelL_flushP, skelL, skel, wskel, skel_normL cfg ks (n :: ctx) none]
theorem skel_normL (cfg : Cfg) : ∀ (ds : List WDoc) (ctx : List Name) (pend : Option PStr),
    skelL (normL cfg ctx pend ds).1 = wskelL ds
  | [], ctx, pend => by simp [normL, skelL, wskelL]
  | d :: ds, ctx, pend => by
    simp [normL, skelL_append, wskelL, skel_norm1 cfg d ctx pend, skel_normL cfg ds ctx _]
end

theorem skel_normalise (cfg : Cfg) (ds : List WDoc) : skelL (normalise cfg ds) = wskelL ds := by
  simp [normalise, skelL_append, skelL_flushP, skel_normL]

/-- names of the elements of a built tree in document order -/
def namesL (t : List Doc) : List Name := (elemsOfL t).map (·.1)

theorem elemsOfL_append : ∀ (a b : List Doc), elemsOfL (a ++ b) = elemsOfL a ++ elemsOfL b := by
  intro a
  induction a with
  | nil => intro b; simp [elemsOfL]
  | cons d ds ih => intro b; simp [elemsOfL, ih, List.append_assoc]

theorem namesL_append (a b : List Doc) : namesL (a ++ b) = namesL a ++ namesL b := by
  simp [namesL, elemsOfL_append]

theorem namesL_nil : namesL [] = [] := rfl

theorem namesL_elem (n : Name) (p : Option Name) (ks ds : List Doc) :
    namesL (Doc.elem n p ks :: ds) = n :: (namesL ks ++ namesL ds) := by
  simp [namesL, elemsOfL, elemsOf]

theorem namesL_text (c : Cls) (s : PStr) (ds : List Doc) : namesL (Doc.text c s :: ds) = namesL ds := by
  simp [namesL, elemsOfL, elemsOf]

theorem namesL_flushP (cfg : Cfg) (ctx : List Name) (pend : Option PStr) : namesL (flushP cfg ctx pend) = [] := by
  cases pend <;> simp [flushP, namesL_text, namesL_nil]

mutual
theorem names_norm1 (cfg : Cfg) : ∀ (d : WDoc) (ctx : List Name) (pend : Option PStr),
    namesL (norm1 cfg ctx pend d).1 = (wtags d).map (·.1)
  | .text s, ctx, pend => by simp [norm1, wtags, namesL_nil]
  | .special k s, ctx, pend => by simp [norm1, namesL_append, namesL_flushP, namesL_text, namesL_nil, wtags]
  | .elem n a ks, ctx, pend => by
    simp [norm1, namesL_append, namesL_flushP, namesL_elem, namesL_nil, wtags, names_normL cfg ks (n :: ctx) none]
theorem names_normL (cfg : Cfg) : ∀ (ds : List WDoc) (ctx : List Name) (pend : Option PStr),
    namesL (normL cfg ctx pend ds).1 = (wtagsL ds).map (·.1)
  | [], ctx, pend => by simp [normL, wtagsL, namesL_nil]
  | d :: ds, ctx, pend => by
    simp [normL, namesL_append, wtagsL, names_norm1 cfg d ctx pend, names_normL cfg ds ctx _]
end

theorem names_normalise (cfg : Cfg) (ds : List WDoc) : namesL (normalise cfg ds) = (wtagsL ds).map (·.1) := by
  simp [normalise, namesL_append, namesL_flushP, names_normL]

/-- the classes string containers give to text are not among the five special-string classes -/
def ContainersApart (cfg : Cfg) : Prop := ∀ n c, cfg.container n = some c → isSpecialCls c = false

theorem textCls_not_special (cfg : Cfg) (h : ContainersApart cfg) (ctx : List Name) :
    isSpecialCls (textCls cfg ctx) = false := by
  unfold textCls
  cases hf : ctx.find? (fun n => (cfg.container n).isSome) with
  | none => simp [isSpecialCls]
  | some n =>
    simp only [Option.bind_some]
    cases hc : cfg.container n with
    | none => simp [isSpecialCls]
    | some c => simpa using h n c hc

theorem specialsL_append : ∀ (a b : List Doc), specialsL (a ++ b) = specialsL a ++ specialsL b := by
  intro a
  induction a with
  | nil => intro b; simp [specialsL]
  | cons d ds ih => intro b; simp [specialsL, ih, List.append_assoc]

theorem specialsL_flushP (cfg : Cfg) (h : ContainersApart cfg) (ctx : List Name) (pend : Option PStr) :
    specialsL (flushP cfg ctx pend) = [] := by
  cases pend with
  | none => simp [flushP, specialsL]
  | some s => simp [flushP, specialsL, specials, textCls_not_special cfg h ctx]

theorem specialCls_special (k : Kind) (s : PStr) : isSpecialCls (specialText k s).1 = true := by
  cases k <;> simp [specialText, isSpecialCls, clsComment, clsCData, clsDoctype, clsPI, clsDecl]
  -- left: `.decl`
  split <;> simp

mutual
theorem specials_norm1 (cfg : Cfg) (h : ContainersApart cfg) : ∀ (d : WDoc) (ctx : List Name) (pend : Option PStr),
    specialsL (norm1 cfg ctx pend d).1 = wspecials cfg ctx d
  | .text s, ctx, pend => by simp [norm1, specialsL, wspecials]
  | .special k s, ctx, pend => by
    simp [norm1, specialsL_append, specialsL_flushP cfg h, specialsL, specials, wspecials, specialCls_special]
  | .elem n a ks, ctx, pend => by
    simp [norm1, specialsL_append, specialsL_flushP cfg h, specialsL, specials, wspecials,
      specials_normL cfg h ks (n :: ctx) none]
theorem specials_normL (cfg : Cfg) (h : ContainersApart cfg) : ∀ (ds : List WDoc) (ctx : List Name) (pend : Option PStr),
    specialsL (normL cfg ctx pend ds).1 = wspecialsL cfg ctx ds
  | [], ctx, pend => by simp [normL, specialsL, wspecialsL]
  | d :: ds, ctx, pend => by
    simp [normL, specialsL_append, wspecialsL, specials_norm1 cfg h d ctx pend, specials_normL cfg h ds ctx _]
end

theorem specials_normalise (cfg : Cfg) (h : ContainersApart cfg) (ds : List WDoc) :
    specialsL (normalise cfg ds) = wspecialsL cfg [cfg.rootName] ds := by
  simp [normalise, specialsL_append, specialsL_flushP cfg h, specials_normL cfg h]

theorem wsRule_keep (cfg : Cfg) (ctx : List Name) (s : PStr)
    (h : ctx.any cfg.preserve = true ∨ s.all (fun c => cfg.asciiSpaces.contains c) = false) : wsRule cfg ctx s = s := by
  unfold wsRule
  rcases h with h | h
  · simp [h]
  · simp only [h, Bool.and_false, Bool.false_eq_true, if_false]

theorem getAttr_setAttr (d : List (PStr × AVal)) (k : PStr) (v : AVal) : getAttr (setAttr d k v) k = some v := by
  induction d with
  | nil => simp [setAttr, getAttr]
  | cons e es ih =>
    simp only [setAttr]
    by_cases hek : (e.1 == k) = true
    · simp [hek, getAttr]
    · have hek' : (e.1 == k) = false := by simpa using hek
      simp only [hek', Bool.false_eq_true, if_false]
      simp only [getAttr, List.find?_cons, hek'] at ih ⊢
      exact ih

theorem getAttr_cons_none (e : PStr × AVal) (es : List (PStr × AVal)) (k : PStr) :
    getAttr (e :: es) k = none ↔ (e.1 == k) = false ∧ getAttr es k = none := by
  simp only [getAttr, List.find?_cons]
  cases h : e.1 == k <;> simp

theorem setAttr_of_none : ∀ (d : List (PStr × AVal)) (k : PStr) (v : AVal), getAttr d k = none →
    setAttr d k v = d ++ [(k, v)] := by
  intro d
  induction d with
  | nil => intro k v _; rfl
  | cons e es ih =>
    intro k v h
    obtain ⟨h1, h2⟩ := (getAttr_cons_none e es k).mp h
    simp [setAttr, h1, ih k v h2]

theorem getAttr_append_none : ∀ (d : List (PStr × AVal)) (k k' : PStr) (v : AVal), getAttr d k' = none → (k == k') = false →
    getAttr (d ++ [(k, v)]) k' = none := by
  intro d
  induction d with
  | nil => intro k k' v _ hk; simp [getAttr, hk]
  | cons e es ih =>
    intro k k' v h hk
    obtain ⟨h1, h2⟩ := (getAttr_cons_none e es k').mp h
    rw [List.cons_append, getAttr_cons_none]
    exact ⟨h1, ih k k' v h2 hk⟩

theorem addAttr_of_none (pol : DupPolicy) (d : List (PStr × AVal)) (k : PStr) (v : Option PStr) (h : getAttr d k = none) :
    addAttr pol d k v = d ++ [(k, .one (v.getD []))] := by
  simp [addAttr, h, setAttr_of_none d k _ h]

theorem attrDict_fold (pol : DupPolicy) : ∀ (attrs : List (PStr × Option PStr)) (d : List (PStr × AVal)),
    (∀ kv ∈ attrs, getAttr d kv.1 = none) → keysNodup (attrs.map (·.1)) = true →
    attrs.foldl (fun d kv => addAttr pol d kv.1 kv.2) d = d ++ plainAttrs attrs := by
  intro attrs
  induction attrs with
  | nil => intro d _ _; simp [plainAttrs]
  | cons kv rest ih =>
    intro d hd hn
    simp only [List.map_cons, keysNodup, Bool.and_eq_true, Bool.not_eq_true'] at hn
    have h0 := hd kv (by simp)
    simp only [List.foldl_cons, addAttr_of_none pol d kv.1 kv.2 h0]
    rw [ih _ ?_ hn.2]
    · simp [plainAttrs]
    · intro kv' hkv'
      apply getAttr_append_none _ _ _ _ (hd kv' (by simp [hkv']))
      cases hk : kv.1 == kv'.1 with
      | false => rfl
      | true =>
        have : kv.1 = kv'.1 := by simpa using hk
        have hmem : (rest.map (·.1)).contains kv.1 = true := by
          simp only [List.contains_iff_mem, List.mem_map]
          exact ⟨kv', hkv', this.symm⟩
        rw [hmem] at hn; cases hn.1

/-- **no name repeats ⇒ the dictionary is the list**: names, values (a missing value as the empty string) and
    order are kept, under every duplicate policy -/
theorem attrDict_nodup (pol : DupPolicy) (attrs : List (PStr × Option PStr)) (hn : keysNodup (attrs.map (·.1)) = true) :
    attrDict pol attrs = plainAttrs attrs := by
  have := attrDict_fold pol attrs [] (by intro kv _; rfl) hn
  simpa [attrDict] using this

/- `representable`: `wtags` lists a void element's children, `infos` does not -/
mutual
theorem infos_attrs (bcfg : Cfg) (cfg : ACfg) (c : Choices) : ∀ (d : WDoc) (p : Path),
    representable bcfg.rootName cfg.isVoid d = true →
    (infos cfg c p d).map (·.attrs) = (wtags d).map (fun t => attrDict cfg.dup t.2)
  | .text s, p, _ => by simp [infos, wtags]
  | .special k s, p, _ => by simp [infos, wtags]
  | .elem n a ks, p, hr => by
    obtain ⟨hvoid, hr⟩ := representable_elem hr
    by_cases hv : cfg.isVoid n = true
    · cases hvoid hv
      simp [infos, hv, wtags, wtagsL, mkInfo]
    · have hv' : cfg.isVoid n = false := by simpa using hv
      simp [infos, hv', wtags, mkInfo, infosL_attrs bcfg cfg c ks p 0 hr]
theorem infosL_attrs (bcfg : Cfg) (cfg : ACfg) (c : Choices) : ∀ (ds : List WDoc) (p : Path) (i : Nat),
    representableL bcfg.rootName cfg.isVoid ds = true →
    (infosL cfg c p i ds).map (·.attrs) = (wtagsL ds).map (fun t => attrDict cfg.dup t.2)
  | [], p, i, _ => by simp [infosL, wtagsL]
  | d :: ds, p, i, hr => by
    simp only [representableL, Bool.and_eq_true] at hr
    simp [infosL, wtagsL, infos_attrs bcfg cfg c d (i :: p) hr.1, infosL_attrs bcfg cfg c ds p (i + 1) hr.2]
end

/-! ### `startInfos` looks at the positions only -/

mutual
theorem infos_congr (cfg : ACfg) (c1 c2 : Choices) (h : c1.pos = c2.pos) : ∀ (d : WDoc) (p : Path),
    infos cfg c1 p d = infos cfg c2 p d
  | .text s, p => rfl
  | .special k s, p => rfl
  | .elem n a ks, p => by simp [infos, h, infosL_congr cfg c1 c2 h ks p 0]
theorem infosL_congr (cfg : ACfg) (c1 c2 : Choices) (h : c1.pos = c2.pos) : ∀ (ds : List WDoc) (p : Path) (i : Nat),
    infosL cfg c1 p i ds = infosL cfg c2 p i ds
  | [], p, i => rfl
  | d :: ds, p, i => by simp [infosL, infos_congr cfg c1 c2 h d (i :: p), infosL_congr cfg c1 c2 h ds p (i + 1)]
end

end BS.Writer
