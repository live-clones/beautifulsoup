import BSModel.Proofs.HeapBasics
/-! Pillar 1, part 1: what `PageElement.extract` computes on a well-formed heap (`cutHeap`), field by field. -/
namespace BS.Heap

theorem setNeO_ne (h : Heap) (i v : Option Nat) (a : Nat) :
    (setNeO h i v).ne a = if i = some a then v else h.ne a := by
  cases i <;> simp [setNeO, setNe, eq_comm]

theorem setPeO_pe (h : Heap) (i v : Option Nat) (a : Nat) :
    (setPeO h i v).pe a = if i = some a then v else h.pe a := by
  cases i <;> simp [setPeO, setPe, eq_comm]

theorem setNsO_ns (h : Heap) (i v : Option Nat) (a : Nat) :
    (setNsO h i v).ns a = if i = some a then v else h.ns a := by
  cases i <;> simp [setNsO, setNs, eq_comm]

theorem setPsO_ps (h : Heap) (i v : Option Nat) (a : Nat) :
    (setPsO h i v).ps a = if i = some a then v else h.ps a := by
  cases i <;> simp [setPsO, setPs, eq_comm]

theorem setNeO_other (h : Heap) (i v) :
    (setNeO h i v).parent = h.parent ∧ (setNeO h i v).ps = h.ps ∧ (setNeO h i v).ns = h.ns ∧
    (setNeO h i v).pe = h.pe ∧ (setNeO h i v).kids = h.kids ∧ (setNeO h i v).kind = h.kind ∧
    (setNeO h i v).val = h.val ∧ (setNeO h i v).next = h.next ∧ (setNeO h i v).cap = h.cap := by
  cases i <;> simp [setNeO, setNe]

theorem setPeO_other (h : Heap) (i v) :
    (setPeO h i v).parent = h.parent ∧ (setPeO h i v).ps = h.ps ∧ (setPeO h i v).ns = h.ns ∧
    (setPeO h i v).ne = h.ne ∧ (setPeO h i v).kids = h.kids ∧ (setPeO h i v).kind = h.kind ∧
    (setPeO h i v).val = h.val ∧ (setPeO h i v).next = h.next ∧ (setPeO h i v).cap = h.cap := by
  cases i <;> simp [setPeO, setPe]

theorem setNsO_other (h : Heap) (i v) :
    (setNsO h i v).parent = h.parent ∧ (setNsO h i v).ps = h.ps ∧ (setNsO h i v).ne = h.ne ∧
    (setNsO h i v).pe = h.pe ∧ (setNsO h i v).kids = h.kids ∧ (setNsO h i v).kind = h.kind ∧
    (setNsO h i v).val = h.val ∧ (setNsO h i v).next = h.next ∧ (setNsO h i v).cap = h.cap := by
  cases i <;> simp [setNsO, setNs]

theorem setPsO_other (h : Heap) (i v) :
    (setPsO h i v).parent = h.parent ∧ (setPsO h i v).ns = h.ns ∧ (setPsO h i v).ne = h.ne ∧
    (setPsO h i v).pe = h.pe ∧ (setPsO h i v).kids = h.kids ∧ (setPsO h i v).kind = h.kind ∧
    (setPsO h i v).val = h.val ∧ (setPsO h i v).next = h.next ∧ (setPsO h i v).cap = h.cap := by
  cases i <;> simp [setPsO, setPs]

theorem setPeO_ne (h : Heap) (i v) : (setPeO h i v).ne = h.ne := by cases i <;> rfl
theorem setNeO_pe (h : Heap) (i v) : (setNeO h i v).pe = h.pe := by cases i <;> rfl
theorem setPsO_ns (h : Heap) (i v) : (setPsO h i v).ns = h.ns := by cases i <;> rfl
theorem setNsO_ps (h : Heap) (i v) : (setNsO h i v).ps = h.ps := by cases i <;> rfl

/-- the shape of every link field after `relinkElems`/`relinkSibs`: a guarded write under a second guard -/
theorem guarded_read {i v : Option Nat} {old new : Option Nat} {a : Nat}
    (hw : new = if i = some a then v else old) :
    (if i ≠ none ∧ i ≠ v then new else old) = if i = some a ∧ i ≠ v then v else old := by
  by_cases hc : i ≠ none ∧ i ≠ v
  · rw [if_pos hc, hw]
    by_cases hia : i = some a
    · rw [if_pos hia, if_pos ⟨hia, hc.2⟩]
    · rw [if_neg hia, if_neg fun c => hia c.1]
  · rw [if_neg hc, if_neg]
    intro c
    exact hc ⟨by rw [c.1]; nofun, c.2⟩

theorem relinkElems_ne (h : Heap) (x last a : Nat) :
    (relinkElems h x last).ne a =
      if a = last then none
      else if h.pe x = some a ∧ h.pe x ≠ h.ne last then h.ne last else h.ne a := by
  show (if a = last then none else (if _ then setPeO _ _ _ else _).ne a) = _
  congr 1
  rw [apply_ite Heap.ne, setPeO_ne, ite_self, apply_ite (fun g : Heap => g.ne a)]
  exact guarded_read (setNeO_ne h _ _ a)

theorem relinkElems_pe (h : Heap) (x last b : Nat) :
    (relinkElems h x last).pe b =
      if b = x then none
      else if h.ne last = some b ∧ h.ne last ≠ h.pe x then h.pe x else h.pe b := by
  show (if b = x then none else (if _ then setPeO _ _ _ else _).pe b) = _
  congr 1
  have e : ∀ (c : Prop) [Decidable c] (i v : Option Nat), (if c then setNeO h i v else h).pe = h.pe :=
    fun c _ i v => by rw [apply_ite Heap.pe, setNeO_pe, ite_self]
  rw [apply_ite (fun g : Heap => g.pe b), e]
  exact guarded_read (by rw [setPeO_pe, e])

theorem relinkSibs_ns (h : Heap) (x a : Nat) :
    (relinkSibs h x).ns a =
      if a = x then none
      else if h.ps x = some a ∧ h.ps x ≠ h.ns x then h.ns x else h.ns a := by
  show (if a = x then none else (if _ then setPsO _ _ _ else _).ns a) = _
  congr 1
  rw [apply_ite Heap.ns, setPsO_ns, ite_self, apply_ite (fun g : Heap => g.ns a)]
  exact guarded_read (setNsO_ns h _ _ a)

theorem relinkSibs_ps (h : Heap) (x b : Nat) :
    (relinkSibs h x).ps b =
      if b = x then none
      else if h.ns x = some b ∧ h.ns x ≠ h.ps x then h.ps x else h.ps b := by
  show (if b = x then none else (if _ then setPsO _ _ _ else _).ps b) = _
  congr 1
  have e : ∀ (c : Prop) [Decidable c] (i v : Option Nat), (if c then setNsO h i v else h).ps = h.ps :=
    fun c _ i v => by rw [apply_ite Heap.ps, setNsO_ps, ite_self]
  rw [apply_ite (fun g : Heap => g.ps b), e]
  exact guarded_read (by rw [setPsO_ps, e])

theorem relinkElems_other (h : Heap) (x last : Nat) :
    (relinkElems h x last).parent = h.parent ∧ (relinkElems h x last).ps = h.ps ∧
    (relinkElems h x last).ns = h.ns ∧ (relinkElems h x last).kids = h.kids ∧
    (relinkElems h x last).kind = h.kind ∧ (relinkElems h x last).val = h.val ∧
    (relinkElems h x last).next = h.next ∧ (relinkElems h x last).cap = h.cap := by
  unfold relinkElems
  simp only []
  split <;> split <;> simp [setNe, setPe, setNeO_other, setPeO_other]

theorem relinkSibs_other (h : Heap) (x : Nat) :
    (relinkSibs h x).parent = h.parent ∧ (relinkSibs h x).pe = h.pe ∧
    (relinkSibs h x).ne = h.ne ∧ (relinkSibs h x).kids = h.kids ∧
    (relinkSibs h x).kind = h.kind ∧ (relinkSibs h x).val = h.val ∧
    (relinkSibs h x).next = h.next ∧ (relinkSibs h x).cap = h.cap := by
  unfold relinkSibs
  simp only []
  split <;> split <;> simp [setNs, setPs, setNsO_other, setPsO_other]

/-- the heap `extract` produces for a child `x` of `p` whose last descendant is `L` -/
def cutHeap (h : Heap) (p x L : Nat) : Heap :=
  relinkSibs (setParent (relinkElems (setKids h p ((h.kids p).erase x)) x L) x none) x

theorem lastDown_setKids (h : Heap) (w : Wit) (hwf : WF h w) (p : Nat) (l : List Nat) :
    ∀ (f n : Nat), ¬ (w.tree p = w.tree n ∧ w.pos n ≤ w.pos p ∧ w.pos p < w.pos n + w.size n) →
      lastDown (setKids h p l) f n = lastDown h f n := by
  intro f
  induction f with
  | zero => intro n _; rfl
  | succ f ih =>
    intro n hn
    have hnp : n ≠ p := by
      intro e; subst e; have := hwf.size_pos n; apply hn; omega
    have hk : (setKids h p l).kids n = h.kids n := by simp [setKids, hnp]
    have hkind : (setKids h p l).kind = h.kind := rfl
    simp only [lastDown, hk, hkind]
    split
    · cases hl : (h.kids n).getLast? with
      | none => rfl
      | some k =>
        simp only
        have hmem : k ∈ h.kids n := List.mem_of_getLast? hl
        have h1 := tiles_mem _ _ _ _ _ (hwf.tiles n) k hmem
        have h2 := hwf.kid_tree n k hmem
        apply ih
        intro hc
        apply hn
        omega
    · rfl

/-- `_last_descendant` answers `s.previous_element` for a next sibling `s`, which is where the down-walk from `x` ends;
    without one it walks down and never reads the children list of `p` just edited -/
theorem extract_child (h : Heap) (w : Wit) (hwf : WF h w) (x p : Nat) (hp : h.parent x = some p) :
    extract h x = .ok (cutHeap h p x (lastDown h h.cap x)) := by
  have hmem := hwf.parent_kid x p hp
  obtain ⟨hxt, hxp, hxe⟩ := wf_parent_pos hwf hp
  obtain ⟨hLt, hLp, _⟩ := last_facts h w hwf x
  unfold extract
  simp only [hp, indexOf]
  cases hi : (h.kids p).idxOf? x with
  | none => exact absurd hmem (List.idxOf?_eq_none_iff.mp hi)
  | some i =>
    have he : (h.kids p).eraseIdx i = (h.kids p).erase x := by
      rw [List.erase_eq_eraseIdx]; simp [hi]
    simp only [he]
    have hL : lastDescendant (setKids h p ((h.kids p).erase x)) x true = .ok (lastDown h h.cap x) := by
      unfold lastDescendant
      have e1 : (setKids h p ((h.kids p).erase x)).ns = h.ns := rfl
      have e2 : (setKids h p ((h.kids p).erase x)).pe = h.pe := rfl
      have e3 : (setKids h p ((h.kids p).erase x)).cap = h.cap := rfl
      simp only [e1, e2, e3, if_true]
      cases hs : h.ns x with
      | some s =>
        simp only
        obtain ⟨⟨q, hq1, hq2⟩, hsp⟩ := (hwf.sib_ns x s).mp hs
        cases some_parent_eq hq1 hp
        have hst := wf_parent_pos hwf hq2
        have hunl : w.unl (lastDown h h.cap x) = false := wf_unl_pos hwf (by have := hwf.size_pos x; omega)
        have : h.pe s = some (lastDown h h.cap x) :=
          (hwf.chain_pe (lastDown h h.cap x) s).mpr ⟨hunl, by omega, by omega⟩
        simp [this]
      | none =>
        simp only
        rw [lastDown_setKids h w hwf p _ h.cap x (by omega)]
    simp only [hL]
    rfl

/-- `cutHeap`, field by field -/
structure Cut (h h' : Heap) (p x L : Nat) : Prop where
  parent : ∀ n, h'.parent n = if n = x then none else h.parent n
  kids : ∀ n, h'.kids n = if n = p then (h.kids p).erase x else h.kids n
  ne : ∀ a, h'.ne a = if a = L then none else if h.pe x = some a ∧ h.pe x ≠ h.ne L then h.ne L else h.ne a
  pe : ∀ b, h'.pe b = if b = x then none else if h.ne L = some b ∧ h.ne L ≠ h.pe x then h.pe x else h.pe b
  ns : ∀ a, h'.ns a = if a = x then none else if h.ps x = some a ∧ h.ps x ≠ h.ns x then h.ns x else h.ns a
  ps : ∀ b, h'.ps b = if b = x then none else if h.ns x = some b ∧ h.ns x ≠ h.ps x then h.ps x else h.ps b
  kind : h'.kind = h.kind
  val : h'.val = h.val
  next : h'.next = h.next
  cap : h'.cap = h.cap

theorem cutHeap_cut (h : Heap) (p x L : Nat) : Cut h (cutHeap h p x L) p x L := by
  obtain ⟨sparent, spe, sne, skids, skind, sval, snext, scap⟩ :=
    relinkSibs_other (setParent (relinkElems (setKids h p ((h.kids p).erase x)) x L) x none) x
  obtain ⟨eparent, eps, ens, ekids, ekind, eval, enext, ecap⟩ := relinkElems_other (setKids h p ((h.kids p).erase x)) x L
  exact
    { parent := fun n => by
        rw [show (cutHeap h p x L).parent = _ from sparent]
        show (if n = x then none else (relinkElems _ x L).parent n) = _
        rw [eparent]; rfl
      kids := fun n => by
        rw [show (cutHeap h p x L).kids = _ from skids]
        show (relinkElems _ x L).kids n = _
        rw [ekids]; rfl
      ne := fun a => (congrFun sne a).trans (relinkElems_ne _ x L a)
      pe := fun b => (congrFun spe b).trans (relinkElems_pe _ x L b)
      ns := fun a => by
        rw [show (cutHeap h p x L).ns a = _ from relinkSibs_ns _ x a]
        simp only [setParent, eps, ens]; rfl
      ps := fun b => by
        rw [show (cutHeap h p x L).ps b = _ from relinkSibs_ps _ x b]
        simp only [setParent, eps, ens]; rfl
      kind := skind.trans ekind
      val := sval.trans eval
      next := snext.trans enext
      cap := scap.trans ecap }

end BS.Heap
