import BSModel.Proofs.EncodingDecl
import BSModel.Proofs.PStr
/-! the output side meets the input side: on the bytes that `encode` writes for an ASCII-compatible codec, C07's model of
    dammit's `html_meta` regex (`BS.EncodingIn.htmlSearch`: leftmost `<\s*meta`, greedy `[^>]+`, LAST `charset\s*=` of that
    tag) finds the target name (rests on C07's model and its lemmas in `Proofs/EncodingDecl.lean`) -/
namespace BS.EncodingOut
open BS

/-- a charset name for the detector: ASCII, none of the closing characters ``[ /;'">]``, no white space, no `=` -/
def DetName (e : PStr) : Prop := ∀ c ∈ e, c < 128 ∧ EncodingIn.isTerm c = false ∧ EncodingIn.isSpace c = false ∧ c ≠ 61

theorem DetName.noEq {e : PStr} (he : DetName e) : ∀ c ∈ e, c ≠ 61 := fun c hc => (he c hc).2.2.2

theorem DetName.value {e : PStr} (he : DetName e) :
    ∀ c ∈ e, EncodingIn.isTerm c = false ∧ EncodingIn.isSpace c = false := fun c hc => ⟨(he c hc).2.1, (he c hc).2.2.1⟩

/-- `<meta A charset=tail` where the value read from `tail` is `g` and nothing further on in `tail` matches -/
theorem htmlSearch_meta_of_value (A tail g : PStr) (hA : ∀ c ∈ A, c ≠ 62) (hval : EncodingIn.htmlValue tail = some g)
    (hV : EncodingIn.lastCharset tail = none) :
    EncodingIn.htmlSearch (60 :: (EncodingIn.litMeta ++ 32 :: (A ++ (EncodingIn.litCharset ++ 61 :: tail)))) = some g := by
  show (match EncodingIn.metaAt _ with | some g => some g | none => _) = some g
  rw [EncodingIn.metaAt_of_value (m0 := 32) (mid := A) (hm0 := by decide) (hmid := hA) (hval := hval) (hV := hV)]

/-- inside a name and up to the quote that closes it nothing matches (a name holds no `=`) -/
theorem lastCharset_name_quote (e Y : PStr) (he : DetName e) (hY : EncodingIn.lastCharset Y = none) :
    EncodingIn.lastCharset (e ++ 34 :: Y) = none :=
  EncodingIn.lastCharset_none_upto (x := 34) (hx := by decide) (hsp := rfl) (h61 := by decide) (s := e) (Y := Y)
    (hs := EncodingIn.containsCharsetEq_of_no_eq e he.noEq) (hY := Or.inr hY)

/-- the HTML4 declaration: `charset=e"` inside the `content` value, then the rest of the tag `B` in which the regex finds
    nothing more (`hB`; e.g. ` http-equiv="Content-Type"/`) -/
theorem htmlSearch_meta_bare (A : PStr) (c : Nat) (cs B X : PStr) (hA : ∀ x ∈ A, x ≠ 62) (he : DetName (c :: cs))
    (hB : EncodingIn.lastCharset (B ++ 62 :: X) = none) :
    EncodingIn.htmlSearch (ofS "<meta " ++ (A ++ (ofS "charset=" ++ (c :: cs ++ 34 :: (B ++ 62 :: X))))) = some (c :: cs) := by
  repeat rw [ofS_ofList]
  exact htmlSearch_meta_of_value A _ _ hA
    (EncodingIn.htmlValue_name (qs := []) (name := c :: cs) (more := B ++ 62 :: X) (t := 34) (ht := rfl)
      (hqs := Or.inl rfl) (hne := fun _ => List.cons_ne_nil c cs) (hn := he.value))
    (lastCharset_name_quote (c :: cs) _ he hB)

/-- **`<meta A charset="e" B>`** — `A` any tag text without `>` (earlier attributes), `B` tag text without `=` and `>`
    (`/` for the void-element slash): the detector's regex, applied at this `<`, returns `e` -/
theorem htmlSearch_meta (A e B X : PStr) (hA : ∀ c ∈ A, c ≠ 62) (he : DetName e) (hB : ∀ c ∈ B, c ≠ 61 ∧ c ≠ 62) :
    EncodingIn.htmlSearch (ofS "<meta " ++ (A ++ (ofS "charset=\"" ++ (e ++ 34 :: (B ++ 62 :: X))))) = some e := by
  repeat rw [ofS_ofList]
  -- nothing matches over the opening quote (the empty name before it), `e"`, `B>`
  exact htmlSearch_meta_of_value A _ e hA
    (EncodingIn.htmlValue_name (qs := [34]) (name := e) (more := B ++ 62 :: X) (t := 34) (ht := rfl)
      (hqs := Or.inr ⟨34, rfl, rfl⟩) (hne := nofun) (hn := he.value))
    (lastCharset_name_quote [] _ nofun (lastCharset_name_quote e _ he (EncodingIn.lastCharset_none_of_no_eq B X hB)))

end BS.EncodingOut
