import BSModel.Model.EntitiesPopulate
import BSModel.Proofs.Entities
/-! What `_populate_class_variables` guarantees by construction, for ANY html5 table. -/
namespace BS.Entities

theorem mem_dedup [BEq α] [LawfulBEq α] (l : List α) (x : α) : x ∈ dedup l ↔ x ∈ l := by
  induction l with
  | nil => simp [dedup]
  | cons a t ih =>
    simp only [dedup]
    split
    · rename_i h
      have ha : a ∈ t := by simpa using h
      rw [ih, List.mem_cons]
      exact ⟨Or.inr, fun hx => hx.elim (· ▸ ha) id⟩
    · simp only [List.mem_cons, ih]

theorem mem_shortEntities {items : Items} {c : Nat} :
    c ∈ shortEntities items ↔ ∃ it ∈ items, it.2 = [c] ∧ inRegex [c] = true ∧ c ≠ 38 := by
  unfold shortEntities
  rw [mem_dedup, List.mem_filterMap]
  constructor
  · rintro ⟨it, hit, h⟩
    split at h
    · rename_i c' heq
      split at h
      · rename_i hc
        simp only [Option.some.injEq] at h
        subst h
        simp only [Bool.and_eq_true, bne_iff_ne, ne_eq] at hc
        exact ⟨it, hit, heq, hc.1, hc.2⟩
      · simp at h
    · simp at h
  · rintro ⟨it, hit, h1, h2, h3⟩
    refine ⟨it, hit, ?_⟩
    rw [h1]
    simp [h2, h3]

theorem mem_longEntities {items : Items} {l : PStr} :
    l ∈ longEntities items ↔ ∃ it ∈ items, it.2 = l ∧ inRegex l = true ∧ l.length ≠ 1 := by
  unfold longEntities
  rw [mem_dedup, List.mem_filterMap]
  constructor
  · rintro ⟨it, hit, h⟩
    split at h
    · simp at h
    · rename_i hne
      split at h
      · rename_i hr
        simp only [Option.some.injEq] at h
        subst h
        refine ⟨it, hit, rfl, hr, ?_⟩
        intro hlen
        match hch : it.2, hlen with
        | [c], _ => exact hne c hch
      · simp at h
  · rintro ⟨it, hit, h1, h2, h3⟩
    refine ⟨it, hit, ?_⟩
    subst h1
    split
    · rename_i c heq; rw [heq] at h3; simp at h3
    · simp [h2]

theorem long_length_two {items : Items} (hok : itemsOK items = true) {l : PStr} (hl : l ∈ longEntities items) :
    ∃ a b, l = [a, b] := by
  obtain ⟨it, hit, h1, h2, h3⟩ := mem_longEntities.mp hl
  have := (List.all_eq_true.mp hok) it hit
  simp only [Bool.and_eq_true, Bool.not_eq_true', List.isEmpty_eq_false_iff, Bool.or_eq_true, decide_eq_true_eq] at this
  rw [h1] at this
  obtain ⟨hne, hlen⟩ := this
  have hlen2 : l.length ≤ 2 := by
    rcases hlen with h | h
    · rw [h2] at h; simp at h
    · exact h
  match l, hne, h3, hlen2 with
  | [a, b], _, _, _ => exact ⟨a, b, rfl⟩

theorem mem_lookaheadFor {longs : List PStr} {c d : Nat} :
    d ∈ lookaheadFor longs c ↔ ∃ tl, c :: d :: tl ∈ longs := by
  unfold lookaheadFor
  rw [List.mem_filterMap]
  constructor
  · rintro ⟨l, hl, h⟩
    split at h
    · rename_i a b tl
      split at h
      · rename_i hac
        simp only [Option.some.injEq] at h
        subst h; subst hac
        exact ⟨tl, hl⟩
      · simp at h
    · simp at h
  · rintro ⟨tl, hl⟩
    exact ⟨_, hl, by simp⟩

theorem mem_populateParticles {items : Items} {p : Particle} :
    p ∈ populateParticles items ↔
      (∃ c ∈ shortEntities items, mkShort (longEntities items) c = p) ∨
        (∃ l ∈ longEntities items, ⟨l, []⟩ = p) := by
  simp only [populateParticles, List.mem_append, List.mem_map]

theorem matchesAt_lookahead {p : Particle} {l : PStr} (h : p.matchesAt l = true) {d : Nat} {tl : PStr}
    (hd : l.drop p.key.length = d :: tl) : d ∉ p.notNext := by
  unfold Particle.matchesAt at h
  simp only [Bool.and_eq_true] at h
  rw [hd] at h
  simpa using h.2

theorem short_long_clash {items : Items} (hok : itemsOK items = true) {c : Nat} {lq l : PStr} (hlq : lq ∈ longEntities items)
    (hpm : (mkShort (longEntities items) c).matchesAt l = true) (hqm : (⟨lq, []⟩ : Particle).matchesAt l = true) : False := by
  obtain ⟨a, b, rfl⟩ := long_length_two hok hlq
  obtain ⟨r, hr⟩ := matchesAt_prefix hqm
  have h1 := fstCp_of_matches hpm
  simp only [fstCp, mkShort, List.headD_cons] at h1
  rw [← hr] at h1 hpm
  simp only [List.cons_append, List.headD_cons] at h1
  subst h1
  exact matchesAt_lookahead hpm (d := b) (tl := r) (by simp [mkShort]) (mem_lookaheadFor.mpr ⟨[], hlq⟩)

/-- **By construction** at most one alternative matches at any position: a short alternative carries in its look-ahead
    class the second code point of every long one that starts like it. -/
theorem populate_exclusive {items : Items} (hok : itemsOK items = true) : Excl (populateParticles items) := by
  intro p hp q hq l hpm hqm
  rcases mem_populateParticles.mp hp with ⟨c, _, rfl⟩ | ⟨lp, hlp, rfl⟩ <;>
    rcases mem_populateParticles.mp hq with ⟨c', _, rfl⟩ | ⟨lq, hlq, rfl⟩
  · -- two short ones: same first code point of `l`
    have h1 := fstCp_of_matches hpm
    have h2 := fstCp_of_matches hqm
    simp only [fstCp, mkShort, List.headD_cons] at h1 h2
    rw [h1, h2]
  · exact (short_long_clash hok hlq hpm hqm).elim
  · exact (short_long_clash hok hlp hqm hpm).elim
  · obtain ⟨a, b, rfl⟩ := long_length_two hok hlp
    obtain ⟨a', b', rfl⟩ := long_length_two hok hlq
    obtain ⟨r, hr⟩ := matchesAt_prefix hpm
    obtain ⟨r', hr'⟩ := matchesAt_prefix hqm
    rw [← hr'] at hr
    simp only [List.cons_append, List.nil_append, List.cons.injEq] at hr
    rw [hr.1, hr.2.1]

/-- … and with the extra alternative `&` (no html5 character sequence that enters the regex starts with `&`) -/
theorem populateAmp_exclusive {items : Items} (hok : itemsOK items = true)
    (hamp : ∀ it ∈ items, inRegex it.2 = true → it.2.headD 0 ≠ 38) : Excl (populateParticlesAmp items) := by
  have hhead : ∀ p ∈ populateParticles items, p.key.headD 0 ≠ 38 := by
    intro p hp
    rcases mem_populateParticles.mp hp with ⟨c, hc, rfl⟩ | ⟨l, hl, rfl⟩
    · obtain ⟨it, hit, h1, h2, _⟩ := mem_shortEntities.mp hc
      have := hamp it hit (by rw [h1]; exact h2)
      rw [h1] at this
      simpa [mkShort] using this
    · obtain ⟨it, hit, h1, h2, _⟩ := mem_longEntities.mp hl
      have := hamp it hit (by rw [h1]; exact h2)
      rw [h1] at this
      exact this
  have hamp' : ∀ p ∈ populateParticles items, ∀ l, p.matchesAt l = true → (⟨[38], []⟩ : Particle).matchesAt l = true → False := by
    intro p hp l hpm hqm
    have h1 := fstCp_of_matches hpm
    have h2 := fstCp_of_matches hqm
    simp only [fstCp, List.headD_cons] at h1 h2
    exact hhead p hp (by rw [h1, ← h2])
  intro p hp q hq l hpm hqm
  unfold populateParticlesAmp at hp hq
  simp only [List.mem_append, List.mem_cons, List.mem_nil_iff, or_false] at hp hq
  rcases hp with hp | rfl <;> rcases hq with hq | rfl
  · exact populate_exclusive hok p hp q hq l hpm hqm
  · exact (hamp' p hp l hpm hqm).elim
  · exact (hamp' q hq l hqm hpm).elim
  · rfl

/-- **By construction** a character that html5 names and that enters the regex alone (`<`, `>`, any non-ASCII one) is
    always caught: by its own alternative, or by a long one when the look-ahead forbids. -/
theorem populate_covers {items : Items} (hok : itemsOK items = true) {c : Nat}
    (hc : ∃ it ∈ items, it.2 = [c] ∧ inRegex [c] = true ∧ c ≠ 38) : coversChar (populateParticles items) c = true := by
  have hcs : c ∈ shortEntities items := mem_shortEntities.mpr hc
  unfold coversChar
  rw [List.any_eq_true]
  refine ⟨mkShort (longEntities items) c, mem_populateParticles.mpr (Or.inl ⟨c, hcs, rfl⟩), ?_⟩
  simp only [mkShort, beq_self_eq_true, Bool.true_and, List.all_eq_true, List.any_eq_true, Bool.and_eq_true, beq_iff_eq]
  intro d hd
  obtain ⟨tl, hl⟩ := mem_lookaheadFor.mp hd
  obtain ⟨a, b, hab⟩ := long_length_two hok hl
  simp only [List.cons.injEq] at hab
  obtain ⟨rfl, rfl, rfl⟩ := hab
  exact ⟨⟨[c, d], []⟩, mem_populateParticles.mpr (Or.inr ⟨_, hl, rfl⟩), rfl, rfl⟩

/-- **By construction** every alternative has a name in `unicode_to_name`. -/
theorem populate_keys_named {items : Items} (cp2name : List (Nat × PStr)) {p : Particle}
    (hp : p ∈ populateParticles items) : (unicodeToName items cp2name p.key).isSome = true := by
  have key : ∀ ch, (∃ it ∈ items, it.2 = ch) → (unicodeToName items cp2name ch).isSome = true := by
    intro ch ⟨it, hit, hch⟩
    have hfind : (items.reverse.find? fun it => it.2 == ch).isSome = true := by
      rw [List.find?_isSome]
      exact ⟨it, by simpa using hit, by simp [hch]⟩
    unfold unicodeToName
    split
    · split
      · rfl
      · simpa using hfind
    · simpa using hfind
  rcases mem_populateParticles.mp hp with ⟨c, hc, rfl⟩ | ⟨l, hl, rfl⟩
  · obtain ⟨it, hit, h1, _⟩ := mem_shortEntities.mp hc
    exact key [c] ⟨it, hit, h1⟩
  · obtain ⟨it, hit, h1, _⟩ := mem_longEntities.mp hl
    exact key l ⟨it, hit, h1⟩


/-- permuting the alternation built from ANY well-formed html5 table does not change a substitution -/
theorem populate_order_irrelevant {items : Items} (hok : itemsOK items = true)
    (hamp : ∀ it ∈ items, inRegex it.2 = true → it.2.headD 0 ≠ 38) (ps' : List Particle)
    (hp : ps'.Perm (populateParticlesAmp items)) (rep : PStr → PStr) (s : PStr) :
    reSub ps' rep 0 s = reSub (populateParticlesAmp items) rep 0 s :=
  reSub_congr (firstMatch_of_same_members (populateAmp_exclusive hok hamp) (fun _ => hp.mem_iff)) rep 0 s

/-- decidable form of "no character sequence that enters the regex starts with `&`" -/
def itemsNoAmpHead (items : Items) : Bool := items.all fun it => !inRegex it.2 || it.2.headD 0 != 38

theorem itemsNoAmpHead_spec {items : Items} (h : itemsNoAmpHead items = true) :
    ∀ it ∈ items, inRegex it.2 = true → it.2.headD 0 ≠ 38 := by
  intro it hit hr
  have := (List.all_eq_true.mp h) it hit
  simpa [hr] using this

/-- in-order contents of a dictionary -/
def Dict.toListAux : Dict → List (PStr × PStr) → List (PStr × PStr)
  | .leaf, acc => acc
  | .node l k v r, acc => Dict.toListAux l ((k, v) :: Dict.toListAux r acc)

def Dict.toList (d : Dict) : List (PStr × PStr) := Dict.toListAux d []

end BS.Entities
