import BSModel.Proofs.HeapBasics
/-! Pillar 2, part 1: the lowest ancestor and the two walks (`lastDown`, `nextAfter`). -/
namespace BS.Heap

/-! ## the down-walk only reads `contents` and the class -/

theorem lastDown_congr (h1 h2 : Heap) (hk : h1.kids = h2.kids) (hd : h1.kind = h2.kind) :
    lastDown h1 = lastDown h2 := by
  funext f
  induction f with
  | zero => rfl
  | succ f ih =>
    funext n
    simp only [lastDown, hk, hd]
    split
    · split
      · rfl
      · exact congrFun ih _
    · rfl

section
variable {h : Heap} {w : Wit} (hwf : WF h w)
include hwf

/-- the parent is the lowest proper ancestor -/
theorem parent_min {a q m : Nat} (hp : h.parent a = some q) (ht : w.tree m = w.tree a)
    (h1 : w.pos m < w.pos a) (h2 : w.pos a < w.pos m + w.size m) : w.pos m ≤ w.pos q :=
  ((kid_inSub_iff hwf m q a (hwf.parent_kid a q hp) fun e => Nat.lt_irrefl _ (e ▸ h1)).mp
    ⟨ht.symm, Nat.le_of_lt h1, h2⟩).2.1

theorem no_pe_of_root {r : Nat} (hr : h.parent r = none) : h.pe r = none :=
  (root_links hwf hr).1

/-- the up-walk of `_insert` finds the node right after the subtree of `q` (in document order), if any.
    `g` is the intermediate heap the walk runs on: it agrees with `h` on the nodes the walk visits. Each step goes to
    the parent, which stands earlier: `pos q` bounds the steps. -/
theorem nextAfter_spec (g : Heap) (p : Nat)
    (hag : ∀ n, w.tree n = w.tree p → w.pos n ≤ w.pos p → g.ns n = h.ns n ∧ g.parent n = h.parent n) :
    ∀ (f q : Nat), w.tree q = w.tree p → w.pos q ≤ w.pos p → w.pos q < f →
      ∀ b, nextAfter g f q = some b ↔ (w.tree b = w.tree q ∧ w.pos b = w.pos q + w.size q) := by
  intro f
  induction f with
  | zero => intro q _ _ hf; omega
  | succ f ih =>
    intro q hqt hqp hf b
    obtain ⟨e1, e2⟩ := hag q hqt hqp
    simp only [nextAfter, e1, e2]
    cases hn : h.ns q with
    | some s =>
      simp only
      obtain ⟨⟨r, hr1, hr2⟩, hs⟩ := (hwf.sib_ns q s).mp hn
      have t1 := (wf_parent_pos hwf hr1).1
      have t2 := (wf_parent_pos hwf hr2).1
      constructor
      · intro hb; cases hb; exact ⟨by rw [t1, t2], hs⟩
      · rintro ⟨hb1, hb2⟩
        have := hwf.inj b s (by rw [hb1, t1, t2]) (by omega)
        rw [this]
    | none =>
      simp only
      cases hpq : h.parent q with
      | none =>
        simp only
        obtain ⟨r1, r2⟩ := hwf.root_tree q hpq
        constructor
        · intro hb; cases hb
        · rintro ⟨hb1, hb2⟩
          have := wf_pos_lt hwf b
          rw [hb1, r1] at this
          omega
      | some r =>
        simp only
        obtain ⟨t1, t2, t3⟩ := wf_parent_pos hwf hpq
        have hm := hwf.parent_kid q r hpq
        have hend : w.pos q + w.size q = w.pos r + w.size r := by
          rcases tiles_next _ _ _ _ _ (hwf.tiles r) q hm with h1 | ⟨k', hk1, hk2⟩
          · exact h1
          · have := (hwf.sib_ns q k').mpr ⟨⟨r, hpq, hwf.kid_parent r k' hk1⟩, hk2⟩
            rw [hn] at this; cases this
        have := ih r (by rw [← t1, hqt]) (by omega) (by omega) b
        rw [this, t1, hend]

end

end BS.Heap
