import BSModel.Proofs.BuilderText
/-! # C03: the events of a forest append its normal form `absorb` to the innermost open frame -/
namespace BS.Builder

mutual
/-- the events a well-behaved tree builder emits for a finished node (class ≠ 0: comment, CDATA, …, sent as
    `handle_comment` does: `endData(); handle_data(s); endData(cls)`) -/
def events : Doc → List Ev
  | .elem n p ks => Ev.start n p :: (eventsL ks ++ [Ev.stop n p])
  | .text c s => if c = 0 then [Ev.data s] else [Ev.endData none, Ev.data s, Ev.endData (some c)]
def eventsL : List Doc → List Ev
  | [] => []
  | d :: ds => events d ++ eventsL ds
end

mutual
/-- normal form: what the machine appends to the innermost open element for a forest `ds`, and the text left
    pending, given the names `ctx` of the open elements (innermost first) and the pending chunks `b` -/
def absorb (cfg : Cfg) : List Name → List PStr → List Doc → List Doc × List PStr
  | _, b, [] => ([], b)
  | ctx, b, d :: ds =>
    let r := absorb1 cfg ctx b d
    let r2 := absorb cfg ctx r.2 ds
    (r.1 ++ r2.1, r2.2)
def absorb1 (cfg : Cfg) : List Name → List PStr → Doc → List Doc × List PStr
  | ctx, b, .text c s =>
    if c = 0 then ([], b ++ [s]) else (txtN cfg ctx b none ++ txtN cfg ctx [s] (some c), [])
  | ctx, b, .elem n p ks =>
    let r := absorb cfg (n :: ctx) [] ks
    (txtN cfg ctx b none ++ [Doc.elem n p (r.1 ++ txtN cfg (n :: ctx) r.2 none)], [])
end

mutual
/-- no element of the tree is named like the BeautifulSoup object (whose end tag the machine ignores) -/
def noRoot (cfg : Cfg) : Doc → Bool
  | .elem n _ ks => n != cfg.rootName && noRootL cfg ks
  | .text _ _ => true
def noRootL (cfg : Cfg) : List Doc → Bool
  | [] => true
  | d :: ds => noRoot cfg d && noRootL cfg ds
end

theorem sRun_cons (cfg : Cfg) (s : SSt) (e : Ev) (es : List Ev) :
    sRun cfg s (e :: es) = sRun cfg (sStep cfg s e) es := rfl

theorem sRun_nil (cfg : Cfg) (s : SSt) : sRun cfg s [] = s := rfl

theorem sStep_start (cfg : Cfg) (top : Frame) (rest : List Frame) (b : List PStr) (n : Name) (p : Option Name) :
    sStep cfg ⟨top :: rest, b⟩ (.start n p) =
      ⟨⟨n, p, []⟩ :: { top with kids := top.kids ++ txtN cfg ((top :: rest).map (·.name)) b none } :: rest, []⟩ := by
  simp only [sStep, sFlush_eq]

theorem sStep_stop_top (cfg : Cfg) (n : Name) (p : Option Name) (k : List Doc) (below : Frame) (rest : List Frame)
    (b : List PStr) (hn : n ≠ cfg.rootName) :
    sStep cfg ⟨⟨n, p, k⟩ :: below :: rest, b⟩ (.stop n p) =
      ⟨{ below with kids := below.kids ++
          [Doc.elem n p (k ++ txtN cfg (n :: (below :: rest).map (·.name)) b none)] } :: rest, []⟩ := by
  have hn' : (n == cfg.rootName) = false := by simpa using hn
  simp only [sStep, sFlush_eq, hn', Bool.false_eq_true, if_false, List.dropLast_cons_cons, closeCount_cons]
  simp [sCloseN, sClose1]

/-- `stp` is `sStep` while more than `k` frames are open (`k = 1`: C16's filtered fold) -/
def StepsAbove (cfg : Cfg) (k : Nat) (stp : SSt → Ev → SSt) : Prop :=
  ∀ top rest b ev, k ≤ rest.length → stp ⟨top :: rest, b⟩ ev = sStep cfg ⟨top :: rest, b⟩ ev

/-! the events of a forest never look below the frame they start in -/
mutual
theorem block_forest {cfg : Cfg} {k : Nat} {stp : SSt → Ev → SSt} (h : StepsAbove cfg k stp) :
    ∀ (ds : List Doc), noRootL cfg ds = true →
    ∀ (top : Frame) (rest : List Frame) (b : List PStr), k ≤ rest.length →
    (eventsL ds).foldl stp ⟨top :: rest, b⟩ =
      ⟨{ top with kids := top.kids ++ (absorb cfg ((top :: rest).map (·.name)) b ds).1 } :: rest,
        (absorb cfg ((top :: rest).map (·.name)) b ds).2⟩
  | [], _, top, rest, b, _ => by simp [eventsL, absorb]
  | d :: ds, hok, top, rest, b, hk => by
    simp only [noRootL, Bool.and_eq_true] at hok
    simp only [eventsL, List.foldl_append, absorb]
    rw [block_doc h d hok.1 top rest b hk, block_forest h ds hok.2 _ rest _ hk]
    simp [List.append_assoc]
theorem block_doc {cfg : Cfg} {k : Nat} {stp : SSt → Ev → SSt} (h : StepsAbove cfg k stp) :
    ∀ (d : Doc), noRoot cfg d = true →
    ∀ (top : Frame) (rest : List Frame) (b : List PStr), k ≤ rest.length →
    (events d).foldl stp ⟨top :: rest, b⟩ =
      ⟨{ top with kids := top.kids ++ (absorb1 cfg ((top :: rest).map (·.name)) b d).1 } :: rest,
        (absorb1 cfg ((top :: rest).map (·.name)) b d).2⟩
  | .text c s, _, top, rest, b, hk => by
    by_cases hc : c = 0
    · simp [events, absorb1, hc, h _ _ _ _ hk, sStep]
    · simp only [events, absorb1, hc, if_false, List.foldl_cons, List.foldl_nil, h _ _ _ _ hk, sStep, sFlush_eq,
        List.nil_append]
      simp [List.append_assoc]
  | .elem n p ks, hok, top, rest, b, hk => by
    simp only [noRoot, Bool.and_eq_true, bne_iff_ne, ne_eq] at hok
    simp only [events, absorb1, List.foldl_cons, List.foldl_append, List.foldl_nil, h _ _ _ _ hk, sStep_start]
    have hk' (x : Frame) : k ≤ (x :: rest).length := Nat.le_succ_of_le hk
    rw [block_forest h ks hok.2 ⟨n, p, []⟩ _ [] (hk' _), h _ _ _ _ (hk' _)]
    simp only [List.nil_append, List.map_cons]
    rw [sStep_stop_top cfg n p _ _ rest _ hok.1]
    simp [List.append_assoc]
end

theorem stepsAbove_sStep (cfg : Cfg) : StepsAbove cfg 0 (sStep cfg) := fun _ _ _ _ _ => rfl

theorem run_forest (cfg : Cfg) : ∀ (ds : List Doc), noRootL cfg ds = true →
    ∀ (top : Frame) (rest : List Frame) (b : List PStr),
    sRun cfg ⟨top :: rest, b⟩ (eventsL ds) =
      ⟨{ top with kids := top.kids ++ (absorb cfg ((top :: rest).map (·.name)) b ds).1 } :: rest,
        (absorb cfg ((top :: rest).map (·.name)) b ds).2⟩ :=
  fun ds hok top rest b => block_forest (stepsAbove_sStep cfg) ds hok top rest b (Nat.zero_le _)

theorem build_eventsL {cfg : Cfg} (hc : CfgOK cfg) (ds : List Doc) (hok : noRootL cfg ds = true) :
    build cfg (eventsL ds) =
      (absorb cfg [cfg.rootName] [] ds).1 ++ txtN cfg [cfg.rootName] (absorb cfg [cfg.rootName] [] ds).2 none := by
  rw [build_eq_buildSpec hc]
  simp only [buildSpec, run_forest cfg ds hok, sFlush_eq, List.map_cons, List.map_nil, List.nil_append]
  rfl

end BS.Builder
