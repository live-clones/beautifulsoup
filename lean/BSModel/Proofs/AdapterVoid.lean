import BSModel.Model.Adapter
import BSModel.Proofs.BuilderBal
/-! C04: every element created for a void name is childless, for every callback stream -/
namespace BS.Adapter
open BS.Builder

mutual
/-- no element with a void name has children, anywhere in the tree -/
def voidLeaf (isVoid : Name → Bool) : Doc → Bool
  | .elem n _ ks => (!(isVoid n) || ks.isEmpty) && voidLeafL isVoid ks
  | .text _ _ => true
def voidLeafL (isVoid : Name → Bool) : List Doc → Bool
  | [] => true
  | d :: ds => voidLeaf isVoid d && voidLeafL isVoid ds
end

theorem voidLeafL_append (iv : Name → Bool) : ∀ (a b : List Doc), voidLeafL iv (a ++ b) = (voidLeafL iv a && voidLeafL iv b) := by
  intro a
  induction a with
  | nil => intro b; simp [voidLeafL]
  | cons d ds ih => intro b; simp [voidLeafL, ih, Bool.and_assoc]

theorem voidLeafL_txtN (iv : Name → Bool) (cfg : Cfg) (ctx : List Name) (b : List PStr) (cls : Option Cls) :
    voidLeafL iv (txtN cfg ctx b cls) = true := by
  cases b <;> simp [txtN, voidLeafL, voidLeaf]

/-- an open element with a non-void name and only well-formed finished children -/
def FrameOK (iv : Name → Bool) (f : Frame) : Prop := iv f.name = false ∧ voidLeafL iv f.kids = true

/-- some element is open, and every open element is `FrameOK` -/
def FOK (iv : Name → Bool) (stack : List Frame) : Prop := stack ≠ [] ∧ ∀ f ∈ stack, FrameOK iv f

theorem FrameOK.add {iv : Name → Bool} {f : Frame} (h : FrameOK iv f) (ks : List Doc) (hk : voidLeafL iv ks = true) :
    FrameOK iv { f with kids := f.kids ++ ks } :=
  ⟨h.1, by simp only [voidLeafL_append, h.2, hk, Bool.and_self]⟩

theorem FOK.top {iv : Name → Bool} {top top' : Frame} {rest : List Frame} (h : FOK iv (top :: rest)) (ht : FrameOK iv top') :
    FOK iv (top' :: rest) :=
  ⟨List.cons_ne_nil _ _, List.forall_mem_cons.mpr ⟨ht, fun f hf => h.2 f (List.mem_cons_of_mem _ hf)⟩⟩

theorem fok_flush (cfg : Cfg) (iv : Name → Bool) (st : SSt) (cls : Option Cls) (h : FOK iv st.stack) :
    FOK iv (sFlush cfg st cls).stack := by
  obtain ⟨stack, b⟩ := st
  match stack, h with
  | top :: rest, h =>
    rw [sFlush_eq]
    exact h.top ((h.2 top List.mem_cons_self).add _ (voidLeafL_txtN iv cfg _ b cls))

theorem fok_close1 (iv : Name → Bool) (s : List Frame) (h : FOK iv s) : FOK iv (sClose1 s) := by
  match s, h with
  | [_], h => exact h
  | top :: below :: rest, h =>
    have ht := h.2 top List.mem_cons_self
    have hb : FOK iv (below :: rest) := ⟨List.cons_ne_nil _ _, fun f hf => h.2 f (List.mem_cons_of_mem _ hf)⟩
    exact hb.top ((hb.2 below List.mem_cons_self).add _ (by simp [voidLeafL, voidLeaf, ht.1, ht.2]))

theorem fok_closeN (iv : Name → Bool) : ∀ (k : Nat) (s : List Frame), FOK iv s → FOK iv (sCloseN k s)
  | 0, _, h => h
  | k + 1, s, h => fok_closeN iv k _ (fok_close1 iv s h)

theorem fok_step (cfg : Cfg) (iv : Name → Bool) (st : SSt) (e : Ev) (h : FOK iv st.stack)
    (he : ∀ n p, e = .start n p → iv n = false) : FOK iv (sStep cfg st e).stack := by
  have hf := fok_flush cfg iv st none h
  cases e with
  | start n p =>
    exact ⟨List.cons_ne_nil _ _, List.forall_mem_cons.mpr ⟨⟨he n p rfl, rfl⟩, hf.2⟩⟩
  | stop n p =>
    simp only [sStep]
    split
    · exact hf
    · exact fok_closeN iv _ _ hf
  | data s => exact h
  | endData c => exact fok_flush cfg iv st c h

/-- plain: starting no void element -/
theorem fok_run_plain (cfg : Cfg) (iv : Name → Bool) : ∀ (evs : List Ev) (st : SSt), FOK iv st.stack →
    (∀ n p, Ev.start n p ∈ evs → iv n = false) → FOK iv (sRun cfg st evs).stack
  | [], _, h, _ => h
  | e :: es, st, h, hev =>
    fok_run_plain cfg iv es _ (fok_step cfg iv st e h fun n p he => hev n p (he ▸ List.mem_cons_self))
      fun n p hm => hev n p (List.mem_cons_of_mem _ hm)

/-- a start tag followed at once by its own end tag appends a childless element, void name or not -/
theorem fok_pair (cfg : Cfg) (iv : Name → Bool) (st : SSt) (n : Name) (h : FOK iv st.stack) (hr : n ≠ cfg.rootName) :
    FOK iv (sRun cfg st [.start n none, .stop n none]).stack := by
  obtain ⟨stack, b⟩ := st
  match stack, h with
  | top :: rest, h =>
    simp only [sRun_cons, sRun_nil, sStep_start, sStep_stop_top cfg n none [] _ rest [] hr]
    refine h.top (((h.2 top List.mem_cons_self).add _ (voidLeafL_txtN iv cfg _ b none)).add _ ?_)
    simp [voidLeafL, voidLeaf, txtN]

theorem special_no_start (s : PStr) (c : Cls) : ∀ n p, Ev.start n p ∉ special s c := by
  intro n p h; simp [special] at h

/-- the events of one callback start no void element, or are the start and end of one element -/
theorem astep_events (cfg : ACfg) (ast : ASt) (e : SEv) :
    (∀ n p, Ev.start n p ∈ (astep cfg ast e).2.1 → cfg.isVoid n = false) ∨
      ∃ n, cfg.isVoid n = true ∧ (astep cfg ast e).2.1 = [.start n none, .stop n none] := by
  cases e with
  | starttag n a l c =>
    cases hv : cfg.isVoid n with
    | true => exact Or.inr ⟨n, hv, by simp [astep, hv]⟩
    | false => exact Or.inl (by simp [astep, hv])
  | startendtag n a l c =>
    cases hv : cfg.isVoid n with
    | true => exact Or.inr ⟨n, hv, rfl⟩
    | false => exact Or.inl (by simp [astep, hv])
  | endtag n => exact Or.inl (by simp only [astep]; split <;> simp)
  | unknownDecl s => exact Or.inl (by simp only [astep]; split <;> simp [special])
  | _ => exact Or.inl (by simp [astep, special])

theorem fok_astep (bcfg : Cfg) (cfg : ACfg) (hr : cfg.isVoid bcfg.rootName = false) (ast : ASt) (e : SEv) (st : SSt)
    (h : FOK cfg.isVoid st.stack) : FOK cfg.isVoid (sRun bcfg st (astep cfg ast e).2.1).stack := by
  rcases astep_events cfg ast e with hp | ⟨n, hv, he⟩
  · exact fok_run_plain bcfg cfg.isVoid _ st h hp
  · rw [he]
    exact fok_pair bcfg cfg.isVoid st n h (by intro hc; rw [hc, hr] at hv; cases hv)

theorem fok_arun (bcfg : Cfg) (cfg : ACfg) (hr : cfg.isVoid bcfg.rootName = false) : ∀ (sevs : List SEv) (ast : ASt) (st : SSt),
    FOK cfg.isVoid st.stack → FOK cfg.isVoid (sRun bcfg st (arun (astep cfg) ast sevs).1).stack
  | [], _, _, h => h
  | e :: es, ast, st, h => by
    simp only [arun, sRun_append]
    exact fok_arun bcfg cfg hr es _ _ (fok_astep bcfg cfg hr ast e st h)

/-- **void elements are childless**, for every callback stream: in the tree the documented fold builds from the
    adapter's events, no element with a void name has a child -/
theorem buildSpec_voidLeaf (bcfg : Cfg) (cfg : ACfg) (hr : cfg.isVoid bcfg.rootName = false) (sevs : List SEv) :
    voidLeafL cfg.isVoid (buildSpec bcfg (toEvents cfg sevs).1) = true := by
  have h0 : FOK cfg.isVoid [⟨bcfg.rootName, none, []⟩] :=
    ⟨List.cons_ne_nil _ _, by intro f hf; simp at hf; subst hf; exact ⟨hr, rfl⟩⟩
  have h1 := fok_flush bcfg cfg.isVoid _ none (fok_arun bcfg cfg hr sevs ⟨[]⟩ ⟨[⟨bcfg.rootName, none, []⟩], []⟩ h0)
  -- `h2`: as `buildSpec` unfolds (flush, close all but the root, the root's children)
  have h2 := fok_closeN cfg.isVoid ((sFlush bcfg (sRun bcfg ⟨[⟨bcfg.rootName, none, []⟩], []⟩ (arun (astep cfg) ⟨[]⟩ sevs).1) none).stack.length - 1) _ h1
  simp only [buildSpec, toEvents]
  split
  · rename_i root heq
    rw [heq] at h2
    exact (h2.2 root List.mem_cons_self).2
  · rfl

end BS.Adapter
