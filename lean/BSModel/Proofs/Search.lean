import BSModel.Model.Search
/-! C10: `SoupStrainer.match` and `_find_all` (Model/Search.lean) compute the documented meaning `sat` / `findAllSpec`.
    Kept out by hypothesis: `AllYield` `C10-empty-list-combined`, `AttrsArgOK` `C10-falsy-attrs-ignored`,
    `limit ≠ some 0` `C10-limit-zero`. -/
namespace BS.Search

/-- truthy (`if i:`) and matched -/
def keeps (m : Elem → Bool × List Call) (e : Elem) : Bool := e.truthy && (m e).1

/-- `max 1`: `len(results) >= limit` is tested only after an element has been appended -/
theorem filterLoop_fst (m : Elem → Bool × List Call) (limit : Option Nat) (ax : List Elem) (n : Nat) :
    (filterLoop m limit ax n).1 =
      match limit with
      | none => ax.filter (keeps m)
      | some k => (ax.filter (keeps m)).take (max 1 (k - n)) := by
  induction ax generalizing n with
  | nil => cases limit <;> simp [filterLoop]
  | cons e rest ih =>
    unfold filterLoop
    -- an element that is not kept leaves `n` unchanged: three of the four cases end here
    cases ht : e.truthy <;> cases hm : (m e).1 <;> simp only [keeps, ht, hm, List.filter_cons, Bool.and_self,
      Bool.and_false, Bool.false_and, Bool.false_eq_true, if_false, if_true, ih]
    cases limit with
    | none => simp [limitReached]
    | some k =>
      by_cases hr : n + 1 ≥ k
      · have h1 : max 1 (k - n) = 1 := by omega
        simp [limitReached, hr, h1]
      · have h1 : max 1 (k - n) = max 1 (k - (n + 1)) + 1 := by omega
        simp [limitReached, hr, h1]

theorem filterLoop_none_snd (m : Elem → Bool × List Call) (ax : List Elem) (n : Nat) :
    (filterLoop m none ax n).2 = (ax.filter (·.truthy)).flatMap (fun e => (m e).2) := by
  induction ax generalizing n with
  | nil => simp [filterLoop]
  | cons e rest ih =>
    unfold filterLoop
    cases ht : e.truthy <;> cases hm : (m e).1 <;> simp [ht, hm, limitReached, ih]

theorem filterLoop_snd_prefix (m : Elem → Bool × List Call) (limit : Option Nat) (ax : List Elem) :
    ∀ n n', (filterLoop m limit ax n).2 <+: (filterLoop m none ax n').2 := by
  induction ax with
  | nil => intro n n'; simp [filterLoop]
  | cons e rest ih =>
    intro n n'
    have hnone : ∀ k, limitReached none k = false := fun _ => rfl
    unfold filterLoop
    -- a stop leaves a prefix; else both loops take the same turn
    cases ht : e.truthy
    · exact ih _ _
    · cases hm : (m e).1 <;> simp only [hm, hnone, if_true, Bool.false_eq_true, if_false]
      · exact (List.prefix_append_right_inj _).mpr (ih _ _)
      · split
        · exact List.prefix_append _ _
        · exact (List.prefix_append_right_inj _).mpr (ih _ _)

theorem makeRules_eq (c : Crit) : makeRules c = c.atoms.flatMap Atom.rules := by
  cases c with
  | atom a => simp [makeRules, Crit.atoms]
  | list l =>
    simp only [makeRules, Crit.atoms]
    induction l with
    | nil => rfl
    | cons it rest ih => cases it <;> simp [List.flatMap_cons, Item.rules, ih]

theorem any_makeRules (c : Crit) (P : Rule → Bool) :
    (makeRules c).any P = c.atoms.any (fun a => a.rules.any P) := by
  rw [makeRules_eq]; simp [List.any_flatMap]

theorem atom_rules_matchesString (O : Oracle) (a : Atom) (v : Option PStr) :
    a.rules.any (fun r => r.matchesString O v) = a.sat O none v := by
  cases a with
  | none => rfl
  | bool b => cases b <;> exact Bool.or_false _
  | regex i => cases v <;> exact Bool.or_false _
  | _ => exact Bool.or_false _

theorem makeRules_matchesString (O : Oracle) (c : Crit) (v : Option PStr) :
    (makeRules c).any (fun r => r.matchesString O v) = c.sat O v := by
  rw [any_makeRules]; simp [Crit.sat, atom_rules_matchesString]

theorem nameRulesEval_fst (O : Oracle) (v : Variant) (e : Elem) (rs : List Rule) :
    (nameRulesEval O v e rs).1 = rs.any (fun r => (nameRuleEval O v e r).1) := by
  induction rs with
  | nil => simp [nameRulesEval]
  | cons r rest ih =>
    unfold nameRulesEval
    cases h : (nameRuleEval O v e r).1 <;> simp [h, ih]

theorem nameRuleEval_string (O : Oracle) (v : Variant) (e : Elem) (s : PStr) :
    nameRuleEval O v e (.string s) = (e.name == s || prefixedName e == some s, []) := by
  unfold nameRuleEval
  cases hn : e.name == s <;> cases hp : prefixedName e <;> simp [Rule.baseMatch, Rule.matchesString, hn]

theorem atom_rules_nameEval (O : Oracle) (v : Variant) (hr : v.retryFn = false) (e : Elem) (a : Atom) :
    a.rules.any (fun r => (nameRuleEval O v e r).1)
      = (a.sat O (some e.id) (some e.name) ||
          (!a.isFn && (match prefixedName e with
                       | some p => a.sat O none (some p)
                       | none => false))) := by
  cases a with
  | none => cases prefixedName e <;> rfl
  | str s | bytes s | other s t =>
    simp only [Atom.rules, List.any_cons, List.any_nil, Bool.or_false, nameRuleEval_string, Atom.sat, Atom.isFn]
    cases prefixedName e <;> simp
  | fn i =>
    simp only [Atom.rules, List.any_cons, List.any_nil, Bool.or_false, nameRuleEval, Atom.sat, Atom.isFn, hr]
    cases O.fnTag i e.id <;> cases prefixedName e <;> rfl
  | bool b =>
    simp only [Atom.rules, List.any_cons, List.any_nil, Bool.or_false, nameRuleEval]
    cases b <;> cases prefixedName e <;> rfl
  | regex i =>
    simp only [Atom.rules, List.any_cons, List.any_nil, Bool.or_false, nameRuleEval, Atom.sat, Atom.isFn,
      Rule.baseMatch, Rule.matchesString]
    cases prefixedName e <;> by_cases h : O.re i e.name = true <;> simp [h]

theorem nameRules_satName (O : Oracle) (v : Variant) (hr : v.retryFn = false) (e : Elem) (c : Crit) :
    (nameRulesEval O v e (makeRules c)).1 = c.satName O e := by
  rw [nameRulesEval_fst, any_makeRules]
  exact congrArg c.atoms.any (funext (atom_rules_nameEval O v hr e))

theorem any_swap {α β : Type} (l : List α) (m : List β) (P : α → β → Bool) :
    l.any (fun a => m.any (fun b => P a b)) = m.any (fun b => l.any (fun a => P a b)) := by
  rw [Bool.eq_iff_iff]
  simp only [List.any_eq_true]
  constructor
  · rintro ⟨a, ha, b, hb, h⟩; exact ⟨b, hb, a, ha, h⟩
  · rintro ⟨b, hb, a, ha, h⟩; exact ⟨a, ha, b, hb, h⟩

theorem attributeMatch_makeRules (O : Oracle) (c : Crit) (v : Option AttrVal) :
    attributeMatch O v (makeRules c) = c.satAttr O v := by
  have h : ∀ vals, helperMatch O (makeRules c) vals = vals.any (fun x => c.sat O x) := fun vals => by
    rw [helperMatch, any_swap]
    simp only [makeRules_matchesString]
  simp [attributeMatch, Crit.satAttr, h]

theorem helperMatch_flatMap {α : Type} (O : Oracle) (l : List α) (f : α → List Rule) (vals : List (Option PStr)) :
    helperMatch O (l.flatMap f) vals = l.any (fun x => helperMatch O (f x) vals) := by
  simp [helperMatch, List.any_flatMap]

theorem attributeMatch_flatMap {α : Type} (O : Oracle) (l : List α) (f : α → List Rule) (v : Option AttrVal) :
    attributeMatch O v (l.flatMap f) = l.any (fun x => attributeMatch O v (f x)) := by
  simp only [attributeMatch, helperMatch_flatMap]
  generalize decide ((attrValues v).length ≠ 1) = b
  induction l with
  | nil => simp
  | cons x rest ih =>
    simp only [List.any_cons]
    rw [← ih]
    exact (by decide : ∀ p r q s b : Bool, ((p || r) || (b && (q || s))) = ((p || (b && q)) || (r || (b && s)))) _ _ _ _ _

theorem rulesFor_mk (q : Query) (a : PStr) :
    (mkStrainer q).rulesFor a = (q.attrPairs.filter (·.1 == a)).flatMap (fun p => makeRules p.2) := by
  simp only [Strainer.rulesFor, mkStrainer]
  induction q.attrPairs with
  | nil => simp
  | cons p rest ih =>
    simp only [List.flatMap_cons, List.filter_append, List.map_append, ih]
    cases h : p.1 == a <;> simp [h, List.filter_map, Function.comp_def]

/-- the criterion yields at least one match rule (it is not an empty list / a list of nested lists and `None`s) -/
def Crit.Yields (c : Crit) : Prop := makeRules c ≠ []

instance (c : Crit) : Decidable c.Yields := inferInstanceAs (Decidable (makeRules c ≠ []))

/-- `hy`: an attribute whose criterion yields no rule never becomes a key of `attribute_rules` -/
theorem attrFlat_all (pairs : List (PStr × Crit)) (F : PStr → Bool)
    (hy : ∀ p ∈ pairs, p.2.Yields) :
    (pairs.flatMap (fun p => (makeRules p.2).map (fun r => (p.1, r)))).all (fun p => F p.1)
      = pairs.all (fun p => F p.1) := by
  induction pairs with
  | nil => simp
  | cons p rest ih =>
    have hr := ih (fun p' hp' => hy p' (List.mem_cons_of_mem _ hp'))
    have hp := hy p (List.mem_cons_self ..)
    simp only [List.flatMap_cons, List.all_append, List.all_cons, hr]
    congr 1
    cases hm : makeRules p.2 with
    | nil => exact absurd hm hp
    | cons r rs => cases h : F p.1 <;> simp [h]

theorem attrs_ok (O : Oracle) (q : Query) (e : Elem) (hy : ∀ p ∈ q.attrPairs, p.2.Yields) :
    (mkStrainer q).attrFlat.all (fun p => attributeMatch O (getAttr e p.1) ((mkStrainer q).rulesFor p.1))
      = q.attrPairs.all (fun p => (q.attrPairs.filter (·.1 == p.1)).any (fun p' => p'.2.satAttr O (getAttr e p.1))) := by
  have h1 : (mkStrainer q).attrFlat = q.attrPairs.flatMap (fun p => (makeRules p.2).map (fun r => (p.1, r))) := rfl
  rw [h1, attrFlat_all q.attrPairs (fun a => attributeMatch O (getAttr e a) ((mkStrainer q).rulesFor a)) hy]
  simp only [rulesFor_mk, attributeMatch_flatMap, attributeMatch_makeRules]

theorem attrFlat_isEmpty (q : Query) (hy : ∀ p ∈ q.attrPairs, p.2.Yields) :
    (mkStrainer q).attrFlat.isEmpty = q.attrPairs.isEmpty := by
  rw [Bool.eq_iff_iff]
  simp only [mkStrainer, List.isEmpty_iff, List.flatMap_eq_nil_iff, List.map_eq_nil_iff]
  exact ⟨fun h => List.eq_nil_iff_forall_not_mem.mpr (fun p hp => hy p hp (h p hp)), fun h => by simp [h]⟩

/-- every criterion that is given yields a rule — exactly the strainers with `matches_nothing = False` -/
structure Query.AllYield (q : Query) : Prop where
  name : q.name.isNone = true ∨ q.name.Yields
  attrs : ∀ p ∈ q.attrPairs, p.2.Yields
  string : q.string.isNone = true ∨ q.string.Yields

theorem isEmpty_noAlternative (c : Crit) : (makeRules c).isEmpty = c.noAlternative := by
  rw [makeRules_eq, Crit.noAlternative]
  induction c.atoms with
  | nil => simp
  | cons a rest ih =>
    simp only [List.flatMap_cons, List.all_cons, ← ih]
    cases a <;> simp [Atom.rules, Atom.isNoneB]

theorem dead_eq_unsat (q : Query) : (mkStrainer q).dead = q.unsatisfiable := by
  simp only [mkStrainer, Query.unsatisfiable, isEmpty_noAlternative]

theorem given_yields_iff (c : Crit) : (c.isNone = true ∨ c.Yields) ↔ (!c.isNone && (makeRules c).isEmpty) = false := by
  cases c.isNone <;> simp [Crit.Yields]

theorem allYield_iff_not_dead (q : Query) : q.AllYield ↔ (mkStrainer q).dead = false := by
  simp only [mkStrainer, Bool.or_eq_false_iff, ← given_yields_iff, List.any_eq_false]
  constructor
  · intro h; exact ⟨⟨h.name, fun p hp => by simpa [Crit.Yields] using h.attrs p hp⟩, h.string⟩
  · rintro ⟨⟨h1, h2⟩, h3⟩; exact ⟨h1, fun p hp => by simpa [Crit.Yields] using h2 p hp, h3⟩

theorem rules_isEmpty (c : Crit) (h : c.isNone = true ∨ c.Yields) : (makeRules c).isEmpty = c.isNone := by
  have := (given_yields_iff c).mp h
  cases hn : c.isNone
  · simpa [hn] using this
  · rw [show c = .atom .none by simpa [Crit.isNone] using hn]; rfl

theorem prefixedName_eq_none (e : Elem) (h : truthyPfx e.pfx = false) : prefixedName e = none := by
  unfold prefixedName
  split
  · rename_i hp; simp [truthyPfx, hp] at h
  · rfl

/-- the one-rule shortcut (filter.py:497-503) only anticipates the answer of the rule itself -/
theorem shortcut_rejects (O : Oracle) (v : Variant) (s : Strainer) (e : Elem) (h : shortcutReject s e = true) :
    s.nameRules.isEmpty = false ∧ nameRulesEval O v e s.nameRules = (false, []) := by
  simp only [shortcutReject, Bool.and_eq_true, Bool.not_eq_true'] at h
  obtain ⟨hp, hm⟩ := h
  split at hm
  · rename_i n heq
    rw [heq]
    exact ⟨rfl, by simpa [nameRulesEval, nameRuleEval_string, prefixedName_eq_none e hp] using hm⟩
  · cases hm

theorem matchesTag_fst (O : Oracle) (v : Variant) (s : Strainer) (e : Elem) :
    (matchesTag O v s e).1 =
      (!(s.nameRules.isEmpty && s.attrFlat.isEmpty) && (s.nameRules.isEmpty || (nameRulesEval O v e s.nameRules).1)
        && s.attrFlat.all (fun p => attributeMatch O (getAttr e p.1) (s.rulesFor p.1)) && stringRulesOK O s e) := by
  unfold matchesTag
  cases hsc : shortcutReject s e
  · cases s.nameRules.isEmpty <;> cases s.attrFlat.isEmpty <;> cases h : (nameRulesEval O v e s.nameRules).1 <;>
      simp [h]
  · obtain ⟨h1, h2⟩ := shortcut_rejects O v s e hsc
    simp [h1, h2]

/-- **the `SoupStrainer` match = the documented meaning**; `hnc`: without a criterion `_find_all` does not get here; `hd`:
    the code consults `matches_nothing` (proposed patch d) or every given criterion yields a rule -/
theorem matchElem_sat (O : Oracle) (v : Variant) (hr : v.retryFn = false) (q : Query) (e : Elem)
    (hd : v.deadCheck = true ∨ q.AllYield) (hnc : q.noCriteria = false) :
    keeps (matchElem O v (mkStrainer q)) e = sat O q e := by
  have hun := dead_eq_unsat q
  cases hdd : (mkStrainer q).dead with
  | false =>
    have hq := (allYield_iff_not_dead q).mpr hdd
    rw [hdd] at hun   -- `← hun` below removes the `unsatisfiable` branch of `sat`
    have hN : (mkStrainer q).nameRules.isEmpty = q.name.isNone := rules_isEmpty q.name hq.name
    have hS : (mkStrainer q).stringRules.isEmpty = q.string.isNone := rules_isEmpty q.string hq.string
    have hA := attrFlat_isEmpty q hq.attrs
    have hNm : (nameRulesEval O v e (mkStrainer q).nameRules).1 = q.name.satName O e :=
      nameRules_satName O v hr e q.name
    have hSr : ∀ x, (mkStrainer q).stringRules.any (fun r => r.matchesString O x) = q.string.sat O x :=
      fun x => makeRules_matchesString O q.string x
    simp only [sat, keeps, matchElem, hnc, ← hun, hdd, Bool.and_false, Bool.false_eq_true, if_false, Elem.truthy,
      Query.hasTagCriteria]
    cases ht : e.isTag
    · -- a string
      cases hn : q.name.isNone <;> cases ha : q.attrPairs.isEmpty <;> simp [hN, hA, hn, ha, hSr]
    · -- a tag
      simp only [if_true, Bool.true_or, Bool.true_and, matchesTag_fst, hN, hA, hNm, attrs_ok O q e hq.attrs,
        stringRulesOK, hS]
      cases hs : e.str <;> simp [hSr]
  | true =>
    rcases hd with hdc | hq
    · simp [sat, keeps, matchElem, hnc, ← hun, hdd, hdc]
    · rw [(allYield_iff_not_dead q).mp hq] at hdd; cases hdd

theorem dead_no_calls (O : Oracle) (v : Variant) (hdc : v.deadCheck = true) (q : Query)
    (hu : q.unsatisfiable = true) (e : Elem) :
    matchElem O v (mkStrainer q) e = (false, []) := by
  simp [matchElem, dead_eq_unsat, hu, hdc]

/-- `max 1`: `limit = 0` behaves as `limit = 1` on this path (known finding `C10-limit-zero`) -/
theorem general_eq_spec (O : Oracle) (v : Variant) (hr : v.retryFn = false) (q : Query) (limit : Option Nat)
    (ax : List Elem) (hd : v.deadCheck = true ∨ q.AllYield) (hnc : q.noCriteria = false) :
    (generalPath O v q limit ax).1 =
      match limit with
      | none => findAllSpec O q ax
      | some k => (findAllSpec O q ax).take (max 1 k) := by
  have : ax.filter (keeps (matchElem O v (mkStrainer q))) = findAllSpec O q ax :=
    List.filter_congr (fun e _ => matchElem_sat O v hr q e hd hnc)
  rw [generalPath, filterLoop_fst, this]; rfl

theorem general_eq_spec_pos (O : Oracle) (v : Variant) (hr : v.retryFn = false) (q : Query) (ax : List Elem)
    (hd : v.deadCheck = true ∨ q.AllYield) (hnc : q.noCriteria = false) (k : Nat) (hk : k ≥ 1) :
    (generalPath O v q (some k) ax).1 = (findAllSpec O q ax).take k := by
  rw [general_eq_spec O v hr q (some k) ax hd hnc]
  show List.take (max 1 k) _ = _
  rw [show max 1 k = k by omega]

theorem general_nil (O : Oracle) (v : Variant) (q : Query) (limit : Option Nat) (ax : List Elem)
    (h : ∀ e, matchElem O v (mkStrainer q) e = (false, [])) : (generalPath O v q limit ax).1 = [] := by
  have : ax.filter (keeps (matchElem O v (mkStrainer q))) = [] :=
    List.filter_eq_nil_iff.mpr (fun e _ => by simp [keeps, h e])
  rw [generalPath, filterLoop_fst, this]; cases limit <;> simp

/-- Namespace prefixes as XML has them: absent, or a non-empty colon-free prefix on a colon-free local name.
    (Unprefixed names may contain colons — html.parser produces them.) -/
def Elem.WFPrefix (e : Elem) : Prop :=
  match e.pfx with
  | none => True
  | some p => p ≠ [] ∧ colon ∉ p ∧ colon ∉ e.name

instance (e : Elem) : Decidable e.WFPrefix := by
  unfold Elem.WFPrefix
  split <;> infer_instance

theorem splitColon_join (n : PStr) (h : colon ∈ n) :
    n = (splitColon n).1 ++ colon :: (splitColon n).2 := by
  induction n with
  | nil => simp at h
  | cons c n ih =>
    by_cases hc : c = colon
    · subst hc; simp [splitColon]
    · have := ih ((List.mem_cons.mp h).resolve_left (Ne.symm hc))
      simp only [splitColon] at this
      simpa [splitColon, hc] using this

theorem prefixed_iff (p nm n : PStr) (hp : colon ∉ p) (hn : colon ∉ nm) :
    p ++ colon :: nm = n ↔ countColon n = 1 ∧ nm = (splitColon n).2 ∧ p = (splitColon n).1 := by
  have hpc : ∀ c ∈ p, (c != colon) = true := fun c hc => by simpa using fun (hcc : c = colon) => hp (hcc ▸ hc)
  constructor
  · rintro rfl
    simp [countColon, splitColon, List.count_append, List.count_eq_zero_of_not_mem hp, List.count_eq_zero_of_not_mem hn,
      List.takeWhile_append_of_pos hpc, List.dropWhile_append_of_pos hpc]
  · rintro ⟨hc, rfl, rfl⟩
    exact (splitColon_join n (List.count_pos_iff.mp (by unfold countColon at hc; omega))).symm

theorem fastName_eq (n : PStr) (e : Elem) (hw : e.WFPrefix) (ht : e.isTag = true) :
    fastNameTest n e = (e.name == n || prefixedName e == some n) := by
  unfold fastNameTest
  simp only [ht, Bool.true_and]
  cases hp : e.pfx with
  | none =>
    have : prefixedName e = none := by simp [prefixedName, hp]
    by_cases hc : countColon n = 1 <;> simp [this, hc]
  | some p =>
    simp only [Elem.WFPrefix, hp] at hw
    obtain ⟨hne, hcp, hcn⟩ := hw
    have hpn : prefixedName e = some (p ++ colon :: e.name) := by
      cases p with
      | nil => exact absurd rfl hne
      | cons c p' => simp [prefixedName, hp]
    rw [hpn, Bool.eq_iff_iff]
    by_cases hc : countColon n = 1 <;> simp [hc, prefixed_iff p e.name n hcp hcn]

theorem matchElem_nameRule (O : Oracle) (v : Variant) (r : Rule) (hr : ∀ i, r ≠ .function i) (e : Elem) :
    matchElem O v { nameRules := [r], attrFlat := [], stringRules := [], dead := false } e
      = (e.isTag && (nameRuleEval O v e r).1, []) := by
  have h2 : (nameRuleEval O v e r).2 = [] := by
    cases r with
    | function i => exact absurd rfl (hr i)
    | _ =>
      simp only [nameRuleEval]
      split
      · rfl
      · cases prefixedName e <;> rfl
  have hsc : shortcutReject ⟨[r], [], [], false⟩ e = true → (nameRuleEval O v e r).1 = false := by
    intro h
    have := (shortcut_rejects O v _ e h).2
    simp only [nameRulesEval] at this
    split at this
    · cases this
    · exact Bool.eq_false_iff.mpr ‹_›
  cases ht : e.isTag
  · simp [matchElem, ht]
  · simp only [matchElem, Bool.and_false, Bool.false_eq_true, if_false, ht, if_true, matchesTag, nameRulesEval, h2,
      List.isEmpty_cons, Bool.false_and, Bool.true_and, List.append_nil]
    cases h : shortcutReject ⟨[r], [], [], false⟩ e
    · cases (nameRuleEval O v e r).1 <;> simp [stringRulesOK]
    · simp [hsc h]

def nameOnly (c : Crit) : Query := { name := c }

/-- the `name` values `_find_all` has a shortcut for (element.py:1119-1142) -/
def Crit.hasShortcut : Crit → Bool
  | .atom .none | .atom (.bool true) | .atom (.str _) => true
  | _ => false

theorem findAllImpl_no_shortcut (O : Oracle) (v : Variant) (q : Query) (limit : Option Nat) (ax : List Elem)
    (h : q.name.hasShortcut = false) : findAllImpl O v q limit ax = generalPath O v q limit ax := by
  have hn : q.name.isNone = false := by
    cases hq : q.name.isNone
    · rfl
    · rw [show q.name = .atom .none by simpa [Crit.isNone] using hq] at h; cases h
  unfold findAllImpl
  simp only [hn, Bool.and_false, Bool.false_eq_true, if_false]
  generalize (if v.attrsDict = true then q.attrs.isEmptyDict else !q.attrs.truthy) = noAttrs
  split
  · -- the three shortcut cases of the `match` contradict `h`
    split <;> first | rfl | (rename_i hq; rw [hq] at h; cases h)
  · rfl

/-- `hf`: the loop skips empty strings before it asks the matcher -/
theorem filterLoop_none_pure (f : Elem → Bool) (hf : ∀ e, f e = true → e.isTag = true) (ax : List Elem) :
    filterLoop (fun e => (f e, [])) none ax 0 = (ax.filter f, []) := by
  apply Prod.ext
  · rw [filterLoop_fst]
    apply List.filter_congr
    intro e _
    cases h : f e
    · simp [keeps, h]
    · simp [keeps, Elem.truthy, h, hf e h]
  · rw [filterLoop_none_snd]; simp

/-- the condition of `_find_all`'s shortcuts with the `attrs` test of proposed patch (e) (HEAD's under `AttrsArgOK`: `noAttrs_eq`) -/
def Query.basic (q : Query) : Bool := q.string.isNone && q.attrs.isEmptyDict && q.kwargs.isEmpty

theorem basic_shape (q : Query) (hb : q.basic = true) : q = nameOnly q.name := by
  obtain ⟨name, attrs, string, kwargs⟩ := q
  simp only [Query.basic, Bool.and_eq_true, Crit.isNone, decide_eq_true_eq, List.isEmpty_iff] at hb
  obtain ⟨⟨h1, h2⟩, h3⟩ := hb
  have ha : attrs = .dict [] := by
    cases attrs with
    | dict d => cases d with
      | nil => rfl
      | cons p d => simp [AttrsArg.isEmptyDict] at h2
    | sugar c => simp [AttrsArg.isEmptyDict] at h2
  subst h1 h3 ha
  rfl

theorem attrPairs_isEmpty (q : Query) : q.attrPairs.isEmpty = (q.attrs.isEmptyDict && q.kwargs.isEmpty) := by
  obtain ⟨name, attrs, string, kwargs⟩ := q
  rcases attrs with (_ | _) | _ <;> cases kwargs <;> rfl

theorem basic_and_none (q : Query) : (q.basic && q.name.isNone) = q.noCriteria := by
  rw [Query.basic, Query.noCriteria, attrPairs_isEmpty]
  cases q.name.isNone <;> cases q.string.isNone <;> cases q.attrs.isEmptyDict <;> cases q.kwargs.isEmpty <;> rfl

/-- `attrs` is a dict, or a non-dict value that is truthy (else: known finding `C10-falsy-attrs-ignored`) -/
def Query.AttrsArgOK (q : Query) : Prop :=
  match q.attrs with
  | .dict _ => True
  | .sugar c => c.truthy = true

instance (q : Query) : Decidable q.AttrsArgOK := by
  unfold Query.AttrsArgOK; split <;> infer_instance

/-- the variants of the code the refinement theorems are about: repairs (a) and (b) are in force -/
structure Variant.Sound (v : Variant) : Prop where
  retry : v.retryFn = false
  noCrit : v.noCritBranch = true

theorem Variant.repaired_sound : Variant.repaired.Sound := ⟨rfl, rfl⟩
theorem Variant.proposed_sound : Variant.proposed.Sound := ⟨rfl, rfl⟩

theorem noAttrs_eq (v : Variant) (q : Query) (ha : v.attrsDict = true ∨ q.AttrsArgOK) :
    (if v.attrsDict then q.attrs.isEmptyDict else !q.attrs.truthy) = q.attrs.isEmptyDict := by
  rcases ha with ha | ha
  · simp [ha]
  · unfold Query.AttrsArgOK at ha
    cases hq : q.attrs with
    | dict d => simp [AttrsArg.truthy, AttrsArg.isEmptyDict]
    | sugar c => rw [hq] at ha; simp [AttrsArg.truthy, AttrsArg.isEmptyDict, ha]

/-- `noAttrs` as `isEmptyDict` (`ha`), tests as `noCriteria`/`basic` -/
theorem findAllImpl_paths (O : Oracle) (v : Variant) (q : Query)
    (ha : v.attrsDict = true ∨ q.AttrsArgOK) (limit : Option Nat) (ax : List Elem) :
    findAllImpl O v q limit ax =
      if v.noCritBranch && q.noCriteria then
        (match limit with
         | some k => if k = 0 then ax.filter (·.isTag) else (ax.filter (·.isTag)).take k
         | none => ax.filter (·.isTag), [])
      else if q.basic && !limitTruthy limit then
        match q.name with
        | .atom (.bool true) => (ax.filter (·.isTag), [])
        | .atom .none => (ax.filter (·.isTag), [])
        | .atom (.str n) => (ax.filter (fastNameTest n), [])
        | _ => generalPath O v q limit ax
      else generalPath O v q limit ax := by
  simp only [findAllImpl, noAttrs_eq v q ha, ← basic_and_none, Query.basic, Bool.and_assoc]
  rfl

theorem findAllImpl_nameOnly (O : Oracle) (v : Variant) (c : Crit) (hc : c.isNone = false) (ax : List Elem)
    (hw : ∀ e ∈ ax, e.WFPrefix) :
    findAllImpl O v (nameOnly c) none ax = generalPath O v (nameOnly c) none ax := by
  -- on the `SoupStrainer` path these criteria are one rule that makes no calls
  have hgen : ∀ (c' : Crit) (r : Rule), makeRules c' = [r] → (∀ i, r ≠ .function i) →
      generalPath O v (nameOnly c') none ax = (ax.filter (fun e => e.isTag && (nameRuleEval O v e r).1), []) := by
    intro c' r hm hr
    have hs : mkStrainer (nameOnly c') = { nameRules := [r], attrFlat := [], stringRules := [], dead := false } := by
      simp [mkStrainer, nameOnly, Query.attrPairs, hm, Crit.isNone, show makeRules (.atom .none) = [] from rfl]
    rw [generalPath, hs, funext (matchElem_nameRule O v r hr),
      filterLoop_none_pure _ (fun e h => by simp only [Bool.and_eq_true] at h; exact h.1)]
  rw [findAllImpl_paths O v (nameOnly c) (Or.inr trivial)]
  simp only [show (nameOnly c).noCriteria = false by simp [Query.noCriteria, nameOnly, hc], show (nameOnly c).basic = true from rfl,
    Bool.and_false, Bool.false_eq_true, if_false, limitTruthy, Bool.not_false, Bool.and_self, if_true]
  show (match c with
    | .atom (.bool true) => _ | .atom .none => _ | .atom (.str n) => _ | _ => _) = _
  split
  · rw [hgen _ (.present true) rfl (by simp)]
    simp [nameRuleEval, Rule.baseMatch]
  · cases hc
  · rename_i n
    rw [hgen _ (.string n) rfl (by simp)]
    congr 1
    apply List.filter_congr
    intro e he
    cases ht : e.isTag
    · simp [fastNameTest, ht]
    · rw [fastName_eq n e (hw e he) ht, nameRuleEval_string, Bool.true_and]
  · rfl

/-- `hw`: a limit forces the `SoupStrainer` path -/
theorem findAllImpl_eq_general (O : Oracle) (v : Variant) (q : Query)
    (ha : v.attrsDict = true ∨ q.AttrsArgOK) (hnc : q.noCriteria = false) (limit : Option Nat) (hl : limit ≠ some 0)
    (ax : List Elem) (hw : limit = none → ∀ e ∈ ax, e.WFPrefix) :
    findAllImpl O v q limit ax = generalPath O v q limit ax := by
  cases limit with
  | some k =>
    have hk : k ≠ 0 := fun h => hl (h ▸ rfl)
    rw [findAllImpl_paths O v q ha]; simp [hnc, limitTruthy, hk]
  | none =>
    by_cases hb : q.basic = true
    · have hnn : q.name.isNone = false := by simpa [hb, hnc] using basic_and_none q
      rw [basic_shape q hb]
      exact findAllImpl_nameOnly O v q.name hnn ax (hw rfl)
    · rw [findAllImpl_paths O v q ha]; simp [hnc, hb]

theorem findAllImpl_eq_spec (O : Oracle) (v : Variant) (hv : v.Sound) (q : Query)
    (hd : v.deadCheck = true ∨ q.AllYield) (ha : v.attrsDict = true ∨ q.AttrsArgOK) (limit : Option Nat)
    (hl : limit ≠ some 0) (ax : List Elem) (hw : limit = none → ∀ e ∈ ax, e.WFPrefix) :
    (findAllImpl O v q limit ax).1 =
      match (generalizing := false) limit with   -- keeps `hl`, `hw` out of the motive
      | none => findAllSpec O q ax
      | some k => (findAllSpec O q ax).take k := by
  cases hnc : q.noCriteria
  · rw [findAllImpl_eq_general O v q ha hnc limit hl ax hw]
    cases limit with
    | none => exact general_eq_spec O v hv.retry q none ax hd hnc
    | some k => exact general_eq_spec_pos O v hv.retry q ax hd hnc k (by have : k ≠ 0 := fun h => hl (h ▸ rfl); omega)
  · have hs : findAllSpec O q ax = ax.filter (·.isTag) := List.filter_congr (fun e _ => by simp [sat, hnc])
    rw [findAllImpl_paths O v q ha, hs]
    cases limit with
    | none => simp [hnc, hv.noCrit]
    | some k => have : k ≠ 0 := fun h => hl (h ▸ rfl); simp [hnc, hv.noCrit, this]

theorem findOne_eq_spec (O : Oracle) (v : Variant) (hv : v.Sound) (q : Query)
    (hd : v.deadCheck = true ∨ q.AllYield) (ha : v.attrsDict = true ∨ q.AttrsArgOK) (ax : List Elem) :
    (findAllImpl O v q (some 1) ax).1.head? = (findAllSpec O q ax).head? := by
  rw [findAllImpl_eq_spec O v hv q hd ha (some 1) (by simp) ax (fun h => by cases h)]
  simp [List.head?_take]

theorem famQuery_of_ne (f : Family) (q : Query) (h : f ≠ .parents) : famQuery f q = q := if_neg h

theorem noCriteria_of_unsat (q : Query) (hu : q.unsatisfiable = true) : q.noCriteria = false := by
  cases h : q.noCriteria with
  | false => rfl
  | true =>
    simp only [Query.noCriteria, Bool.and_eq_true, List.isEmpty_iff] at h
    simp [Query.unsatisfiable, h.1.1, h.1.2, h.2] at hu

theorem findAllSpec_unsat (O : Oracle) (q : Query) (hu : q.unsatisfiable = true) (ax : List Elem) :
    findAllSpec O q ax = [] :=
  List.filter_eq_nil_iff.mpr (fun e _ => by simp [sat, noCriteria_of_unsat q hu, hu])

/-- a name with a fast path offers an alternative -/
theorem shortcut_offers (c : Crit) : (c.hasShortcut && !c.isNone && c.noAlternative) = false := by
  cases c with
  | list l => rfl
  | atom a => cases a with
    | bool b => cases b <;> rfl
    | _ => rfl

theorem findAllImpl_unsat (O : Oracle) (v : Variant) (q : Query)
    (ha : v.attrsDict = true ∨ q.AttrsArgOK) (hu : q.unsatisfiable = true) (limit : Option Nat) (ax : List Elem) :
    findAllImpl O v q limit ax = generalPath O v q limit ax := by
  by_cases hb : q.basic = true
  · apply findAllImpl_no_shortcut
    -- the name is the only criterion, so it is the one without alternative
    have hu' : (!q.name.isNone && q.name.noAlternative) = true := by
      rw [basic_shape q hb] at hu
      simpa [Query.unsatisfiable, nameOnly, Query.attrPairs, show (Crit.atom Atom.none).isNone = true from rfl] using hu
    have := shortcut_offers q.name
    rwa [Bool.and_assoc, hu', Bool.and_true] at this
  · rw [findAllImpl_paths O v q ha]; simp [noCriteria_of_unsat q hu, hb]

theorem matchElem_no_rules (O : Oracle) (v : Variant) (s : Strainer) (hn : s.nameRules = []) (ha : s.attrFlat = [])
    (hs : s.stringRules = []) (e : Elem) : matchElem O v s e = (false, []) := by
  simp [matchElem, matchesTag, hn, ha, hs]

theorem fn_calls_elem (O : Oracle) (v : Variant) (hr : v.retryFn = false) (q : Query) (i : Nat)
    (hn : q.name = .atom (.fn i)) (hlive : v.deadCheck = false ∨ q.unsatisfiable = false) (e : Elem) :
    (matchElem O v (mkStrainer q) e).2 = if e.isTag then [.tag i e.id] else [] := by
  have hr' : (mkStrainer q).nameRules = [.function i] := by simp [mkStrainer, hn, makeRules, Atom.rules]
  have hdd : (v.deadCheck && (mkStrainer q).dead) = false := by
    rcases hlive with h | h <;> simp [dead_eq_unsat, h]
  unfold matchElem
  cases ht : e.isTag
  · simp [hdd, hr']
  · simp only [if_true, matchesTag, hdd, hr', List.isEmpty_cons, Bool.false_and, Bool.false_eq_true, if_false,
      shortcutReject, Bool.and_false, nameRulesEval, nameRuleEval, hr]
    cases hf : O.fnTag i e.id <;> cases hp : prefixedName e <;> simp

theorem general_fn_calls (O : Oracle) (v : Variant) (hr : v.retryFn = false) (q : Query) (i : Nat)
    (hn : q.name = .atom (.fn i)) (hlive : v.deadCheck = false ∨ q.unsatisfiable = false) (ax : List Elem) :
    (generalPath O v q none ax).2 = nameFnCallsSpec i ax := by
  rw [generalPath, filterLoop_none_snd, funext (fn_calls_elem O v hr q i hn hlive), nameFnCallsSpec]
  induction ax with
  | nil => rfl
  | cons e rest ih =>
    cases ht : e.isTag <;> cases hs : e.str == some [] <;> simp_all [Elem.truthy]

theorem space_mem_joinSp (l : List PStr) (h : l.length > 1) : space ∈ joinSp l := by
  match l, h with
  | x :: y :: r, _ => simp [joinSp]

theorem prefixedName_has_colon (e : Elem) (p : PStr) (h : prefixedName e = some p) : colon ∈ p := by
  unfold prefixedName at h
  split at h
  · simp at h; subst h; simp
  · simp at h

/-- where selector and `find_all` form agree: a type name without colon (else also read as `prefix:name`), `.c` on a list-valued
    `class` (the query also tries the joined value), `#id` and `[a=v]` on a string value -/
def Simple.Comparable (s : Simple) (e : Elem) : Prop :=
  match s with
  | .type n => colon ∉ n
  | .cls c => c ≠ [] ∧ space ∉ c ∧ ∀ x, getAttr e classKey ≠ some (.one x)
  | .ident _ => ∀ l, getAttr e idKey ≠ some (.many l)
  | .hasAttr _ => True
  | .attrEq a _ => ∀ l, getAttr e a ≠ some (.many l)

theorem sat_oneAttr (O : Oracle) (q : Query) (e : Elem) (a : PStr) (c : Crit) (hn : q.name = .atom .none)
    (hs : q.string = .atom .none) (hp : q.attrPairs = [(a, c)]) (hc : c.noAlternative = false) :
    sat O q e = (e.isTag && c.satAttr O (getAttr e a)) := by
  cases ht : e.isTag <;>
    simp [sat, Query.noCriteria, Query.unsatisfiable, Query.hasTagCriteria, Crit.isNone, hn, hs, hp, hc, ht]

theorem satAttr_str (O : Oracle) (s : PStr) (v : Option AttrVal) :
    (Crit.atom (.str s)).satAttr O v =
      ((attrValues v).any (· == some s) || (decide ((attrValues v).length ≠ 1) && joinedValue v == s)) := by
  simp [Crit.satAttr, Crit.sat, Crit.atoms, Atom.sat]

theorem satAttr_true (O : Oracle) (v : Option AttrVal) : (Crit.atom (.bool true)).satAttr O v = v.isSome := by
  match v with
  | none | some (.one _) | some (.many []) | some (.many (_ :: _)) => rfl

theorem attrString_eq_satAttr (O : Oracle) (e : Elem) (a v : PStr) (h : ∀ l, getAttr e a ≠ some (.many l)) :
    (attrString e a == some v) = (Crit.atom (.str v)).satAttr O (getAttr e a) := by
  rw [satAttr_str, attrString]
  cases hg : getAttr e a with
  | none => simp [attrValues]
  | some av =>
    cases av with
    | one x => simp [attrValues]
    | many l => exact absurd hg (h l)

theorem css_elem (O : Oracle) (s : Simple) (e : Elem) (h : s.Comparable e) : s.holds e = sat O s.toQuery e := by
  cases s with
  | type n =>
    -- a colon-free type name is never a prefixed name
    have hp : ∀ p, prefixedName e = some p → p ≠ n := fun p hp hh => h (hh ▸ prefixedName_has_colon e p hp)
    have hq : sat O (Simple.type n).toQuery e = (e.isTag && (Crit.atom (.str n)).satName O e) := by
      cases ht : e.isTag <;>
        simp [sat, Simple.toQuery, Query.noCriteria, Query.unsatisfiable, Query.attrPairs, Query.hasTagCriteria,
          Crit.isNone, Crit.noAlternative, Crit.atoms, Atom.isNoneB, ht]
    rw [hq, Simple.holds]
    congr 1
    cases hpe : prefixedName e <;> simp [Crit.satName, Crit.atoms, Atom.isFn, Atom.sat, hpe]
    exact fun hh => absurd hh (hp _ hpe)
  | cls c =>
    obtain ⟨hce, hsp, hone⟩ := h
    rw [sat_oneAttr O _ e classKey (.atom (.str c)) rfl rfl (by simp [Simple.toQuery, Query.attrPairs]) rfl,
      satAttr_str, Simple.holds]
    congr 1
    cases hg : getAttr e classKey with
    | none => simp [classList, hg, attrValues]
    | some av =>
      cases av with
      | one x => exact absurd hg (hone x)
      | many l =>
        -- the joined value of no or several classes is empty or contains a space: it is not the token `c`
        have hj : l.length ≠ 1 → joinSp l ≠ c := by
          intro hl hh
          match l, hl with
          | [], _ => exact hce hh.symm
          | x :: y :: r, _ => exact hsp (hh ▸ space_mem_joinSp (x :: y :: r) (by simp))
        by_cases hl : l.length = 1
        · simp [classList, hg, attrValues, joinedValue, hl, List.any_beq']
        · simp [classList, hg, attrValues, joinedValue, hl, hj hl, List.any_beq']
  | ident i =>
    rw [sat_oneAttr O _ e idKey (.atom (.str i)) rfl rfl (by simp [Simple.toQuery, Query.attrPairs]; decide) rfl,
      Simple.holds, attrString_eq_satAttr O e idKey i h]
  | hasAttr a =>
    rw [sat_oneAttr O _ e a (.atom (.bool true)) rfl rfl (by simp [Simple.toQuery, Query.attrPairs]) rfl,
      satAttr_true, Simple.holds]
  | attrEq a v =>
    rw [sat_oneAttr O _ e a (.atom (.str v)) rfl rfl (by simp [Simple.toQuery, Query.attrPairs]) rfl,
      Simple.holds, attrString_eq_satAttr O e a v h]

end BS.Search
